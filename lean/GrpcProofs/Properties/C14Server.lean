/-
C14, SERVER half: "A server draining gracefully sends a final GOAWAY whose id is the highest stream id
it accepted, serves every stream up to that id to completion, and accepts no stream above it."

Model: GrpcModel/Model/ServerDrain.lean (`http2Server` drain: operateHeaders admission, Drain,
handlePing, outgoingGoAwayHandler, loopy's register/trailers/cleanup/goAway handlers, Close).
`run init es` ranges over every interleaving of the reader, loopy, the handlers, the ack-waiting goroutine and Close.

The middle clause is FALSE of the code as it is (`accepted_served_to_completion_counterexample`):
a stream accepted between the PING ack and loopy's handling of the final GOAWAY is covered by the
final GOAWAY's id, but loopy's `draining && len(estdStreams) == 0` exit can fire before it has
processed that stream's `registerStream` item, and the connection is closed under the running
handler.  Reproduced on the real transport (known finding F44).
-/
import GrpcProofs.Lemmas.ServerDrain
namespace GrpcProofs.C14Server
open GrpcModel.ServerDrain GrpcProofs.Lemmas.ServerDrain

def SReach (s : State) : Prop := ∃ es, s = run init es

theorem SReach.cinv {s : State} (h : SReach s) : CInv (core s) := by
  obtain ⟨es, rfl⟩ := h
  exact cinv_csteps cinv_init (core_run init es)

/-- **The final GOAWAY's id is the highest stream id the server accepted**: (1) the handler of the final
GOAWAY of a graceful drain chooses `t.maxStreamID` (under `maxStreamMu`+`mu`, together with `state = draining`). -/
theorem final_goaway_carries_maxStreamID (s : State) (hf : s.finalGoAway = none) :
    (s.finalChosen false).finalGoAway = some s.maxStreamID ∧ (s.finalChosen false).tstate = .draining := by
  simp [State.finalChosen, hf]

/-- (2) In every reachable state, once the final GOAWAY(n) is chosen, the transport is not `reachable` and
every stream that was handed to a handler has id ≤ n. -/
theorem final_goaway_id_is_highest_accepted {s : State} (h : SReach s) {n : Nat} (hf : s.finalGoAway = some n) :
    s.tstate ≠ .reachable ∧ ∀ x ∈ s.streams, x.id ≤ n := by
  obtain ⟨hts, -, hids⟩ := h.cinv.fin n hf
  exact ⟨hts, fun x hx => hids x.id (List.mem_map_of_mem hx)⟩

/-- **The final GOAWAY never covers a stream the server silently dropped.**  `operateHeaders` records the id in
`maxStreamID` first and decides much later (`t.state != reachable` → drop without any response); because
it holds `maxStreamMu` in between and the GOAWAY handler needs that lock, a dropped stream's id is always
ABOVE the final GOAWAY's last-stream-id (so the client treats it as unprocessed and retries it).
(`errGoAway = false`: no protocol-error GOAWAY tore the connection down.) -/
theorem no_silent_drop_below_final_goaway {s : State} (h : SReach s) (he : s.errGoAway = false) {n : Nat}
    (hf : s.finalGoAway = some n) : ∀ d ∈ s.dropped, n < d :=
  h.cinv.drop he n hf

/-- The lock behind `no_silent_drop_below_final_goaway`: while the reader is inside `operateHeaders` (between `t.maxStreamID = streamID`
and the admission decision) loopy's GOAWAY handlers wait -/
theorem goaway_waits_for_operateHeaders (s : State) (hu : Bool) (code : Nat) (cc : Bool) (rest : List Item)
    (hq : s.cbuf = .goAway hu code cc :: rest) (hp : s.hdrPending.isSome = true) : s.loopyStep = (s, []) := by
  unfold State.loopyStep
  simp only [hq, Item.isGoAway, hp, Bool.and_self, ↓reduceIte, ite_self]

/-- A HEADERS frame being processed always carries an id above an already chosen final GOAWAY id -/
theorem pending_headers_above_final {s : State} (h : SReach s) {p n : Nat} (hp : s.hdrPending = some p)
    (hf : s.finalGoAway = some n) : n < p ∧ p = s.maxStreamID :=
  ⟨(h.cinv.pend p hp).2 n hf, (h.cinv.pend p hp).1⟩

/-- **No stream above it is accepted** (nor any stream at all): once the transport has left `reachable`
(the final GOAWAY handler sets `draining` together with choosing the id) no event sequence adds a stream
to the set handed to handlers. -/
theorem none_accepted_after_final_goaway {s : State} (hn : s.tstate ≠ .reachable) (es : List Ev) :
    ids (run s es) = ids s ∧ (run s es).tstate ≠ .reachable :=
  frozen_csteps (a := core s) hn (core_run s es)

/-- What does hold of "serves every stream up to that id to completion": the final-GOAWAY handler itself
closes the connection only if `activeStreams` is empty (or the GOAWAY carries an error); otherwise it
just switches loopy to draining. -/
theorem accepted_served_to_completion_partial (s : State) (code : Nat) (rest : List Item)
    (hq : s.cbuf = .goAway false code false :: rest) (hl : (s.lExited || s.lBlocked) = false) (hc : s.tstate ≠ .closing)
    (hd : (s.connClosed || s.peerGone) = false) (hh : s.held = false) (hp : s.hdrPending = none) (hact : s.activeCount ≠ 0) :
    s.loopyStep.1.lExited = false ∧ s.loopyStep.1.lDraining = true ∧ s.loopyStep.1.connClosed = s.connClosed := by
  have hl' : s.lExited = false := by cases h : s.lExited <;> simp_all
  -- by the time `activeCount` is read the handler has written `cbuf`, `tstate`, `finalGoAway`: none of
  -- them enters it, so the count is the one of `s` and the test `activeCount _ == 0` (named `r` below) is `false`
  have hac : ∀ t : State, t.activeNil = s.activeNil → t.streams = s.streams → (t.activeCount == 0) = false := by
    intro t h1 h2
    have : t.activeCount = s.activeCount := by simp [State.activeCount, h1, h2]
    rw [this]; simpa using hact
  unfold State.loopyStep
  simp only [hl, Bool.false_eq_true, if_false, hq, hc, hd, State.write, hh, Bool.false_or, Item.isGoAway, hp, Option.isSome_none,
    Bool.and_false, State.finalChosen]
  generalize hg : (State.activeCount _ == 0) = r
  have hr : r = false := by rw [← hg]; exact hac _ rfl rfl
  subst hr
  simp [State.afterFinalFlush, hl']

/-- stream 1 is open; Drain; the ack arrives; stream 1 is reset by the client and stream 3 arrives — all
handled by the reader before loopy gets to the final GOAWAY item. -/
def witness : List Ev :=
  [.hdr 1, .loopy, .drain, .loopy, .flush, .pingAck goAwayPing, .waiterFire, .rst 1, .hdr 3,
   .loopy,   -- final GOAWAY(3): state draining, loopy draining (activeStreams = {3})
   .loopy]   -- cleanupStream(1): estdStreams empty (registerStream(3) is still queued) → loopy exits

/-- **"Serves every stream up to that id to completion" does NOT hold for the code as it is**: in the
reachable state below the final GOAWAY said 3, stream 3 was handed to a handler and has not finished,
and loopy has already exited with "finished processing active streams while in draining mode" (the
connection is closed one second later or when the reader is done; `Close` then cancels stream 3). -/
theorem accepted_served_to_completion_counterexample :
    ¬ (∀ s : State, SReach s → ∀ n, s.finalGoAway = some n → s.lExited = true →
        ∀ x ∈ s.streams, x.id ≤ n → x.done = true) := by
  intro h
  have := h (run init witness) ⟨witness, rfl⟩ 3 (by decide) (by decide)
    { id := 3, active := true, done := false, cancelled := false } (by decide) (by decide)
  exact absurd this (by decide)

theorem witness_state :
    let s := run init witness
    s.finalGoAway = some 3 ∧ s.tstate = .draining ∧ s.lExited = true ∧ s.closeTimer = some 1000 ∧
    s.streams = [{ id := 1, active := false, done := true, cancelled := true }, { id := 3, active := true, done := false, cancelled := false }] ∧
    (run s [.tick 1000, .closeTimerFire, .readerErr]).streams.map (·.cancelled) = [true, true] := by decide

end GrpcProofs.C14Server
