/-
C44  Management-server fallback follows gRFC A71.
Model: GrpcModel/Model/XdsAuth.lean, layer A (`handleFailure` = handleADSStreamFailure + fallbackToServer,
`revert` = handleRevertingToPrimaryOnUpdate, `handleUpdate`). Helper lemmas: GrpcProofs/Lemmas/XdsAuth.lean and the modules under GrpcProofs/Lemmas/XdsAuth/.

Statements are about every authority state / every event (hence every history of stream failures and
responses across any number of configured servers and any watch registrations).
-/
import GrpcProofs.Lemmas.XdsAuth
namespace GrpcProofs.C44
open GrpcModel.XdsAuth GrpcProofs.Lemmas.XdsAuth

/-- **C44, fallback.** The only event that moves the active server to a lower priority is a failure of the
    ACTIVE server's stream before any response (`afterRecv = false`) while some watched resource is still in
    state REQUESTED — which in every reachable state means it has no cached value (`fallback_needs_uncached_watch`);
    the new active server `j` is the first server after it without a channel whose channel can be created (a
    server whose transport cannot be created is skipped, as fallbackToServer does), it gets a channel (`build j`)
    and every watched resource is subscribed on it; the watchers hear nothing. (The failing server has to be the
    active one: a still-down primary, or a stale report of a released channel, moves nothing.) -/
theorem fallback_only_if_failed_before_any_response_and_uncached_watch
    (a : Auth) (e : AEv) (i j : Nat) (hi : a.active = some i) (hj : (a.step e).auth.active = some j) (hlt : i < j) :
    e = .failure i false ∧
      (∃ p ∈ a.res, p.2.status = .requested) ∧
      j < a.n ∧ j ∉ a.opened ∧ j ∉ a.nobuild ∧ (∀ x, i < x → x < j → x ∈ a.opened ∨ x ∈ a.nobuild) ∧
      Cmd.build j ∈ (a.step e).cmds ∧ (∀ p ∈ a.res, Cmd.sub j p.1 ∈ (a.step e).cmds) ∧
      (a.step e).cbs = [] := by
  obtain ⟨he, hu, hn, h⟩ := fellBack_of_lt hi hj hlt
  have hm := nextServer_some hn
  rw [h]
  exact ⟨he, uncachedWatch_iff.mp hu, hm.configured, hm.unopened, hm.buildable, hm.first,
    List.mem_cons_self .., fun p hp => List.mem_cons_of_mem _ (List.mem_map_of_mem hp), rfl⟩

/-- In every reachable state the resource that allowed the fallback is watched and has no cached value. -/
theorem fallback_needs_uncached_watch (n : Nat) (ign : List Bool) (hist : List AEv)
    (hf : FreshRun (Auth.init n ign) hist) (e : AEv) (i j : Nat)
    (hi : (Auth.run (Auth.init n ign) hist).active = some i)
    (hj : ((Auth.run (Auth.init n ign) hist).step e).auth.active = some j) (hlt : i < j) :
    ∃ p ∈ (Auth.run (Auth.init n ign) hist).res, p.2.watchers ≠ [] ∧ p.2.cache = none := by
  obtain ⟨_, ⟨p, hp, hst⟩, _⟩ :=
    fallback_only_if_failed_before_any_response_and_uncached_watch _ e i j hi hj hlt
  have hinv := inv_run n ign hist
  exact ⟨p, hp, hinv.watched p hp, (hinv.rinv p hp).req hst⟩

/-- Conversely the fallback does happen: a failure of the active server before any response, an uncached watch
    and a server after it without a channel switch the active server to the first such server, silently. -/
theorem fallback_if (a : Auth) (srv j : Nat) (hact : a.active = some srv) (hu : uncachedWatch a = true)
    (hn : nextServer a srv = some j) :
    (handleFailure a srv false).auth.active = some j ∧ (handleFailure a srv false).cbs = [] ∧
    j ∈ (handleFailure a srv false).auth.opened ∧
    ∀ p ∈ (handleFailure a srv false).auth.res, j ∈ p.2.chans := by
  rw [show handleFailure a srv false = _ from (Shape.fallback srv j hu (fallbackTarget_some.mpr ⟨hact, hn⟩)).eq]
  exact ⟨rfl, rfl, List.mem_append_right _ (List.mem_singleton_self j),
    List.forall_mem_map.mpr fun p _ => List.mem_append_right _ (List.mem_singleton_self j)⟩

/-- No fallback after a response was received on the stream, nor when nothing is uncached, nor when the failing
    server is not the active one (a higher-priority server still down while in fallback, or a stale report of a
    released channel), nor when no server is left: the state does not change (the watchers are told, except in the
    first case). -/
theorem no_fallback_otherwise (a : Auth) (srv : Nat) (after : Bool)
    (h : after = true ∨ uncachedWatch a = false ∨ a.active ≠ some srv ∨ nextServer a srv = none) :
    (handleFailure a srv after).auth = a ∧ (handleFailure a srv after).cmds = [] := by
  cases after
  · have hr : Reported a srv := (h.resolve_left nofun).imp_right fallbackTarget_none.mpr
    rw [show handleFailure a srv false = _ from (Shape.report srv hr).eq]; exact ⟨rfl, rfl⟩
  · exact ⟨rfl, rfl⟩

/-- **C44, channels created / released.** In EVERY history (stale reports of released channels and failing
    transport creations included) the authority never holds a channel to a server below its active one, and none
    at all when nothing is active: whatever was opened during fallback is gone after a revert. -/
theorem no_channel_below_active (n : Nat) (ign : List Bool) (hist : List AEv) :
    NoBelow (Auth.run (Auth.init n ign) hist) :=
  run_induction (Q := fun _ => True) (fun _ _ _ => noBelow_step) hist _ (fun _ _ => trivial)
    ⟨by simp [Auth.init], by simp [Auth.init]⟩

/-- histories in which no transport creation ever fails -/
def NoBuildFaultRun (hist : List AEv) : Prop := ∀ e ∈ hist, NoBuildFault e

/-- In every history without failing transport creations (stale reports of released channels included) the
    authority holds channels to exactly the servers 0 … active (none when nothing is watched):
    each fallback opens the server right after the active one, each revert to `srv` leaves exactly 0 … srv. -/
theorem channels_are_prefix_up_to_active (n : Nat) (ign : List Bool) (hist : List AEv) (h : NoBuildFaultRun hist) :
    Prefix (Auth.run (Auth.init n ign) hist) ∧ (Auth.run (Auth.init n ign) hist).nobuild = [] :=
  run_induction (P := fun a => Prefix a ∧ a.nobuild = []) (Q := NoBuildFault)
    (fun _ _ hq ⟨hp, hnb⟩ => ⟨prefix_step hp hnb, step_nobuild hq hnb⟩) hist _ h
    ⟨⟨by simp [Auth.init], by simp [Auth.init]⟩, rfl⟩

/-- … and then a fallback always goes from the active server `i` to `i + 1`. -/
theorem fallback_goes_to_next (a : Auth) (hp : Prefix a) (hnb : a.nobuild = []) (e : AEv) (i j : Nat)
    (hi : a.active = some i) (hj : (a.step e).auth.active = some j) (hlt : i < j) : j = i + 1 := by
  obtain ⟨_, _, hn, _⟩ := fellBack_of_lt hi hj hlt
  exact next_of_prefix hp hnb hi hn

/-- **C44, revert.** An update from a server `srv` of higher priority than the active one makes `srv` the active
    server, is processed (callbacks as for any update, `onDone` armed), and for every configured server `i` below
    `srv`: everything subscribed there is unsubscribed, its channel is released if it had one, and afterwards it
    has no channel and no resource lists it. This holds whatever the set of channels looks like: in particular
    when a fallback skipped a server whose transport could not be created, the channel behind that gap is
    released too (`revert_releases_behind_a_gap`). -/
theorem revert_on_higher_priority_update_releases_lower (a : Auth) (srv act : Nat) (typ ver : String)
    (es : List (String × Upd)) (hact : a.active = some act) (hlt : srv < act) :
    let o := handleUpdate a srv typ ver es
    o.auth.active = some srv ∧ o.done = true ∧
    (∀ i, srv < i → i ∉ o.auth.opened) ∧
    (∀ p ∈ o.auth.res, ∀ i ∈ p.2.chans, i ≤ srv) ∧
    (∀ i ∈ a.opened, srv < i → i < a.n → Cmd.release i ∈ o.cmds) ∧
    (∀ p ∈ a.res, ∀ i ∈ p.2.chans, srv < i → i < a.n → Cmd.unsub i p.1 ∈ o.cmds) ∧
    (∀ c ∈ o.cmds, (∃ i k, c = .unsub i k ∧ srv < i) ∨ (∃ i, c = .release i ∧ srv < i)) := by
  intro o
  rw [show o = _ from (Shape.processed srv 0 typ ver es _ _ (.back act hact hlt)).eq]
  refine ⟨rfl, rfl, ?_, ?_, ?_, ?_, ?_⟩
  · intro i hi hmem
    have := of_decide_eq_true (List.mem_filter.mp hmem).2
    omega
  · intro p hp i hic
    obtain ⟨_, hq, rfl⟩ := List.mem_map.mp hp
    obtain ⟨q, _, rfl⟩ := List.mem_map.mp hq
    rw [(upd_rstep ..).2.frame.2] at hic
    exact of_decide_eq_true (List.mem_filter.mp hic).2
  · exact fun i hi hgt hn => mem_revertCmds.mpr ⟨i, hn, hgt, .inr ⟨hi, rfl⟩⟩
  · exact fun p hp i hic hgt hn => mem_revertCmds.mpr ⟨i, hn, hgt, .inl ⟨p, hp, hic, rfl⟩⟩
  · intro c hc
    obtain ⟨i, _, hgt, ⟨p, _, _, rfl⟩ | ⟨_, rfl⟩⟩ := mem_revertCmds.mp hc
    · exact .inl ⟨i, p.1, rfl, hgt⟩
    · exact .inr ⟨i, rfl, hgt⟩

/-- An update from the active server itself changes neither the active server nor any channel. -/
theorem update_from_active_keeps_servers (a : Auth) (srv : Nat) (typ ver : String) (es : List (String × Upd))
    (hact : a.active = some srv) :
    (handleUpdate a srv typ ver es).auth.active = some srv ∧ (handleUpdate a srv typ ver es).auth.opened = a.opened ∧
    (handleUpdate a srv typ ver es).cmds = [] ∧ (handleUpdate a srv typ ver es).done = true := by
  rw [show handleUpdate a srv typ ver es = _ from (Shape.processed srv 0 typ ver es _ _ (.same hact)).eq]
  exact ⟨hact, rfl, rfl, rfl⟩

/-- **C44, ignore.** An update from a server below the active one (or arriving when no server is active) changes
    nothing and reaches no watcher. `done = false`: the function returns before its deferred `onDone` logic is set
    up, so the ADS flow control of the channel that delivered the update is never released by this authority
    (DESIGN section 7 observation; harmless only because such a channel has normally been closed already). -/
theorem updates_below_active_ignored (a : Auth) (srv : Nat) (typ ver : String) (es : List (String × Upd))
    (h : a.active = none ∨ ∃ act, a.active = some act ∧ act < srv) :
    handleUpdate a srv typ ver es = { auth := a, cbs := [], cmds := [], done := false } := by
  rcases h with h | ⟨act, h, hlt⟩
  · exact (Shape.silent (e := .update srv 0 typ ver es) (.ignored (revert_none h))).eq
  · exact (Shape.silent (e := .update srv 0 typ ver es) (.ignored (revert_below h hlt))).eq

/-- A fallback that had to skip server 1 (its transport cannot be created) lands on server 2; when the primary
    delivers an update, server 2 — behind the gap — is unsubscribed and released. -/
theorem revert_releases_behind_a_gap :
    let a := Auth.run (Auth.init 3 [false, false, false])
      [.watch ⟨"T", "r1"⟩ 1, .env [1], .failure 0 false]
    let o := a.step (.update 0 1 "T" "v1" [("r1", .ok "c")])
    a.active = some 2 ∧ a.opened = [0, 2] ∧
    o.auth.active = some 0 ∧ o.auth.opened = [0] ∧ o.cmds = [.unsub 2 ⟨"T", "r1"⟩, .release 2] := by
  decide

/-! ### observations outside the listed clauses (both reproduced on the real client by the harness) -/

/-- A resource first watched while a fallback server is active is subscribed on that server only
    (`watchResource` uses `xdsChannelToUse`); the revert to the primary unsubscribes it there and nothing
    subscribes it on the primary: it stays watched but is requested from no server. -/
theorem watch_during_fallback_is_lost_on_revert :
    let a := Auth.run (Auth.init 2 [false, false])
      [.watch ⟨"T", "r1"⟩ 1, .failure 0 false, .watch ⟨"T", "r2"⟩ 2, .update 0 1 "T" "v1" [("r1", .ok "c")]]
    a.active = some 0 ∧ (lookup a.res ⟨"T", "r2"⟩).map (fun r => (r.watchers, r.chans)) = some ([2], []) := by
  decide

/-- A failure report of a server whose channel the authority has already released (queued behind the update that
    reverted to the primary) does not move the authority; the watchers are merely told about the connection error. -/
theorem stale_failure_report_does_not_trigger_fallback :
    let a := Auth.run (Auth.init 3 [false, false, false])
      [.watch ⟨"T", "r1"⟩ 1, .watch ⟨"T", "r2"⟩ 2, .failure 0 false,
       .update 0 1 "T" "v1" [("r1", .ok "c")],   -- the primary is back: revert, server 1 released
       .failure 1 false]                          -- the report server 1's channel had already queued
    a.active = some 0 ∧ a.opened = [0] := by
  decide

end GrpcProofs.C44
