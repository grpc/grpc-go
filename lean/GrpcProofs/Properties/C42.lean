/-
C42  ADS requests carry correct versions, nonces and subscriptions.
Model: GrpcModel/Model/Ads.lean (adsStreamImpl as an event → quiescence machine).
Each statement is about one function of the stream (`emit`, `senderNotify`, `sendExisting`, `handleMsg`,
`settle`; `only_done_unblocks` about `step` on a received response) in an arbitrary state: no
reachability hypothesis is needed, so it holds wherever a history of subscribes, unsubscribes, responses,
watcher completions, stream failures and time has led.
-/
import GrpcModel.Model.Ads
namespace GrpcProofs.C42
open GrpcModel.Ads

/-- sendMessageLocked: the node identity is attached iff this is the first request on the stream,
    and no later request on the stream carries it (firstRequest is cleared). -/
theorem emit_node (s : St) (t : String) (ns : List String) (v n : String) (e : Bool) :
    (emit s t ns v n e).2.node = s.first ∧ (emit s t ns v n e).1.first = false := ⟨rfl, rfl⟩

theorem emit_types (s : St) (t : String) (ns : List String) (v n : String) (e : Bool) :
    (emit s t ns v n e).1.types = s.types ∧ (emit s t ns v n e).1.fcPending = s.fcPending := ⟨rfl, rfl⟩

theorem senderGo_spec (ps : List (String × List String)) (s : St) (acc : List Req) :
    (senderNotify.go s ps acc).1.types = s.types ∧
    ∀ r ∈ (senderNotify.go s ps acc).2, r ∈ acc ∨
      (∃ ts, getT s.types r.typ = some ts ∧ r.version = ts.version ∧ r.nonce = ts.nonce ∧ r.err = false ∧
        (r.typ, r.names) ∈ ps) := by
  induction ps generalizing s acc with
  | nil => simp [senderNotify.go]
  | cons p ps ih =>
    obtain ⟨t, names⟩ := p
    simp only [senderNotify.go]
    cases hg : getT s.types t with
    | none =>
      simp only []
      have := ih s acc
      refine ⟨this.1, fun r hr => ?_⟩
      rcases this.2 r hr with h | ⟨ts, h1, h2, h3, h4, h5⟩
      · exact Or.inl h
      · exact Or.inr ⟨ts, h1, h2, h3, h4, by simp [h5]⟩
    | some ts =>
      simp only []
      have := ih (emit s t names ts.version ts.nonce false).1 (acc ++ [(emit s t names ts.version ts.nonce false).2])
      rw [(emit_types s t names ts.version ts.nonce false).1] at this
      refine ⟨this.1, fun r hr => ?_⟩
      rcases this.2 r hr with h | ⟨ts', h1, h2, h3, h4, h5⟩
      · rw [List.mem_append] at h
        rcases h with h | h
        · exact Or.inl h
        · simp at h; subst h
          exact Or.inr ⟨ts, hg, rfl, rfl, rfl, by simp [emit]⟩
      · exact Or.inr ⟨ts', h1, h2, h3, h4, by simp [h5]⟩

/-- Requests caused by subscribe/unsubscribe (sendNewLocked): version = the type's last ACKed version,
    nonce = the type's latest nonce on this stream, names = the snapshot taken when the request was
    queued, never an error detail; and the type table is not touched. -/
theorem subscribe_requests (s : St) :
    (senderNotify s).1.types = s.types ∧
    ∀ r ∈ (senderNotify s).2, ∃ ts, getT s.types r.typ = some ts ∧ r.version = ts.version ∧
      r.nonce = ts.nonce ∧ r.err = false ∧ (r.typ, r.names) ∈ s.pending := by
  unfold senderNotify
  split
  · simp
  · split
    · simp
    · have := senderGo_spec s.pending s []
      refine ⟨this.1, fun r hr => ?_⟩
      rcases this.2 r hr with h | h
      · simp at h
      · exact h

theorem existingGo_spec (ts : List (String × TypeSt)) (s : St) (acc : List Req) :
    (sendExisting.go s ts acc).1.types = s.types ∧
    ∀ r ∈ (sendExisting.go s ts acc).2, r ∈ acc ∨
      (∃ st, (r.typ, st) ∈ ts ∧ r.version = st.version ∧ r.nonce = "" ∧ r.names = st.subs ∧ st.subs ≠ [] ∧ r.err = false) := by
  induction ts generalizing s acc with
  | nil => simp [sendExisting.go]
  | cons p ts ih =>
    obtain ⟨t, st⟩ := p
    simp only [sendExisting.go]
    split
    · have := ih s acc
      refine ⟨this.1, fun r hr => ?_⟩
      rcases this.2 r hr with h | ⟨st', h1, h2⟩
      · exact Or.inl h
      · exact Or.inr ⟨st', by simp [h1], h2⟩
    · rename_i hne
      have := ih (emit s t st.subs st.version "" false).1 (acc ++ [(emit s t st.subs st.version "" false).2])
      rw [(emit_types s t st.subs st.version "" false).1] at this
      refine ⟨this.1, fun r hr => ?_⟩
      rcases this.2 r hr with h | ⟨st', h1, h2⟩
      · rw [List.mem_append] at h
        rcases h with h | h
        · exact Or.inl h
        · simp at h; subst h
          exact Or.inr ⟨st, by simp [emit], rfl, rfl, rfl, hne, rfl⟩
      · exact Or.inr ⟨st', by simp [h1], h2⟩

/-- A new stream (sendExisting): every nonce is reset, versions are kept, and each type with
    subscriptions gets one request carrying the kept version, the EMPTY nonce and exactly the
    currently subscribed names. -/
theorem new_stream_requests (s : St) :
    (∀ p ∈ (sendExisting s).1.types, p.2.nonce = "") ∧
    (sendExisting s).1.types.map (fun p => (p.1, p.2.version, p.2.subs)) = s.types.map (fun p => (p.1, p.2.version, p.2.subs)) ∧
    ∀ r ∈ (sendExisting s).2, r.nonce = "" ∧ r.err = false ∧
      ∃ st, (r.typ, st) ∈ s.types ∧ r.version = st.version ∧ r.names = st.subs := by
  unfold sendExisting
  simp only []
  have h := existingGo_spec (s.types.map fun p => (p.1, { p.2 with nonce := "" }))
    { s with pending := [], senderStream := true, senderLive := true,
             types := s.types.map fun p => (p.1, { p.2 with nonce := "" }) } []
  refine ⟨?_, ?_, ?_⟩
  · rw [h.1]; intro p hp; simp at hp; obtain ⟨a, b, _, rfl⟩ := hp; rfl
  · rw [h.1]; simp [List.map_map, Function.comp_def]
  · intro r hr
    rcases h.2 r hr with h' | ⟨st, h1, h2, h3, h4, _, h6⟩
    · simp at h'
    · simp at h1
      obtain ⟨a, b, hab, he1, he2⟩ := h1
      refine ⟨h3, h6, b, ?_, ?_, ?_⟩
      · subst he1; exact hab
      · rw [h2, ← he2]
      · rw [h4, ← he2]

/-- A response of an unsupported type, or of a type the client has no state for, is read (flow control pending) and
    that is all. -/
theorem handleMsg_ignored (s : St) (m : Msg) (h : m.verdict = "unsup" ∨ getT s.types m.typ = none) :
    handleMsg s m = ({ s with msgReceived := true, fcPending := true }, []) := by
  unfold handleMsg
  rcases h with h | h
  · simp [h]
  · by_cases hu : m.verdict = "unsup" <;> simp [hu, h]

/-- Any other response: the type takes its nonce and, on ACK, its version; the one request sent carries the version
    the type has now (on NACK: the one accepted before), that nonce, the subscriptions, and an error detail unless
    it is an ACK. -/
theorem handleMsg_answered (s : St) (m : Msg) (ts : TypeSt) (hu : m.verdict ≠ "unsup") (ht : getT s.types m.typ = some ts) :
    handleMsg s m =
      let v := if m.verdict = "ack" then m.version else ts.version
      ({ s with msgReceived := true, fcPending := true, first := false,
                types := setT s.types m.typ { ts with nonce := m.nonce, version := v } },
       [⟨m.typ, v, m.nonce, ts.subs, decide (m.verdict ≠ "ack"), s.first⟩]) := by
  unfold handleMsg
  by_cases ha : m.verdict = "ack" <;> simp [hu, ht, ha, emit]

/-- ACK: exactly one request, carrying the accepted response's version and nonce and the current
    subscriptions. -/
theorem ack_spec (s : St) (m : Msg) (ts : TypeSt) (hv : m.verdict = "ack") (ht : getT s.types m.typ = some ts) :
    ∃ r, (handleMsg s m).2 = [r] ∧ r.typ = m.typ ∧ r.version = m.version ∧ r.nonce = m.nonce ∧
      r.names = ts.subs ∧ r.err = false := by
  rw [handleMsg_answered s m ts (by rw [hv]; decide) ht]
  simp [hv]

/-- NACK: exactly one request, carrying the PREVIOUSLY accepted version, the rejected response's
    nonce and an error detail. -/
theorem nack_spec (s : St) (m : Msg) (ts : TypeSt) (hv : m.verdict = "nack") (ht : getT s.types m.typ = some ts) :
    ∃ r, (handleMsg s m).2 = [r] ∧ r.typ = m.typ ∧ r.version = ts.version ∧ r.nonce = m.nonce ∧
      r.names = ts.subs ∧ r.err = true := by
  rw [handleMsg_answered s m ts (by rw [hv]; decide) ht]
  simp [hv]

/-- A response of a type the client has no state for, or of an unsupported type, is neither ACKed
    nor NACKed. -/
theorem unknown_type_no_request (s : St) (m : Msg) (h : m.verdict = "unsup" ∨ getT s.types m.typ = none) :
    (handleMsg s m).2 = [] := by
  rw [handleMsg_ignored s m h]

/-- Reading a response marks the flow control pending. -/
theorem read_sets_pending (s : St) (m : Msg) : (handleMsg s m).1.fcPending = true := by
  by_cases h : m.verdict = "unsup" ∨ getT s.types m.typ = none
  · rw [handleMsg_ignored s m h]
  · obtain ⟨hu, ht⟩ := not_or.mp h
    obtain ⟨ts, ht⟩ := Option.ne_none_iff_exists'.mp ht
    rw [handleMsg_answered s m ts hu ht]

/-- While an update is pending, the reader goroutine does nothing at all: no response is read, no
    request is sent, not even a broken stream is noticed. -/
theorem blocked_while_pending (fuel : Nat) (s : St) (rs : List Req) (evs : List Ev)
    (h1 : s.hasStream = true) (h2 : s.fcPending = true) : settle fuel s rs evs = (s, rs, evs) := by
  cases fuel with
  | zero => rfl
  | succ f => simp [settle, h1, h2]

/-- While an update is pending a newly arriving response only queues up behind the unread ones:
    nothing is read, nothing is sent and the flag stays (in the model `done`, all watchers finished, is
    the one event that clears it). -/
theorem only_done_unblocks (s : St) (m : Msg) (h1 : s.hasStream = true) (h2 : s.fcPending = true) (hl : s.live = true) :
    (step s (.recv m)).1.unread = s.unread ++ [m] ∧ (step s (.recv m)).1.fcPending = true ∧ (step s (.recv m)).2.1 = [] := by
  simp only [step, hl, if_true]
  rw [blocked_while_pending 64 _ [] [] (by simpa using h1) (by simpa using h2)]
  simp [h2]

-- non-vacuity: a small history (two types, ACK, NACK, a stream restart)
example :
    let s0 := (settle 8 (init 1000) [] []).1
    let (s1, _, _) := step s0 .up
    let (s2, _, _) := step s1 (.sleep 1000)
    let (s3, r3, _) := step s2 (.sub "A" "x")
    let (s4, r4, _) := step s3 (.recv ⟨"A", "v1", "n1", "ack", ["x"]⟩)
    let (s5, _, _) := step s4 .done
    let (s6, r6, _) := step s5 (.recv ⟨"A", "v2", "n2", "nack", []⟩)
    let (s7, _, _) := step s6 .done
    let (_, r8, _) := step s7 .brk
    (r3, r4, r6, r8) =
      ([⟨"A", "", "", ["x"], false, true⟩], [⟨"A", "v1", "n1", ["x"], false, false⟩],
       [⟨"A", "v1", "n2", ["x"], true, false⟩], [⟨"A", "v1", "", ["x"], false, true⟩]) := by decide

end GrpcProofs.C42
