/-
C05  Received stream bytes are delivered in order, once, then the end/error.

The model is
GrpcModel/Model/RecvBuffer.lean: `step` ports recvBuffer.put / compactBacklogLocked / load and
recvBufferReader.Read / ReadMessageHeader (whole, or split at the channel receive into
`rbegin` ; `fin`/`finh`), `run` folds it over an op list, `Spec` is the FIFO byte queue closed by
the first error and `Spec.check` (the run-time monitor) says which answers C05 allows.

Every theorem quantifies over ALL op lists: any interleaving of producer puts (data of any size,
error anywhere), bare loads, and reader calls of any size, with compaction on (`c = true`) or off.
-/
import GrpcProofs.Lemmas.RecvBuffer
namespace GrpcProofs.C05
open GrpcModel.RecvBuffer GrpcProofs.Lemmas.RecvBuffer

/-- The ported code never answers `panic` (that answer only ever describes the implementation). -/
theorem model_never_panics (s : State) (op : Op) : (step s op).2 ≠ .panic :=
  (step_out s op).noPanic

/-- **Suffix ledger** (every history): `uncompactedSuffixLen ≤ len(backlog)`, the
    last `uncompactedSuffixLen` backlog entries are data messages (so `m.buffer.Len()` in `load` and
    `ReadOnlyData()` in the compaction loop never touch a nil buffer), and `uncompactedBytes` is
    exactly the sum of their payload sizes — in particular ≥ 0 (so `pool.Get(uncompactedBytes)`
    does not panic, the `copy`s never truncate and fill the new buffer completely, and the index
    `len(backlog) - uncompactedSuffixLen` is ≥ 0).  With compaction disabled the ledger stays 0/0. -/
theorem ledger (c : Bool) (ops : List Op) :
    let b := (run (init c) ops).1.rb
    b.sufLen ≤ b.backlog.length
    ∧ (∀ m ∈ b.backlog.drop (b.backlog.length - b.sufLen), m.isData = true)
    ∧ b.sufBytes = ((bytesOf (b.backlog.drop (b.backlog.length - b.sufLen))).length : Int)
    ∧ (c = false → b.sufLen = 0 ∧ b.sufBytes = 0) := by
  intro b
  obtain ⟨_, hs⟩ := run_summary c ops
  have hg := hs.inv.ledger
  have ⟨pre, suf, h1, h2, h3, h4, _⟩ := hg
  have hdrop : b.backlog.drop (b.backlog.length - b.sufLen) = suf := by
    show (run (init c) ops).1.rb.backlog.drop _ = suf
    rw [h1, ← h2]; simp
  refine ⟨?_, hdrop ▸ h3, hdrop ▸ h4, fun hc => ledger_off hg ?_⟩
  · show (run (init c) ops).1.rb.sufLen ≤ (run (init c) ops).1.rb.backlog.length
    rw [h1, ← h2]; simp
  · rw [comp_run (init c) ops, hc]; rfl

/-- **The run-time monitor never rejects the model**: on every history the answers of
    the ported code are accepted, op by op, by the FIFO specification automaton `Spec.check` — the
    same function the driver evaluates on the IMPLEMENTATION's answers. -/
theorem monitor_accepts_model (c : Bool) (ops : List Op) :
    ∃ sp, ({} : Spec).checkAll ops (run (init c) ops).2 = .ok sp := by
  obtain ⟨sp, h⟩ := run_summary c ops
  exact ⟨sp, h.accepts⟩

/-- **FIFO byte-queue refinement**: at any point of any history, the bytes handed to the
    application followed by the bytes still buffered (reader's `last`, a held message, the channel
    slot, the backlog — up to the first error message) are exactly the DATA payloads accepted
    before the first error, in order: nothing lost, duplicated, reordered or invented, whether or
    not compaction merged frames. -/
theorem fifo_refinement (c : Bool) (ops : List Op) :
    delivered (run (init c) ops).2 ++ pending (run (init c) ops).1 = accepted ops := by
  obtain ⟨sp, h⟩ := run_summary c ops
  rw [← h.queue]; exact h.trace

/-- what the application has read is always a prefix of what was received -/
theorem delivered_is_prefix (c : Bool) (ops : List Op) :
    delivered (run (init c) ops).2 <+: accepted ops :=
  ⟨_, fifo_refinement c ops⟩

/-- **Error/end-of-stream only after all prior data**: if, after the history `pre`, a reader call
    answers `err e`, then everything accepted before has already been delivered and `e` is the first
    error that was put. -/
theorem error_after_all_prior_data (c : Bool) (pre : List Op) (op : Op) (e : Nat)
    (he : (step (run (init c) pre).1 op).2 = .err e) :
    delivered (run (init c) pre).2 = accepted pre ∧ firstErr pre = some e :=
  drained_of_answer c pre op fun _ _ a => a.onErr e he

/-- **Nothing after the error** (any state, any continuation): once a call has answered `err e`,
    every later `Read`/`ReadMessageHeader` answers the same `err e`, and no byte is delivered. -/
theorem nothing_after_error (s : State) (op : Op) (e : Nat) (post : List Op)
    (he : (step s op).2 = .err e) :
    (∀ p ∈ List.zip post (run (step s op).1 post).2, afterErr e p.1 p.2)
    ∧ delivered (run (step s op).1 post).2 = [] :=
  sticky_run e _ post ((step_out s op).sticky e he)

/-- **Everything put after the error/end-of-stream is dropped**, data and errors alike: the call
    returns normally and the whole state is unchanged (so the first error stays the one reported). -/
theorem put_after_error_dropped (s : State) (h : s.rb.err.isSome = true) :
    (∀ b, step s (.putD b) = (s, .ok)) ∧ (∀ e, step s (.putE e) = (s, .ok)) := by
  constructor
  · intro b; simp only [step, put_closed _ _ h]
  · intro e; simp only [step, put_closed _ _ h]

/-- **A blocked reader has nothing to read**: a call can only block when everything accepted has
    been delivered and no error/end-of-stream was put — a reading application is never left
    waiting while data or the end of the stream sits in the buffer. -/
theorem blocks_only_when_drained (c : Bool) (pre : List Op) (op : Op)
    (hb : (step (run (init c) pre).1 op).2 = .blocked) :
    delivered (run (init c) pre).2 = accepted pre ∧ firstErr pre = none :=
  drained_of_answer c pre op fun _ _ a => a.onBlocked hb

/-- **Compaction is invisible**: with an exact ledger, `compactBacklogLocked` leaves the byte
    content of the backlog unchanged (the pooled buffer is exactly filled, no truncation). -/
theorem compaction_preserves_bytes (b : RB) (bl : List Msg) (d : Bytes)
    (h : Ledger { b with backlog := bl }) :
    bytesOf (compactBacklog { b with backlog := bl ++ [.data d] } (.data d)).backlog
      = bytesOf (bl ++ [.data d]) :=
  merge_bytesOf (compact_spec b bl (.data d) h).2

-- concrete runs (both settings), an error after data, the receive/load window
example : (run (init true) [.putD [1, 2, 3], .putD [4], .putE 1, .putD [9], .read 2, .read 5, .hdr 5, .read 1, .read 1]).2
    = [.ok, .ok, .ok, .ok, .bytes [1, 2], .bytes [3], .bytes [4], .err 1, .err 1] := by decide
example : (run (init false) [.putD [1], .rbegin, .putD [2], .putD [3], .fin 5, .read 5, .read 5, .read 5]).2
    = [.ok, .took, .ok, .ok, .bytes [1], .bytes [2], .bytes [3], .blocked] := by decide
example : (run (init true) [.putE 1, .putE 2, .putD [7], .read 1, .read 1]).2 = [.ok, .ok, .ok, .err 1, .err 1] := by decide

end GrpcProofs.C05
