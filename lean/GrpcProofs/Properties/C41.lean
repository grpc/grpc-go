/-
C41  RLS keys are faithful and the RLS cache is consistent.

Models: GrpcModel/Model/RLSKeys.lean (MakeBuilderMap, RLSKey, mapToString), RLSCache.lean (lru +
dataCache), RLSAdaptive.lean (lookback, Throttler).  Lemmas: GrpcProofs/Lemmas/RLS{Keys,Cache,Adaptive}.lean.
-/
import GrpcProofs.Lemmas.RLSKeys
import GrpcProofs.Lemmas.RLSCache
import GrpcProofs.Lemmas.RLSAdaptive
namespace GrpcProofs.C41

section Keys
open GrpcModel.RLSKeys GrpcProofs.Lemmas.RLSKeys

/-- RLSKey returns no key map exactly when neither the full path nor "/service/" has a key builder. -/
theorem key_none_iff_no_builder (bm : List (Str × Builder)) (md : List (Str × List Str)) (host path : Str) :
    rlsKey bm md host path = none ↔ findBuilder bm path = none := by
  unfold rlsKey findBuilder
  simp only
  cases ((List.find? (fun x => decide (x.1 = path)) bm).map (·.2)).orElse fun _ =>
      (List.find? (fun x => decide (x.1 = path.take (afterLastSlash path))) bm).map (·.2) <;> simp

/-- The RLS key of a request: for the key builder `b` that serves the path, the key map is, as a function
    of the key,  constant keys, else the method / service / host extra keys (configured = non-empty),
    else — only when the request has metadata at all — for a header key builder with that key the
    comma-joined values of the FIRST configured header name that is present.  Nothing else is in the map. -/
theorem key_contents_spec (bm : List (Str × Builder)) (md : List (Str × List Str)) (host path : Str)
    (b : Builder) (hb : findBuilder bm path = some b) :
    ∃ kv, rlsKey bm md host path = some kv ∧
      ∀ k, mget kv k = keySpec b md host (path.take (afterLastSlash path)) (path.drop (afterLastSlash path)) k := by
  unfold findBuilder at hb
  simp only at hb
  unfold rlsKey
  simp only [hb]
  refine ⟨_, rfl, fun k => ?_⟩
  -- `keySpec` lists the writes of `RLSKey` last to first; each write has its read lemma
  rw [const_fold]
  simp only [mget_putIf, buildHeaderKeys_get]
  rfl

/-- F6: mapToString is not injective. -/
theorem map_to_string_not_injective_counterexample :
    ¬ (∀ m1 m2 : List (Str × Str), mapToString m1 = mapToString m2 → sortKV m1 = sortKV m2) := by
  intro h
  have := h [([97], [49, 44, 98, 61, 50])] [([97], [49]), ([98], [50])] (by decide)
  revert this
  decide

/-- F6 end to end in the model: one key builder (key "a" from header "ha", key "b" from header "hb",
    service "s"), two requests on "/s/m" whose key maps differ ({a:"1,b=2"} vs {a:"1", b:"2"}) get the
    same `Str`, i.e. the same data-cache key.  So "two requests with different key maps never share a
    cache entry" does NOT hold of the code as written. -/
theorem distinct_key_maps_distinct_cache_keys_counterexample :
    ¬ (∀ (cfg : List KB) (bm : List (Str × Builder)) (md1 md2 : List (Str × List Str)) (host path : Str)
        (k1 k2 : List (Str × Str)), makeBuilderMap cfg = some bm →
        rlsKey bm md1 host path = some k1 → rlsKey bm md2 host path = some k2 →
        sortKV k1 ≠ sortKV k2 → mapToString k1 ≠ mapToString k2) := by
  intro h
  let cfg : List KB := [{ names := [{ service := [115], method := [] }],
                          headers := [{ key := [97], names := [[104, 97]], requiredMatch := false },
                                      { key := [98], names := [[104, 98]], requiredMatch := false }],
                          constantKeys := [], host := [], service := [], method := [] }]
  let b : Builder := { headerKeys := [{ key := [97], names := [[104, 97]] }, { key := [98], names := [[104, 98]] }],
                       constantKeys := [], hostKey := [], serviceKey := [], methodKey := [] }
  have := h cfg [([47, 115, 47], b)]
    [([104, 97], [[49, 44, 98, 61, 50]])] [([104, 97], [[49]]), ([104, 98], [[50]])] [104] [47, 115, 47, 109]
    [([97], [49, 44, 98, 61, 50])] [([97], [49]), ([98], [50])]
    (by decide) (by decide) (by decide) (by decide)
  revert this
  decide

/-- FULL STATEMENT (false of the code, see the counterexamples above):
      ∀ key maps k1 k2,  sortKV k1 ≠ sortKV k2 → mapToString k1 ≠ mapToString k2
    i.e. requests with different key maps get different data-cache keys.
    PROVED PART: it holds whenever no key and no value contains ',' or '=' (the two bytes mapToString
    uses as separators; the proof does not use that values are free of '=').  What is missing is the
    escaping of those bytes. -/
theorem distinct_key_maps_distinct_cache_keys_partial (k1 k2 : List (Str × Str))
    (h1 : SepFree k1) (h2 : SepFree k2) (hne : sortKV k1 ≠ sortKV k2) : mapToString k1 ≠ mapToString k2 :=
  fun h => hne (mapToString_inj_sepfree k1 k2 h1 h2 h)

end Keys

section Cache
open GrpcModel.RLSCache GrpcProofs.Lemmas.RLSCache

/-- The accounted size always equals the sum of the entries' sizes — after any sequence of
    add / get / resize / evictExpired / updateEntrySize / remove / resetBackoffState / stop calls at any
    clock readings, provided addEntry is only called for keys that are not in the cache (the picker
    checks getEntry == nil first).  The LRU list then holds exactly the keys of the entries, once each. -/
theorem cache_size_is_sum (max : Int) (ops : List COp) (ok : runOK (newDataCache max) ops) :
    let dc := ops.foldl cstep (newDataCache max)
    dc.currentSize = sumSizes dc ∧ dc.lru.Nodup ∧ ∀ k, (dc.entries k).isSome ↔ k ∈ dc.lru := by
  have h := run_wf ops (wf_new max) ok
  exact ⟨h.size, h.nodup, h.keys⟩

/-- the contract is needed: adding a present key double-counts -/
theorem cache_size_needs_contract :
    let e : Entry := { size := 1, earliestEvict := 0, expiry := 0, backoffExpiry := 0, hasBackoff := false, timerAt := none }
    let dc := (addEntry (addEntry (newDataCache 10) 0 7 e).1 0 7 e).1
    dc.currentSize = 2 ∧ sumSizes dc = 2 ∧ dc.lru = [7, 7] := by decide

/-- resize evicts least-recently-used entries first and stops at entries that are not yet evictable:
    on a consistent cache that is not shut down, the surviving LRU order is the old one minus a prefix
    of `k` keys; each of those was evictable (earliestEvictTime not in the future) and is gone, every
    other entry is untouched; the accounted size dropped by exactly their sizes; the loop stopped
    because the cache is small enough, or it is empty, or the now least recently used entry is not
    evictable yet; and no shorter prefix would have been enough. -/
theorem evicts_lru_first_stops_at_unevictable (dc : DC) (now : Nat) (size : Int) (h : WF dc)
    (hs : dc.shutdown = false) :
    let r := (resize dc now size).1
    ∃ k, k ≤ dc.lru.length ∧ r.lru = dc.lru.drop k ∧
      (∀ x ∈ dc.lru.take k, (∃ e, dc.entries x = some e ∧ e.earliestEvict ≤ now) ∧ r.entries x = none) ∧
      (∀ x, x ∉ dc.lru.take k → r.entries x = dc.entries x) ∧
      r.currentSize = dc.currentSize - sumOver (sizeAt dc.entries) (dc.lru.take k) ∧
      (r.currentSize ≤ size ∨ r.lru = [] ∨ ∃ hd e, r.lru.head? = some hd ∧ r.entries hd = some e ∧ e.earliestEvict > now) ∧
      (∀ j, j < k → dc.currentSize - sumOver (sizeAt dc.entries) (dc.lru.take j) > size) ∧
      r.maxSize = size := by
  obtain ⟨k, sp⟩ := resizeLoop_spec now size (dc.lru.length + 1) dc false h (by omega)
  simp only [resize, hs]
  exact ⟨k, sp.kle, sp.lru, sp.gone, sp.kept, sp.cur, sp.stop, sp.minimal, rfl⟩

end Cache

section Adaptive
open GrpcModel.RLSAdaptive GrpcProofs.Lemmas.RLSAdaptive GrpcModel.Generated

/-- A lookback's running total is the sum of the values added to the bins in (head − bins, head], where
    head is the largest bin index any add/sum call has mentioned — for EVERY timeline of calls: clock
    standing still, jumping far ahead, or going backwards (adds behind the window are dropped, adds
    inside it are counted in their own bin).  `sum t` returns exactly that total. -/
theorem lookback_sum_is_window_sum (bins duration : Nat) (hb : 0 < bins) (ops : List Op) (t : Nat) :
    let w := duration / bins
    (run (newLookback bins duration) ops).total = windowSum (hist w ops) (maxBin w ops) bins ∧
    (run (newLookback bins duration) ops).head = maxBin w ops ∧
    (sum (run (newLookback bins duration) ops) t).2 =
      windowSum (hist w (ops ++ [.sum t])) (maxBin w (ops ++ [.sum t])) bins := by
  have h := run_new bins duration hb ops
  have h' := run_new bins duration hb (ops ++ [.sum t])
  rw [run_snoc] at h'
  exact ⟨h.total, h.head, h'.total⟩

/-- the default throttler looks back over 100 bins of 300 ms: 30 s -/
theorem window_is_30_seconds :
    rlsDefaultBins = 100 ∧ rlsDefaultDuration / rlsDefaultBins = 300000000 ∧
    rlsDefaultBins * (rlsDefaultDuration / rlsDefaultBins) = 30 * 1000000000 ∧
    newThrottler.accepts.bins = 100 ∧ newThrottler.accepts.width = 300000000 ∧
    newThrottler.throttles.bins = 100 ∧ newThrottler.throttles.width = 300000000 := by decide

/-- calls made on a Throttler, with the clock reading and the random draw they see -/
inductive TOp
  | should (now : Nat) (r : Rat)
  | resp (now : Nat) (throttled : Bool)

/-- a Throttler together with the call histories of its two lookbacks -/
structure TSt where
  t : Thr
  acc : List Op
  thr : List Op

def tinit : TSt := { t := newThrottler, acc := [], thr := [] }

def tstep (s : TSt) : TOp → TSt
  | .should now r =>
    let res := shouldThrottle s.t now r
    { t := res.1, acc := s.acc ++ [.sum now],
      thr := if res.2 then s.thr ++ [.sum now] ++ [.add now 1] else s.thr ++ [.sum now] }
  | .resp now throttled =>
    { t := registerBackendResponse s.t now throttled,
      acc := if throttled then s.acc else s.acc ++ [.add now 1],
      thr := if throttled then s.thr ++ [.add now 1] else s.thr }

/-- each lookback of the throttler is a fresh lookback after the calls recorded for it -/
def Tracks (s : TSt) : Prop :=
  s.t.accepts = run (newLookback rlsDefaultBins rlsDefaultDuration) s.acc ∧
  s.t.throttles = run (newLookback rlsDefaultBins rlsDefaultDuration) s.thr

theorem tstep_tracks (s : TSt) (o : TOp) (h : Tracks s) : Tracks (tstep s o) := by
  obtain ⟨ha, ht⟩ := h
  cases o with
  | should now r =>
    simp only [Tracks, tstep, shouldThrottle]
    split
    · simp only [Bool.false_eq_true, if_false, run_snoc, step, ← ha, ← ht, and_self]
    · simp only [if_true, run_snoc, step, ← ha, ← ht, and_self]
  | resp now throttled =>
    cases throttled <;> simp [Tracks, tstep, registerBackendResponse, run_snoc, step, ← ha, ← ht]

theorem trun_tracks (ops : List TOp) : Tracks (ops.foldl tstep tinit) :=
  Lemmas.Basic.foldl_inv tstep_tracks ops ⟨rfl, rfl⟩

/-- ShouldThrottle after ANY history of ShouldThrottle / RegisterBackendResponse calls (any clock
    readings, including backwards) answers true exactly when
    (requests − 2·accepts)/(requests + 8) > r,  requests = accepts + throttles, where accepts and
    throttles are the numbers of accepts / throttles (server- and client-side) recorded in the bins of
    the last 100 × 300 ms ending at the latest clock reading, and r is the random draw. -/
theorem probability_formula (ops : List TOp) (now : Nat) (r : Rat) :
    let s := ops.foldl tstep tinit
    let w := rlsDefaultDuration / rlsDefaultBins
    let accepts := windowSum (hist w (s.acc ++ [.sum now])) (maxBin w (s.acc ++ [.sum now])) rlsDefaultBins
    let throttles := windowSum (hist w (s.thr ++ [.sum now])) (maxBin w (s.thr ++ [.sum now])) rlsDefaultBins
    (shouldThrottle s.t now r).2 = decide (probability accepts throttles > r) ∧
    probability accepts throttles =
      (((accepts : Rat) + (throttles : Rat)) - 2 * (accepts : Rat)) / (((accepts : Rat) + (throttles : Rat)) + 8) := by
  intro s w accepts throttles
  obtain ⟨ha, ht⟩ : Tracks s := trun_tracks ops
  have hb : 0 < rlsDefaultBins := by decide
  have e1 := (lookback_sum_is_window_sum rlsDefaultBins rlsDefaultDuration hb s.acc now).2.2
  have e2 := (lookback_sum_is_window_sum rlsDefaultBins rlsDefaultDuration hb s.thr now).2.2
  refine ⟨?_, rfl⟩
  simp only [shouldThrottle]
  rw [ha, ht, e1, e2]
  split
  · rename_i hle
    simp only [gt_iff_lt]
    exact (decide_eq_false (Rat.not_lt.mpr hle)).symm
  · rename_i hnle
    simp only [gt_iff_lt]
    exact (decide_eq_true (Rat.not_le.mp hnle)).symm

-- non-vacuity: with 3 throttles and no accepts in the window the probability is 3/11
example : probability 0 3 = (3 : Rat) / 11 := by
  unfold probability ratioForAccepts requestsPadding
  grind
example : (run (newLookback 4 400) [.add 100 1, .add 250 2, .sum 450, .add 120 5, .sum 900]).total = 0 := by decide
example : (run (newLookback 4 400) [.add 100 1, .add 250 2, .sum 450, .add 120 5]).total = 8 := by decide

end Adaptive

end GrpcProofs.C41
