/-
C38  Weighted random choice, drops and circuit breaking are exact.

Vocabulary (GrpcModel/Model/WRRRandom.lean ports internal/wrr/random.go, clusterimpl/picker.go,
clusterimpl.go:dropRequestsPerMillion and xdsclient/requests_counter.go; GrpcModel/Model/EDF.lean
ports internal/wrr/edf.go):
  RW.ofWeights ws      NewRandom() + Add(i, ws[i]) for every i
  rw.range             the bound `Next` hands to rand.Int64N (the size of the random source)
  rw.pick r            the index `Next` returns when the random source answers r
  newDropper rpm / dropOf d r    clusterimpl dropper and dropper.drop()
  pick ready drops rs counter childOK count   picker.Pick (drop + circuit-breaking part)
From GrpcProofs/Lemmas/WRRRandom.lean:
  AllEqual ws          all weights equal, the case in which `Next` draws an index directly
  CBOp, cbRun          picks and completions on one cluster's request counter; the counter after them
  droppersOf ovs       the droppers an EDS update with overloads `ovs` asks for
"Probability" is the count over the whole (uniform) random source.
-/
import GrpcProofs.Lemmas.WRRRandom
import GrpcProofs.Lemmas.EDF
namespace GrpcProofs.C38
open GrpcModel.WRRRandom GrpcModel.SortSearch GrpcModel.EDF
open GrpcProofs.Lemmas.WRRRandom GrpcProofs.Lemmas.SortSearch GrpcProofs.Lemmas.EDF

/-- `sort.Search` (literal port of the Go loop) on a monotone predicate returns the first index at
    which it holds (n if none). -/
theorem search_spec (n : Nat) (f : Nat → Bool) (hm : Mono f) :
    search n f ≤ n ∧ (∀ k, k < search n f → f k = false) ∧ (∀ k, search n f ≤ k → k < n → f k = true) :=
  Lemmas.SortSearch.search_spec n f hm

/-- The random source is `[0, Σw)` when the weights are not all equal and `[0, n)` when they are. -/
theorem random_range (ws : List Nat) (hne : ws ≠ []) :
    (¬ AllEqual ws → (RW.ofWeights ws).range = some ws.sum) ∧
    (AllEqual ws → (RW.ofWeights ws).range = some ws.length) :=
  ⟨range_not_allEqual ws hne, range_allEqual ws hne⟩

/-- `rand.Int64N` is never called with a bound ≤ 0 (it would panic). -/
theorem random_range_positive (ws : List Nat) (hne : ws ≠ []) :
    ∃ n, (RW.ofWeights ws).range = some n ∧ 0 < n :=
  have ⟨n, hn, hpos, _⟩ := next_fraction ws 0 (List.length_pos_of_ne_nil hne)
  ⟨n, hn, hpos⟩

/-- Weights not all equal: over the Σw values of the random source item i is returned for exactly
    w_i of them — probability exactly w_i / Σw. -/
theorem next_counts (ws : List Nat) (hne : ws ≠ []) (h : ¬ AllEqual ws) (i : Nat) (hi : i < ws.length) :
    (List.range ws.sum).countP (fun r => (RW.ofWeights ws).pick r == some i) = ws.getD i 0 :=
  Lemmas.WRRRandom.next_counts ws hne h i hi

/-- All weights equal (zero included): every item is returned for exactly 1 of the n values. -/
theorem next_counts_equal (ws : List Nat) (hne : ws ≠ []) (h : AllEqual ws) (i : Nat) (hi : i < ws.length) :
    (List.range ws.length).countP (fun r => (RW.ofWeights ws).pick r == some i) = 1 :=
  Lemmas.WRRRandom.next_counts_equal ws hne h i hi

/-- A zero-weight item is never returned unless all weights are equal. -/
theorem zero_weight_never (ws : List Nat) (hne : ws ≠ []) (h : ¬ AllEqual ws) (i : Nat) (hi : i < ws.length)
    (hz : ws.getD i 0 = 0) (r : Nat) (hr : r < ws.sum) : (RW.ofWeights ws).pick r ≠ some i := by
  intro hp
  have := (pick_iff_slice ws hne h r i hr hi).mp hp
  rw [prefixSum_succ ws i, hz] at this
  omega

/-- For every value of the random source `Next` returns a valid item (the slice index is in
    range: `rw.items[i]` cannot panic). -/
theorem next_in_bounds (ws : List Nat) (hne : ws ≠ []) (n r : Nat)
    (hn : (RW.ofWeights ws).range = some n) (hr : r < n) :
    ∃ i, i < ws.length ∧ (RW.ofWeights ws).pick r = some i := by
  by_cases h : AllEqual ws
  · obtain rfl := Option.some.inj ((range_allEqual ws hne h).symm.trans hn)
    exact ⟨r, hr, pick_allEqual ws hne h r⟩
  · obtain rfl := Option.some.inj ((range_not_allEqual ws hne h).symm.trans hn)
    obtain ⟨i, hi, hs⟩ := slice_exists ws r hr
    exact ⟨i, hi, (pick_iff_slice ws hne h r i hr hi).mpr hs⟩

/-- clusterimpl's `gcd(a, b uint32)` computes the gcd. -/
theorem gcd_is_gcd (a b : Nat) : gcd32 a b = Nat.gcd a b := gcd32_eq a b

/-- A dropper for `rpm ≤ 10^6` requests per million fires for exactly rpm / 10^6 of its random
    source (gcd reduction included; rpm = 0 never, rpm = 10^6 always, rpm = 500000 is the
    equal-weights case). -/
theorem drop_fraction_exact (rpm : Nat) (h : rpm ≤ 1000000) :
    ∃ N, (newDropper rpm).range = some N ∧ 0 < N ∧
      (List.range N).countP (fun r => dropOf (newDropper rpm) r) * 1000000 = rpm * N :=
  dropper_fraction rpm h

/-- `dropRequestsPerMillion` is exactly min(numerator/denominator, 1)·10^6 for the denominators an
    EDS drop overload can carry (100, 10 000, 1 000 000): numerator > denominator is capped at 100 %. -/
theorem requests_per_million_exact (num den : Nat) (hden : den = 100 ∨ den = 10000 ∨ den = 1000000) :
    dropRequestsPerMillion num den * den = min num den * 1000000 ∧ dropRequestsPerMillion num den ≤ 1000000 :=
  dropRPM_exact num den (eds_denominator_dvd den hden)

/-- Together: the category numerator/denominator drops exactly the fraction
    min(numerator, denominator) / denominator of the RPCs that reach it. -/
theorem drop_category_fraction (num den : Nat) (hden : den = 100 ∨ den = 10000 ∨ den = 1000000) :
    ∃ N, (newDropper (dropRequestsPerMillion num den)).range = some N ∧ 0 < N ∧
      (List.range N).countP (fun r => dropOf (newDropper (dropRequestsPerMillion num den)) r) * den
        = min num den * N := by
  obtain ⟨h1, h2⟩ := requests_per_million_exact num den hden
  obtain ⟨N, hN, hpos, hc⟩ := dropper_fraction _ h2
  refine ⟨N, hN, hpos, Nat.eq_of_mul_eq_mul_right (show 0 < 1000000 by norm_num) ?_⟩
  calc _ * den * 1000000 = _ * 1000000 * den := Nat.mul_right_comm _ _ _
    _ = dropRequestsPerMillion num den * N * den := by rw [hc]
    _ = dropRequestsPerMillion num den * den * N := Nat.mul_right_comm _ _ _
    _ = min num den * 1000000 * N := by rw [h1]
    _ = min num den * N * 1000000 := Nat.mul_right_comm _ _ _

/-- After ANY sequence of EDS updates the droppers in use are exactly those of the LATEST drop
    configuration (category by category, in order): an update that changes the rate of an existing
    category replaces its dropper. -/
theorem droppers_follow_latest_config (us : List (List (String × Nat × Nat))) (ovs : List (String × Nat × Nat)) :
    ((us ++ [ovs]).foldl handleDrops {}).drops = droppersOf ovs := by
  have hinv : DropInv (us.foldl handleDrops {}) :=
    List.foldlRecOn (motive := DropInv) us handleDrops rfl fun s hs u _ => (handleDrops_inv s hs u).1
  rw [List.foldl_append]
  exact (handleDrops_inv _ hinv ovs).2

/-- Category drops happen only while the child policy is READY. -/
theorem drops_only_when_ready (drops : List RW) (rs : List Nat) (counter : Option Nat) (childOK : Bool)
    (count k : Nat) : (pick false drops rs counter childOK count).1 ≠ .dropped k :=
  fun h => absurd ((pick_dropped_iff false drops rs counter childOK count k).mp h).1 (by decide)

/-- When READY the RPC is dropped by category k iff k is the first category (in configuration
    order) whose dropper fires on its random value; the request counter is not touched. -/
theorem drop_iff_first_firing_category (drops : List RW) (rs : List Nat) (counter : Option Nat)
    (childOK : Bool) (count k : Nat) (hlen : drops.length ≤ rs.length) :
    (pick true drops rs counter childOK count).1 = .dropped k ↔
      (k < drops.length ∧ dropOf (drops.getD k {}) (rs.getD k 0) = true ∧
        ∀ j, j < k → dropOf (drops.getD j {}) (rs.getD j 0) = false) := by
  rw [pick_dropped_iff, firstDrop_spec drops rs 0 k hlen]
  constructor
  · rintro ⟨_, j, hj, h⟩
    obtain rfl : j = k := by omega
    exact h
  · exact fun h => ⟨rfl, k, by omega, h⟩

/-- An RPC is admitted only while fewer than max_requests are in flight, and then the count goes
    up by one; every other outcome leaves the count unchanged (a failed child pick releases it). -/
theorem admitted_only_below_max (ready : Bool) (drops : List RW) (rs : List Nat) (max : Nat)
    (childOK : Bool) (count : Nat) (hb : count + 1 < 4294967296) :
    ((pick ready drops rs (some max) childOK count).1 = .ok ∧
        (pick ready drops rs (some max) childOK count).2 = count + 1 ∧ count < max) ∨
    ((pick ready drops rs (some max) childOK count).1 ≠ .ok ∧
        (pick ready drops rs (some max) childOK count).2 = count) :=
  pick_counter ready drops rs max childOK count hb

/-- Along any sequence of picks and completions (any picker configurations, any max per pick) the
    request counter equals the number of admitted, unfinished RPCs. -/
theorem inflight_is_admitted_minus_finished (ops : List CBOp) (hlen : ops.length < 4294967295) :
    (cbRun {} ops).count = (cbRun {} ops).unfinished :=
  (cbRun_spec ops {} rfl (by simpa using hlen)).1

/-- With one max_requests value, sequential picks never have more than max_requests in flight. -/
theorem sequential_inflight_le_max (max : Nat) (ops : List CBOp) (hlen : ops.length < 4294967295)
    (hmax : ∀ op ∈ ops, ∀ ready drops rs m childOK, op = CBOp.pick ready drops rs m childOK → m = max) :
    (cbRun {} ops).count ≤ max :=
  (cbRun_spec ops {} rfl (by simpa using hlen)).2 max (Nat.zero_le _) hmax

/-- When every admitted RPC has finished the in-flight count is back to zero. -/
theorem inflight_returns_to_zero (ops : List CBOp) (hlen : ops.length < 4294967295)
    (hfin : (cbRun {} ops).unfinished = 0) : (cbRun {} ops).count = 0 := by
  rw [inflight_is_admitted_minus_finished ops hlen]; exact hfin

/-- After any number k of `Next` calls every entry's deadline is (times returned + 1) / weight,
    and exactly k items have been returned. -/
theorem edf_deadline_closed_form (ws : List Nat) (hpos : ∀ w ∈ ws, 0 < w) (hne : ws ≠ []) (k : Nat) :
    let r := (EDFState.ofWeights ws : EDFState ℚ).run k
    r.2.length = k ∧ ∀ i, i < ws.length →
      (r.1.items.getD i ⟨0, 0⟩).deadline = ((r.2.count i : ℕ) + 1 : ℚ) / (ws.getD i 0 : ℚ) := by
  obtain ⟨hinv, hlen⟩ := inv_run ws hpos hne k
  exact ⟨hlen, fun i hi => (hinv.entry i hi).2⟩

/-- Items are returned in proportion to their weights: in every prefix,
    c_i / w_i ≤ (c_j + 1) / w_j for all items i, j (cross-multiplied). -/
theorem edf_proportional (ws : List Nat) (hpos : ∀ w ∈ ws, 0 < w) (hne : ws ≠ []) (k i j : Nat)
    (hi : i < ws.length) (hj : j < ws.length) :
    let is := ((EDFState.ofWeights ws : EDFState ℚ).run k).2
    is.count i * ws.getD j 0 ≤ (is.count j + 1) * ws.getD i 0 :=
  (inv_run ws hpos hne k).1.fair i j hi hj

/-- After m whole cycles (m·Σw picks) item i has been returned exactly m·w_i times. -/
theorem edf_exact_cycle (ws : List Nat) (hpos : ∀ w ∈ ws, 0 < w) (hne : ws ≠ []) (m i : Nat)
    (hi : i < ws.length) :
    (((EDFState.ofWeights ws : EDFState ℚ).run (m * ws.sum)).2).count i = m * ws.getD i 0 := by
  obtain ⟨hinv, hlen⟩ := inv_run ws hpos hne (m * ws.sum)
  apply cycle_exact ws.length (ws.getD · 0) (fun j => List.count j _) m (getD_pos ws hpos) hinv.fair _ i hi
  rw [Lemmas.WRRScale.sum_count ws.length _ hinv.range, hlen, sum_getD]

example : (RW.ofWeights [1, 0, 3]).pick 1 = some 2 := by decide
example : (RW.ofWeights [1, 0, 3]).range = some 4 := by decide
example : (RW.ofWeights [2, 2, 2]).range = some 3 := by decide
example : ¬ AllEqual [1, 0, 3] := fun h => absurd (h 1 (by simp) 0 (by simp)) (by decide)
example : dropRequestsPerMillion 3 100 = 30000 := by decide
example : dropRequestsPerMillion 200 100 = 1000000 := by decide
example : (pick true [RW.ofWeights [1, 1]] [0] (some 2) true 0).1 = .dropped 0 := by decide
example : pick true [RW.ofWeights [1, 1]] [1] (some 2) true 1 = (.ok, 2) := by decide
example : pick true [RW.ofWeights [1, 1]] [1] (some 2) true 2 = (.cbDropped, 2) := by decide

end GrpcProofs.C38
