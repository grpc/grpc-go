/-
C23  Every successful pick's Done callback runs exactly once.
Models: GrpcModel/Model/RetryLoop.lean (`Att.finishCalls` counts the csAttempt.finish calls that get
past the `finished` guard, i.e. the calls of pickResult.Done), GrpcModel/Model/PickDone.lean
(pickerWrapper.pick against a scripted picker).
-/
import GrpcProofs.Lemmas.RetryLoop
import GrpcProofs.Properties.C18
import GrpcModel.Model.PickDone
namespace GrpcProofs.C23
open GrpcModel.Retry GrpcModel.RetryLoop GrpcModel.PickDone GrpcProofs.Lemmas.Retry GrpcProofs.Lemmas.RetryLoop
open GrpcProofs.C18 (fresh)

/-- `csAttempt.finish` is idempotent with respect to Done: over every run (every policy, server
    script, buffer limit — negative ones included — and application op sequence, cancellation
    included) no attempt's Done has run more than once. -/
theorem finish_runs_done_at_most_once (cstr sstr dis : Bool) (pol : Option Policy) (maxBuf : Int) (thr : Option Throttler)
    (script : List Beh) (ns : List (Option Nat)) (f0 : Nat) (ops : List AppOp) (hops : ∀ o ∈ ops, o ≠ .new) (fuel : Nat) :
    ∀ a ∈ (St.run fuel (fresh cstr sstr dis pol maxBuf thr script ns f0) ops).1.atts, a.finishCalls ≤ 1 :=
  (run_new_fo f0 fuel ops _ (init_unstarted ..) hops).finv.most

/-- … and every attempt that is no longer the current one (it was abandoned by a retry) has had its
    Done run exactly once: no path out of `retryLocked` forgets `attempt.finish`. -/
theorem every_attempt_finished_once (cstr sstr dis : Bool) (pol : Option Policy) (maxBuf : Int) (thr : Option Throttler)
    (script : List Beh) (ns : List (Option Nat)) (f0 : Nat) (ops : List AppOp) (hops : ∀ o ∈ ops, o ≠ .new) (fuel : Nat) :
    ∀ a ∈ (St.run fuel (fresh cstr sstr dis pol maxBuf thr script ns f0) ops).1.atts.dropLast, a.finishCalls = 1 :=
  (run_new_fo f0 fuel ops _ (init_unstarted ..) hops).finv.older

/-- Once `clientStream.finish` has run (the RPC ended: success, failure, send error or
    cancellation) every attempt — the last one included — has had its Done run exactly once. -/
theorem done_exactly_once_at_end (cstr sstr dis : Bool) (pol : Option Policy) (maxBuf : Int) (thr : Option Throttler)
    (script : List Beh) (ns : List (Option Nat)) (f0 : Nat) (ops : List AppOp) (hops : ∀ o ∈ ops, o ≠ .new) (fuel : Nat)
    (hfin : (St.run fuel (fresh cstr sstr dis pol maxBuf thr script ns f0) ops).1.cs.finished = true) :
    ∀ a ∈ (St.run fuel (fresh cstr sstr dis pol maxBuf thr script ns f0) ops).1.atts, a.finishCalls = 1 :=
  ((run_new_fo f0 fuel ops _ (init_unstarted ..) hops).finv.fin hfin).1

/-- `clientStream.finish` does end the bookkeeping: whatever the state, afterwards the RPC is
    finished and every attempt's Done has run exactly once (this is the step taken by RecvMsg on
    io.EOF / error, by SendMsg on a real error, by Header on error and by cancellation). -/
theorem finish_finishes (st : St) (code : Nat) (h : FO st) :
    (st.finish code).cs.finished = true ∧ ∀ a ∈ (st.finish code).atts, a.finishCalls = 1 :=
  ⟨finish_finished st code, ((finish_fo st code h).finv.fin (finish_finished st code)).1⟩

/-- Cancellation: the operation ends the RPC. -/
theorem cancel_finishes (fuel : Nat) (st : St) (h : FO st) :
    (st.step fuel .cancel).1.cs.finished = true ∧ ∀ a ∈ (st.step fuel .cancel).1.atts, a.finishCalls = 1 := by
  simp only [St.step, St.opCancel]
  have hs := Move.fo (.settle _) (finish_fo st 1 h)
  exact ⟨finish_finished st 1, (hs.finv.fin (finish_finished st 1)).1⟩

/-- A retry creates its attempt only after the abandoned one was finished: when `retryLocked` has
    taken its decision every existing attempt's Done has run exactly once. -/
theorem abandoned_attempt_finished_before_retry (st : St) (raw : Raw) (h : FO st) :
    ∀ a ∈ (st.decideRetry raw).1.atts, a.finishCalls = 1 :=
  decideRetry_all rfl h.finv

/-- An attempt created by the retry code whose stream creation fails (the pick succeeded, then
    `transport.NewStream` failed) is finished — its Done runs — at the top of the next turn of
    `retryLocked`'s loop, before `shouldRetry` judges it; it never becomes `cs.attempt`, so nothing
    else would finish it. -/
theorem failed_creation_finished_once (st : St) (d : Decision) (c : Nat) :
    (st.failStep d c).1.failedFin = st.failedFin ++ [1] ∧ (st.failStep d c).1.atts = st.atts :=
  ⟨rfl, rfl⟩

/-- in a pick trace: a not-ready pick is followed at once by its own Done(DoneInfo{}); no other Done -/
def wellPaired : List PEv → Bool
  | [] => true
  | .pick id .notready :: .done id' c :: rest => id == id' && c == 0 && wellPaired rest
  | .pick _ .notready :: _ => false
  | .pick id .notreadyCancel :: .done id' c :: rest => id == id' && c == 0 && wellPaired rest
  | .pick _ .notreadyCancel :: _ => false
  | .pick _ _ :: rest => wellPaired rest
  | .done _ _ :: _ => false

/-- The pick loop calls Done exactly once, immediately, on every non-ready result it discards —
    also when the RPC's context ended during that very `Pick` (`notreadyCancel`) — and on nothing
    else: not on ErrNoSubConnAvailable, not on a status error, and not on the result it returns
    (that one is left to `csAttempt.finish`). -/
theorem pick_loop_done (script : List PickBeh) (n : Nat) : wellPaired (pickLoop script n).1 = true := by
  induction script generalizing n with
  | nil => simp [pickLoop, wellPaired]
  | cons b rest ih =>
    cases b with
    | ok => simp [pickLoop, wellPaired]
    | oknd => simp [pickLoop, wellPaired]
    | notready =>
      have := ih (n + 1)
      simp only [pickLoop]
      simp [wellPaired, this]
    | nosc =>
      have := ih (n + 1)
      simp only [pickLoop]
      simp [wellPaired, this]
    | hang => simp [pickLoop, wellPaired]
    | drop c => simp [pickLoop, wellPaired]
    | notreadyCancel => simp [pickLoop, wellPaired]
    | noscCancel => simp [pickLoop, wellPaired]

/-- A pick during which the context ended returns CANCELLED without a pick result, and a discarded
    not-ready result got its Done first. -/
theorem cancelled_pick_done (rest : List PickBeh) (n : Nat) :
    (pickLoop (.notreadyCancel :: rest) n).1 = [.pick (n + 1) .notreadyCancel, .done (n + 1) 0] ∧
    (pickLoop (.notreadyCancel :: rest) n).2.2.2 = .cancelled ∧
    (pickLoop (.noscCancel :: rest) n).1 = [.pick (n + 1) .noscCancel] ∧
    (pickLoop (.noscCancel :: rest) n).2.2.2 = .cancelled := by
  simp [pickLoop]

def evId : PEv → Nat
  | .pick id _ => id
  | .done id _ => id

/-- pick ids are fresh: everything the loop reports lies strictly above the ids used before and at
    or below the new counter, and the returned pick is the last id. -/
theorem pick_loop_fresh_ids (script : List PickBeh) (n : Nat) :
    (∀ e ∈ (pickLoop script n).1, n < evId e ∧ evId e ≤ (pickLoop script n).2.2.1) ∧
    (∀ hd id, (pickLoop script n).2.2.2 = .picked hd id → id = (pickLoop script n).2.2.1) ∧
    n < (pickLoop script n).2.2.1 := by
  induction script generalizing n with
  | nil => simp [pickLoop, evId]
  | cons b rest ih =>
    cases b with
    | ok => simp [pickLoop, evId]
    | oknd => simp [pickLoop, evId]
    | hang => simp [pickLoop, evId]
    | drop c => simp [pickLoop, evId]
    | notreadyCancel => simp [pickLoop, evId]
    | noscCancel => simp [pickLoop, evId]
    | notready =>
      obtain ⟨h1, h2, h3⟩ := ih (n + 1)
      simp only [pickLoop]
      refine ⟨?_, h2, by omega⟩
      intro e he
      simp only [List.mem_cons] at he
      rcases he with he | he | he
      · subst he; simp only [evId]; omega
      · subst he; simp only [evId]; omega
      · have := h1 e he; omega
    | nosc =>
      obtain ⟨h1, h2, h3⟩ := ih (n + 1)
      simp only [pickLoop]
      refine ⟨?_, h2, by omega⟩
      intro e he
      simp only [List.mem_cons] at he
      rcases he with he | he
      · subst he; simp only [evId]; omega
      · have := h1 e he; omega

example : (pickLoop [.notready, .nosc, .ok] 4).1 =
    [.pick 5 .notready, .done 5 0, .pick 6 .nosc, .pick 7 .ok] := by decide
example : (pickLoop [.notready, .drop 7] 0).2.2.2 = .dropped 7 := by decide
example : wellPaired [.pick 1 .notready, .pick 2 .ok] = false := by decide

end GrpcProofs.C23
