/-
C27  Compression is negotiated and applied consistently.

Vocabulary (GrpcModel/Model/Compression.lean): `reg` = names registered with
encoding.RegisterCompressor; `Client` = UseCompressor / WithCompressor / WithDecompressor /
AcceptCompressors; `Server` = RPCCompressor / RPCDecompressor; `clientOpen`, `serverOpen` = stream
set-up (headers); `prepareMsg` = flag + wire bytes of one message; `recvMsg` = checkRecvPayload +
decompress; `nonIdentity n` = n is neither "" nor "identity". `k : Codec` = the compressors (any functions).
`applySetSend` (Lemmas/Compression.lean) = the handler's optional grpc.SetSendCompressor call.
-/
import GrpcProofs.Lemmas.Compression
namespace GrpcProofs.C27
open GrpcModel.Compression GrpcModel.Generated GrpcProofs.Lemmas.Compression

/-- T4: the wire values of the compressed flag. -/
theorem payload_format_constants : compressionNone = 0 ∧ compressionMade = 1 := ⟨rfl, rfl⟩

/-- Client, unconditional direction: on a stream whose grpc-encoding names a compressor every
    non-empty message is sent compressed (flag 1). -/
theorem encoding_implies_flag_client (k : Codec) (reg : List String) (c : Client) (cs : ClientStream)
    (h : clientOpen reg c = .ok cs) (n : String) (he : cs.hdr.enc = some n) (hn : nonIdentity n = true)
    (d : Bytes) (hd : d ≠ []) : (cs.send k d).flag = 1 := by
  have hn' : nonIdentity (cs.hdr.enc.getD "") = true := by rw [he]; exact hn
  exact (prepareMsg_flag_eq_one_iff k (clientOpen_used reg c cs h (Or.inl hn')) d).2 ⟨hd, hn'⟩

/-- Client, full "if and only if" for NON-EMPTY messages.
    FULL STATEMENT (C27): flag set ⇔ grpc-encoding is a non-identity compressor, for every message.
    `_partial` because (a) empty messages are excluded (see `empty_message_flag_clear` and the
    counterexample below: reading F12) and (b) the legacy WithCompressor object must report a real
    name (`Type()` neither "" nor "identity"; a compressor calling itself "identity" is outside the domain). -/
theorem flag_iff_encoding_client_partial (k : Codec) (reg : List String) (c : Client) (cs : ClientStream)
    (h : clientOpen reg c = .ok cs) (hleg : ∀ t, c.legacyComp = some t → nonIdentity t = true)
    (d : Bytes) (hd : d ≠ []) :
    (cs.send k d).flag = 1 ↔ ∃ n, cs.hdr.enc = some n ∧ nonIdentity n = true := by
  rw [exists_nonIdentity_iff]
  exact (prepareMsg_flag_eq_one_iff k (clientOpen_used reg c cs h (Or.inr hleg)) d).trans (and_iff_right hd)

/-- Server, "if and only if" for NON-EMPTY messages, for every response of the stream (all frames
    `sendAll` produces), whatever the handler does with SetSendCompressor — including
    SetSendCompressor("identity") on a server with the legacy RPCCompressor (SendMsg drops the legacy
    compressor when the handler chose an encoding).
    `_partial` because of empty messages (reading F12), the legacy name domain (as for the
    client) and the assumption that nobody registered a compressor under the names "identity"/"". -/
theorem flag_iff_encoding_server_partial (k : Codec) (reg : List String) (s : Server) (h : ReqHdr)
    (ss : SrvStream) (o : Option String) (ho : serverOpen reg s h = .ok ss)
    (hreg : identity ∉ reg ∧ "" ∉ reg)
    (hleg : ∀ t, s.legacyComp = some t → nonIdentity t = true) (ds : List Bytes) :
    ∃ g : Bytes → Frame, (sendAll k reg (applySetSend reg ss o) ds).2 = ds.map g ∧
      ∀ d, d ≠ [] → ((g d).flag = 1 ↔ ∃ n, (applySetSend reg ss o).respEnc = some n ∧ nonIdentity n = true) := by
  have hI := (serverOpen_sends reg s h ss ho hleg).applySetSend o
  refine ⟨_, sendAll_frames k reg _ ds, fun d hd => ?_⟩
  rw [exists_nonIdentity_iff, respEnc_getD]
  exact (prepareMsg_flag_eq_one_iff k (hI.effComp_eq hreg) d).trans (and_iff_right hd)

/-- The exception of the reading F12, as a theorem: an empty message is never flagged, on any stream. -/
theorem empty_message_flag_clear (k : Codec) (cp comp : Option String) : (prepareMsg k cp comp []).flag = 0 := by
  rw [prepareMsg_flag]; simp

/-- …so the literal "if and only if for every message" is false in the unchanged code: an empty message
    on a stream with grpc-encoding c1 has flag 0. -/
theorem flag_iff_encoding_counterexample_empty :
    ¬ (∀ (reg : List String) (c : Client) (cs : ClientStream) (d : Bytes), clientOpen reg c = .ok cs →
        ((cs.send toy d).flag = 1 ↔ ∃ n, cs.hdr.enc = some n ∧ nonIdentity n = true)) := by
  intro hall
  have h := hall ["c1"] ⟨some "c1", none, none, none⟩
    ⟨⟨some "c1", some "c1"⟩, none, some "c1", []⟩ [] (by rfl)
  have : (ClientStream.send toy ⟨⟨some "c1", some "c1"⟩, none, some "c1", []⟩ []).flag = 0 := by decide
  rw [this] at h
  exact absurd (h.2 ⟨"c1", rfl, by decide⟩) (by decide)

/-- FULL STATEMENT (C27): for every server. `_partial`: proved for servers WITHOUT the deprecated
    grpc.RPCCompressor option (any registry, any request headers, any SetSendCompressor call): a
    non-identity response encoding was advertised in grpc-accept-encoding or is the request's encoding. -/
theorem server_only_advertised_or_used_partial (reg : List String) (s : Server) (h : ReqHdr) (ss : SrvStream)
    (o : Option String) (ho : serverOpen reg s h = .ok ss) (hl : s.legacyComp = none) (n : String)
    (he : (applySetSend reg ss o).respEnc = some n) (hn : nonIdentity n = true) :
    n ∈ advertisedList (h.acc.getD "") ∨ h.enc = some n := by
  have hI := (serverOpen_sends reg s h ss ho (by rw [hl]; nofun)).applySetSend o
  obtain ⟨rfl, hne⟩ := (respEnc_eq_some_iff _ _).1 he
  -- the name in `sendCompress` is the stored one (here from the request's grpc-encoding) or one
  -- SetSendCompressor accepted
  rcases hI.chosen with hc | hc | ⟨_, hc⟩
  · rcases hI.origin with ho | ho | ho
    · exact absurd (hc.trans ho) hne
    · rw [hl] at ho; cases ho
    · exact Or.inr (by rw [hc]; exact ho)
  · rw [hc] at hn; exact absurd hn (by decide)
  · exact Or.inl hc

/-- F18 (known finding; documented behaviour of a deprecated option): with RPCCompressor(lz) the response is
    compressed with lz although the client advertised only c1 and sent uncompressed. -/
theorem server_only_advertised_or_used_counterexample :
    (serverSide toy ["c1"] ⟨some "lz", none⟩ none ⟨none, some "c1"⟩ [⟨0, [1]⟩] [[2]]).respHdr = some (some "lz") ∧
    (serverSide toy ["c1"] ⟨some "lz", none⟩ none ⟨none, some "c1"⟩ [⟨0, [1]⟩] [[2]]).resps = [⟨1, toy.comp "lz" [2]⟩] ∧
    "lz" ∉ advertisedList "c1" := by decide

/-- A request whose grpc-encoding names a compressor the server has neither registered nor installed
    as RPCDecompressor is rejected with UNIMPLEMENTED before the handler runs; nothing is delivered. -/
theorem unsupported_is_unimplemented_server (k : Codec) (reg : List String) (s : Server) (o : Option String)
    (h : ReqHdr) (rc : String) (he : h.enc = some rc) (hn : nonIdentity rc = true)
    (hr : rc ∉ reg) (hl : s.legacyDecomp ≠ some rc) (frames : List Frame) (resps : List Bytes) :
    serverOpen reg s h = .error .unimplemented ∧
    serverSide k reg s o h frames resps = ⟨.norun, [], none, none, [], .unimplemented⟩ := by
  have ho : serverOpen reg s h = .error .unimplemented :=
    serverOpen_error reg s h _ (by rw [he]; exact selectDecomp_unsupported reg s.legacyDecomp rc hn (by simpa using hr) hl)
  exact ⟨ho, serverSide_rejected k reg s o h frames resps _ ho⟩

/-- A response in an encoding the client can not decode (not registered, not the WithDecompressor):
    the first message flagged compressed fails the RPC with INTERNAL; what was delivered is nothing
    or exactly the unflagged messages before it (as they are), never the flagged one. -/
theorem unsupported_is_internal_client (k : Codec) (reg : List String) (c : Client) (accepted : List String)
    (ct : String) (hn : nonIdentity ct = true) (hr : ct ∉ reg) (hl : c.legacyDecomp ≠ some ct)
    (pre post : List Frame) (hpre : ∀ f ∈ pre, f.flag = 0) (w : Bytes) (st : Code) :
    (clientSide k reg c accepted (some (some ct)) (pre ++ ⟨1, w⟩ :: post) st).1 = .internal ∧
    ((clientSide k reg c accepted (some (some ct)) (pre ++ ⟨1, w⟩ :: post) st).2 = [] ∨
     (clientSide k reg c accepted (some (some ct)) (pre ++ ⟨1, w⟩ :: post) st).2 = pre.map (·.data)) := by
  unfold clientSide
  simp only
  rcases clientRecvInit_cases reg c accepted (some ct) with ⟨_, _, hinit⟩ | ⟨r, hinit, hct, hv⟩ <;> rw [hinit]
  · exact ⟨rfl, Or.inl rfl⟩
  · have h0 : ∀ f ∈ pre, r.recv k f = .ok f.data := fun f hf => recvMsg_flag0 k _ _ _ _ (hpre f hf)
    have hbad : r.recv k ⟨1, w⟩ = .error .internal :=
      recvMsg_undecodable k false hv (hct ▸ hn) (fun hp => hp.2.elim (hct ▸ hr) (hct ▸ hl)) w
    simp [recvAll_append_of_ok _ pre h0, recvAll, hbad]

/-- A message flagged compressed on a stream without a (non-identity) grpc-encoding, or carrying a flag
    other than 0/1, is INTERNAL on both sides — never delivered. -/
theorem flagged_identity_is_internal (k : Codec) (rc : String) (dc comp : Option String) (srv : Bool) (w : Bytes) :
    ((rc = "" ∨ rc = identity) → recvMsg k rc dc comp srv ⟨1, w⟩ = .error .internal) ∧
    (∀ fl, 2 ≤ fl → recvMsg k rc dc comp srv ⟨fl, w⟩ = .error .internal) :=
  ⟨recvMsg_flagged_identity k rc dc comp srv w, fun fl h => recvMsg_bad_flag k rc dc comp srv fl w h⟩

/-- Whatever a server stream / a client stream hands to the application for a frame is either the
    frame's bytes (flag 0) or their decompression BY THE COMPRESSOR NAMED IN grpc-encoding (flag 1,
    and then grpc-encoding is a non-identity name). Undecoded or wrongly decoded data is never delivered. -/
theorem never_deliver_undecoded (k : Codec) (reg : List String) :
    (∀ (s : Server) (h : ReqHdr) (ss : SrvStream) (f : Frame) (m : Bytes),
      serverOpen reg s h = .ok ss → ss.recv k f = .ok m →
        (f.flag = 0 ∧ m = f.data) ∨
        (f.flag = 1 ∧ nonIdentity (h.enc.getD "") = true ∧ k.decomp (h.enc.getD "") f.data = some m)) ∧
    (∀ (c : Client) (accepted : List String) (e : Option String) (r : CliRecv) (f : Frame) (m : Bytes),
      clientRecvInit reg c accepted e = .ok r → r.recv k f = .ok m →
        (f.flag = 0 ∧ m = f.data) ∨
        (f.flag = 1 ∧ nonIdentity (e.getD "") = true ∧ k.decomp (e.getD "") f.data = some m)) := by
  constructor
  · intro s h ss f m ho hr
    obtain ⟨hrc, hv⟩ := serverOpen_decomp reg s h ss ho
    exact hrc ▸ recvMsg_delivers k true hv hr
  · intro c accepted e r f m hi hr
    obtain ⟨hct, hv⟩ := clientRecvInit_decomp reg c accepted e r hi
    exact hct ▸ recvMsg_delivers k false hv hr

/-- Client → server round trip, for ANY two registries: if the server accepts the stream the client
    opened, every message arrives exactly as sent (assumption on the compressors: decomp ∘ comp = id). -/
theorem roundtrip_client_to_server (k : Codec) (hk : ∀ n d, k.decomp n (k.comp n d) = some d)
    (regC regS : List String) (c : Client) (cs : ClientStream) (s : Server) (ss : SrvStream)
    (hc : clientOpen regC c = .ok cs) (hleg : ∀ t, c.legacyComp = some t → nonIdentity t = true)
    (hs : serverOpen regS s cs.hdr = .ok ss) (d : Bytes) :
    ss.recv k (cs.send k d) = .ok d := by
  obtain ⟨hrc, hv⟩ := serverOpen_decomp regS s cs.hdr ss hs
  unfold SrvStream.recv ClientStream.send
  rw [hrc] at hv ⊢
  exact recvMsg_prepareMsg k true hk (clientOpen_used regC c cs hc (Or.inr hleg)) hv Or.inr d

/-- Server → client round trip: a client that supports the response's encoding (registered or its
    WithDecompressor) receives every response message exactly as the handler sent it — under the
    hypotheses of `flag_iff_encoding_server_partial`. -/
theorem roundtrip_server_to_client (k : Codec) (hk : ∀ n d, k.decomp n (k.comp n d) = some d)
    (regS regC : List String) (s : Server) (h : ReqHdr) (ss : SrvStream) (o : Option String)
    (ho : serverOpen regS s h = .ok ss) (hreg : identity ∉ regS ∧ "" ∉ regS)
    (hleg : ∀ t, s.legacyComp = some t → nonIdentity t = true)
    (c : Client) (accepted : List String) (r : CliRecv)
    (hi : clientRecvInit regC c accepted (applySetSend regS ss o).respEnc = .ok r)
    (hsup : nonIdentity r.ct = true → r.ct ∈ regC ∨ c.legacyDecomp = some r.ct) (d : Bytes) :
    r.recv k ((applySetSend regS ss o).send k regS d).2 = .ok d := by
  have hI := (serverOpen_sends regS s h ss ho hleg).applySetSend o
  obtain ⟨hct, hv⟩ := clientRecvInit_decomp regC c accepted _ r hi
  rw [send_frame]
  unfold CliRecv.recv
  rw [respEnc_getD] at hct
  rw [hct] at hv hsup ⊢
  exact recvMsg_prepareMsg k false hk (hI.effComp_eq hreg) hv (fun hn => ⟨hn, hsup hn⟩) d

theorem toy_roundtrip (n : String) (d : Bytes) : toy.decomp n (toy.comp n d) = some d := by
  simp only [toy, stripPrefix_append, Option.map_some, xor_invol]

example : (clientOpen ["c1", "c2"] ⟨some "c1", none, none, some ["c2"]⟩).toOption.map (·.hdr) = some ⟨some "c1", some "c2"⟩ := by decide
example : (clientOpen ["c1"] ⟨none, some "lz", none, none⟩).toOption.map (·.hdr) = some ⟨some "lz", some "c1,lz"⟩ := by decide
example : (clientOpen ["c1"] ⟨some "c3", none, none, none⟩).toOption.isNone = true := by decide
example : serverOpen ["c1"] ⟨none, none⟩ ⟨some "c3", none⟩ = .error .unimplemented := by rfl
example : (serverSide toy ["c1", "c2"] ⟨none, none⟩ (some "c2") ⟨some "c1", some "c1,c2"⟩ [⟨1, toy.comp "c1" [7]⟩] [[8], []]).resps
    = [⟨1, toy.comp "c2" [8]⟩, ⟨0, []⟩] := by decide
example : clientSide toy ["c1"] ⟨none, none, none, none⟩ [] (some (some "c3")) [⟨0, [1]⟩, ⟨1, [2]⟩] .ok = (.internal, [[1]]) := by decide
-- RPCCompressor(c1) + SetSendCompressor("identity"): identity in the header, flag 0, plain bytes
example : (serverSide toy ["c1"] ⟨some "c1", none⟩ (some "identity") ⟨none, some "c1"⟩ [⟨0, [1]⟩] [[2]]).respHdr = some (some "identity") ∧
    (serverSide toy ["c1"] ⟨some "c1", none⟩ (some "identity") ⟨none, some "c1"⟩ [⟨0, [1]⟩] [[2]]).resps = [⟨0, [2]⟩] := by decide

end GrpcProofs.C27
