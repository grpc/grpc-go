import GrpcProofs.Lemmas.LoadStore
/-!
# C50  Load reports neither lose nor double count load

Model: `GrpcModel/Model/LoadStore.lean` (one `PerClusterReporter`; one rule per atomic access /
critical section / sync.Map entry creation / Range choice of load_store.go; any number of threads).
`run ops` is the state after ANY sequence of `spawn` (a goroutine invokes CallStarted /
CallFinished / CallDropped / CallServerLoad / stats) and `step` (one thread performs its next
action, with an arbitrary Range choice) operations: the theorems quantify over every interleaving,
every number of threads and every Range order.

`reported s k`  = Σ over all reports returned so far of what they say about counter `k`
`inflight s k`  = values running stats() calls have swapped out of `k` and not returned yet
`s.sh.mem k`    = residual in the store;  `s.sh.applied k` = total added to `k` so far (ghost)
`s.sh.invoked k` = total the invoked calls intend to add (the recorded events; ghost)
`s.sh.abandoned k` = part of it dropped because the locality had no entry (ghost; 0 for well-formed use)

uint64 wrap-around is modelled; each statement carries the hypothesis that fewer than 2^64 units
were added to the counter concerned (18446744073709551616 = 2^64).
-/
namespace GrpcProofs.C50
open GrpcModel.LoadStore GrpcProofs.Lemmas.LoadStore

/-- Per-counter conservation in EVERY reachable state: issued / succeeded / errored per locality,
    drops per (non-empty) category, server-load count per (locality, name). -/
theorem conservation (ops : List Op) (k : Key) (hk : k.harvested = true) (hns : ∀ l n, k ≠ .ldSum l n)
    (hw : (run ops).sh.applied k < 18446744073709551616) :
    reported (run ops) k + inflight (run ops) k + (run ops).sh.mem k = (run ops).sh.applied k :=
  (ledger_run ops).main k hk hns hw

/-- Per-counter conservation for a server-load sum; it needs the matching count not to wrap, because
    `count == 0` decides whether stats() reports the sum. -/
theorem conservation_load_sum (ops : List Op) (l n : Nat)
    (hw : (run ops).sh.applied (.ldCount l n) < 18446744073709551616) :
    reported (run ops) (.ldSum l n) + inflight (run ops) (.ldSum l n) + (run ops).sh.mem (.ldSum l n)
      = (run ops).sh.applied (.ldSum l n) :=
  ((ledger_run ops).sum l n hw).1

/-- Total drops (all categories, including the uncategorised one that has no per-category entry):
    Σ totalDrops of reports + totals held by running snapshots + Σ residual = number of drops added. -/
theorem conservation_total_drops (ops : List Op) (hw : (run ops).sh.dropsApplied < 18446744073709551616) :
    reportedTotal (run ops) + inflightTotal (run ops) + residualDrops (run ops) = (run ops).sh.dropsApplied :=
  (total_run ops).led hw

/-- Every invoked call has added its amount once it has returned: with no call in flight,
    applied + abandoned = invoked for every counter. -/
theorem events_all_applied (ops : List Op) (hq : quiescent (run ops)) (k : Key) (hk : ∀ l, k ≠ .inprog l) :
    (run ops).sh.applied k + (run ops).sh.abandoned k = (run ops).sh.invoked k := by
  have h := event_run ops k hk
  have hz : sumBy (fun t => pending t.pc k) (run ops).threads = 0 :=
    sumBy_eq_zero _ _ (fun t ht => by rw [hq t ht, pending_done])
  omega

/-- The property's first clause: whenever no call is in flight, for every counter,
    Σ over all reports + residual (+ what calls on unknown localities dropped) = Σ recorded events. -/
theorem conservation_quiescent (ops : List Op) (hq : quiescent (run ops)) (k : Key) (hk : k.harvested = true)
    (hw : (run ops).sh.invoked k < 18446744073709551616)
    (hw' : ∀ l n, k = .ldSum l n → (run ops).sh.invoked (.ldCount l n) < 18446744073709551616) :
    reported (run ops) k + (run ops).sh.mem k + (run ops).sh.abandoned k = (run ops).sh.invoked k := by
  have hne : ∀ l, k ≠ .inprog l := by intro l e; subst e; simp [Key.harvested] at hk
  have he := events_all_applied ops hq k hne
  have hi := inflight_quiescent (rep_run ops) hq k
  by_cases hs : ∃ l n, k = .ldSum l n
  · obtain ⟨l, n, rfl⟩ := hs
    have he2 := events_all_applied ops hq (.ldCount l n) (by intro _ e; cases e)
    have := conservation_load_sum ops l n (by have := hw' l n rfl; omega)
    omega
  · have := conservation ops k hk (fun l n e => hs ⟨l, n, e⟩) (by omega)
    omega

/-- With no call in flight, Σ totalDrops of reports + Σ residual = number of drops added. -/
theorem conservation_total_drops_quiescent (ops : List Op) (hq : quiescent (run ops))
    (hw : (run ops).sh.dropsApplied < 18446744073709551616) :
    reportedTotal (run ops) + residualDrops (run ops) = (run ops).sh.dropsApplied := by
  have := conservation_total_drops ops hw
  have := inflightTotal_quiescent (rep_run ops) hq
  omega

/-- The property's second clause: every in-progress value in every report is the value the
    in-progress counter of that locality had in some state of the run in which the stats() call that
    produced the report had been invoked and had not returned. -/
theorem in_progress_is_value_at_some_instant_within_snapshot (ops : List Op) (r : Report) (lr : LocRep)
    (hr : r ∈ (run ops).reports) (hl : lr ∈ r.locs) :
    ∃ ops₁ ops₂, ops = ops₁ ++ ops₂ ∧ liveSnap (run ops₁) r.tid ∧
      lr.inprog = (run ops₁).sh.mem (.inprog lr.loc) :=
  (snapshot_run ops).reps r hr lr hl

/-- In every state the in-progress counter is (increments − decrements) mod 2^64, i.e. exactly
    started − finished when no more CallFinished than CallStarted have touched it. -/
theorem in_progress_counter_is_started_minus_finished (ops : List Op) (l : Nat)
    (hd : (run ops).sh.decs l ≤ (run ops).sh.applied (.inprog l))
    (hw : (run ops).sh.applied (.inprog l) - (run ops).sh.decs l < 18446744073709551616) :
    (run ops).sh.mem (.inprog l) = (run ops).sh.applied (.inprog l) - (run ops).sh.decs l := by
  have h := inprog_run ops l
  simp only [u64] at h
  omega

/-- increments / decrements are bracketed by returned and invoked calls: a CallStarted has
    incremented in-progress before it returns (its last action adds to `issued`), and not before it
    is invoked; likewise for CallFinished. -/
theorem in_progress_counter_bounds (ops : List Op) (l : Nat) :
    (run ops).sh.applied (.issued l) ≤ (run ops).sh.applied (.inprog l) ∧
    (run ops).sh.applied (.inprog l) ≤ (run ops).sh.invoked (.issued l) ∧
    (run ops).sh.applied (.succ l) + (run ops).sh.applied (.err l) ≤ (run ops).sh.decs l ∧
    (run ops).sh.decs l ≤ (run ops).sh.invoked (.succ l) + (run ops).sh.invoked (.err l) := by
  have hc := count_run ops l
  have e1 := event_run ops (.issued l) (by intro _ e; cases e)
  have e2 := event_run ops (.succ l) (by intro _ e; cases e)
  have e3 := event_run ops (.err l) (by intro _ e; cases e)
  have l1 := sum_pendingInc_le (run ops).threads l
  have l2 := sum_pendingDec_le (run ops).threads l
  omega

/-- Nothing is abandoned when CallFinished / CallServerLoad are only invoked for localities that
    already have an entry (i.e. after a CallStarted for that locality has begun). -/
theorem abandoned_zero_of_wellformed (ops : List Op) (hwf : WellFormed ops) (k : Key) :
    (run ops).sh.abandoned k = 0 :=
  (abandon_run ops hwf).zero k

-- a concrete interleaving in which a snapshot overlaps two calls

def demo : List Op :=
  [.spawn 1 (.start 1), .step 1 none, .step 1 none, .step 1 none,     -- CallStarted(1) returns
   .spawn 2 .stats, .step 2 none, .step 2 (some 1), .step 2 none,       -- stats(): swapped succeeded
   .spawn 3 (.finish 1 true), .step 3 none, .step 3 none, .step 3 none, -- CallFinished(1) runs through
   .step 2 none, .step 2 none, .step 2 none,                            -- load in-progress (0), swap errored, issued
   .step 2 none, .step 2 none, .step 2 none,                            -- loads range ends, locality range ends, return
   .spawn 4 .stats, .step 4 none, .step 4 (some 1), .step 4 none, .step 4 none, .step 4 none, .step 4 none,
   .step 4 none, .step 4 none, .step 4 none]

example : (run demo).reports.map (fun r => r.locs.map (fun lr => (lr.succ, lr.inprog, lr.issued)))
    = [[(0, 0, 1)], [(1, 0, 0)]] := by decide
example : (run demo).threads.all (fun t => t.pc == .done) = true := by decide

end GrpcProofs.C50
