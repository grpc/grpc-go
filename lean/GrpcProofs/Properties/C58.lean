/-
C58  Security-requiring per-RPC credentials never go over weak connections.
The vocabulary of the decision (`Class`, `specCore`, `get?`, `overlay`) is in GrpcProofs/Lemmas/CredsPolicy.lean; `rpc` is
unfolded there once (`rpc_spec`), and what is said of `rpc` here is a case analysis on the relation `Rpc`.

Vocabulary (GrpcModel/Model/CredsPolicy.lean):
  `c.weak`        the negotiated SecurityLevel is KNOWN and below PrivacyAndIntegrity
                  (the AuthInfo reports NoSecurity or IntegrityOnly);
  `c.strong`      the AuthInfo reports PrivacyAndIntegrity;
  `c.anyRequire`  some configured credential (WithPerRPCCredentials, the bundle's, the call
                  option's) has RequireTransportSecurity() = true;
  `rpc c`         what one RPC on a fresh channel does: `dialErr` (NewClient fails), `connErr`
                  (no transport: UNAVAILABLE), `rpcErr` (createHeaderFields fails: nothing is
                  written) or `sent tr call inv` (the credential header fields that are written).
-/
import GrpcProofs.Lemmas.CredsPolicy
namespace GrpcProofs.C58
open GrpcModel.CredsPolicy GrpcModel.Generated GrpcProofs.Lemmas.CredsPolicy

/-- T4: the order of the SecurityLevel constants in credentials.go is what the property assumes:
    Invalid(0) < NoSecurity(1) < IntegrityOnly(2) < PrivacyAndIntegrity(3). -/
theorem security_level_order :
    securityLevelNames = ["InvalidSecurityLevel", "NoSecurity", "IntegrityOnly", "PrivacyAndIntegrity"]
    ∧ Level.num .invalid = 0 ∧ Level.num .none = 1 ∧ Level.num .integrityOnly = 2
    ∧ Level.num .privacyAndIntegrity = 3 :=
  ⟨rfl, num_invalid, num_none, num_integrityOnly, num_privacyAndIntegrity⟩

/-- EVERY configuration — any number of dial-level credentials, arbitrary well-formed metadata: the
    outcome class depends only on the cell of the table below that the configuration falls in. -/
theorem rpc_class_eq_table (c : Config) (hv : c.validMD = true) :
    classOf (rpc c) = specCore c.tkind c.via (c.dial.any (·.require)) (bundleReq c) (callReq c) := by
  have hall : ∀ cr ∈ c.allCreds, cr.valid = true := List.all_eq_true.1 hv
  -- well-formed metadata: neither `getTrAuthData` nor the call credential's `addPairs` fails
  have ⟨tr, htr'⟩ := getTrAuthData_ok (connCreds c) [] fun nc hnc => hall _ (connCreds_sub_allCreds c hnc)
  have ⟨call, hcall'⟩ := addPairs_some (callMD c) [] fun kv hkv =>
    have ⟨cr, hcr, h⟩ := callMD_sub hkv
    (valid_iff cr).1 (hall cr hcr) kv h
  rw [specCore_eq]
  generalize ho : rpc c = o
  cases rpc_spec ho with
  | dialErr hd => rw [hd]; rfl
  | handshakeErr hd hh => rw [hd, hh]; rfl
  | insecureCreds hd hh h1 => simp only [hd, hh, h1, if_true]; rfl
  | connMD _ htr => cases htr'.symm.trans htr
  | unauth hc _ h2 => simp only [hc.dial, hc.handshake, hc.accepted, h2, if_true]; rfl
  | callMD _ _ _ hcall => cases hcall'.symm.trans hcall
  | sent hc _ h2 => simp only [hc.dial, hc.handshake, hc.accepted, h2]; rfl

/-- a credential slot: absent, present without / with RequireTransportSecurity -/
inductive Req | absent | no | yes
deriving DecidableEq, Repr

/-- one cell of the property's configuration table -/
structure Cell where
  tkind : TKind
  via : Via
  dial : Req
  bundle : Req
  call : Req

def Req.list : Req → List Cred
  | .absent => [] | .no => [⟨false, []⟩] | .yes => [⟨true, []⟩]
def Req.opt : Req → Option Cred
  | .absent => none | .no => some ⟨false, []⟩ | .yes => some ⟨true, []⟩

def Cell.toConfig (x : Cell) : Config :=
  { tkind := x.tkind, via := x.via, dial := x.dial.list, bundle := x.bundle.opt, call := x.call.opt }

/-- the decision for a cell, in the property's vocabulary (see `specCore`) -/
def spec (x : Cell) : Class :=
  specCore x.tkind x.via (x.dial == .yes) (x.via.hasBundle && x.bundle == .yes) (x.call == .yes)

/-- the credentials of a cell carry no metadata, so all of it is well-formed -/
theorem cell_validMD (x : Cell) : x.toConfig.validMD = true := by
  obtain ⟨tk, via, d, b, c⟩ := x
  simp only [Config.validMD, Config.allCreds, Cell.toConfig, List.all_append, Bool.and_eq_true]
  refine ⟨⟨?_, ?_⟩, ?_⟩
  · cases d <;> rfl
  · cases b <;> cases via <;> rfl
  · cases c <;> rfl

/-- THE WHOLE TABLE, cell by cell (17 transport kinds × 5 ways of configuring × 3 × 3 × 3 credential
    slots = 2295 cells): the ported code takes exactly the decision `spec` says. A cell is a
    configuration with well-formed metadata, so this is `rpc_class_eq_table` read at the cell; what is left is
    that the three slots of a cell require transport security exactly when they are `.yes`. -/
theorem decision_table (x : Cell) : classOf (rpc x.toConfig) = spec x := by
  rw [rpc_class_eq_table _ (cell_validMD x)]
  obtain ⟨tk, via, d, b, c⟩ := x
  exact congr (congr (congrArg (specCore tk via) (by cases d <;> rfl)) (by cases b <;> rfl)) (by cases c <;> rfl)

/-- Clause 1 (all configurations, all metadata, valid or not): if credential header fields are
    written at all, then no configured credential requires transport security or the connection's
    level is not known to be below PrivacyAndIntegrity. -/
theorem never_sent_below_privacy_and_integrity (c : Config) (h : (rpc c).isSent = true) :
    ¬ (c.weak = true ∧ c.anyRequire = true) := by
  intro ⟨hw, hr⟩
  generalize ho : rpc c = o at h
  cases rpc_spec ho with
  | sent hc _ h2 =>
    have h1 := hc.accepted
    rw [hc.weak] at hw
    simp only [hw, Bool.and_true, Bool.true_or] at h1 h2
    simp [anyRequire_eq, h1, h2] at hr
  | _ => cases h

/-- Clause 2: on a connection known to be below PrivacyAndIntegrity with a security-requiring
    credential configured, the RPC (or the dial, or the connection) FAILS and nothing is written —
    the outcome is one of the error constructors, none of which carries a header field. With
    well-formed metadata the failure is exactly: NewClient error (dial-level credential on
    "insecure" protocol credentials), connection error "cannot send secure credentials on an
    insecure connection" (dial-level/bundle credential), or UNAUTHENTICATED (call credential). -/
theorem fails_before_any_credential_metadata (c : Config) (hw : c.weak = true) (hr : c.anyRequire = true) :
    (rpc c).isSent = false ∧
    (c.validMD = true →
      (∃ e, classOf (rpc c) = .dialErr e) ∨ classOf (rpc c) = .connErr .insecureCreds ∨ classOf (rpc c) = .unauth) := by
  constructor
  · cases h : (rpc c).isSent with
    | false => rfl
    | true => exact absurd ⟨hw, hr⟩ (never_sent_below_privacy_and_integrity c h)
  · intro hv
    rw [rpc_class_eq_table c hv, specCore_eq]
    cases validateTransportCredentials c with
    | some e => exact .inl ⟨e, rfl⟩
    | none =>
      refine .inr ?_
      unfold Config.weak at hw
      cases hh : c.tkind.handshake with
      | none => rw [hh] at hw; cases hw
      | some ai =>
        -- a dial-level or bundle credential fails the handshake-time check on a weak connection;
        -- if neither requires security it is the call credential that does
        rw [hh] at hw
        simp only [hw, Bool.and_true, Bool.true_or]
        cases hdb : (c.dial.any (·.require) || bundleReq c)
        · have hc : callReq c = true := by simpa [anyRequire_eq, hdb] using hr
          exact .inr (by simp [hc])
        · exact .inl (by simp)

/-- …and the call credential's GetRequestMetadata is not even invoked in that case. -/
theorem weak_call_cred_never_invoked (c : Config) (hw : c.weak = true) (hr : callReq c = true) :
    Name.c ∉ (rpc c).inv := by
  -- a requiring call credential on a weak connection: whatever happens, only connection credentials were invoked
  have conn {inv r} (htr : getTrAuthData [] (connCreds c) = (inv, r)) : Name.c ∉ inv := fun h =>
    c_not_in_connCreds c (getTrAuthData_invoked _ _ _ (by rw [htr]; exact h))
  generalize ho : rpc c = o
  cases rpc_spec ho with
  | connMD _ htr => exact conn htr
  | unauth _ htr => exact conn htr
  | callMD hc _ h2 => simp [hr, ← hc.weak, hw] at h2
  | sent hc _ h2 => simp [hr, ← hc.weak, hw] at h2
  | _ => exact List.not_mem_nil

/-- Clause 3a: on a PrivacyAndIntegrity connection, correctly configured, with well-formed
    metadata, the RPC is sent whatever the credentials require. -/
theorem sent_on_strong_connection (c : Config) (hs : c.strong = true) (hv : c.validMD = true)
    (hd : validateTransportCredentials c = none) : (rpc c).isSent = true := by
  have hh : c.tkind.handshake = some (.common .privacyAndIntegrity) := by simpa [Config.strong] using hs
  apply isSent_of_class
  rw [rpc_class_eq_table c hv, specCore_eq, hd, hh]
  simp [Auth.weak]

/-- Clause 3b ("delivered unchanged"): whenever header fields are written, the connection-level
    map holds for every key exactly the value assigned last by the connection-level credentials
    (in configuration order, keys ASCII-lower-cased, values byte-identical), and the call-level
    map the same for the call credential. Nothing is dropped, nothing altered. -/
theorem delivered_unchanged_when_allowed (c : Config) (tr call : AuthMap) (inv : List Name)
    (h : rpc c = .sent tr call inv) (k : Key) :
    get? tr k = overlay none ((connCreds c).flatMap (·.2.md)) k ∧
    get? call k = overlay none (callMD c) k := by
  cases rpc_spec h with
  | sent _ htr _ hcall => exact ⟨addPairs_get? _ _ _ (addPairs_of_getTrAuthData htr) k, addPairs_get? _ _ _ hcall k⟩

/-- Clause 3c: every header field written comes from a configured credential's pair (lower-cased
    key, same value) that passed ValidatePair — nothing is invented. -/
theorem nothing_invented (c : Config) (tr call : AuthMap) (inv : List Name)
    (h : rpc c = .sent tr call inv) (x : Key × Bytes) (hx : x ∈ tr ++ call) :
    ∃ cr ∈ c.allCreds, ∃ kv ∈ cr.md, x = (lowerKey kv.1, kv.2) ∧ validatePair (lowerKey kv.1) kv.2 = true := by
  cases rpc_spec h with
  | sent _ htr _ hcall =>
  rcases List.mem_append.1 hx with hx | hx
  · rcases mem_addPairs (addPairs_of_getTrAuthData htr) hx with h0 | ⟨kv, hkv, he⟩
    · cases h0
    · obtain ⟨nc, hnc, hkv⟩ := List.mem_flatMap.1 hkv
      exact ⟨nc.2, connCreds_sub_allCreds c hnc, kv, hkv, he⟩
  · rcases mem_addPairs hcall hx with h0 | ⟨kv, hkv, he⟩
    · cases h0
    · obtain ⟨cr, hcr, hkv⟩ := callMD_sub hkv
      exact ⟨cr, hcr, kv, hkv, he⟩

/-- The reading, stated so that it cannot hide: levels that are UNKNOWN are accepted by the code.
    InvalidSecurityLevel and AuthInfo types without GetCommonAuthInfo: every credential is sent;
    nil AuthInfo: dial-level requiring credentials are sent, a requiring call credential fails
    UNAUTHENTICATED. (Whether that is desirable is outside the statement: C58 speaks of a
    negotiated level "below" PrivacyAndIntegrity.) -/
theorem unknown_level_reading (d b cl : Req) :
    spec ⟨.custom false (.common .invalid), .bundle, d, b, cl⟩ = .sent ∧
    spec ⟨.custom false .noCommon, .bundle, d, b, cl⟩ = .sent ∧
    spec ⟨.custom false .nilInfo, .bundle, d, b, .no⟩ = .sent ∧
    spec ⟨.custom false .nilInfo, .bundle, d, b, .yes⟩ = .unauth := by
  -- none of these AuthInfos is `weak`, so `spec` never looks at the dial-level and bundle slots
  simp [spec, specCore, Via.hasTC, Via.hasBundle, Via.bundleHasTC, TKind.protoInsecure, TKind.handshake, Auth.weak]

-- the hypotheses are satisfiable and every outcome is reachable
example : (rpc ⟨.tls, .opt, [⟨true, [("Authorization".toList, [116])]⟩], none, some ⟨true, [("x-c".toList, [126])]⟩⟩).isSent = true := by decide
example : rpc ⟨.insecure, .opt, [⟨true, []⟩], none, none⟩ = .dialErr .missing := by decide
example : rpc ⟨.insecure, .bundle, [], some ⟨true, []⟩, none⟩ = .connErr .insecureCreds := by decide
example : rpc ⟨.localTCP, .opt, [⟨false, []⟩], none, some ⟨true, []⟩⟩ = .rpcErr .unauthenticated [.d 0] := by decide
example : rpc ⟨.custom false (.common .integrityOnly), .opt, [], none, some ⟨true, []⟩⟩ = .rpcErr .unauthenticated [] := by decide
example : rpc ⟨.localUDS, .opt, [⟨true, [("K".toList, [0])]⟩], none, none⟩ = .rpcErr .internal [.d 0] := by decide
example : (⟨.localTCP, .opt, [], none, some ⟨true, []⟩⟩ : Config).weak = true ∧
          (⟨.localTCP, .opt, [], none, some ⟨true, []⟩⟩ : Config).anyRequire = true := by decide
example : (⟨.tls, .opt, [], none, none⟩ : Config).strong = true := by decide

end GrpcProofs.C58
