/-
C54  Health Watch streams converge to the latest status.

Model: GrpcModel/Model/Health.lean (critical sections of health.Server are rules; the Watch loop of
every stream is split into recv / sendOk / leave, so any number of arbitrarily slow streams
interleave with SetServingStatus / Shutdown / Resume).  Invariant: GrpcProofs/Lemmas/Health.lean.
`ReachV` = reachable by schedules whose SetServingStatus arguments are enum values (>= 0): the code
uses -1 as the "nothing sent yet" sentinel of lastSentStatus.
-/
import GrpcProofs.Lemmas.Health
namespace GrpcProofs.C54
open GrpcModel.Health GrpcProofs.Lemmas.Health

/-- Watch puts the service's current status — SERVICE_UNKNOWN (3) if it is not registered — into the
    new stream's channel, under the lock. -/
theorem watch_puts_current {s t : St} (svc : Nat) (st : apply s (.watch svc) = some t) :
    (t.w s.nw).slot = some (match s.statusMap svc with | some v => v | none => 3) ∧
    (t.w s.nw).alive = true ∧ (t.w s.nw).log = [] ∧ (t.w s.nw).sending = none ∧ t.nw = s.nw + 1 := by
  obtain rfl := apply_watch.1 st
  cases h : s.statusMap svc <;> simp [setW, cur, h, SERVICE_UNKNOWN]

/-- Whatever a stream takes out of its channel is the service's status (or SERVICE_UNKNOWN) at that
    very moment — later SetServingStatus calls have replaced older values in the slot. -/
theorem taken_is_current {s t : St} (h : ReachV s) (i : Nat) (st : apply s (.recv i) = some t) (v : Int)
    (hv : (s.w i).slot = some v) : v = cur s (s.w i).svc := by
  obtain ⟨hi, ha, _⟩ := apply_recv.1 st
  exact ((reach_inv h).stream i hi).slotCur ha v hv

/-- The first message of a stream is the service's current status (SERVICE_UNKNOWN if unregistered):
    a stream that has sent nothing yet never skips, and what it starts to send is the status current
    at that moment. -/
theorem first_is_current_or_unknown {s t : St} (h : ReachV s) (i : Nat) (st : apply s (.recv i) = some t)
    (hfirst : out (s.w i) = []) :
    (t.w i).sending = some (cur s (s.w i).svc) ∧ (t.w i).log = [] := by
  have inv := reach_inv h
  obtain ⟨hi, ha, _, v, hv, rfl⟩ := apply_recv.1 st
  have hlog : (s.w i).log = [] := (List.append_eq_nil_iff.mp hfirst).1
  have hc := (inv.stream i hi).slotCur ha v hv
  -- nothing sent yet: `lastSent` is the sentinel -1, which no status equals
  have hl := (inv.stream i hi).lastE ha hfirst
  have hn := cur_nonneg inv (s.w i).svc
  rw [if_neg (by omega)]
  simp [setW, hc, hlog]

/-- A stream never delivers the same status twice in a row (delivered messages and the one in
    flight). -/
theorem no_consecutive_duplicates {s : St} (h : ReachV s) (i : Nat) (hi : i < s.nw) :
    noDup2 (out (s.w i)) ∧ noDup2 (s.w i).log := by
  have c := ((reach_inv h).stream i hi).chain
  exact ⟨c, noDup2_log c⟩

/-- `hist` really is the sequence of statuses the service had since the stream registered: it
    starts with the status at registration, every step either leaves it alone or appends the new
    current status, and it is appended to whenever the current status changes. -/
theorem hist_is_status_history {s t : St} (h : ReachV s) (r : Rule) (st : apply s r = some t) (i : Nat)
    (hi : i < s.nw) (ha : (t.w i).alive = true) :
    ((t.w i).hist = (s.w i).hist ∧ cur t (t.w i).svc = cur s (s.w i).svc) ∨
    (t.w i).hist = (s.w i).hist ++ [cur t (t.w i).svc] := by
  cases r with
  | set svc v =>
    rcases apply_set.1 st with ⟨_, rfl⟩ | ⟨_, rfl⟩
    · left; exact ⟨rfl, rfl⟩
    · exact bcast_hist s _ v s.shutdown i ha
  | shutdown | resume =>
    cases st
    rw [setAll_eq] at ha ⊢
    exact bcast_hist s _ _ _ i ha
  | _ =>
    have k := apply_stream st
    exact .inl ⟨(k.old i hi).1, by simp only [cur, k.statusMap, (k.old i hi).2]⟩

/-- A stream only sends statuses the service actually had, and in the order it had them: what the
    stream delivered (plus what is in flight, plus what waits in the channel) is a subsequence of
    the service's status history since the stream registered. -/
theorem only_statuses_the_service_had {s : St} (h : ReachV s) (i : Nat) (hi : i < s.nw) :
    (out (s.w i) ++ (s.w i).slot.toList).Sublist (s.w i).hist ∧ (s.w i).log.Sublist (s.w i).hist ∧
    (∀ v ∈ (s.w i).log, v ∈ (s.w i).hist) := by
  have c := ((reach_inv h).stream i hi).sub
  have hl : (s.w i).log.Sublist (s.w i).hist := by
    refine List.Sublist.trans ?_ c
    simp only [out, List.append_assoc]
    exact List.sublist_append_left _ _
  exact ⟨c, hl, fun v hv => hl.subset hv⟩

/-- the newest status a live stream knows of: waiting in the channel, else being sent, else the
    last one delivered -/
def newest (x : Watcher) : Option Int :=
  match x.slot with
  | some v => some v
  | none => (out x).getLast?

/-- After the last status change the stream eventually reports that status: at every moment the
    newest status in a live stream's pipeline IS the service's current status; nothing in the
    pipeline can get stuck (a waiting value can be taken when no Send is in progress, a Send in
    progress can complete); and a stream with nothing left to do has delivered the current status
    as its last message. -/
theorem eventually_latest {s : St} (h : ReachV s) (i : Nat) (hi : i < s.nw) (ha : (s.w i).alive = true) :
    newest (s.w i) = some (cur s (s.w i).svc) ∧
    ((s.w i).slot ≠ none → (s.w i).sending = none → (apply s (.recv i)).isSome) ∧
    ((s.w i).sending ≠ none → (apply s (.sendOk i)).isSome) ∧
    ((s.w i).slot = none → (s.w i).sending = none → (s.w i).log.getLast? = some (cur s (s.w i).svc)) := by
  have inv := reach_inv h
  have c := inv.stream i hi
  have hn := cur_nonneg inv (s.w i).svc
  have key : (s.w i).slot = none → (out (s.w i)).getLast? = some (cur s (s.w i).svc) := by
    intro hs
    have hl := c.idleCur ha hs
    cases ho : (out (s.w i)).getLast? with
    | none =>
      have := c.lastE ha (List.getLast?_eq_none_iff.mp ho)
      omega
    | some u => rw [← c.lastN ha u ho, hl]
  refine ⟨?_, ?_, ?_, ?_⟩
  · unfold newest
    cases hs : (s.w i).slot with
    | some v => simp [c.slotCur ha v hs]
    | none => simpa using key hs
  · intro h1 h2
    obtain ⟨v, hs⟩ := Option.ne_none_iff_exists'.1 h1
    exact Option.isSome_iff_exists.2 ⟨_, apply_recv.2 ⟨hi, ha, h2, v, hs, rfl⟩⟩
  · intro h1
    obtain ⟨v, hs⟩ := Option.ne_none_iff_exists'.1 h1
    exact Option.isSome_iff_exists.2 ⟨_, apply_sendOk.2 ⟨hi, ha, v, hs, rfl⟩⟩
  · intro h1 h2
    have := key h1
    simpa [out, h2] using this

/-- Check returns the latest status: NewServer registers "" as SERVING; an accepted
    SetServingStatus makes exactly that service report the new value; nothing a stream does changes
    any answer. -/
theorem check_is_latest :
    (check init 0 = some SERVING ∧ ∀ k, k ≠ 0 → check init k = none) ∧
    (∀ s t svc v, apply s (.set svc v) = some t → s.shutdown = false →
        check t svc = some v ∧ ∀ k, k ≠ svc → check t k = check s k) ∧
    (∀ s t r, apply s r = some t → (∀ svc v, r ≠ .set svc v) → r ≠ .shutdown → r ≠ .resume →
        ∀ k, check t k = check s k) := by
  refine ⟨⟨by simp [check, init], fun k hk => by simp [check, init, hk]⟩, ?_, ?_⟩
  · intro s t svc v st hs
    rcases apply_set.1 st with ⟨hd, _⟩ | ⟨_, rfl⟩
    · rw [hs] at hd; cases hd
    · exact ⟨if_pos rfl, fun k hk => if_neg hk⟩
  · intro s t r st h1 h2 h3 k
    exact congrFun (apply_stream st h1 h2 h3).statusMap k

/-- Between Shutdown and Resume every registered service reports NOT_SERVING — to Check and, by
    `eventually_latest`, to every stream — and status changes are ignored; only Resume ends this,
    and it makes every registered service SERVING. -/
theorem shutdown_masks_until_resume {s : St} (h : ReachV s) :
    (∀ t, apply s .shutdown = some t → t.shutdown = true) ∧
    (s.shutdown = true →
      (∀ k v, check s k = some v → v = NOT_SERVING) ∧
      (∀ svc v t, apply s (.set svc v) = some t → t = s) ∧
      (∀ i, i < s.nw → (s.w i).alive = true → (s.statusMap (s.w i).svc).isSome →
          newest (s.w i) = some NOT_SERVING) ∧
      (∀ r t, apply s r = some t → r ≠ .resume → t.shutdown = true)) ∧
    (∀ t, apply s .resume = some t → t.shutdown = false ∧
      ∀ k, (check s k).isSome → check t k = some SERVING) := by
  have inv := reach_inv h
  refine ⟨?_, ?_, ?_⟩
  · intro t st; cases st; rfl
  · intro hd
    refine ⟨fun k v hk => inv.down hd k v hk, ?_, ?_, ?_⟩
    · intro svc v t st
      rcases apply_set.1 st with ⟨_, e⟩ | ⟨hs, _⟩
      · exact e
      · rw [hd] at hs; cases hs
    · intro i hi ha hreg
      have := (eventually_latest h i hi ha).1
      obtain ⟨u, hu⟩ := Option.isSome_iff_exists.mp hreg
      rw [this]; simp [cur, hu, inv.down hd _ u hu]
    · intro r t st hr
      cases r with
      | set svc v =>
        rcases apply_set.1 st with ⟨_, rfl⟩ | ⟨hs, _⟩
        · exact hd
        · rw [hd] at hs; cases hs
      | shutdown => cases st; rfl
      | resume => exact absurd rfl hr
      | _ => exact (apply_stream st).shutdown.trans hd
  · intro t st
    cases st
    exact ⟨rfl, fun k hk => by rw [setAll_eq]; exact if_pos hk⟩

/-- the sentinel: a status of -1 (outside the enum) would never be reported — why `ReachV` is needed -/
theorem sentinel_counterexample :
    ((run init [.set 5 (-1), .watch 5, .recv 0]).w 0).sending = none ∧
    ((run init [.set 5 (-1), .watch 5, .recv 0]).w 0).slot = none := by decide

-- a slow stream skips the intermediate status and never repeats
example : ((run init [.watch 0, .recv 0, .set 0 2, .set 0 1, .sendOk 0, .recv 0]).w 0).log = [1] := by decide
example : ((run init [.watch 0, .recv 0, .set 0 2, .set 0 3, .sendOk 0, .recv 0, .sendOk 0]).w 0).log = [1, 3] := by decide
example : ((run init [.watch 7, .recv 0, .sendOk 0, .shutdown, .recv 0]).w 0).log = [3] := by decide
example : ((run init [.watch 0, .shutdown, .set 0 1, .recv 0, .sendOk 0, .resume, .recv 0, .sendOk 0]).w 0).log = [2, 1] := by decide

end GrpcProofs.C54
