import GrpcProofs.Lemmas.ClusterRefs
import GrpcProofs.Lemmas.PluginRefs
/-!
# C51  A cluster stays usable until every RPC routed to it is committed

Model: `GrpcModel/Model/ClusterRefs.lean` (resolver reference counts + dependency-manager cluster
subscriptions).  `run ops` is the state after ANY sequence of
`rds S` (route update processed by the dependency manager), `deliver` (the resolver processes the
oldest queued update), `select r c` (SelectConfig routes RPC r to cluster c), `commit r` (OnCommitted),
`regen` (the service config is regenerated from the current selector: prune + UpdateState).

Statement, clause by clause:
 1. "the cluster stays in the channel's configuration until the RPC is committed":
    `selected_cluster_in_config_until_commit` (service config: PROVED for all interleavings);
    "…and its load balancer stays alive" needs the cluster in the XDSConfig given to the channel as
    well: FALSE for the unchanged code — `selected_cluster_in_xdsconfig_until_commit_counterexample`.
 2. "the commit hook runs at most once per RPC": `commit_at_most_once`.
 3. "once all such RPCs are done the removed cluster is dropped": FALSE for the unchanged code —
    `dropped_after_last_reference_counterexample`; proved when no clusterInfo with a used
    unsubscribe is re-referenced — `dropped_after_last_reference_partial`.
-/
namespace GrpcProofs.C51
open GrpcModel.ClusterRefs GrpcProofs.Lemmas.ClusterRefs

/-- The reference count of every active cluster is exactly (1 if the current config selector names
    it) + (number of uncommitted RPCs routed to it); clusters not in the table have no references. -/
theorem refcount_is_selector_plus_inflight (ops : List Op) (c : Name) :
    rc (run ops).active c = ind ((curList (run ops)).contains c) + inflightCount (run ops) c :=
  (run_inv ops).tab.cnt c

/-- Clause 1 (service config): in every reachable state, every RPC that was routed to a cluster and
    is not committed finds that cluster among the children of the last service config pushed to
    the channel — whatever route updates, deliveries and other RPCs happened in between. -/
theorem selected_cluster_in_config_until_commit (ops : List Op) : usableSC (run ops) = true :=
  (run_inv ops).usable

/-- Clause 2: the reference an RPC holds is released at most once, however often OnCommitted is
    invoked (`commits` logs every release). -/
theorem commit_at_most_once (ops : List Op) : (run ops).commits.Nodup :=
  (run_inv ops).log.commitsNd

/-! ### what the unchanged code does NOT guarantee (finding F36), on a concrete interleaving -/

/-- route {1}; RPC 1 → cluster 1; route {2}; route {1} reaches the dependency manager; RPC 1 commits
    BEFORE the resolver processes that update (its clusterInfo for 1 drops to 0: unsubscribe is
    spent); the resolver re-references the same clusterInfo; RPC 2 → cluster 1; route {2}. -/
def witness : List Op :=
  [.rds [1], .deliver, .select 1 1, .rds [2], .deliver, .rds [1], .commit 1, .deliver, .deliver,
   .select 2 1, .rds [2], .deliver, .deliver]

/-- Clause 1, XDSConfig part, is violated: RPC 2 is uncommitted and routed to cluster 1, no update is
    pending, the service config still has cluster 1, but the XDSConfig handed to the channel does not. -/
theorem selected_cluster_in_xdsconfig_until_commit_counterexample :
    ¬ (∀ ops : List Op, usableXC (run ops) = true) := by
  intro h
  have := h witness
  revert this
  decide

/-- the state after `witness`, as the two counterexamples read it: RPC 2 in flight to cluster 1, nothing queued,
    cluster 1 in the service config and not in the XDSConfig, a spent clusterInfo re-referenced -/
theorem witness_facts :
    inflight (run witness) = [1] ∧ (run witness).queue = [] ∧ (run witness).pushedSC = [1, 2] ∧
    (run witness).pushedXC = [2] ∧ (run witness).reusedSpent = true := by decide

/-- A second, transient way to lose the cluster from the XDSConfig (finding F37), without any reuse of
    a spent clusterInfo: an update built by the dependency manager before the resolver subscribed to
    cluster 1 is applied after an RPC was routed to it. -/
theorem stale_snapshot_counterexample :
    let s := run [.rds [1], .rds [3], .deliver, .select 8 1, .deliver]
    inflight s = [1] ∧ s.pushedSC = [1, 3] ∧ s.pushedXC = [3] ∧ s.reusedSpent = false := by decide

/-- Clause 3 is violated: after RPC 2 commits nothing refers to cluster 1 any more and nothing is
    pending, yet it stays in the service config (unsubscribe is a no-op, no update is triggered). -/
theorem dropped_after_last_reference_counterexample :
    ¬ (∀ ops : List Op, quiescent (run ops) = true → dropped (run ops) = true) := by
  intro h
  have := h (witness ++ [.commit 2, .deliver])
  revert this
  decide

/-- Clause 3, PARTIAL (full statement: `∀ ops, quiescent (run ops) → dropped (run ops)`, refuted above):
    in every run in which no clusterInfo whose unsubscribe was already used is re-referenced
    (`reusedSpent = false`, a ghost flag set by `acquireCS`), whenever nothing is pending — no queued
    update, no uncommitted RPC — the service config lists only clusters of the current routes.
    So the re-reference of a spent clusterInfo is the only way clause 3 can fail in the model. -/
theorem dropped_after_last_reference_partial (ops : List Op) (hr : (run ops).reusedSpent = false)
    (hq : quiescent (run ops) = true) : dropped (run ops) = true :=
  (run_inv ops).dropped hr hq

/-- non-vacuity of the partial statement: a run with removals, overlapping RPCs and a re-added
    cluster that ends quiescent without any spent re-reference -/
example :
    let s := run [.rds [1, 2], .deliver, .select 1 1, .select 2 2, .rds [3], .deliver, .commit 1, .deliver,
                  .rds [1, 3], .deliver, .commit 2, .deliver, .deliver]
    s.reusedSpent = false ∧ quiescent s = true ∧ s.pushedSC = [3, 1] := by decide

/-- a cluster named by several route entries is referenced ONCE by the config selector (the theorems
    above are about `rds` lists with repetitions as well): it is dropped after the routes leave it … -/
example : (run [.rds [1, 1], .deliver, .rds [2], .deliver, .deliver]).pushedSC = [2] := by decide
/-- … and kept while an RPC routed to it is uncommitted -/
example :
    let s := run [.rds [1, 1], .deliver, .select 1 1, .rds [2], .deliver]
    s.pushedSC = [1, 2] ∧ s.active.map (fun i => (i.name, i.refCount)) = [(1, 1), (2, 1)] := by decide

/-! ### cluster specifier plugins (model: GrpcModel/Model/PluginRefs.lean) -/

/-- The config selector handed to the channel is always the resolver's CURRENT one — in particular
    after the callback that regenerates the service config when the last reference to a plugin is
    released (late OnCommitted on a removed plugin): a selector that was replaced (and stopped) is
    never installed again. For every sequence of updates, regenerations, selections and commits. -/
theorem installed_selector_is_current (ops : List GrpcModel.PluginRefs.Op) :
    (GrpcModel.PluginRefs.run ops).pushedSel = (GrpcModel.PluginRefs.run ops).curSel :=
  GrpcProofs.Lemmas.PluginRefs.run_sel ops

/-- non-vacuity: a late commit on a removed plugin regenerates the config {p2} with selector #2 -/
example :
    let s := GrpcModel.PluginRefs.run [.update [1], .select 1 1, .update [2], .commit 1, .regen]
    s.pushedSP = [2] ∧ s.pushedSel = 2 ∧ s.pending = 0 := by decide

end GrpcProofs.C51
