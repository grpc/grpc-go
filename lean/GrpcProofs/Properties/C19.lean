/-
C19  Retry backoff and retry throttling follow gRFC A6 arithmetic.
Model: GrpcModel/Model/Retry.lean (exact rationals; the two int64 conversions are ported with
their overflow behaviour).
-/
import GrpcProofs.Lemmas.Retry
namespace GrpcProofs.C19
open GrpcModel.Retry GrpcProofs.Lemmas.Retry

/-- The parser's range check: 0 < maxTokens ≤ 1000 and tokenRatio > 0. -/
theorem throttling_valid_iff (maxTokens ratio : ℚ) :
    validThrottling maxTokens ratio = true ↔ (0 < maxTokens ∧ maxTokens ≤ 1000 ∧ 0 < ratio) := by
  simp only [validThrottling, Bool.and_eq_true, Bool.not_eq_true', Bool.or_eq_false_iff,
    decide_eq_false_iff_not, not_le, not_lt]
  tauto

/-- For every configuration the parser's range check admits and every history of failures and
    successes on the channel's throttler, the bucket stays within [0, maxTokens]. -/
theorem tokens_in_range (maxTokens ratio : ℚ) (hv : validThrottling maxTokens ratio = true) (ops : List ThrOp) :
    0 ≤ ((Throttler.new maxTokens ratio).run ops).tokens ∧
    ((Throttler.new maxTokens ratio).run ops).tokens ≤ maxTokens := by
  obtain ⟨hpos, _, hratio⟩ := (throttling_valid_iff maxTokens ratio).mp hv
  obtain ⟨⟨h0, hle⟩, hmax, _⟩ := run_inRange ops (Throttler.new maxTokens ratio) ⟨le_of_lt hpos, le_refl _⟩ (le_of_lt hratio)
  rw [hmax] at hle
  exact ⟨h0, hle⟩

/-- `shouldRetry` itself never takes the bucket out of range (it only ever calls `throttle`). -/
theorem shouldRetry_keeps_range (dis : Bool) (pol : Option Policy) (cs : CS) (a : Attempt) (r : ℚ) (t : Throttler)
    (ht : cs.throttler = some t) (hin : 0 ≤ t.tokens ∧ t.tokens ≤ t.max) :
    ∃ t', (shouldRetry dis pol cs a r).1.throttler = some t' ∧ 0 ≤ t'.tokens ∧ t'.tokens ≤ t'.max ∧ t'.max = t.max := by
  rw [sr_throttler, ht]
  split_ifs
  · exact ⟨t.throttle.1, rfl, (throttle_inRange t hin).1, (throttle_inRange t hin).2, (throttle_fields t).1⟩
  · exact ⟨t, rfl, hin.1, hin.2, rfl⟩

/-- An attempt that fails with a retryable code (not finished/committed/dropped, not retried
    transparently, retries enabled, no response headers, pushback not malformed) removes exactly
    one token (floored at 0) — whether or not the retry is then allowed. -/
theorem failure_costs_one (dis : Bool) (pol : Option Policy) (cs : CS) (a : Attempt) (r : ℚ) (pb : Pushback) (t : Throttler)
    (hs : stage dis pol cs a = .charged pb) (ht : cs.throttler = some t) :
    ∃ t', (shouldRetry dis pol cs a r).1.throttler = some t' ∧ t'.tokens = max (t.tokens - 1) 0 ∧
      t'.max = t.max ∧ t'.thresh = t.thresh ∧ t'.ratio = t.ratio := by
  rw [sr_throttler, hs, ht]
  exact ⟨t.throttle.1, rfl, throttle_tokens t, throttle_fields t⟩

/-- Malformed pushback (one unparsable or negative value, or several values) costs one token
    and the RPC is not retried. -/
theorem malformed_pushback_costs_one (dis : Bool) (pol : Option Policy) (cs : CS) (a : Attempt) (r : ℚ) (t : Throttler)
    (hs : stage dis pol cs a = .abortPushback) (ht : cs.throttler = some t) :
    (shouldRetry dis pol cs a r).2 = .noRetry ∧
    ∃ t', (shouldRetry dis pol cs a r).1.throttler = some t' ∧ t'.tokens = max (t.tokens - 1) 0 ∧ t'.max = t.max := by
  rw [sr_abort dis pol cs a r hs, ht]
  exact ⟨rfl, t.throttle.1, rfl, throttle_tokens t, (throttle_fields t).1⟩

/-- Exactly those two kinds of failure touch the bucket: in every other case `shouldRetry`
    leaves the throttler as it was. -/
theorem token_touched_iff (dis : Bool) (pol : Option Policy) (cs : CS) (a : Attempt) (r : ℚ) :
    (shouldRetry dis pol cs a r).1.throttler =
      if (stage dis pol cs a).charges then (throttleOpt cs.throttler).1 else cs.throttler :=
  sr_throttler dis pol cs a r

/-- A successful RPC adds tokenRatio, capped at maxTokens. -/
theorem success_adds_ratio (t : Throttler) :
    t.success.tokens = min (t.tokens + t.ratio) t.max ∧ t.success.max = t.max ∧
    t.success.thresh = t.thresh ∧ t.success.ratio = t.ratio :=
  ⟨success_tokens t, success_fields t⟩

/-- After the removal, the retry is refused exactly when the bucket is at or below half of
    maxTokens (for a throttler as the channel builds it: thresh = max/2); otherwise the attempt
    limit and the backoff decide. -/
theorem refused_iff_at_or_below_half (dis : Bool) (pol : Option Policy) (cs : CS) (a : Attempt) (r : ℚ) (pb : Pushback)
    (t : Throttler) (hs : stage dis pol cs a = .charged pb) (ht : cs.throttler = some t) (hth : t.thresh = t.max / 2) :
    ((shouldRetry dis pol cs a r).2 = .noRetry ↔ max (t.tokens - 1) 0 ≤ t.max / 2) := by
  obtain ⟨rp, _, heq⟩ := stage_charged dis pol cs a r pb hs
  rw [heq, (chargedResult_decision rp cs pb r).1, ht]
  simp only [throttleOpt]
  rw [throttle_result, throttle_tokens, hth, decide_eq_true_iff]

/-- Without a throttler (no retryThrottling in the service config) a retry is never refused
    at the throttling step. -/
theorem no_throttler_never_refuses (dis : Bool) (pol : Option Policy) (cs : CS) (a : Attempt) (r : ℚ) (pb : Pushback)
    (hs : stage dis pol cs a = .charged pb) (ht : cs.throttler = none) :
    (shouldRetry dis pol cs a r).2 ≠ .noRetry := by
  obtain ⟨rp, _, heq⟩ := stage_charged dis pol cs a r pb hs
  rw [heq, Ne, (chargedResult_decision rp cs pb r).1, ht]
  exact nofun

/-- Every retryThrottling the parser accepts satisfies the range check, with or without a
    `methodConfig` member. -/
theorem throttling_validation (hasMC : Bool) (maxTokens ratio : ℚ) :
    acceptsThrottling hasMC maxTokens ratio = validThrottling maxTokens ratio := rfl

/-- The pushback header is read as: absent → none; exactly one value that `Atoi` accepts and that
    is ≥ 0 → that many ms; anything else → abort. -/
theorem parse_pushback_spec (sps : List (List UInt8)) :
    (parsePushback sps = .absent ↔ sps = []) ∧
    (∀ n, parsePushback sps = .ms n ↔ ∃ v, sps = [v] ∧ atoi v = some n ∧ 0 ≤ n) := by
  match sps with
  | [] => simp [parsePushback]
  | _ :: _ :: _ => simp [parsePushback]
  | [v] =>
    simp only [parsePushback]
    cases hv : atoi v with
    | none => simp [hv]
    | some m =>
      by_cases hneg : m < 0
      · simp only [hneg, if_true, reduceCtorEq, false_iff, List.cons.injEq, and_true, exists_eq_left', hv,
          Option.some.injEq, not_and, not_le]
        exact ⟨trivial, fun n hn => hn ▸ hneg⟩
      · simp only [hneg, if_false, reduceCtorEq, Pushback.ms.injEq, List.cons.injEq, and_true,
          exists_eq_left', hv, Option.some.injEq, true_and]
        exact fun n => ⟨fun h => ⟨h, h ▸ not_lt.mp hneg⟩, fun h => h.1⟩

/-- Whenever a pushback was given the delay is that many milliseconds — saturated at MaxInt64 ns,
    the largest time.Duration, for pushbacks above ~292 years. -/
theorem pushback_is_delay (dis : Bool) (pol : Option Policy) (cs : CS) (a : Attempt) (r : ℚ) (dur : Int)
    (h : (shouldRetry dis pol cs a r).2 = .backoff dur true) :
    ∃ v n, a.hasStream = true ∧ a.pushback = [v] ∧ atoi v = some n ∧ 0 ≤ n ∧
      dur = min (1000000 * n) maxInt64 ∧ 0 ≤ dur := by
  obtain ⟨pb, rp, ht⟩ := sr_backoff_conditions dis pol cs a r dur true h
  have hpb := ht.charged.pushback
  have hd := ht.delay
  cases pb with
  | absent => cases hd
  | abort => cases hd
  | ms n =>
    injection hd with hd
    cases hst : a.hasStream with
    | false => rw [hst] at hpb; cases hpb
    | true =>
      rw [hst] at hpb; simp only [if_true] at hpb
      obtain ⟨v, hv, hat, hn⟩ := ((parse_pushback_spec a.pushback).2 n).mp hpb.symm
      rw [hd, pushbackDur_spec n hn]
      exact ⟨v, n, rfl, hv, hat, hn, rfl, le_min (by omega) (by unfold maxInt64; omega)⟩

/-- A retry that honours a pushback resets the backoff exponent. -/
theorem pushback_resets_k (dis : Bool) (pol : Option Policy) (cs : CS) (a : Attempt) (r : ℚ) (dur : Int)
    (h : (shouldRetry dis pol cs a r).2 = .backoff dur true) :
    (shouldRetry dis pol cs a r).1.sincePushback = 0 := by
  rw [sr_sincePushback, h]; rfl

/-- Without pushback the delay lies in [0.8, 1.2] × min(initialBackoff × multiplier^k, maxBackoff), for
    every policy (base ≥ 0) and every jitter draw: durations are integer ns, so the delay is
    ⌊base × (0.8 + 0.4 r)⌋ capped at MaxInt64 — at least ⌊0.8·base⌋ (or MaxInt64 if that is smaller),
    at most 1.2·base, never negative. -/
theorem backoff_in_band (dis : Bool) (pol : Option Policy) (cs : CS) (a : Attempt) (r : ℚ) (dur : Int)
    (h : (shouldRetry dis pol cs a r).2 = .backoff dur false) (hr0 : 0 ≤ r) (hr1 : r < 1) :
    ∃ rp, pol = some rp ∧ dur = backoffDur rp cs.sincePushback r ∧
      (shouldRetry dis pol cs a r).1.sincePushback = cs.sincePushback + 1 ∧
      (0 ≤ backoffBase rp cs.sincePushback →
        (min ⌊4 / 5 * backoffBase rp cs.sincePushback⌋ maxInt64 ≤ dur ∧
         (dur : ℚ) ≤ 6 / 5 * backoffBase rp cs.sincePushback ∧ 0 ≤ dur ∧ dur ≤ maxInt64)) := by
  have hk := sr_sincePushback dis pol cs a r
  rw [h] at hk
  obtain ⟨pb, rp, ht⟩ := sr_backoff_conditions dis pol cs a r dur false h
  have hd := ht.delay
  have hd' : dur = backoffDur rp cs.sincePushback r := by
    cases pb with
    | ms n => cases hd
    | _ => injection hd
  exact ⟨rp, ht.charged.pol, hd', hk, fun hb => hd' ▸ backoffDur_band rp cs.sincePushback r hb hr0 hr1⟩

/-- Inside the parser's limits (0 < initialBackoff, maxBackoff ≤ MaxInt64 ns, multiplier > 0) the cap
    never cuts the lower edge: ⌊0.8·base⌋ ≤ delay ≤ 1.2·base. -/
theorem backoff_in_band_parser_limits (rp : Policy) (k : Nat) (r : ℚ)
    (hi : 0 < rp.initialBackoff) (hm : 0 < rp.maxBackoff) (hmu : 0 < rp.multiplier) (hmax : rp.maxBackoff ≤ maxInt64)
    (hr0 : 0 ≤ r) (hr1 : r < 1) :
    ⌊4 / 5 * backoffBase rp k⌋ ≤ backoffDur rp k r ∧ (backoffDur rp k r : ℚ) ≤ 6 / 5 * backoffBase rp k := by
  have hb : 0 ≤ backoffBase rp k := by
    unfold backoffBase
    apply le_min
    · have : (0 : ℚ) < rp.initialBackoff := by exact_mod_cast hi
      positivity
    · exact_mod_cast le_of_lt hm
  have hle : backoffBase rp k ≤ (maxInt64 : ℤ) := by
    unfold backoffBase
    exact le_trans (min_le_right _ _) (by exact_mod_cast hmax)
  obtain ⟨h1, h2, _, _⟩ := backoffDur_band rp k r hb hr0 hr1
  refine ⟨?_, h2⟩
  have hfl : ⌊4 / 5 * backoffBase rp k⌋ ≤ maxInt64 := by
    have : 4 / 5 * backoffBase rp k ≤ ((maxInt64 : ℤ) : ℚ) := by
      have h5 : 4 / 5 * backoffBase rp k ≤ backoffBase rp k := by linarith
      exact le_trans h5 hle
    exact_mod_cast le_trans (Int.floor_le (4 / 5 * backoffBase rp k)) this
  rw [min_eq_left hfl] at h1
  exact h1

/-- Over every history of failed attempts of one RPC (any attempts, any jitter draws) the exponent
    the code keeps (`numRetriesSincePushback`) is the number of timed retries since the last
    retry that honoured a pushback; transparent retries do not count. -/
theorem k_counts_retries_since_pushback (dis : Bool) (pol : Option Policy) (cs : CS) (as : List (Attempt × ℚ)) :
    (runAttempts dis pol cs as).1.sincePushback =
      retriesSincePushback cs.sincePushback (runAttempts dis pol cs as).2 :=
  runAttempts_sincePushback dis pol as cs

/-- Whatever `Duration.UnmarshalJSON` accepts is clamped into int64 nanoseconds. -/
theorem duration_clamped (s : List UInt8) (d : Int) (h : parseDuration s = some d) :
    minInt64 ≤ d ∧ d ≤ maxInt64 :=
  parseDuration_range s d h

/-- `convertRetryPolicy` accepts exactly maxAttempts > 1, both backoffs > 0, multiplier > 0 and a
    non-empty code list. -/
theorem policy_valid_iff (chanMax ma ib mb : Int) (mu : ℚ) (codes : List Nat) :
    (∃ p, convertPolicy chanMax ma ib mb mu codes = some p) ↔ (1 < ma ∧ 0 < ib ∧ 0 < mb ∧ 0 < mu ∧ codes ≠ []) := by
  unfold convertPolicy
  have hv : validPolicy ma ib mb mu codes = true ↔ (1 < ma ∧ 0 < ib ∧ 0 < mb ∧ 0 < mu ∧ codes ≠ []) := by
    simp only [validPolicy, Bool.and_eq_true, decide_eq_true_eq, gt_iff_lt, List.length_pos_iff]
    tauto
  by_cases h : validPolicy ma ib mb mu codes = true
  · simp only [h, Bool.not_true, Bool.false_eq_true, if_false]
    exact ⟨fun _ => hv.mp h, fun _ => ⟨_, rfl⟩⟩
  · have h' : validPolicy ma ib mb mu codes = false := by simpa using h
    simp only [h', Bool.not_false, if_true]
    constructor
    · rintro ⟨p, hp⟩; cases hp
    · intro hc; exact absurd (hv.mpr hc) h

/-- The converted policy's attempt limit is the minimum of the configured value and the channel's. -/
theorem policy_max_capped (chanMax ma ib mb : Int) (mu : ℚ) (codes : List Nat) (p : Policy)
    (h : convertPolicy chanMax ma ib mb mu codes = some p) :
    p.maxAttempts = min ma chanMax ∧ p.initialBackoff = ib ∧ p.maxBackoff = mb ∧ p.multiplier = mu ∧ p.codes = codes := by
  unfold convertPolicy at h
  split_ifs at h with hv hlt
  · injection h with h; subst h; exact ⟨by simp [min_eq_left (le_of_lt hlt)], rfl, rfl, rfl, rfl⟩
  · injection h with h; subst h; exact ⟨by simp [min_eq_right (not_lt.mp hlt)], rfl, rfl, rfl, rfl⟩

-- the byte lists spell "10000000000s", "9000000000s", "1.5s", "1.s", "s"; the pushbacks "123", "-1", ["1","2"]
example : parseDuration [49, 48, 48, 48, 48, 48, 48, 48, 48, 48, 48, 115] = some maxInt64 := by decide
example : parseDuration [57, 48, 48, 48, 48, 48, 48, 48, 48, 48, 115] = some 9000000000000000000 := by decide
example : parseDuration [49, 46, 53, 115] = some 1500000000 := by decide
example : parseDuration [49, 46, 115] = some 1000000000 := by decide
example : parseDuration [115] = none := by decide
example : parsePushback [[49, 50, 51]] = .ms 123 := by decide
example : parsePushback [[45, 49]] = .abort := by decide
example : parsePushback [[49], [50]] = .abort := by decide
example : pushbackDur 9223372036855 = maxInt64 := by decide
example : pushbackDur 9223372036854 = 9223372036854000000 := by decide

end GrpcProofs.C19
