/-
C21  Effective message size limits are the minimum of all configured limits.
`getMaxSize_map` is the one computation behind the limits; `sendOk_iff`, `recvOk_false_iff`, `recvOk_iff` turn the
checks of `rpc` into inequalities.
-/
import GrpcModel.Model.MsgSize
namespace GrpcProofs.C21
open GrpcModel.MsgSize GrpcModel.Generated

/-- `getMaxSize` with a clamped service-config value: send and receive limit of the client are the two instances. -/
theorem getMaxSize_map (f : Int → Int) (a b : Option Int) (d : Int) :
    getMaxSize (a.map f) b d =
      (match a, b with
       | none, none => d
       | some a, none => f a
       | none, some b => b
       | some a, some b => min (f a) b) := by
  cases a <;> cases b <;> simp only [Option.map, getMaxSize, minPointers]
  split <;> omega

/-- effective = min: `getMaxSize` is the default when neither limit is set, the one that is set when
    only one is, and the smaller of the two when both are — for all values (negative included). -/
theorem effective_is_min (a b d : Int) :
    getMaxSize none none d = d ∧ getMaxSize (some a) none d = a ∧ getMaxSize none (some b) d = b ∧
    getMaxSize (some a) (some b) d = min a b :=
  ⟨rfl, rfl, rfl, getMaxSize_map id (some a) (some b) d⟩

/-- The client's limits for one RPC: the option limit is the per-call option when given, else the
    dial default; the effective limit is the smaller of that and the service-config value, or the
    documented default (send: MaxInt32, receive: 4 MiB) when nothing is set. The service-config value
    is taken as is (the clamp to maxInt is the identity on int64 values). -/
theorem client_limits_are_min_or_default (c : ClientCfg) :
    clientSendLimit c =
      (match c.scReq, (match c.callSend with | some v => some v | none => c.dialSend) with
       | none, none => 2147483647
       | some a, none => scClamp a
       | none, some b => b
       | some a, some b => min (scClamp a) b) ∧
    clientRecvLimit c =
      (match c.scResp, (match c.callRecv with | some v => some v | none => c.dialRecv) with
       | none, none => 4194304
       | some a, none => scClamp a
       | none, some b => b
       | some a, some b => min (scClamp a) b) ∧
    (∀ x : Int, x ≤ 9223372036854775807 → scClamp x = x) := by
  refine ⟨getMaxSize_map scClamp c.scReq _ _, getMaxSize_map scClamp c.scResp _ _, ?_⟩
  · intro x hx
    unfold scClamp
    rw [if_neg (by simp only [maxInt]; omega)]

/-- On the server the limits are the server options (defaults 4 MiB receive, MaxInt32 send). -/
theorem server_limits_are_options (s : ServerCfg) :
    serverRecvLimit s = s.recv.getD 4194304 ∧ serverSendLimit s = s.send.getD 2147483647 := by
  simp [serverRecvLimit, serverSendLimit, msDefaultServerMaxRecv, msDefaultServerMaxSend]

theorem sendOk_iff (w : Nat) (limit : Int) : sendOk w limit = true ↔ (w : Int) ≤ limit := by
  simp [sendOk]

theorem recvOk_false_iff (w : Nat) (c : Bool) (n : Nat) (limit : Int) :
    recvOk w c n limit = false ↔ (w : Int) > limit ∨ (c = true ∧ (n : Int) > limit) := by
  unfold recvOk recvCheck
  by_cases hw : (w : Int) > limit
  · simp [hw]
  · by_cases hn : (n : Int) > limit <;> cases c <;> simp [hw, hn]

theorem recvOk_iff (w : Nat) (c : Bool) (n : Nat) (limit : Int) :
    recvOk w c n limit = true ↔ (w : Int) ≤ limit ∧ (c = true → (n : Int) ≤ limit) := by
  rw [← Bool.not_eq_false, recvOk_false_iff]
  constructor
  · intro h; exact ⟨by omega, fun hc => Int.not_lt.mp fun hn => h (Or.inr ⟨hc, hn⟩)⟩
  · rintro ⟨a, b⟩ (h | ⟨hc, hn⟩)
    · omega
    · have := b hc; omega

/-- A message whose encoded (post-compression) size exceeds the sender's limit is never transmitted
    and the RPC fails with RESOURCE_EXHAUSTED: the request on the client, the reply on the server. -/
theorem oversend_never_transmitted (c : ClientCfg) (s : ServerCfg) (comp : Option Comp) (req resp : Nat) :
    ((wireLen comp req : Int) > clientSendLimit c →
      (rpc c s comp req resp).code = .resourceExhausted ∧ (rpc c s comp req resp).transmittedReq = false ∧
      (rpc c s comp req resp).serverGot = none ∧ (rpc c s comp req resp).clientGot = none) ∧
    ((rpc c s comp req resp).serverGot = some req → (wireLen comp resp : Int) > serverSendLimit s →
      (rpc c s comp req resp).code = .resourceExhausted ∧ (rpc c s comp req resp).transmittedResp = false ∧
      (rpc c s comp req resp).clientGot = none) := by
  constructor
  · intro h
    simp [rpc, sendOk, h]
  · intro hg h
    have e3 : sendOk (wireLen comp resp) (serverSendLimit s) = false := by simp [sendOk, h]
    unfold rpc at hg ⊢
    cases h1 : sendOk (wireLen comp req) (clientSendLimit c) <;>
    cases h2 : recvOk (wireLen comp req) (isCompressed comp req) req (serverRecvLimit s) <;>
    simp [h1, h2, e3] at hg ⊢

/-- The send check does not depend on how the message was handed over: a `*grpc.PreparedMsg` encoded on
    the stream is checked (post-compression size against the limit) exactly like the plain message, and
    is handed to the transport only when it fits. -/
theorem prepared_msg_is_checked (comp : Option Comp) (limit : Int) (n : Nat) :
    sendMsg comp limit (.prepared (encodePrepared comp n)) = sendMsg comp limit (.plain n) ∧
    (∀ m : Msg, sendMsg comp limit m = none ↔ (payloadLenOf comp m : Int) > limit) ∧
    (∀ m k, sendMsg comp limit m = some k → k = payloadLenOf comp m ∧ (k : Int) ≤ limit) := by
  refine ⟨rfl, ?_, ?_⟩
  · intro m
    unfold sendMsg sendOk
    by_cases h : (payloadLenOf comp m : Int) > limit <;> simp [h]
  · intro m k h
    unfold sendMsg sendOk at h
    by_cases hg : (payloadLenOf comp m : Int) > limit
    · simp [hg] at h
    · simp [hg] at h
      exact ⟨h.symm, by omega⟩

/-- A received message whose wire size or decompressed size exceeds the receiver's limit is not
    delivered and the RPC fails with RESOURCE_EXHAUSTED: the request at the server (when the client
    let it out), the reply at the client (when the server let it out). -/
theorem overrecv_resource_exhausted (c : ClientCfg) (s : ServerCfg) (comp : Option Comp) (req resp : Nat) :
    ((rpc c s comp req resp).transmittedReq = true →
      ((wireLen comp req : Int) > serverRecvLimit s ∨ (isCompressed comp req = true ∧ (req : Int) > serverRecvLimit s)) →
      (rpc c s comp req resp).code = .resourceExhausted ∧ (rpc c s comp req resp).serverGot = none ∧
      (rpc c s comp req resp).clientGot = none) ∧
    ((rpc c s comp req resp).transmittedResp = true →
      ((wireLen comp resp : Int) > clientRecvLimit c ∨ (isCompressed comp resp = true ∧ (resp : Int) > clientRecvLimit c)) →
      (rpc c s comp req resp).code = .resourceExhausted ∧ (rpc c s comp req resp).clientGot = none) := by
  constructor
  · intro ht h
    have hr := (recvOk_false_iff (wireLen comp req) (isCompressed comp req) req (serverRecvLimit s)).mpr h
    unfold rpc at ht ⊢
    cases h1 : sendOk (wireLen comp req) (clientSendLimit c) <;> simp [h1, hr] at ht ⊢
  · intro ht h
    have hr := (recvOk_false_iff (wireLen comp resp) (isCompressed comp resp) resp (clientRecvLimit c)).mpr h
    unfold rpc at ht ⊢
    cases h1 : sendOk (wireLen comp req) (clientSendLimit c) <;>
    cases h2 : recvOk (wireLen comp req) (isCompressed comp req) req (serverRecvLimit s) <;>
    cases h3 : sendOk (wireLen comp resp) (serverSendLimit s) <;>
    simp [h1, h2, h3, hr] at ht ⊢

/-- Messages within all four limits are delivered with their exact sizes and the RPC succeeds. -/
theorem within_limits_intact (c : ClientCfg) (s : ServerCfg) (comp : Option Comp) (req resp : Nat)
    (h1 : (wireLen comp req : Int) ≤ clientSendLimit c)
    (h2 : (wireLen comp req : Int) ≤ serverRecvLimit s ∧ (isCompressed comp req = true → (req : Int) ≤ serverRecvLimit s))
    (h3 : (wireLen comp resp : Int) ≤ serverSendLimit s)
    (h4 : (wireLen comp resp : Int) ≤ clientRecvLimit c ∧ (isCompressed comp resp = true → (resp : Int) ≤ clientRecvLimit c)) :
    rpc c s comp req resp = ⟨.ok, .none, true, some req, true, some resp⟩ := by
  simp [rpc, (sendOk_iff _ _).mpr h1, (recvOk_iff _ _ _ _).mpr h2, (sendOk_iff _ _).mpr h3, (recvOk_iff _ _ _ _).mpr h4]

/-- The outcomes are exhaustive: the RPC succeeds iff all four checks pass, and otherwise it fails
    with RESOURCE_EXHAUSTED and the application receives no reply. -/
theorem rpc_outcome_complete (c : ClientCfg) (s : ServerCfg) (comp : Option Comp) (req resp : Nat) :
    ((rpc c s comp req resp).code = .ok ↔
      (sendOk (wireLen comp req) (clientSendLimit c) = true ∧
       recvOk (wireLen comp req) (isCompressed comp req) req (serverRecvLimit s) = true ∧
       sendOk (wireLen comp resp) (serverSendLimit s) = true ∧
       recvOk (wireLen comp resp) (isCompressed comp resp) resp (clientRecvLimit c) = true)) ∧
    ((rpc c s comp req resp).code ≠ .ok →
      (rpc c s comp req resp).code = .resourceExhausted ∧ (rpc c s comp req resp).clientGot = none) := by
  unfold rpc
  cases h1 : sendOk (wireLen comp req) (clientSendLimit c) <;>
  cases h2 : recvOk (wireLen comp req) (isCompressed comp req) req (serverRecvLimit s) <;>
  cases h3 : sendOk (wireLen comp resp) (serverSendLimit s) <;>
  cases h4 : recvOk (wireLen comp resp) (isCompressed comp resp) resp (clientRecvLimit c) <;> simp

example : getMaxSize (some 100) (some 50) 4194304 = 50 := by decide
example : getMaxSize (some 5000000) none 4194304 = 5000000 := by decide
example : clientRecvLimit { scResp := some 100, dialRecv := some 50, callRecv := some 200 } = 100 := by decide
example : (rpc {} { recv := some 10 } none 11 0).code = .resourceExhausted := by decide
example : (rpc {} { recv := some 10 } none 10 3).clientGot = some 3 := by decide
example : (rpc { callRecv := some 20 } {} (some ⟨fun _ => 9⟩) 5 21).why = .recvPlain := by decide

end GrpcProofs.C21
