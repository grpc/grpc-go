/-
C49  Server filter chain selection is the most specific match.
-/
import GrpcProofs.Lemmas.FilterChain
namespace GrpcProofs.C49
open GrpcModel.FilterChain GrpcModel.Generated GrpcProofs.Lemmas.FilterChain

/-- **Lookup is the most-specific match.**  For every listener that validation accepts and every connection,
    `filterChainManager.lookup` answers what stage-wise narrowing (`Spec.select`: destination prefix — on a
    listener bound to the wildcard address —, source type, source prefix, source port; the default chain when
    nothing is left) answers; the only other possibility, and only on a listener NOT bound to the wildcard
    address, is the error "multiple matching filter chains". -/
theorem lookup_is_most_specific (hasDefault : Bool) (cs : List ChainCfg) (t : Table) (c : Conn)
    (h : build hasDefault cs = .ok t) :
    (c.wild = true → lookup t hasDefault c = Spec.select t hasDefault c)
    ∧ (lookup t hasDefault c = Spec.select t hasDefault c ∨ (c.wild = false ∧ lookup t hasDefault c = .multiple)) := by
  have hsel := lookup_eq_select t hasDefault c (build_wf hasDefault cs t h)
  exact ⟨fun hwild => hsel fun _ => hwild,
    Decidable.or_iff_not_imp_right.mpr fun hn => hsel fun hm => by simpa [hm] using hn⟩

/-- What the narrowing stages keep, stated without any algorithm: a candidate survives a stage iff it survived
    the previous one, matches the connection at this stage, and no other survivor of the previous stage matches
    more specifically (longer prefix; the connection's own source type before ANY; the exact port before the
    port wildcard). The source type of a connection is SAME_IP_OR_LOOPBACK (1) when source = destination address
    or the source is a loopback address, else EXTERNAL (2). -/
theorem select_spec (t : Table) (hasDefault : Bool) (c : Conn) :
    (∀ s, s ∈ Spec.stage1 t c ↔ s ∈ t.slots ∧ (c.wild = true →
        ∃ m, matchSize s.dst c.dst = some m ∧ ∀ s' ∈ t.slots, ∀ k, matchSize s'.dst c.dst = some k → k ≤ m))
    ∧ (∀ s, s ∈ Spec.stage2 t c ↔ s ∈ Spec.stage1 t c ∧
        (s.st = srcTypeOf c ∨ (s.st = 0 ∧ ∀ s' ∈ Spec.stage1 t c, s'.st ≠ srcTypeOf c)))
    ∧ (∀ s, s ∈ Spec.stage3 t c ↔ s ∈ Spec.stage2 t c ∧
        ∃ m, matchSize s.src c.src = some m ∧ ∀ s' ∈ Spec.stage2 t c, ∀ k, matchSize s'.src c.src = some k → k ≤ m)
    ∧ (∀ s, s ∈ Spec.stage4 t c ↔ s ∈ Spec.stage3 t c ∧
        (s.port = c.port ∨ (s.port = 0 ∧ ∀ s' ∈ Spec.stage3 t c, s'.port ≠ c.port)))
    ∧ (srcTypeOf c = if c.src = c.dst ∨ c.src.isLoopback = true then 1 else 2)
    ∧ (∀ id, Spec.select t hasDefault c = .chain id → ∃ s ∈ Spec.stage4 t c, s.chain = id)
    ∧ (Spec.select t hasDefault c = (if hasDefault then .dflt else .none) ↔ Spec.stage4 t c = []) := by
  refine ⟨fun s => ?_, fun s => ?_, fun s => ?_, fun s => ?_, ?_, fun id hid => ?_, ?_⟩
  · unfold Spec.stage1
    cases hw : c.wild
    · simp
    · simp only [↓reduceIte, forall_const]
      exact mem_mostSpecific _ _ s
  · unfold Spec.stage2
    simp only [List.mem_filter, Bool.or_eq_true, beq_iff_eq, Bool.and_eq_true, List.all_eq_true, bne_iff_ne, ne_eq,
      stAny_eq]
  · exact mem_mostSpecific _ _ s
  · unfold Spec.stage4
    simp only [List.mem_filter, Bool.or_eq_true, beq_iff_eq, Bool.and_eq_true, List.all_eq_true, bne_iff_ne, ne_eq]
  · unfold srcTypeOf; rw [stSame_eq, stExternal_eq]
  · obtain ⟨s, h4, hs⟩ := (select_eq_iff t hasDefault c (.chain id)).mp hid
    exact ⟨s, by simp [h4], hs⟩
  · cases hasDefault <;> simp [select_eq_iff]

/-- The default filter chain (or, without one, the "no matching filter chain" error) is used only when
    narrowing leaves no filter chain; on a listener bound to the wildcard address also conversely. -/
theorem default_only_if_none_match (hasDefault : Bool) (cs : List ChainCfg) (t : Table) (c : Conn)
    (h : build hasDefault cs = .ok t) :
    (lookup t hasDefault c = .dflt → hasDefault = true ∧ Spec.stage4 t c = [])
    ∧ (lookup t hasDefault c = .none → hasDefault = false ∧ Spec.stage4 t c = [])
    ∧ (c.wild = true → Spec.stage4 t c = [] → lookup t hasDefault c = if hasDefault then .dflt else .none) := by
  have hsel := lookup_eq_select t hasDefault c (build_wf hasDefault cs t h)
  refine ⟨fun hl => (select_eq_iff t hasDefault c .dflt).mp ?_, fun hl => (select_eq_iff t hasDefault c .none).mp ?_,
    fun hw h4 => ?_⟩
  · exact hsel (fun hm => nomatch hl.symm.trans hm) ▸ hl
  · exact hsel (fun hm => nomatch hl.symm.trans hm) ▸ hl
  · rw [hsel fun _ => hw]
    simp [Spec.select, h4]

/-- Validation leaves no ties: in a validated table no two leaves share a (destination prefix, source type,
    source prefix, port) key and every prefix is masked … -/
theorem build_wellformed (hasDefault : Bool) (cs : List ChainCfg) (t : Table) (h : build hasDefault cs = .ok t) :
    t.slots.Pairwise (fun a b => ¬ (a.dst = b.dst ∧ a.st = b.st ∧ a.src = b.src ∧ a.port = b.port))
    ∧ (∀ s ∈ t.slots, Masked s.dst ∧ Masked s.src) :=
  have hw := build_wf hasDefault cs t h
  ⟨hw.keys, hw.leaves⟩

/-- … hence, on a listener bound to the wildcard address, narrowing never ends with two filter chains and
    lookup never fails with "multiple matching filter chains". -/
theorem validated_config_has_unique_winner (hasDefault : Bool) (cs : List ChainCfg) (t : Table) (c : Conn)
    (h : build hasDefault cs = .ok t) (hwild : c.wild = true) :
    (Spec.stage4 t c).length ≤ 1 ∧ Spec.select t hasDefault c ≠ .multiple ∧ lookup t hasDefault c ≠ .multiple := by
  have hw := build_wf hasDefault cs t h
  have hlen := stage4_length_le_one t c hw hwild
  have hsel : Spec.select t hasDefault c ≠ .multiple := fun hs => by
    have : 2 ≤ (Spec.stage4 t c).length := (select_eq_iff t hasDefault c .multiple).mp hs
    omega
  refine ⟨hlen, hsel, ?_⟩
  rw [lookup_eq_select t hasDefault c hw fun _ => hwild]
  exact hsel

/-- Every leaf of a validated table is one (destination prefix, source type, source prefix, source port)
    combination of the filter chain it points to, and that chain uses no unsupported match field; an empty
    prefix list stands for the unspecified prefix, an empty port list for the port wildcard (key 0). -/
theorem build_slots_sound (hasDefault : Bool) (cs : List ChainCfg) (t : Table) (h : build hasDefault cs = .ok t) :
    ∀ x ∈ t.slots, ∃ c, cs[x.chain]? = some c ∧
      c.dstPort = false ∧ c.serverNames = false ∧ c.tp < 2 ∧ c.alpn = false ∧ c.srcType < 3 ∧ x.st = c.srcType ∧
      (∃ ds, parsePrefixes c.dst = some ds ∧ x.dst ∈ ds) ∧ (∃ ss, parsePrefixes c.src = some ss ∧ x.src ∈ ss) ∧
      x.port ∈ (if c.ports.isEmpty then [0] else c.ports) := fun x hx =>
  have ⟨c, hc, hx⟩ := build_sound hasDefault cs t h x hx
  ⟨c, hc, hx.dstPort, hx.serverNames, hx.tp, hx.alpn, hx.srcType, hx.st, hx.dst, hx.src, hx.port⟩

/-- The running-maximum loops of filterByDestinationPrefixes / filterBySourcePrefixes (start value
    noPrefixMatch = -2, unspecified prefix = -1) keep exactly the candidates whose match size is defined and not
    exceeded by any other candidate. -/
theorem best_is_most_specific (f : Slot → Option Int) (l : List Slot) (hf : ∀ s m, f s = some m → -1 ≤ m) :
    fcNoPrefixMatch = -2 ∧ fcUnspecifiedPrefixMatch = -1 ∧
    ∀ s, s ∈ best f l ↔ s ∈ l ∧ ∃ m, f s = some m ∧ ∀ s' ∈ l, ∀ k, f s' = some k → k ≤ m := by
  refine ⟨noPrefixMatch_eq, unspecifiedPrefixMatch_eq, fun s => ?_⟩
  rw [best_eq_mostSpecific f l hf]
  exact mem_mostSpecific f l s

/-- Prefix matching: the unspecified prefix matches everything with size -1; a /n prefix matches exactly the
    addresses of its family whose n most significant bits agree, with size n; masking the configured address
    (`Prefix.Masked`) does not change what it matches. -/
theorem prefix_match_spec :
    (∀ ip, matchSize .unspec ip = some (-1))
    ∧ (∀ (a b : BitVec 32) n, n ≤ 32 →
        (matchSize (.v4 a n) (.v4 b) = some (n : Int) ↔ ∀ i, i < n → a.getMsbD i = b.getMsbD i)
        ∧ (matchSize (.v4 a n) (.v4 b) = none ↔ ¬ ∀ i, i < n → a.getMsbD i = b.getMsbD i)
        ∧ matchSize (.v4 (maskTop a n) n) (.v4 b) = matchSize (.v4 a n) (.v4 b))
    ∧ (∀ (a b : BitVec 128) n, n ≤ 128 →
        (matchSize (.v6 a n) (.v6 b) = some (n : Int) ↔ ∀ i, i < n → a.getMsbD i = b.getMsbD i)
        ∧ (matchSize (.v6 a n) (.v6 b) = none ↔ ¬ ∀ i, i < n → a.getMsbD i = b.getMsbD i)
        ∧ matchSize (.v6 (maskTop a n) n) (.v6 b) = matchSize (.v6 a n) (.v6 b))
    ∧ (∀ a n b, matchSize (.v4 a n) (.v6 b) = none) ∧ (∀ a n b, matchSize (.v6 a n) (.v4 b) = none) := by
  exact ⟨fun ip => by simp [matchSize, unspecifiedPrefixMatch_eq], fun a b n hn => prefixSize_spec a b n hn,
    fun a b n hn => prefixSize_spec a b n hn, fun _ _ _ => rfl, fun _ _ _ => rfl⟩

/-! ### F16: a listener not bound to the wildcard address

Full statement (FALSE for the unchanged code):
    ∀ hasDefault cs t c, build hasDefault cs = .ok t → lookup t hasDefault c ≠ .multiple
i.e. "configurations in which two chains would tie are rejected during validation".  Proved above
(`validated_config_has_unique_winner`) for listeners bound to the wildcard address.  Witness, taken from the
test TestLookup_Failures/multiple_matching_filter_chains of /repo: chains {source_ports 1,2,3} and
{prefix_ranges 192.168.1.1/16, source_ports 1} validate, and a connection from 192.168.100.1:1 to 192.168.100.1
on a listener bound to a specific address gets "multiple matching filter chains" — also from port 2, where
narrowing singles out the first chain (the example below the theorem). -/
def f16Chains : List ChainCfg :=
  [⟨false, false, 0, false, 0, [], [], [1, 2, 3]⟩,
   ⟨false, false, 0, false, 0, [.v4 0xc0a80101#32 16], [], [1]⟩]

def f16Conn (port : Nat) : Conn := ⟨false, .v4 0xc0a86401#32, .v4 0xc0a86401#32, port⟩

theorem nonwildcard_unique_winner_counterexample :
    ¬ ∀ (hasDefault : Bool) (cs : List ChainCfg) (t : Table) (c : Conn),
        build hasDefault cs = .ok t → lookup t hasDefault c ≠ .multiple :=
  fun h => h false f16Chains _ (f16Conn 1) rfl (by decide)

example : ∃ t, build false f16Chains = .ok t ∧ lookup t false (f16Conn 2) = .multiple
    ∧ Spec.select t false (f16Conn 2) = .chain 0 := ⟨_, rfl, by decide, by decide⟩

example : ∃ t, build false f16Chains = .ok t ∧ lookup t false { f16Conn 1 with wild := true } = .chain 1 :=
  ⟨_, rfl, by decide⟩
example : ∃ t, build true f16Chains = .ok t ∧
    lookup t true ⟨true, .v4 0x0a000001#32, .v4 0x0a000002#32, 9⟩ = .dflt := ⟨_, rfl, by decide⟩
example : build false (f16Chains ++ [⟨false, false, 0, false, 0, [], [], [3]⟩]) = .error .overlap := by rfl
example : build false [⟨false, false, 0, false, 0, [.v4 0#32 33], [], []⟩] = .error .prefix := by rfl
example : build false [⟨true, false, 0, false, 0, [], [], []⟩] = .error .empty := by rfl

end GrpcProofs.C49
