/-
C52  ALTS records round-trip exactly and tampering is always detected (under an ideal AEAD).
Model: GrpcModel/Model/Alts.lean (framing, chunking, reassembly, counter; AES-GCM idealised as stated
there).
-/
import GrpcProofs.Lemmas.Alts
namespace GrpcProofs.C52
open GrpcModel.Alts GrpcModel.Generated GrpcProofs.Lemmas.Alts

/-- all cells handed to the receiver by a sequence of ops, in order -/
def feedsOf : List Op → List Cell
  | [] => []
  | .feed cs :: ops => cs ++ feedsOf ops
  | .read _ :: ops => feedsOf ops

/-- TAMPERING / DROPPING / REORDERING: whatever cells the network delivers, in whatever
    segmentation, with whatever Read sizes, the bytes returned by Read are a PREFIX of the bytes the
    peer wrote — a Read fails (or blocks) rather than return wrong plaintext. -/
theorem tamper_detected (sent : List (List UInt8)) (cmax : Nat) (ops : List Op) :
    (run (R.init sent cmax) ops).2 <+: sent.flatten := by
  refine ⟨(run (R.init sent cmax) ops).1.buf ++ (sent.drop (run (R.init sent cmax) ops).1.ctr).flatten, ?_⟩
  rw [← List.append_assoc, (run_init_delivered sent cmax ops).1, ← List.flatten_append, List.take_append_drop]

theorem run_clean (ops : List Op) (r : R) (tail : List Cell) (h : Clean r (feedsOf ops ++ tail)) :
    Clean (run r ops).1 tail :=
  run_induction (I := fun ops r _ => Clean r (feedsOf ops ++ tail)) (d := [])
    (fun h => clean_feed _ _ _ (by simpa [feedsOf, List.append_assoc] using h))
    (fun h => (clean_read _ _ _ h).1) h

/-- ROUND TRIP for ANY segmentation of the ciphertext stream and ANY Read sizes: if what the
    network delivered is exactly the peer's records (cut into arbitrary pieces, interleaved with
    Reads arbitrarily), no Read fails, and as soon as a Read would block, everything the peer wrote
    has been returned, in order, exactly once. -/
theorem roundtrip_any_segmentation (sent : List (List UInt8)) (cmax : Nat) (ops : List Op) (n : Nat)
    (hfeeds : feedsOf ops = cellsFrom 0 sent)
    (hsmall : ∀ p ∈ sent, p.length + 20 ≤ 1048576) (hctr : sent.length ≤ cmax) :
    let r := (run (R.init sent cmax) ops).1
    r.err = none ∧ (∀ e, (GrpcModel.Alts.read r n).2 ≠ .fail e) ∧
    ((GrpcModel.Alts.read r n).2 = .block → (run (R.init sent cmax) ops).2 = sent.flatten) := by
  intro r
  have c0 : Clean (R.init sent cmax) (feedsOf ops ++ []) := by
    exact { noErr := rfl, wire := by simp [R.init, hfeeds], small := hsmall, ctrOk := hctr }
  have c := run_clean ops (R.init sent cmax) [] c0
  obtain ⟨_, hnofail, hblock⟩ := clean_read r [] n c
  refine ⟨c.noErr, hnofail, fun hb => ?_⟩
  obtain ⟨hbuf, hall⟩ := hblock hb rfl
  obtain ⟨h1, h2⟩ := run_init_delivered sent cmax ops
  change _ ++ r.buf = (sent.take r.ctr).flatten at h1
  rw [hbuf, List.append_nil, List.take_of_length_le (h2 ▸ hall)] at h1
  exact h1

/-- conn.Write cuts the plaintext into payloads of at most payloadLengthLimit bytes whose
    concatenation is the plaintext (these are the `sent` of `tamper_detected` and
    `roundtrip_any_segmentation`). -/
theorem write_chunks (neg : Nat) (b : List UInt8) :
    (chunks (payloadLimit neg) b.length b).flatten = b ∧
    ∀ c ∈ chunks (payloadLimit neg) b.length b, c.length ≤ payloadLimit neg ∧ c ≠ [] :=
  chunks_spec (payloadLimit neg) (by rw [payloadLimit_eq]; omega) b.length b (Nat.le_refl _)

/-- Every record on the wire respects the frame size limit max(4 KiB, negotiated). -/
theorem record_le_frame_limit (neg k : Nat) (p : List UInt8) (h : p.length ≤ payloadLimit neg) :
    (recordCells k p).length ≤ max 4096 neg := by
  rw [recordCells_length]
  rw [payloadLimit_eq] at h
  omega

/-- For every negotiated size up to 1 MiB such a payload meets `hsmall` of `roundtrip_any_segmentation`,
    the bound under which the receiver's length check lets the record through. -/
theorem record_accepted_by_length_check (neg : Nat) (hn : neg ≤ 1048576) (p : List UInt8)
    (h : p.length ≤ payloadLimit neg) : p.length + 20 ≤ 1048576 := by
  rw [payloadLimit_eq] at h
  omega

/-- The record counter (12 bytes, little-endian, the first `n` = overflowLen bytes carry): Inc adds
    one to the n-byte value, leaves the other bytes alone, and turns invalid exactly when the value
    would wrap. -/
theorem counter_inc (bs : List Nat) (n : Nat) (hb : ∀ b ∈ bs, b < 256) (hn : n ≤ bs.length) :
    ((incBytes bs n).2 = false → leVal (incBytes bs n).1 n = leVal bs n + 1) ∧
    ((incBytes bs n).2 = true ↔ leVal bs n + 1 = 256 ^ n) ∧
    (incBytes bs n).1.drop n = bs.drop n := by
  rcases incBytes_val bs n hb hn with ⟨hc, h1, h2⟩ | ⟨hc, h1, h2⟩
  · exact ⟨fun _ => h1, by simp [hc]; omega, incBytes_drop bs n⟩
  · exact ⟨by simp [hc], by simp [hc, h2], incBytes_drop bs n⟩

/-- the receiver refuses every record once its counter is exhausted -/
theorem seal_fails_after_wrap (r : R) (msg : List Cell) (h : r.ctrMax ≤ r.ctr) (p : List UInt8) :
    openFrame r msg ≠ .ok p := by
  intro ho
  have := (openFrame_ok r msg p ho).2
  omega

-- two records, fed in three odd pieces, read with small buffers
example :
    let sent : List (List UInt8) := [[1, 2, 3], [4, 5]]
    let w := cellsFrom 0 sent
    (run (R.init sent 10) [.feed (w.take 5), .read 2, .feed ((w.drop 5).take 30), .read 2, .read 2,
      .feed (w.drop 35), .read 2, .read 2]).2 = [1, 2, 3, 4, 5] := by decide
-- a flipped ciphertext byte: the first record still comes out, the second Read fails
example :
    let sent : List (List UInt8) := [[1, 2, 3], [4, 5]]
    let w := cellsFrom 0 sent
    (run (R.init sent 10) [.feed ((w.take 40).set 36 (.junk 7)), .feed (w.drop 40), .read 8, .read 8]).2
      = [1, 2, 3] := by decide
example : (incBytes [255, 255, 7, 0] 2) = ([0, 0, 7, 0], true) := by decide
example : (incBytes [255, 3, 7, 0] 2) = ([0, 4, 7, 0], false) := by decide

end GrpcProofs.C52
