/-
C24  Every RPC error is a status with a legal code.
`toRPCErr_cases` is what the `toRPCErr` theorems are read off; `status_kept` and `a54_carries` serve the filters.
-/
import GrpcModel.Model.Errors
namespace GrpcProofs.C24
open GrpcModel.Errors GrpcModel.Generated

/-- What `toRPCErr` does, for every error value, however deeply NewStreamError / ConnectionError / %w wrappers are
    nested: nil and io.EOF (looked at through NewStreamError only) stay; everything else becomes an error that carries
    a status and that a second conversion leaves alone. -/
theorem toRPCErr_cases (e : GoErr) :
    (stripNSE e = .nil ∧ toRPCErr e = .nil) ∨ (stripNSE e = .eof ∧ toRPCErr e = .eof) ∨
    (stripNSE e ≠ .nil ∧ stripNSE e ≠ .eof ∧ carriesStatus (toRPCErr e) = true ∧ toRPCErr (toRPCErr e) = toRPCErr e) := by
  induction e with
  | newStreamErr e ih => exact ih
  | wrapped e _ =>
    refine .inr (.inr ⟨nofun, nofun, ?_⟩)
    simp only [toRPCErr]
    split
    · rename_i h; exact ⟨h, by simp only [toRPCErr, h, if_true]⟩
    · exact ⟨rfl, rfl⟩
  | nil => exact .inl ⟨rfl, rfl⟩
  | eof => exact .inr (.inl ⟨rfl, rfl⟩)
  | _ => exact .inr (.inr ⟨nofun, nofun, rfl, rfl⟩)

/-- `toRPCErr` always yields nil, io.EOF, or an error that carries a gRPC status — for every error
    value, however deeply NewStreamError / ConnectionError / %w wrappers are nested. -/
theorem toRPCErr_is_status_or_nil_or_eof (e : GoErr) :
    toRPCErr e = .nil ∨ toRPCErr e = .eof ∨ carriesStatus (toRPCErr e) = true := by
  rcases toRPCErr_cases e with h | h | ⟨_, _, hc, _⟩
  · exact .inl h.2
  · exact .inr (.inl h.2)
  · exact .inr (.inr hc)

/-- nil comes out only for nil (possibly inside NewStreamError wrappers). -/
theorem toRPCErr_nil_iff (e : GoErr) : toRPCErr e = .nil ↔ stripNSE e = .nil := by
  rcases toRPCErr_cases e with h | h | ⟨hn, _, hc, _⟩
  · simp [h]
  · simp [h]
  · exact ⟨fun a => (by rw [a] at hc; cases hc), fun a => absurd a hn⟩

/-- io.EOF comes out only for io.EOF itself (compared by identity; a wrapped EOF becomes UNKNOWN). -/
theorem toRPCErr_eof_iff (e : GoErr) : toRPCErr e = .eof ↔ stripNSE e = .eof := by
  rcases toRPCErr_cases e with h | h | ⟨_, he, hc, _⟩
  · simp [h]
  · simp [h]
  · exact ⟨fun a => (by rw [a] at hc; cases hc), fun a => absurd a he⟩

/-- Converting twice changes nothing (errors are converted at several layers). -/
theorem toRPCErr_idempotent (e : GoErr) : toRPCErr (toRPCErr e) = toRPCErr e := by
  rcases toRPCErr_cases e with h | h | ⟨_, _, _, hi⟩
  · rw [h.2]; rfl
  · rw [h.2]; rfl
  · exact hi

/-- The restricted set is exactly INVALID_ARGUMENT(3), NOT_FOUND(5), ALREADY_EXISTS(6),
    FAILED_PRECONDITION(9), ABORTED(10), OUT_OF_RANGE(11), DATA_LOSS(15) — for every code value. -/
theorem restricted_table (c : Nat) : restricted c = true ↔ c ∈ [3, 5, 6, 9, 10, 11, 15] := by
  simp only [restricted, codeInvalidArgument, codeNotFound, codeAlreadyExists, codeFailedPrecondition, codeAborted,
    codeOutOfRange, codeDataLoss, Bool.or_eq_true, beq_iff_eq, List.mem_cons, List.not_mem_nil, or_false]
  omega

/-- T4 pin: the source of `IsRestrictedControlPlaneCode` is the text the table above was read from. -/
theorem restricted_source_pinned : errRestrictedSrc =
    "func IsRestrictedControlPlaneCode(s *Status) bool { switch s.Code() { case codes.InvalidArgument, codes.NotFound, codes.AlreadyExists, codes.FailedPrecondition, codes.Aborted, codes.OutOfRange, codes.DataLoss: return true } return false }" := rfl

/-- A status error with a restricted code coming from a picker, a config selector or per-RPC
    credentials (either site) is surfaced as INTERNAL(13); this holds for every error value that
    carries such a status (wrapped ones included) and both failfast settings. -/
theorem restricted_becomes_internal (e : GoErr) (c : Nat) (ff : Bool) (site : CredsSite)
    (hs : fromError e = some c) (hc : c ∈ [3, 5, 6, 9, 10, 11, 15]) :
    pickErr e ff = .fail (.status 13) ∧ configSelectorErr e = .status 13 ∧ credsErr site e = .status 13 := by
  have hr : restricted c = true := (restricted_table c).mpr hc
  have hn : e ≠ .noSubConn := by intro h; subst h; simp [fromError, findStatus] at hs
  have ha : a54 e = some (.status 13) := by simp [a54, hs, hr, codeInternal]
  refine ⟨?_, ?_, ?_⟩
  · simp [pickErr, hn, ha]
  · simp [configSelectorErr, ha]
  · simp [credsErr, ha, toRPCErr]

/-- An error that carries a status still carries one after `toRPCErr` (the code may change:
    a ConnectionError wrapping a status becomes UNAVAILABLE). -/
theorem status_kept (e : GoErr) (c : Nat) (h : fromError e = some c) : carriesStatus (toRPCErr e) = true := by
  cases e with
  | status c' => rfl
  | connErr inner => rfl
  | wrapped e' =>
    have hc : carriesStatus (.wrapped e') = true := by simp [carriesStatus, h]
    simp [toRPCErr, hc]
  | _ => simp [fromError, findStatus] at h

/-- What the shared A54 filter hands on carries a status: the error itself, or INTERNAL in its place. -/
theorem a54_carries {e r : GoErr} (h : a54 e = some r) : carriesStatus r = true := by
  unfold a54 at h
  cases hf : fromError e with
  | none => rw [hf] at h; cases h
  | some c =>
    rw [hf] at h
    cases h
    split
    · rfl
    · simp [carriesStatus, hf]

/-- Per-RPC credential errors always reach the application as a status (both sites). -/
theorem creds_error_is_status (site : CredsSite) (e : GoErr) : carriesStatus (credsErr site e) = true := by
  unfold credsErr
  cases ha : a54 e with
  | none => cases site <;> rfl
  | some r =>
    obtain ⟨c, hc⟩ := Option.isSome_iff_exists.mp (a54_carries ha)
    exact status_kept r c hc

/-- Every error the three filters hand on carries a status: a status error with another code keeps a
    status, and a non-status error becomes UNAVAILABLE (picker, failfast), UNAUTHENTICATED (transport
    credentials) or INTERNAL (call credentials). -/
theorem filters_yield_status (e : GoErr) (ff : Bool) (site : CredsSite) :
    (∀ r, pickErr e ff = .fail r → carriesStatus r = true) ∧ carriesStatus (credsErr site e) = true := by
  refine ⟨fun r h => ?_, creds_error_is_status site e⟩
  unfold pickErr at h
  split at h
  · cases h
  · cases ha : a54 e with
    | some r' => rw [ha] at h; cases h; exact a54_carries ha
    | none => rw [ha] at h; cases ff <;> simp at h; subst h; rfl

/-- What `pick` does with a picker error: wait for another picker exactly for ErrNoSubConnAvailable
    and for non-status errors of wait-for-ready RPCs; a non-status error of a failfast RPC is UNAVAILABLE(14). -/
theorem picker_error_outcome (e : GoErr) (ff : Bool) :
    (pickErr e ff = .again ↔ e = .noSubConn ∨ (fromError e = none ∧ ff = false)) ∧
    (e ≠ .noSubConn → fromError e = none → ff = true → pickErr e ff = .fail (.status 14)) := by
  constructor
  · unfold pickErr a54
    by_cases hn : e = .noSubConn
    · simp [hn]
    · cases hf : fromError e <;> cases ff <;> simp [hn]
  · intro hn hf hff
    simp [pickErr, a54, hn, hf, hff, codeUnavailable]

/-- Every error a config selector returns surfaces from Invoke/NewStream as a status — io.EOF
    included (finding F24: before /repo commit 2bdf416 it leaked unchanged). The hypothesis
    excludes only a `*NewStreamError` whose `Err` is nil, which `toRPCErr` maps to nil. -/
theorem config_selector_error_is_status (e : GoErr) (h1 : stripNSE e ≠ .nil) :
    carriesStatus (configSelectorErr e) = true := by
  unfold configSelectorErr
  cases ha : a54 e with
  | some r => exact a54_carries ha
  | none =>
    simp only
    split
    · rfl
    · rename_i hne
      rcases toRPCErr_cases e with h | h | ⟨_, _, hc, _⟩
      · exact absurd h.1 h1
      · exact absurd h.2 hne
      · exact hc

/-- F31: when the attempt limit is hit on the SendMsg path, `shouldRetry` wraps the attempt's io.EOF in a
    plain error: SendMsg then returns an error that is neither io.EOF nor a status — "every non-nil error
    returned by SendMsg (other than io.EOF) carries a status" is false of the code. -/
theorem retry_exhausted_sendmsg_counterexample :
    ¬ ∀ e : GoErr, retryExhausted e = .eof ∨ carriesStatus (retryExhausted e) = true := by
  intro h
  have := h .eof
  simp [retryExhausted, carriesStatus, fromError, findStatus] at this

/-- Partial (full statement refuted above): when the wrapped attempt error carries a status (the
    RecvMsg / finish path), the "max retries exhausted" error still carries that status (errors.As). -/
theorem retry_exhausted_keeps_status_partial (e : GoErr) (c : Nat) (h : fromError e = some c) :
    fromError (retryExhausted e) = some c := by
  simpa [retryExhausted, fromError, findStatus] using h

/-- When the deadline expires or the application cancels during the retry backoff sleep, the error
    `shouldRetry` returns — which RecvMsg / SendMsg / Invoke hand to the application unconverted — is a
    status: DEADLINE_EXCEEDED(4) resp. CANCELED(1). -/
theorem retry_backoff_ctx_done_is_status :
    retryBackoffCtxDone .ctxDeadline = .status 4 ∧ retryBackoffCtxDone .ctxCanceled = .status 1 ∧
    (∀ e, e ≠ .nil → carriesStatus (retryBackoffCtxDone e) = true) := by
  refine ⟨rfl, rfl, ?_⟩
  intro e he
  -- `retryBackoffCtxDone` answers by the constructor: nil is excluded, every other one gives a literal status
  cases e <;> first | exact absurd rfl he | rfl

example : toRPCErr (.newStreamErr (.newStreamErr .ctxCanceled)) = .status 1 := by decide
example : toRPCErr (.wrapped (.status 5)) = .wrapped (.status 5) := by decide
example : toRPCErr (.wrapped .ctxCanceled) = .status 2 := by decide
example : pickErr (.wrapped (.status 5)) false = .fail (.status 13) := by decide
example : pickErr (.status 7) true = .fail (.status 7) := by decide
example : credsErr .transportCreds .other = .status 16 := by decide
example : credsErr .callCreds (.connErr (.status 7)) = .status 14 := by decide
example : configSelectorErr (.newStreamErr .eof) = .status 2 := by decide
example : configSelectorErr (.wrapped (.status 9)) = .status 13 := by decide

end GrpcProofs.C24
