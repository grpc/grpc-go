/-
C17  Blocked writers and stream waiters are always woken.

"A sender blocked because its stream exceeded the write quota is released once the writer has sent
enough of its data or the stream ends, and its quota returns to the initial value after all its data
has been written. A NewStream call waiting for stream quota is woken whenever quota becomes
available, so it never waits while quota is free."

Models: GrpcModel/Model/WriteQuota.lean (lock-free writeQuota: every atomic op / channel op is a
step; one getter — the documented caller contract — and any number of replenishers) and
GrpcModel/Model/QuotaWait.lean (stream-quota waiters: the critical sections under controlBuf.mu and
each waiter's select are the steps).
All theorems are for arbitrary op lists = every interleaving.
-/
import GrpcProofs.Lemmas.WriteQuota
import GrpcProofs.Lemmas.QuotaWait
namespace GrpcProofs.C17

section writequota
open GrpcModel.WriteQuota

private theorem reach (q : Nat) (ops : List Op) : Lemmas.WriteQuota.Inv (run (init q) ops).1 :=
  Lemmas.WriteQuota.run_inv ops _ (Lemmas.WriteQuota.inv_init q)

/-- No lost wake-up (single getter, any number of replenishers, any interleaving of the individual
    atomic operations): whenever the getter sits in its select while the quota is positive, either
    the token is in the one-slot channel or a replenisher that made the quota cross from ≤ 0 to > 0
    is still about to send it. -/
theorem writequota_no_lost_wakeup (q : Nat) (ops : List Op) (sz : Nat)
    (hw : (run (init q) ops).1.gpc = .wait sz) (hq : (run (init q) ops).1.quota > 0) :
    (run (init q) ops).1.token = true ∨ (run (init q) ops).1.pend > 0 :=
  (reach q ops).waitSig sz hw hq

/-- Hence a sender that is really stuck (in the select, nothing ready, no send in flight) is stuck
    only while the quota is exhausted and the stream is not done. -/
theorem writequota_blocked_only_if_exhausted (q : Nat) (ops : List Op)
    (hs : stuck (run (init q) ops).1 = true) :
    (run (init q) ops).1.quota ≤ 0 ∧ (run (init q) ops).1.done = false :=
  Lemmas.WriteQuota.stuck_exhausted _ (reach q ops) hs

/-- Released once enough has been written: with positive quota and no send in flight, the waiting
    getter's next three atomic steps are: take the token, see quota > 0, subtract — `get` returns nil. -/
theorem writequota_released_when_replenished (q : Nat) (ops : List Op) (sz : Nat)
    (hw : (run (init q) ops).1.gpc = .wait sz) (hq : (run (init q) ops).1.quota > 0)
    (hp : (run (init q) ops).1.pend = 0) :
    (run (run (init q) ops).1 [.gstep, .gstep, .gstep]).2.map (·.2) = [.none, .none, .granted sz] := by
  have ht : (run (init q) ops).1.token = true := by simpa [hp] using writequota_no_lost_wakeup q ops sz hw hq
  generalize (run (init q) ops).1 = s at *
  simp [run, step, hw, ht, hq]

/-- Released when the stream ends: with `done` closed the waiting getter's select has a ready case
    and `get` returns errStreamDone. -/
theorem writequota_released_on_done (q : Nat) (ops : List Op) (sz : Nat)
    (hw : (run (init q) ops).1.gpc = .wait sz) (hd : (run (init q) ops).1.done = true) :
    (step (run (init q) ops).1 .gdone).2 = .failed ∧ (step (run (init q) ops).1 .gstep).2 ≠ .blocked := by
  generalize (run (init q) ops).1 = s at *
  cases ht : s.token <;> simp [step, hw, hd, ht]

/-- Ledger, every interleaving: quota = initial − granted + replenished; so once everything granted
    has been replenished (all data written) the quota is back at its initial value. -/
theorem writequota_quota_restored (q : Nat) (ops : List Op) :
    (run (init q) ops).1.quota = q - grantedSum (run (init q) ops).2 + replSum (run (init q) ops).2 ∧
    (grantedSum (run (init q) ops).2 = replSum (run (init q) ops).2 → (run (init q) ops).1.quota = q) := by
  have h := Lemmas.WriteQuota.run_ledger ops (init q)
  simp only [init] at h ⊢
  exact ⟨h, fun he => by omega⟩

/-- Quota is only ever granted while it is positive. -/
theorem writequota_granted_only_if_positive (q : Nat) (ops : List Op) (sz : Nat)
    (h : (step (run (init q) ops).1 .gstep).2 = .granted sz) : (run (init q) ops).1.quota > 0 := by
  -- this is the monitor's check 1 read on the model: a monitor that agrees with the stream never reports it
  have hv := (Lemmas.WriteQuota.step_mc _ _ .gstep (reach q ops) rfl).2 1
  rw [h] at hv
  exact Decidable.byContradiction fun hq => hv (by simp [Mon.step, hq])

/-- The executable monitor run on the implementation never fires on the model. -/
theorem writequota_monitor_ok (q : Nat) (ops : List Op) :
    ∀ v ∈ verdicts (init q) (Mon.init q) ops, ∀ c, v ≠ .viol c :=
  Lemmas.WriteQuota.verdicts_ok ops _ _ (Lemmas.WriteQuota.inv_init q) (Lemmas.WriteQuota.mc_init q)

/-- The single-getter hypothesis is needed: in the two-getter extension `step2` of the same state
    machine the no-lost-wake-up statement is FALSE. Quota 1; getter 0 is granted 5 (quota −4); both
    getters then see quota ≤ 0 and park; one replenish of 10 crosses and sends ONE token; getter 0
    takes it and is granted; getter 1 stays parked with quota 5 > 0, no token, nothing in flight. -/
theorem writequota_two_getters_counterexample :
    ¬ ∀ (ops : List Op2) (sz : Nat),
        (run2 ⟨init 1, .idle⟩ ops).gpc1 = .wait sz → (run2 ⟨init 1, .idle⟩ ops).base.quota > 0 →
        (run2 ⟨init 1, .idle⟩ ops).base.token = true ∨ (run2 ⟨init 1, .idle⟩ ops).base.pend > 0 := by
  intro h
  have := h [.g0 (.get 5), .g0 .gstep, .g0 .gstep, .g0 (.get 1), .g0 .gstep, .get1 1, .gstep1,
             .g0 (.repl 10), .g0 .sig, .g0 .gstep, .g0 .gstep, .g0 .gstep] 1 (by decide) (by decide)
  revert this
  decide

end writequota

section quotawait
open GrpcModel.QuotaWait

private theorem reachQ (n : Nat) (ops : List Op) : Lemmas.QuotaWait.Inv (run (init n) ops).1 :=
  Lemmas.QuotaWait.run_inv ops _ (Lemmas.QuotaWait.inv_init n)

/-- Woken whenever quota becomes available (every interleaving of NewStream attempts, waiters'
    selects, give-ups, stream closes and SETTINGS changes): if quota is free and some waiter is
    parked on the current channel, then the token is in that channel or an already-woken waiter is
    about to retry (and will pass the baton on). Waiters parked on an older channel are always
    runnable (that channel was closed). -/
theorem streamquota_no_lost_wakeup (n : Nat) (ops : List Op)
    (hq : (run (init n) ops).1.quota > 0)
    (hp : ∃ p ∈ (run (init n) ops).1.waiters, p.2 = .parked (run (init n) ops).1.gen) :
    (run (init n) ops).1.token = true ∨ ∃ p ∈ (run (init n) ops).1.waiters, p.2 = .retry :=
  (reachQ n ops).inFlight hq hp

/-- It never waits while quota is free: in any reachable state in which someone waits and no
    waiter can take a step, the stream quota is ≤ 0. -/
theorem streamquota_never_waits_while_quota_free (n : Nat) (ops : List Op)
    (hs : stuck (run (init n) ops).1 = true) : (run (init n) ops).1.quota ≤ 0 :=
  Lemmas.QuotaWait.stuck_no_quota _ (reachQ n ops) hs

/-- `waitingStreams` never under-counts the NewStream calls that are waiting (it may over-count
    after a waiter gave up — the code does not decrement there), so the baton/broadcast conditions
    `waitingStreams > 0` are true whenever someone waits; and every remembered channel is the
    current one or a closed older one. -/
theorem streamquota_waiting_counts (n : Nat) (ops : List Op) :
    (run (init n) ops).1.waiters.length ≤ (run (init n) ops).1.waiting ∧
    ∀ p ∈ (run (init n) ops).1.waiters, ∀ g, p.2 = .parked g → g ≤ (run (init n) ops).1.gen :=
  ⟨(reachQ n ops).cnt, (reachQ n ops).old⟩

/-- A SETTINGS increase while someone waits wakes every parked waiter (broadcast by close). -/
theorem streamquota_settings_broadcast (n : Nat) (ops : List Op) (d : Int) (hd : d > 0)
    (hw : (run (init n) ops).1.waiting > 0) (w : Nat) (g : Nat)
    (hl : (run (init n) ops).1.waiters.lookup w = some (.parked g)) :
    (step (step (run (init n) ops).1 (.settings d)).1 (.wake w)).2 = .woken := by
  have hi := reachQ n ops
  generalize (run (init n) ops).1 = s at *
  have hold := hi.old (w, .parked g) (Lemmas.Basic.lookup_mem hl) g rfl
  have hne : g ≠ s.gen + 1 := by omega
  simp [step, hd, hw, hl, hne]

/-- The executable monitor run on the implementation never fires on the model. -/
theorem streamquota_monitor_ok (n : Nat) (ops : List Op) :
    ∀ v ∈ verdicts (init n) (Mon.init n) ops, ∀ c, v ≠ .viol c :=
  Lemmas.QuotaWait.verdicts_ok ops _ _ (Lemmas.QuotaWait.inv_init n) (Lemmas.QuotaWait.mc_init n)

end quotawait

section examples
open GrpcModel.WriteQuota in
-- quota 4: get 10 granted (quota −6); get 3 parks; repl 4 (no crossing); repl 5 crosses → pending send;
-- the getter is not stuck; after sig it takes the token and is granted
example : ((run (init 4) [.get 10, .gstep, .gstep, .get 3, .gstep, .gstep, .repl 4, .repl 5, .gstep, .sig,
      .gstep, .gstep, .gstep]).2.map (·.2))
    = [.none, .none, .granted 10, .none, .parked, .blocked, .none, .none, .blocked, .none, .none, .none, .granted 3] := by
  decide
open GrpcModel.WriteQuota in
example : (Mon.quiescent ⟨3, false⟩ true) = .viol 3 := by decide
open GrpcModel.QuotaWait in
-- max 1: second and third NewStream park; a close passes one token: waiter 3 takes it and succeeds;
-- waiter 2 finds no token and keeps waiting with quota 0; a SETTINGS +1 broadcast wakes it
example : ((run (init 1) [.newStream 1, .newStream 2, .newStream 3, .closeStream, .wake 3, .retry 3, .wake 2,
      .settings 1, .wake 2, .retry 2]).2.map (·.2))
    = [.created, .parked, .parked, .none, .woken, .created, .blocked, .none, .woken, .created] := by decide
open GrpcModel.QuotaWait in
example : (Mon.quiescent ⟨1⟩ true) = .viol 2 := by decide
end examples

end GrpcProofs.C17
