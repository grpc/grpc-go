/-
C32  RPCs are only sent on READY subchannels via the latest picker.

Model: GrpcModel/Model/PickerWrapper.lean (`pick`, `updatePicker`, `reset`, `close` of
picker_wrapper.go and `addrConn.getReadyTransport`; program points of the pick loop; any number of
concurrent picks).  Invariant: GrpcProofs/Lemmas/PickerWrapper.lean.

`run acts` is the (state, trace) after ANY finite sequence of actions — picker updates, idle
resets, close, SubConn state changes, context expiry, Pick results and single steps of any pick
goroutine, in any order: every interleaving is such a sequence.  Trace events are stamped by
`step`: `started tid c` / `blocked tid c` carry the generation c that is current at that moment
(`stamps_are_current`), `pickCalled tid g p` the generation g and picker p on which Pick is called.
-/
import GrpcProofs.Lemmas.PickerWrapper
namespace GrpcProofs.C32
open GrpcModel.PickerWrapper GrpcProofs.Lemmas.PickerWrapper GrpcModel.Generated

/-- The stamps on `started` / `blocked` events are the generation current at that moment, and a
    pick blocks only on the current generation of a wrapper that is not closed. -/
theorem stamps_are_current (s : Sys) (a : Act) (tid c : Nat) :
    ((step s a).2 = some (Obs.started tid c) → c = s.sh.cur) ∧
    ((step s a).2 = some (Obs.blocked tid c) → c = s.sh.cur ∧ s.sh.closed = false) := by
  exact ⟨fun h => step_emits h, fun h => step_emits h⟩

/-- **`Pick` is called on the latest picker.**  In every trace of every interleaving, a `Pick` call of pick
    `tid` is made on the generation g that is current at that moment (`s0` is the state at that moment, reached by
    the prefix), of a wrapper that is not closed, on the non-nil picker that was published as generation g; and
    it is in order with the earlier events of that pick (`Before`): it started on a generation ≤ g, and every
    generation it blocked on or called `Pick` on before is < g. -/
theorem pick_called_on_current_picker {s : Sys} {log l1 l2 : List Obs} {tid g p : Nat} (hr : Reach s log)
    (h : log = l1 ++ Obs.pickCalled tid g p :: l2) :
    ∃ s0, Reach s0 l1 ∧ g = s0.sh.cur ∧ s0.sh.closed = false ∧ Obs.published g (some p) ∈ l1 ∧ Before l1 tid g := by
  obtain ⟨s0, a, hr0, hinv, rfl, hc, hp, t, ht, hne⟩ := reach_emitted hr h
  refine ⟨s0, hr0, rfl, hc, hinv.pub _ _ (Nat.pos_of_ne_zero fun h0 => ?_) hp, before_cur hinv ht hne⟩
  -- generation 0 has no picker
  have := hinv.head0
  rw [List.head?_eq_getElem?, ← h0, hp] at this
  cases this

/-- **A pick never uses a picker older than the one that was current when the pick started or last
    blocked.**  In every trace of every interleaving: when pick `tid` calls `Pick` on generation g,
    every earlier `started`/`blocked` event of that pick (hence in particular the latest one) is
    stamped with a generation c ≤ g. -/
theorem picker_used_ge_gen_at_start_or_last_block (acts : List Act) (l1 l2 : List Obs) (tid g p : Nat)
    (h : (run acts).2 = l1 ++ Obs.pickCalled tid g p :: l2) :
    (∀ c, Obs.started tid c ∈ l1 → c ≤ g) ∧ (∀ c, Obs.blocked tid c ∈ l1 → c ≤ g) := by
  obtain ⟨_, _, _, _, _, hb⟩ := pick_called_on_current_picker (run_reach acts) h
  exact ⟨hb.started, fun c hc => Nat.le_of_lt (hb.blocked c hc)⟩

/-- The picker on which Pick is called is exactly the (non-nil) picker that was published as
    generation g, and that publication precedes the call in the trace. -/
theorem picker_used_is_published_picker (acts : List Act) (l1 l2 : List Obs) (tid g p : Nat)
    (h : (run acts).2 = l1 ++ Obs.pickCalled tid g p :: l2) :
    Obs.published g (some p) ∈ l1 := by
  obtain ⟨_, _, _, _, hp, _⟩ := pick_called_on_current_picker (run_reach acts) h
  exact hp

/-- **Picks that had to wait only continue on a newer picker**: a Pick call uses a generation
    strictly newer than every generation this pick blocked on, and strictly newer than every
    generation it already called Pick on (it never re-picks on the same or an older picker). -/
theorem repick_only_on_newer_picker (acts : List Act) (l1 l2 : List Obs) (tid g p : Nat)
    (h : (run acts).2 = l1 ++ Obs.pickCalled tid g p :: l2) :
    (∀ c, Obs.blocked tid c ∈ l1 → c < g) ∧ (∀ c p', Obs.pickCalled tid c p' ∈ l1 → c < g) := by
  obtain ⟨_, _, _, _, _, hb⟩ := pick_called_on_current_picker (run_reach acts) h
  exact ⟨hb.blocked, hb.called⟩

/-- **A transport is returned only for a SubConn that is READY when the pick returns** (at the
    `getReadyTransport` linearisation point, the last shared access before `return`): in ANY state,
    a step that makes pick `tid` return transport `tr` of SubConn `sc` is a step of that pick from
    program point `check sc` (i.e. `sc` is what the picker returned), and in that very state
    `ac.state == READY` and `ac.transport == tr`. -/
theorem returns_transport_only_if_ready_at_return (s : Sys) (a : Act) (tid sc tr : Nat) (b : Bool)
    (h : (step s a).2 = some (Obs.returned tid (Outcome.transport sc tr b))) :
    (s.sh.sc sc).state = ConnState.ready ∧ (s.sh.sc sc).transport = some tr ∧
    ∃ t hd, s.thr tid = some t ∧ t.pc = Pc.check sc hd ∧ b = t.pickBlocked := by
  obtain ⟨t, ht, hst, htr, hd, hpc, hb⟩ := step_emits h
  exact ⟨hst, htr, t, hd, ht, hpc, hb⟩

/-- The trace form: in every interleaving, at the moment a pick returns a transport the picked
    SubConn is READY with that transport (s0 is the state at that moment, reached by the prefix). -/
theorem returned_transport_was_ready (acts : List Act) (l1 l2 : List Obs) (tid sc tr : Nat) (b : Bool)
    (h : (run acts).2 = l1 ++ Obs.returned tid (Outcome.transport sc tr b) :: l2) :
    ∃ s0, Reach s0 l1 ∧ (s0.sh.sc sc).state = ConnState.ready ∧ (s0.sh.sc sc).transport = some tr := by
  obtain ⟨s0, _, hr, _, _, _, hst, htr, _⟩ := reach_emitted (run_reach acts) h
  exact ⟨s0, hr, hst, htr⟩

/-- the gRFC A54 codes, as literals -/
def a54 : List Nat := [3, 5, 6, 9, 10, 11, 15]

/-- The model's restricted-code set and status codes (regenerated from codes/codes.go on every run)
    are the literals of gRFC A54 / the statement. -/
theorem restricted_codes_are_a54 :
    restrictedCodes = a54 ∧ pwCodeInternal = 13 ∧ pwCodeUnavailable = 14 ∧ pwCodeCanceled = 1 ∧
    pwCodeDeadlineExceeded = 4 := by decide

theorem isRestricted_eq (c : Nat) : isRestricted c = decide (c ∈ a54) := by
  simp [isRestricted, restricted_codes_are_a54.1]

theorem drop_eq (c : Nat) : (if isRestricted c then Outcome.drop pwCodeInternal true else Outcome.drop c false) =
    Outcome.drop (if c ∈ a54 then 13 else c) (decide (c ∈ a54)) := by
  by_cases hc : c ∈ a54 <;> simp [isRestricted_eq, hc, pwCodeInternal]

/-- **Picks block rather than fail**: the ONLY ways a pick returns an error are
    * `ErrClientConnClosing`, and then the wrapper is closed;
    * a context error, and then the pick was in the select with an expired context (code
      DEADLINE_EXCEEDED / CANCELLED according to the context);
    * a drop, and then the picker just returned a status error (code mapped through A54);
    * UNAVAILABLE, and then the picker just returned a non-status error for a fail-fast RPC.
    In particular ErrNoSubConnAvailable, a non-READY or foreign SubConn, and a non-status error
    on a wait-for-ready RPC never make the pick fail. -/
theorem blocks_rather_than_fails (s : Sys) (a : Act) (tid : Nat) (o : Outcome)
    (h : (step s a).2 = some (Obs.returned tid o)) :
    match o with
    | .transport _ _ _ => True
    | .closing => s.sh.closed = true
    | .ctxErr code lpe => ∃ t g, s.thr tid = some t ∧ t.pc = Pc.block g ∧ t.ctx ≠ CtxState.live ∧
        code = (if t.ctx = CtxState.deadlineExceeded then 4 else 1) ∧ lpe = t.lastPickErr
    | .drop code rw => ∃ c, a = Act.pickRet tid (PickResult.statusErr c) ∧
        code = (if c ∈ a54 then 13 else c) ∧ rw = decide (c ∈ a54)
    | .unavailable e => a = Act.pickRet tid (PickResult.otherErr e) ∧ ∃ t, s.thr tid = some t ∧ t.failfast = true := by
  obtain ⟨t, ht, hm⟩ := step_emits h
  cases o with
  | transport => trivial
  | closing => exact hm
  | ctxErr code lpe =>
    obtain ⟨g, hpc, hctx, hl, hc⟩ := hm
    exact ⟨t, g, ht, hpc, hctx, hc, hl⟩
  | drop code rw =>
    obtain ⟨c, ha, he⟩ := hm
    rw [drop_eq] at he
    cases he; exact ⟨c, ha, rfl, rfl⟩
  | unavailable e => exact ⟨hm.1, t, ht, hm.2⟩

/-- The results after which a pick must wait for a newer picker. -/
def BlockingResult (t : Thread) (r : PickResult) : Prop :=
  r = PickResult.noSubConn ∨ r = PickResult.foreignSubConn ∨ (∃ e, r = PickResult.otherErr e ∧ t.failfast = false)

/-- After a blocking result the loop goes round: `continue`, with at most `lastPickErr` written. -/
theorem pickReturn_blocking {tid : Nat} {t : Thread} {r : PickResult} (hb : BlockingResult t r) :
    ∃ lpe, pickReturn tid t r = ({ t with pc := Pc.load, lastPickErr := lpe }, none) := by
  rcases hb with rfl | rfl | ⟨e, rfl, hff⟩
  · exact ⟨t.lastPickErr, rfl⟩
  · exact ⟨t.lastPickErr, rfl⟩
  · exact ⟨some e, by simp [pickReturn, hff]⟩

/-- **…block until a newer picker is published**: after ErrNoSubConnAvailable, a foreign SubConn or
    a non-status error on a wait-for-ready RPC, returned by the picker of generation g, the pick does
    not return; it is back at the top of its loop still holding generation g's channel, and from
    there, as long as g is still the current generation (no newer picker) and the wrapper is not
    closed, its next step is to block on generation g, where it stays while its context is live.
    (With `repick_only_on_newer_picker`: the next Pick call, if any, is on a newer generation.) -/
theorem blocking_result_blocks_until_newer_picker {s : Sys} {log : List Obs} (hr : Reach s log)
    {tid g : Nat} {t : Thread} (ht : s.thr tid = some t) (hpc : t.pc = Pc.inPick g) (r : PickResult)
    (hb : BlockingResult t r) :
    (step s (Act.pickRet tid r)).2 = none ∧
    ∃ t1, (step s (Act.pickRet tid r)).1.thr tid = some t1 ∧ t1.pc = Pc.load ∧ t1.ch = some g ∧ t1.ctx = t.ctx ∧
      (∀ (sh : Shared) (b : Bool), sh.closed = false → sh.cur = g →
        tstep sh tid t1 b = some ({ t1 with pc := Pc.block g, ch := some g }, some (Obs.blocked tid g))) ∧
      (∀ (sh : Shared) (b : Bool), sh.closed = false → sh.cur = g → t1.ctx = CtxState.live →
        tstep sh tid { t1 with pc := Pc.block g, ch := some g } b = none) := by
  have hch := (reach_gen hr ht (.inr hpc)).1
  obtain ⟨lpe, hpr⟩ := pickReturn_blocking (tid := tid) hb
  rw [(Step.pickRet tid r t g ht hpc).eq, hpr]
  refine ⟨rfl, { t with pc := Pc.load, lastPickErr := lpe }, setThr_self .., rfl, hch, rfl, fun sh b hcl hcur => ?_,
    fun sh b hcl hcur hctx => ?_⟩
  · subst hcur
    exact TStep.eq (.block rfl hcl (.inr hch))
  · exact tstep_block_stuck b rfl (by simp [Shared.chClosed, hcl, hcur]) hctx

/-- **…or a non-ready subchannel**: when the picked SubConn is not READY at the ready check (or
    READY with a nil transport), the pick does not return; it calls `Done(DoneInfo{})` if one was
    given, and goes back to the top of the loop with `ch` unchanged (so, by the second half of
    `blocking_result_blocks_until_newer_picker`, it blocks until a newer picker is published). -/
theorem not_ready_subconn_blocks (s : Sys) (tid sc : Nat) (hd b : Bool) (t : Thread) (ht : s.thr tid = some t)
    (hpc : t.pc = Pc.check sc hd) (hnr : (s.sh.sc sc).state ≠ ConnState.ready ∨ (s.sh.sc sc).transport = none) :
    (∀ o, (step s (Act.step tid b)).2 ≠ some (Obs.returned tid o)) ∧
    ∃ t1, (step s (Act.step tid b)).1.thr tid = some t1 ∧ t1.pc = Pc.load ∧ t1.ch = t.ch ∧
      t1.dones = t.dones + (if hd then 1 else 0) := by
  have hr := getReadyTransport_eq_none.mpr hnr
  cases hd
  · rw [(Step.thread tid b t _ _ ht (.loop sc hpc hr)).eq]
    exact ⟨fun _ h => (by cases h), _, setThr_self .., rfl, rfl, rfl⟩
  · rw [(Step.thread tid b t _ _ ht (.done sc hpc hr)).eq]
    exact ⟨fun _ h => (by cases h), _, setThr_self .., rfl, rfl, rfl⟩

/-- **Fail-fast RPC + non-status picker error ⇒ UNAVAILABLE** with the error's text, at once. -/
theorem failfast_nonstatus_is_unavailable (s : Sys) (tid g e : Nat) (t : Thread) (ht : s.thr tid = some t)
    (hpc : t.pc = Pc.inPick g) (hff : t.failfast = true) :
    (step s (Act.pickRet tid (PickResult.otherErr e))).2 = some (Obs.returned tid (Outcome.unavailable e)) ∧
    (step s (Act.pickRet tid (PickResult.otherErr e))).1.thr tid = some { t with pc := Pc.done (Outcome.unavailable e) } := by
  simp [(Step.pickRet tid _ t g ht hpc).eq, pickReturn, hff, setThr_thr]

/-- **A status error from the picker ends the RPC unconditionally** (fail-fast or not) with that
    status, except that the gRFC A54 restricted codes are replaced by INTERNAL (13). -/
theorem status_error_ends_rpc (s : Sys) (tid g c : Nat) (t : Thread) (ht : s.thr tid = some t)
    (hpc : t.pc = Pc.inPick g) :
    (step s (Act.pickRet tid (PickResult.statusErr c))).2 =
      some (Obs.returned tid (Outcome.drop (if c ∈ a54 then 13 else c) (decide (c ∈ a54)))) := by
  rw [(Step.pickRet tid _ t g ht hpc).eq, ← drop_eq]; rfl

/-- **Every update wakes every blocked pick**: if pick `tid` sits in the select on generation g and
    the wrapper is open, then after `updatePicker(p)`, `reset()` or `close()` generation g's channel
    is closed and the pick's next step leaves the select (with a live context: back to the top of
    the loop; it then returns ErrClientConnClosing after close, calls Pick on the new generation
    after `updatePicker(non-nil)`, or blocks on the new generation after reset / nil picker). -/
theorem woken_by_every_update {s : Sys} {log : List Obs} (hr : Reach s log) {tid g : Nat} {t : Thread}
    (ht : s.thr tid = some t) (hpc : t.pc = Pc.block g) (hopen : s.sh.closed = false) (a : Act)
    (ha : (∃ p, a = Act.update p) ∨ a = Act.idle ∨ a = Act.close) (b : Bool) :
    (step s a).1.thr tid = some t ∧ (step s a).1.sh.chClosed g = true ∧
    (t.ctx = CtxState.live → tstep (step s a).1.sh tid t b = some ({ t with pc := Pc.load }, none)) ∧
    (∀ q, a = Act.update (some q) → tstep (step s a).1.sh tid { t with pc := Pc.load } b =
        some ({ t with pc := Pc.inPick (s.sh.cur + 1), pickBlocked := true, ch := some (s.sh.cur + 1), calls := t.calls + 1 },
              some (Obs.pickCalled tid (s.sh.cur + 1) q))) ∧
    ((a = Act.idle ∨ a = Act.update none) → tstep (step s a).1.sh tid { t with pc := Pc.load } b =
        some ({ t with pc := Pc.block (s.sh.cur + 1), ch := some (s.sh.cur + 1) }, some (Obs.blocked tid (s.sh.cur + 1)))) ∧
    (a = Act.close → tstep (step s a).1.sh tid { t with pc := Pc.load } b =
        some ({ t with pc := Pc.done Outcome.closing }, some (Obs.returned tid Outcome.closing))) := by
  obtain ⟨hch, hle⟩ := reach_gen hr ht (.inl hpc)
  have h0 := (reach_inv hr).head0
  rcases ha with ⟨p, rfl⟩ | rfl | rfl
  · rw [(Step.publish _ p hopen (.inl rfl)).eq]
    obtain ⟨h2, h4, h5⟩ := repick_after_publish (sh' := { s.sh with pickers := s.sh.pickers ++ [p] }) (tid := tid) h0 rfl hopen hch hle b
    exact ⟨ht, h2, fun hctx => TStep.eq (.wake g hpc h2 (.inl hctx)), fun q hq => h4 q (by simpa using hq),
      fun hq => h5 (by simpa using hq), by simp⟩
  · rw [(Step.publish _ none hopen (.inr ⟨rfl, rfl⟩)).eq]
    obtain ⟨h2, _, h5⟩ := repick_after_publish (sh' := { s.sh with pickers := s.sh.pickers ++ [none] }) (tid := tid) h0 rfl hopen hch hle b
    exact ⟨ht, h2, fun hctx => TStep.eq (.wake g hpc h2 (.inl hctx)), by simp, fun _ => h5 rfl, by simp⟩
  · rw [(Step.close hopen).eq]
    have h2 : ({ s.sh with closed := true } : Shared).chClosed g = true := by simp [Shared.chClosed]
    exact ⟨ht, h2, fun hctx => TStep.eq (.wake g hpc h2 (.inl hctx)), by simp, by simp, fun _ => TStep.eq (.closing rfl rfl)⟩

/-- **No lost wake-up, no spurious blocking**: in every reachable state, a pick sitting in the select
    on generation g is unable to move exactly when g is still the current generation, the wrapper
    is open and its context is live. As soon as a newer generation exists it can leave. -/
theorem blocked_only_without_newer_picker {s : Sys} {log : List Obs} (hr : Reach s log) {tid g : Nat} {t : Thread}
    (ht : s.thr tid = some t) (hpc : t.pc = Pc.block g) (b : Bool) :
    tstep s.sh tid t b = none ↔ (g = s.sh.cur ∧ s.sh.closed = false ∧ t.ctx = CtxState.live) := by
  -- `tstep_block_none_iff`: stuck iff generation g's channel is open; g exists, so "open" is "g is current"
  have hle := (reach_gen hr ht (.inl hpc)).2
  rw [tstep_block_none_iff b hpc]
  simp only [Shared.chClosed, Bool.or_eq_false_iff, decide_eq_false_iff_not]
  constructor
  · rintro ⟨⟨h1, h2⟩, h3⟩; exact ⟨by omega, h2, h3⟩
  · rintro ⟨h1, h2, h3⟩; exact ⟨⟨by omega, h2⟩, h3⟩

/-- **Every attempt of an RPC picks with the RPC's own fail-fast flag**: the pick started by
    `getTransport` for an RPC in call state `cs` gets `failfast = cs.callInfo.failFast`, whatever
    `numRetries` and `firstAttempt` are (first attempt, transparent retry, policy retry alike). -/
theorem attempt_pick_failfast_is_rpc_failfast (s : Sys) (tid : Nat) (cs : CallState) (hnew : s.thr tid = none) :
    (step s (attemptStart tid cs)).1.thr tid = some (newThread cs.failFast) ∧
    (step s (attemptStart tid cs)).2 = some (Obs.started tid s.sh.cur) := by
  rw [attemptStart, (Step.start tid _ hnew).eq]
  exact ⟨setThr_self .., rfl⟩

/-- A pick with `failfast = false` never returns UNAVAILABLE, from whatever state it is followed:
    `failfast` is never written (`step_failfast`) and UNAVAILABLE is returned only to a fail-fast pick
    (`blocks_rather_than_fails`). -/
theorem wait_for_ready_pick_never_unavailable {s : Sys} {tid : Nat} {t : Thread} (ht : s.thr tid = some t)
    (hf : t.failfast = false) (acts : List Act) (log0 : List Obs) (e : Nat)
    (h : Obs.returned tid (Outcome.unavailable e) ∈ (runFrom s log0 acts).2) :
    Obs.returned tid (Outcome.unavailable e) ∈ log0 := by
  refine (runFrom_induction (P := fun s1 log => (∃ t, s1.thr tid = some t ∧ t.failfast = false) ∧
    (Obs.returned tid (Outcome.unavailable e) ∈ log → Obs.returned tid (Outcome.unavailable e) ∈ log0))
    ?_ acts s log0 ⟨⟨t, ht, hf⟩, id⟩).2 h
  rintro s1 log a ⟨⟨t, ht, hf⟩, hl⟩
  obtain ⟨t', ht', hf'⟩ := step_failfast a ht
  refine ⟨⟨t', ht', hf'.trans hf⟩, fun hm => ?_⟩
  rcases mem_append_toList.mp hm with hm | hm
  · exact hl hm
  · obtain ⟨_, u, hu, hff⟩ := blocks_rather_than_fails s1 a tid _ hm
    cases ht.symm.trans hu
    cases hf.symm.trans hff

/-- **No attempt of a wait-for-ready RPC ever fails because the picker returned a non-status
    error**: after `getTransport` started the pick of an attempt of an RPC with
    `callInfo.failFast = false` — for ANY `numRetries` / `firstAttempt` — no continuation of the
    interleaving makes that pick return UNAVAILABLE. (By `blocks_rather_than_fails` its only error
    returns are closing, context expiry and a picker status error; otherwise it blocks until a
    newer picker: `blocking_result_blocks_until_newer_picker`.) -/
theorem wait_for_ready_attempt_never_fails_on_picker_error (s : Sys) (tid : Nat) (cs : CallState)
    (hnew : s.thr tid = none) (hwfr : cs.failFast = false) (acts : List Act) (log0 : List Obs) (e : Nat)
    (h : Obs.returned tid (Outcome.unavailable e) ∈ (runFrom (step s (attemptStart tid cs)).1 log0 acts).2) :
    Obs.returned tid (Outcome.unavailable e) ∈ log0 :=
  wait_for_ready_pick_never_unavailable (attempt_pick_failfast_is_rpc_failfast s tid cs hnew).1 hwfr acts log0 e h

/-- a retry attempt (numRetries = 1) of a wait-for-ready RPC whose picker returns a plain error
    blocks on that generation and re-picks on the next picker -/
example : (run [.update (some 1), attemptStart 1 { failFast := false, numRetries := 1, firstAttempt := false }, .step 1 false,
                .pickRet 1 (.otherErr 7), .step 1 false, .update (some 2), .step 1 false, .step 1 false]).2 =
    [.published 1 (some 1), .started 1 1, .pickCalled 1 1 1, .blocked 1 1, .published 2 (some 2), .pickCalled 1 2 2] := by
  decide

/-- pick 1 starts with no picker and blocks on generation 0; `updatePicker` publishes generation 1;
    the pick wakes up, calls Pick on generation 1, gets a READY SubConn and returns its transport
    with `blocked = true`. -/
example : (run [.start 1 false, .step 1 false, .update (some 7), .setSc 3 ⟨.ready, some 9⟩, .step 1 false, .step 1 false,
                .pickRet 1 (.subConn 3 true), .step 1 false]).2 =
    [.started 1 0, .blocked 1 0, .published 1 (some 7), .pickCalled 1 1 7, .returned 1 (.transport 3 9 true)] := by
  decide

/-- the stale-picker window: two updates arrive while pick 1 is inside Pick of generation 1; after
    ErrNoSubConnAvailable it re-picks on generation 3 directly (never on 1 or 2 again). A second,
    fail-fast pick gets UNAVAILABLE for a non-status error; a restricted status code becomes 13. -/
example : (run [.update (some 1), .start 1 false, .step 1 false, .update (some 2), .update (some 3),
                .pickRet 1 .noSubConn, .step 1 false, .start 2 true, .step 2 false, .pickRet 2 (.otherErr 5),
                .pickRet 1 (.statusErr 5)]).2 =
    [.published 1 (some 1), .started 1 1, .pickCalled 1 1 1, .published 2 (some 2), .published 3 (some 3),
     .pickCalled 1 3 3, .started 2 3, .pickCalled 2 3 3, .returned 2 (.unavailable 5), .returned 1 (.drop 13 true)] := by
  decide

/-- a SubConn that is not READY at the ready check: Done is called, the pick blocks on the same
    generation and is not woken by the SubConn becoming READY — only by the next picker. -/
example : (run [.update (some 1), .start 1 true, .step 1 false, .pickRet 1 (.subConn 2 true), .step 1 false, .step 1 false,
                .setSc 2 ⟨.ready, some 4⟩, .step 1 false, .update (some 2), .step 1 false, .step 1 false,
                .pickRet 1 (.subConn 2 true), .step 1 false]).2 =
    [.published 1 (some 1), .started 1 1, .pickCalled 1 1 1, .doneCalled 1 2, .blocked 1 1, .published 2 (some 2),
     .pickCalled 1 2 2, .returned 1 (.transport 2 4 true)] := by
  decide

end GrpcProofs.C32
