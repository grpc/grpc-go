/-
C53  Pooled buffers are released exactly once and never leak old data.

Vocabulary (GrpcModel/Model/MemBuffer.lean): `St.objs` = heap of `*buffer` structs (`refs` as in Go;
ghost `own` = references handed out to the client/Readers and not yet freed, ghost `kids` = live views,
ghost `puts` = how often `pool.Put(origData)` ran for a root); `Step` = one exported operation
(NewBuffer/Copy/Ref/Free/Slice/split/read/MaterializeToBuffer/Reader/Read/ReadByte/Discard/Close/ReadAll)
on arbitrary arguments or pure bookkeeping; `Reach` = any history from the empty heap. An operation
that frees a reference nobody was handed (`own = 0`) or that panics in Go is not a `Step`.
(GrpcModel/Model/MemPool.lean): `getOutcomes p n` = every result `Get(n)` may have (sync.Pool may
return any stored buffer or none), `put`; `PoolOK` (GrpcProofs/Lemmas/MemPool.lean) = sized sub-pools store
only buffers of at least their size, the fallback is a SimpleBufferPool.

NOT proved (tied only, by the byte comparison of every read on every run): that Reader.Read/ReadByte/
Peek/Discard return exactly the referenced bytes.
-/
import GrpcProofs.Lemmas.MemBuffer
import GrpcProofs.Lemmas.MemPool
namespace GrpcProofs.C53
open GrpcModel.MemBuffer
open GrpcProofs.Lemmas.MemBuffer

/-- `k` is a live view (slice/split) of root `r` -/
def LiveView (st : St) (r k : Nat) : Prop :=
  k ≠ r ∧ ∃ ko : Obj, st.objs[k]? = some ko ∧ ko.root = r ∧ 0 < ko.refs

/-- A buffer's counter = references handed out and not yet freed + its live views (slices, splits),
    and `kids` is exactly the set of live views, without repetition. -/
theorem root_refs_eq_live_handles (st : St) (hr : Reach st) (r : Nat) (ro : Obj)
    (h : st.objs[r]? = some ro) :
    ro.refs = ro.own + ro.kids.length ∧ ro.kids.Nodup ∧ (ro.root = r → ∀ k, k ∈ ro.kids ↔ LiveView st r k) := by
  have inv := inv_reach hr
  have ok := ok_of_inv inv h
  refine ⟨ok.bal, ok.nodup, fun _ k => ⟨ok.kids k, fun ⟨hne, ko, hko, hkr, hpos⟩ => ?_⟩⟩
  obtain ⟨r', hr', _, _, _, hmem⟩ := live_root inv hko hpos
  cases (hkr ▸ hr').symm.trans h
  exact hmem (hkr ▸ hne.symm)

/-- The pool got a root's memory back exactly once if the root is dead and not at all while it lives;
    and it is dead exactly when no reference to it is outstanding and no view of it is live. -/
theorem put_exactly_once_after_last_free (st : St) (hr : Reach st) (r : Nat) (ro : Obj)
    (h : st.objs[r]? = some ro) (hroot : ro.root = r) :
    ro.puts = (if ro.refs = 0 then 1 else 0) ∧
    (ro.refs = 0 ↔ (ro.own = 0 ∧ ∀ k, ¬ LiveView st r k)) := by
  obtain ⟨a2, _, hiff⟩ := root_refs_eq_live_handles st hr r ro h
  refine ⟨(ok_of_inv (inv_reach hr) h).puts hroot, fun h0 => ?_, fun ⟨hown, hnone⟩ => ?_⟩
  · have hk : ro.kids = [] := List.eq_nil_of_length_eq_zero (by omega)
    exact ⟨by omega, fun k hk' => nomatch hk ▸ (hiff hroot k).2 hk'⟩
  · have hk : ro.kids = [] := List.eq_nil_iff_forall_not_mem.2 fun x hx => hnone x ((hiff hroot x).1 hx)
    rw [a2, hown, hk]; rfl

/-- While ANY reference (to the root, a Ref copy, a slice, a split, a reader holding, a materialized
    buffer) is outstanding, the buffer and its root are live and the memory has not been returned. -/
theorem no_put_while_referenced (st : St) (hr : Reach st) (i : Nat) (o : Obj)
    (h : st.objs[i]? = some o) (hown : 0 < o.own) :
    0 < o.refs ∧ ∃ ro : Obj, st.objs[o.root]? = some ro ∧ ro.root = o.root ∧ 0 < ro.refs ∧ ro.puts = 0 := by
  have hlive : 0 < o.refs := by have := (ok_of_inv (inv_reach hr) h).bal; omega
  obtain ⟨ro, hR, rroot, rlive, rputs, _⟩ := live_root (inv_reach hr) h hlive
  exact ⟨hlive, ro, hR, rroot, rlive, rputs⟩

/-- Once every reference has been freed, every root is dead and its memory was Put exactly once. -/
theorem all_freed_all_returned (st : St) (hr : Reach st)
    (hall : ∀ (i : Nat) (o : Obj), st.objs[i]? = some o → o.own = 0) (r : Nat) (ro : Obj)
    (h : st.objs[r]? = some ro) (hroot : ro.root = r) : ro.refs = 0 ∧ ro.puts = 1 := by
  obtain ⟨hp, hiff⟩ := put_exactly_once_after_last_free st hr r ro h hroot
  have h0 : ro.refs = 0 := by
    refine hiff.2 ⟨hall r ro h, fun k ⟨hne, ko, hko, hkr, hpos⟩ => ?_⟩
    -- a view has no kids, so with `own = 0` its counter is 0
    have ok := ok_of_inv (inv_reach hr) hko
    have := ok.bal
    rw [(ok.view (hkr ▸ hne.symm)).kids, hall k ko hko] at this
    exact absurd hpos (by rw [this]; decide)
  exact ⟨h0, by rw [hp, h0]; rfl⟩

/-- No operation changes the bytes of an existing memory. -/
theorem mem_bytes_never_change (st st' : St) (hs : Step st st') (m : Nat) (x : Mem)
    (h : st.mems[m]? = some x) : ∃ x' : Mem, st'.mems[m]? = some x' ∧ x'.bytes = x.bytes :=
  keep_step hs m (Lemmas.Basic.lt_of_getElem? h) x h

/-- A live reference reads its window of the root's memory, and that memory has not been Put. -/
theorem live_handle_reads_original_bytes (st : St) (hr : Reach st) (i : Nat) (o : Obj)
    (h : st.objs[i]? = some o) (hown : 0 < o.own) :
    ∃ ro : Obj, st.objs[o.root]? = some ro ∧ ro.puts = 0 ∧
      dataOf st (.buf i) = some (((memBytes st ro.mem).drop o.off).take o.len) := by
  obtain ⟨hlive, ro, h1, _, _, h4⟩ := no_put_while_referenced st hr i o h hown
  refine ⟨ro, h1, h4, ?_⟩
  have h0 : ¬ o.refs = 0 := by omega
  simp [dataOf, h, h0, objArr, h1]

open GrpcModel.MemPool in
/-- Get(n) returns length n with capacity at least n — for every choice sync.Pool can make. -/
theorem get_len_cap (p : Pool) (hp : GrpcProofs.Lemmas.MemPool.PoolOK p) (n : Nat) (g : Got) (p' : Pool)
    (h : (g, p') ∈ getOutcomes p n) : g.len = n ∧ n ≤ g.buf.cap :=
  GrpcProofs.Lemmas.MemPool.get_len_cap hp h

open GrpcModel.MemPool in
/-- Buffers handed out by a zeroing (sub-)pool contain only zeros; fresh buffers always do. -/
theorem zeroing_pool_returns_zeros (p : Pool) (n : Nat) (g : Got) (p' : Pool)
    (h : (g, p') ∈ getOutcomes p n) :
    (g.reused = false → g.buf.zero = true) ∧
    (∀ s, getSub p (refForGet p n) = some s → s.zeroing = true → g.buf.zero = true) := by
  rcases GrpcProofs.Lemmas.MemPool.mem_getOutcomes h with ⟨c, rfl, _, _⟩ | ⟨s, b, hs, _, _, rfl, _⟩
  · exact ⟨fun _ => rfl, fun _ _ _ => rfl⟩
  · exact ⟨nofun, fun s' hs' hz => by cases hs.symm.trans hs'; simp [hz]⟩

open GrpcModel.MemPool in
/-- A reused buffer comes out of the bag of the sub-pool chosen for the size, and one copy of it leaves
    the bag; a fresh buffer takes the id `nextId`, which then advances. -/
theorem pool_never_hands_out_twice (p : Pool) (n : Nat) (g : Got) (p' : Pool)
    (h : (g, p') ∈ getOutcomes p n) :
    (g.reused = false → g.buf.id = p.nextId ∧ p'.nextId = p.nextId + 1) ∧
    (g.reused = true → ∃ s b, getSub p (refForGet p n) = some s ∧ b ∈ s.store ∧ b.id = g.buf.id ∧
        p' = setSub p (refForGet p n) { s with store := s.store.erase b }) := by
  rcases GrpcProofs.Lemmas.MemPool.mem_getOutcomes h with ⟨c, rfl, rfl, _⟩ | ⟨s, b, hs, hb, _, rfl, rfl⟩
  · exact ⟨fun _ => ⟨rfl, rfl⟩, nofun⟩
  · exact ⟨nofun, fun _ => ⟨s, b, hs, hb, rfl, rfl⟩⟩

open GrpcModel.MemPool in
/-- The pool invariant used above holds initially and is kept by Get and Put (of ANY buffer). -/
theorem pool_invariant :
    (∀ exps z, GrpcProofs.Lemmas.MemPool.PoolOK (newBinary exps z)) ∧ (∀ sizes, GrpcProofs.Lemmas.MemPool.PoolOK (newTiered sizes)) ∧
    (∀ z, GrpcProofs.Lemmas.MemPool.PoolOK (newSimple z)) ∧ GrpcProofs.Lemmas.MemPool.PoolOK newNop ∧
    (∀ p b, GrpcProofs.Lemmas.MemPool.PoolOK p → GrpcProofs.Lemmas.MemPool.PoolOK (put p b)) ∧
    (∀ p n g p', GrpcProofs.Lemmas.MemPool.PoolOK p → (g, p') ∈ getOutcomes p n → GrpcProofs.Lemmas.MemPool.PoolOK p') :=
  open GrpcProofs.Lemmas.MemPool in
  ⟨poolOK_newBinary, poolOK_newTiered, poolOK_newSimple, poolOK_newNop,
   fun _ b hp => poolOK_put hp b, fun _ _ _ _ hp h => poolOK_get hp h⟩

-- a pooled root and a split view: freeing the root's handle, then the view's, Puts only at the second;
-- freeing the root's handle twice is refused
def ex0 : St := (newBuffer (poolGet { thresh := 4 } 10 (pat 0 10)).1 0 10).1
example : ex0.objs.length = 1 := by decide
example : Reach ex0 :=
  Reach.step (Reach.step Reach.init (Step.frame (st' := { thresh := 4 }) rfl rfl)) (Step.newbuf _ 10 (pat 0 10) 10)
example : ((splitVal ex0 (.buf 0) 4).map fun r => (r.1.objs.map (·.refs), r.2.1, r.2.2)) = some ([2, 1], .buf 0, .buf 1) := by decide
example : (((splitVal ex0 (.buf 0) 4).bind fun r => release r.1 0).map (·.2)) = some [] := by decide
example : (((splitVal ex0 (.buf 0) 4).bind fun r => (release r.1 0).bind fun q => release q.1 1).map (·.2)) = some [.put 0] := by decide
example : (((splitVal ex0 (.buf 0) 4).bind fun r => (release r.1 0).bind fun q => release q.1 0)) = none := by decide
example : (GrpcModel.MemPool.getOutcomes (GrpcModel.MemPool.put (GrpcModel.MemPool.newBinary [4, 6] true) ⟨7, 16, false⟩) 9).length = 2 := by decide

end GrpcProofs.C53
