/-
C46  xDS routing selects the right virtual host, route and cluster.
Statements are about the model in GrpcModel/Model/Routing.lean and quantify over all route configurations, RPCs and
all values of the random source (explicit arguments of the model).
-/
import GrpcProofs.Lemmas.Routing
namespace GrpcProofs.C46
open GrpcModel.Matchers GrpcModel.Routing GrpcProofs.Lemmas.Routing

/-- The Go constants order the pattern types exact > suffix > prefix > universal > invalid (values regenerated from
    the const block on every run: reordering it breaks this theorem). -/
theorem domain_rank_order :
    DomainMatchType.exact.rank = 4 ∧ DomainMatchType.suffix.rank = 3 ∧ DomainMatchType.prefix.rank = 2 ∧
    DomainMatchType.universal.rank = 1 ∧ DomainMatchType.invalid.rank = 0 :=
  ⟨rank_eq _, rank_eq _, rank_eq _, rank_eq _, rank_eq _⟩

/-- What each (valid) pattern type matches: "*" everything, "*x" hosts ending in x, "x*" hosts starting with x,
    otherwise equality. -/
theorem domain_match_spec (d host : Str) :
    (matchTypeForDomain d = .universal → domainMatches d host = true) ∧
    (matchTypeForDomain d = .suffix → (domainMatches d host = true ↔ d.tail <:+ host)) ∧
    (matchTypeForDomain d = .prefix → (domainMatches d host = true ↔ d.dropLast <+: host)) ∧
    (matchTypeForDomain d = .exact → (domainMatches d host = true ↔ d = host)) ∧
    (matchTypeForDomain d = .invalid → domainMatches d host = false) := by
  refine ⟨?_, ?_, ?_, ?_, ?_⟩ <;> intro h <;> simp [domainMatches, h]

/-- A malformed domain anywhere in the route configuration ⇒ no virtual host (the RDS response is invalid). -/
theorem best_vhost_invalid (host : Str) (vhs : List (List Str))
    (h : ∃ p ∈ domainPairs vhs, matchTypeForDomain p.2 = .invalid) : findBestVHost host vhs = none :=
  findBestVHost_none_of_invalid host vhs h

/-- With well-formed domains the chosen virtual host is the owner of the FIRST (in configuration order) matching
    domain that no matching domain beats — `Spec.better`: better type (exact > suffix > prefix > wildcard), or same
    type and longer pattern — and none is chosen iff no domain matches the authority. -/
theorem best_vhost_spec (host : Str) (vhs : List (List Str))
    (hvalid : ∀ p ∈ domainPairs vhs, matchTypeForDomain p.2 ≠ .invalid) :
    (findBestVHost host vhs = none ↔ ∀ p ∈ domainPairs vhs, domainMatches p.2 host = false) ∧
    (∀ i, findBestVHost host vhs = some i ↔
      ∃ p pre post, p.1 = i ∧ domainPairs vhs = pre ++ p :: post ∧ domainMatches p.2 host = true ∧
        (∀ q ∈ pre, domainMatches q.2 host = true → Spec.better p.2 q.2 = true) ∧
        (∀ q ∈ post, domainMatches q.2 host = true → Spec.better q.2 p.2 = false)) := by
  rw [findBestVHost_of_valid host vhs hvalid]
  refine ⟨by rw [Option.map_eq_none_iff, foldl_keepBest_none beats_asymm beats_ntrans], fun i => ?_⟩
  rw [Option.map_eq_some_iff]
  refine exists_congr fun p => ?_
  rw [foldl_keepBest_some beats_asymm beats_ntrans]
  exact ⟨fun ⟨⟨pre, post, h⟩, hp⟩ => ⟨pre, post, hp, h⟩, fun ⟨pre, post, hp, h⟩ => ⟨⟨pre, post, h⟩, hp⟩⟩

/-- `Spec.better` is the lexicographic order the statement names. -/
theorem better_spec (q p : Str) : Spec.better q p = true ↔
    Spec.rank (matchTypeForDomain q) > Spec.rank (matchTypeForDomain p) ∨
    (Spec.rank (matchTypeForDomain q) = Spec.rank (matchTypeForDomain p) ∧ q.length > p.length) :=
  better_def q p

/-- The executable specification evaluated by the monitor agrees with the ported loop on every input. -/
theorem best_vhost_eq_monitor (host : Str) (vhs : List (List Str)) :
    findBestVHost host vhs = Spec.bestVHost host vhs := findBestVHost_eq_spec host vhs

/-- Give every route j its own draw τ[j] of the random source. Fed the draws in the order the code consumes them
    (only routes whose path and header matchers matched and that have a fraction draw one), `SelectConfig`'s loop
    returns the FIRST route whose path, header and runtime-fraction matchers all match. -/
theorem first_matching_route (strict : Bool) (method : Str) (md : MD) (routes : List Route) (τ : List Nat)
    (hτ : τ.length = routes.length) :
    firstMatch strict method md routes (drawsUsed method md routes τ) =
      (List.zip routes τ).findIdx? (fun rt => rt.1.matchWith strict method md rt.2) :=
  firstMatch_eq_findIdx strict method md routes τ hτ

/-- …spelled out: route i matches, no earlier route does; and no route is selected iff none matches. -/
theorem first_matching_route_first (strict : Bool) (method : Str) (md : MD) (routes : List Route) (τ : List Nat)
    (hτ : τ.length = routes.length) :
    (∀ i, firstMatch strict method md routes (drawsUsed method md routes τ) = some i ↔
      ∃ h : i < (List.zip routes τ).length,
        (List.zip routes τ)[i].1.matchWith strict method md (List.zip routes τ)[i].2 = true ∧
        ∀ j (hj : j < i), ¬ (List.zip routes τ)[j].1.matchWith strict method md (List.zip routes τ)[j].2 = true) ∧
    (firstMatch strict method md routes (drawsUsed method md routes τ) = none ↔
      ∀ rt ∈ List.zip routes τ, rt.1.matchWith strict method md rt.2 = false) := by
  rw [first_matching_route strict method md routes τ hτ]
  exact ⟨fun i => List.findIdx?_eq_some_iff_getElem, List.findIdx?_eq_none_iff⟩

/-- A route matches iff path, every header matcher and (when configured) the runtime fraction match. -/
theorem route_match_spec (strict : Bool) (r : Route) (method : Str) (md : MD) (t : Nat) :
    r.matchWith strict method md t = true ↔
      r.path.match method = true ∧ (∀ h ∈ r.headers, h.match md = true) ∧
      (∀ f, r.fraction = some f → fractionMatch strict f t = true) := by
  unfold Route.matchWith Route.staticMatch
  cases hf : r.fraction with
  | none => simp
  | some f => simp [and_assoc]

/-- FULL STATEMENT (false of the code, see `fraction_exact_counterexample`):
      ∀ f ≤ 10^6, |{ t < 10^6 | match f t }| = f.
    AS THE CODE IS (`t <= fraction`): a fraction of f per million matches min(f+1, 10^6) of the 10^6 draws. -/
theorem fraction_count_as_is_partial (f : Nat) :
    (List.range 1000000).countP (fractionMatchAsIs f) = min (f + 1) 1000000 := by
  rw [Lemmas.Basic.countP_range _ _ 0 (f + 1) fun t _ => by simp [fractionMatchAsIs]; omega]; omega

/-- The code breaks "exactly f of the million draws (so 0 never matches)": fraction 0 matches the draw t = 0, and
    the count for f = 0 is 1. -/
theorem fraction_exact_counterexample :
    fractionMatchAsIs 0 0 = true ∧
    ¬ (∀ f ≤ 1000000, (List.range 1000000).countP (fractionMatchAsIs f) = f) := by
  refine ⟨by decide, ?_⟩
  intro h
  have h0 := h 0 (by omega)
  rw [fraction_count_as_is_partial] at h0
  omega

/-- After the one-character fix (`t < fraction`) the statement holds: exactly f of the 10^6 draws match for every
    f ≤ 10^6 (all of them above), which is the monitor's `Spec.fractionCount`; and 0 never matches. -/
theorem fraction_exact_after_fix (f : Nat) :
    (List.range 1000000).countP (fractionMatchFixed f) = Spec.fractionCount f ∧
    (f ≤ 1000000 → (List.range 1000000).countP (fractionMatchFixed f) = f) ∧
    (∀ t, fractionMatchFixed 0 t = false) := by
  have h' : (List.range 1000000).countP (fractionMatchFixed f) = min f 1000000 :=
    Lemmas.Basic.countP_range _ _ 0 f fun t _ => by simp [fractionMatchFixed]
  refine ⟨by rw [h']; rfl, fun hf => by rw [h']; omega, fun t => by simp [fractionMatchFixed]⟩

/-- Exactly: with unequal weights cluster i is chosen by w_i of the Σw draws; with equal weights by 1 of the n. -/
theorem cluster_count (ws : List Nat) (i : Nat) (hi : i < ws.length) :
    (equalWeights ws = false → (List.range ws.sum).countP (fun r => wrrNext ws r == some i) = ws[i]!) ∧
    (equalWeights ws = true → (List.range ws.length).countP (fun r => wrrNext ws r == some i) = 1) := by
  have hne : ws ≠ [] := by intro h; simp [h] at hi
  constructor <;> intro he <;> simp only [wrrNext, hne, he, if_false, if_true, Bool.false_eq_true]
  · rw [← count_search ws 0 i ws.sum hi (by omega)]
    exact List.countP_congr fun r _ => by simp
  · rw [Lemmas.Basic.countP_range _ _ i (i + 1) fun r _ => by simp; omega]; omega

/-- Over all draws of the WRR's random source (`wrrBound` of them, each equally likely) cluster i is chosen in
    proportion to its weight: count_i · Σw = w_i · #draws. (All-equal weights take the uniform branch, otherwise the
    draw is searched in the accumulated weights.) -/
theorem cluster_in_proportion (ws : List Nat) (i : Nat) (hi : i < ws.length) :
    (List.range (wrrBound ws)).countP (fun r => wrrNext ws r == some i) * ws.sum = ws[i]! * wrrBound ws := by
  obtain ⟨hne, heq⟩ := cluster_count ws i hi
  unfold wrrBound
  cases he : equalWeights ws
  · rw [if_neg (by simp), hne he]
  · rw [if_pos rfl, heq he, Nat.one_mul]
    -- all weights are the first one
    match ws, he with
    | w :: ws', he =>
      have hall : ∀ b ∈ w :: ws', b = w := by simpa [equalWeights] using he
      have hi' : i < ws'.length + 1 := hi
      rw [List.eq_replicate_iff.mpr ⟨rfl, hall⟩]
      simp [List.sum_replicate_nat, hi', Nat.mul_comm]

/-- The request hash depends only on the configured hash-policy inputs: two RPCs that agree on the values of every
    header named by a (non "-bin") header policy get the same hash (or both the random fallback), whatever else
    differs — method, other metadata, the draws. `hashFn` (xxhash64) and the channel id are parameters. -/
theorem hash_depends_only_on_policy_inputs (hashFn : Str → UInt64) (c : UInt64) (ps : List HashPolicy)
    (v v' : Str → List Str)
    (h : ∀ n t, HashPolicy.header n t ∈ ps → hasSuffixBin n = false → v n = v' n) :
    generateHash hashFn c v ps = generateHash hashFn c v' ps := by
  unfold generateHash
  rw [hashLoop_congr hashFn c v v' ps 0 false h]

/-- In particular the hash of an RPC equals the hash of its projection onto the policy inputs (what the monitor
    recomputes from the implementation's answer). -/
theorem hash_eq_monitor_projection (hashFn : Str → UInt64) (c : UInt64) (ps : List HashPolicy) (md : MD) (emd : Option MD) :
    generateHash hashFn c (hashValues md emd) ps =
      generateHash hashFn c (hashValues (Spec.projectMD ps md) (emd.map (Spec.projectMD ps))) ps := by
  apply hash_depends_only_on_policy_inputs
  intro n t hmem hbin
  have hin : Spec.isHashInput ps (asciiLower n) = true := by
    unfold Spec.isHashInput
    rw [List.any_eq_true]
    exact ⟨.header n t, hmem, by simp [hbin]⟩
  unfold hashValues Spec.projectMD
  have hl := fun m => lookup_filter (Spec.isHashInput ps) (asciiLower n) hin m
  cases emd with
  | none => simp only [Option.map_none]; rw [hl md]
  | some e => simp only [Option.map_some]; rw [hl md, hl e]

/-- Which hash: policies are folded left to right (`rotl(h,1) xor policyHash`), a header policy whose header is
    absent or "-bin" is skipped, a terminal policy that applied stops the fold; nothing applied ⇒ random (`none`). -/
theorem hash_examples (hashFn : Str → UInt64) (c : UInt64) (v : Str → List Str) :
    generateHash hashFn c v [] = none ∧
    generateHash hashFn c v [.channelID false] = some c ∧
    (∀ n t, v n = [] → generateHash hashFn c v [.header n t] = none) ∧
    (∀ n t rest, generateHash hashFn c v (.channelID true :: .header n t :: rest) = some c) := by
  refine ⟨rfl, ?_, fun n t hv => ?_, fun n t rest => ?_⟩
  · simp [generateHash, hashLoop_cons, hashLoop_nil, applies, isTerminal, policyHash, rotl1]
  · simp [generateHash, hashLoop_cons, hashLoop_nil, applies, hv]
  · simp [generateHash, hashLoop_cons, applies, isTerminal, policyHash, rotl1]

/-- A terminal policy that applied (channel id, or a present non "-bin" header) ends the fold: whatever policies
    follow it do not influence the hash. -/
theorem hash_terminal_cuts (hashFn : Str → UInt64) (c : UInt64) (v : Str → List Str) (p : HashPolicy)
    (hp : applies v p = true) (ht : isTerminal p = true) (ps1 ps2 ps2' : List HashPolicy) :
    generateHash hashFn c v (ps1 ++ p :: ps2) = generateHash hashFn c v (ps1 ++ p :: ps2') := by
  unfold generateHash
  rw [hashLoop_terminal_cuts hashFn c v p hp ht ps2 ps2' ps1 0 false]

/-- `SelectConfig` composes the three choices: the first matching route, a cluster of that route by the WRR draw,
    and the hash of that route's policies. -/
theorem select_config_spec (strict : Bool) (hashFn : Str → UInt64) (c : UInt64) (routes : List Route)
    (method : Str) (md : MD) (emd : Option MD) (ds : List Nat) (w i k : Nat) (h : Option UInt64)
    (hsel : selectConfig strict hashFn c routes method md emd ds w = .picked i k h) :
    firstMatch strict method (matchMD md emd) routes ds = some i ∧
    ∃ rt, routes[i]? = some rt ∧ rt.action = .route ∧
      wrrNext (rt.clusters.map (·.2)) (w % wrrBound (rt.clusters.map (·.2))) = some k ∧
      h = generateHash hashFn c (hashValues md emd) rt.hashPolicies := by
  -- every other way through `selectConfig` ends in another answer than `picked`
  unfold selectConfig at hsel
  cases hf : firstMatch strict method (matchMD md emd) routes ds with
  | none => rw [hf] at hsel; cases hsel
  | some j =>
  cases hr : routes[j]? with
  | none => simp only [hf, hr] at hsel; cases hsel
  | some rt =>
  simp only [hf, hr] at hsel
  by_cases ha : rt.action = .route
  · rw [if_neg (not_not_intro ha)] at hsel
    cases hw : wrrNext (rt.clusters.map (·.2)) (w % wrrBound (rt.clusters.map (·.2))) with
    | none => simp only [hw] at hsel; cases hsel
    | some k' => simp only [hw] at hsel; cases hsel; exact ⟨rfl, rt, hr, ha, hw, rfl⟩
  · rw [if_pos ha] at hsel; cases hsel

example : findBestVHost [97, 46, 99] [[[42]], [[42, 46, 99]], [[97, 46, 42], [97, 46, 99]]] = some 2 := by decide  -- exact wins
example : findBestVHost [97, 46, 99] [[[42]], [[42, 46, 99], [42, 99]], [[97, 46, 42]]] = some 1 := by decide       -- suffix > prefix
example : findBestVHost [97, 46, 99] [[[42, 99]], [[42, 46, 99]]] = some 1 := by decide                            -- longer suffix
example : findBestVHost [97] [[[98]], [[97, 42, 98]]] = none := by decide                                          -- "a*b" invalid
example : findBestVHost [97] [[[98]]] = none := by decide
example : wrrNext [1, 2, 3] 0 = some 0 ∧ wrrNext [1, 2, 3] 2 = some 1 ∧ wrrNext [1, 2, 3] 5 = some 2 := by decide
example : wrrNext [5, 5] 1 = some 1 := by decide
example : fractionMatchAsIs 1 1 = true ∧ fractionMatchFixed 1 1 = false := by decide

end GrpcProofs.C46
