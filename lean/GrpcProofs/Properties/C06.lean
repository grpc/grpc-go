/-
C06  gRPC message framing round-trips and size limits are enforced.

Model: lean/GrpcModel/Model/Framing.lean (compress, msgHeader, parser.recvMsg, checkRecvPayload,
decompress incl. LimitReader(limit+1) and gzipDecompressor.doWithMaxSize, recvAndDecompress).
The compressor `f` / decompressor `dec` are parameters; the only thing assumed about them is the
stated hypothesis (`dec (f m) = some (m, false)`: decompressing a compressed message yields it and ends
without error). `Usable cfg` = a decompressor is configured and the peer announced a real grpc-encoding.
-/
import GrpcProofs.Lemmas.Framing
namespace GrpcProofs.C06
open GrpcModel.Framing GrpcModel.Generated GrpcProofs.Lemmas.Framing

/-- the sender's choice per message: compress it with `f` (`true`) or not -/
def compOf (f : Bytes → Bytes) (c : Bool) : Option (Bytes → Bytes) := if c then some f else none

/-- the byte stream produced by sending the items in order -/
def wire (f : Bytes → Bytes) : List (Bool × Bytes) → Bytes
  | [] => []
  | it :: rest => frame (compOf f it.1) it.2 ++ wire f rest

/-- **Round trip.** For every list of messages, each sent compressed or not, with every wire size and
    every decompressed size within the receive limit (and below 2^32, the range of the length prefix),
    the receiver yields exactly the messages, in order, and then io.EOF — whatever the compressor is,
    as long as the decompressor inverts it. -/
theorem parse_frames (cfg : Cfg) (dec : Decomp) (f : Bytes → Bytes) (items : List (Bool × Bytes))
    (hinv : ∀ m, dec (f m) = some (m, false))
    (huse : ∀ it ∈ items, it.1 = true → it.2 ≠ [] → Usable cfg)
    (hsize : ∀ it ∈ items, it.2.length ≤ cfg.limit ∧ (it.1 = true → (f it.2).length ≤ cfg.limit))
    (h32 : ∀ it ∈ items, it.2.length < 4294967296 ∧ (f it.2).length < 4294967296)
    (fuel : Nat) (hfuel : items.length < fuel) :
    recvAll cfg dec fuel (wire f items) = (items.map (·.2), .eof) := by
  induction items generalizing fuel with
  | nil =>
    obtain ⟨k, rfl⟩ := Nat.exists_eq_succ_of_ne_zero (Nat.ne_zero_of_lt hfuel)
    simp [recvAll, wire, recvAD_def, recvMsg_nil, afterRecv]
  | cons it rest ih =>
    obtain ⟨k, rfl⟩ := Nat.exists_eq_succ_of_ne_zero (Nat.ne_zero_of_lt hfuel)
    have hmem : it ∈ it :: rest := List.mem_cons_self
    have hfr := recv_frame cfg dec f it.1 it.2 (wire f rest) (hinv _) (huse it hmem) (hsize it hmem).1
      (hsize it hmem).2 (h32 it hmem)
    have ih' := ih (fun x hx => huse x (List.mem_cons_of_mem _ hx)) (fun x hx => hsize x (List.mem_cons_of_mem _ hx))
      (fun x hx => h32 x (List.mem_cons_of_mem _ hx)) k (by simp at hfuel; omega)
    simp only [recvAll, wire, compOf, hfr.1, hfr.2, ih', List.map_cons]

/-- **Nothing is silently misdecoded.** Whatever `recv` delivers is the payload of a complete frame
    at the head of the stream whose declared length is within the limit: verbatim when the flag is 0;
    when the flag is 1, only with a usable decompressor, and then the decompressor's complete,
    error-free output, itself within the limit. Exactly the frame's bytes are consumed. -/
theorem recv_ok_sound (cfg : Cfg) (dec : Decomp) (stream out : Bytes)
    (h : (recvAndDecompress cfg dec stream).res = .ok out) :
    ∃ (b0 : UInt8) (payload : Bytes),
      stream = b0 :: (be32 payload.length ++ payload) ++ (recvAndDecompress cfg dec stream).rest ∧
      payload.length ≤ cfg.limit ∧
      ((b0 = 0 ∧ out = payload) ∨
       (b0 = 1 ∧ Usable cfg ∧ dec payload = some (out, false) ∧ out.length ≤ cfg.limit)) := by
  rw [recvAD_def] at h ⊢
  rw [afterRecv_rest]
  rcases hr : recvMsg cfg.limit stream with ⟨_ | ⟨pf, payload⟩, rest⟩
  · rw [hr] at h; cases h
  · rw [hr] at h
    obtain ⟨b0, rfl, hst, hle⟩ := recvMsg_ok _ _ _ _ _ hr
    exact ⟨b0, payload, hst, hle, (afterRecv_ok cfg dec _ payload rest out h).imp
      (fun h0 => ⟨UInt8.toNat_inj.mp h0.1, h0.2⟩) (fun h1 => ⟨UInt8.toNat_inj.mp h1.1, h1.2⟩)⟩

/-- **Declared oversize.** A frame whose length prefix exceeds the limit fails with RESOURCE_EXHAUSTED,
    whatever its flag, whatever follows (nothing of the payload is read, nothing is decompressed). -/
theorem declared_oversize_is_resource_exhausted (cfg : Cfg) (dec : Decomp) (b0 : UInt8) (L : Nat) (tail : Bytes)
    (hL : L < 4294967296) (hover : cfg.limit < L) :
    (recvAndDecompress cfg dec (b0 :: (be32 L ++ tail))).res = .error .resourceExhausted ∧
    (recvAndDecompress cfg dec (b0 :: (be32 L ++ tail))).mat = 0 := by
  rw [recvAD_def, recvMsg_header cfg.limit b0 L hL tail]; simp [hover, afterRecv]

/-- **Decompressed oversize.** A compressed frame within the wire limit whose payload decompresses to
    more than the limit fails with RESOURCE_EXHAUSTED on every decompressor path (for a third-party
    legacy `Decompressor` provided its `Do` returned the data without error). -/
theorem decompressed_oversize_is_resource_exhausted (cfg : Cfg) (dec : Decomp) (payload data rest : Bytes) (bad : Bool)
    (hu : Usable cfg) (hm : cfg.limit < maxInt64) (hw : payload.length ≤ cfg.limit) (h32 : payload.length < 4294967296)
    (hd : dec payload = some (data, bad)) (hover : cfg.limit < data.length)
    (hb : cfg.path = .legacyCustom → bad = false) :
    (recvAndDecompress cfg dec ((1 : UInt8) :: (be32 payload.length ++ (payload ++ rest)))).res
      = .error .resourceExhausted := by
  rw [← List.append_assoc, ← List.cons_append, recv_complete cfg dec 1 payload rest h32 hw,
    afterRecv_made cfg dec _ _ hu]
  exact decompress_oversize cfg.path dec cfg.limit payload data bad hu.1 hm hd hover hb

/-- **Bounded materialisation.** On the `encoding.Compressor` path and with the built-in legacy gzip
    decompressor, one `recv` never materialises more than limit+1 decompressed bytes — for every stream
    and every decompressor behaviour (zip bombs included). -/
theorem materialised_le_limit_succ (cfg : Cfg) (dec : Decomp) (stream : Bytes)
    (hp : cfg.path = .newApi ∨ cfg.path = .legacyGzip) (hm : cfg.limit < maxInt64) :
    (recvAndDecompress cfg dec stream).mat ≤ cfg.limit + 1 ∧
    ∀ d, (decompress cfg.path dec cfg.limit d).2 ≤ cfg.limit + 1 := by
  refine ⟨?_, fun d => decompress_mat cfg.path dec cfg.limit d hp hm⟩
  rw [recvAD_def]
  rcases afterRecv_mat cfg dec (recvMsg cfg.limit stream) with h | ⟨d, h⟩ <;> rw [h]
  · exact Nat.zero_le _
  · exact decompress_mat cfg.path dec cfg.limit d hp hm

/-- The bound does NOT hold for a third-party legacy `grpc.Decompressor`: `dc.Do(r)` hands back the
    whole decompressed payload before the size check (limit 0, a 3-byte payload: 3 > 0+1). -/
theorem legacy_custom_materialises_all_counterexample :
    ¬ (∀ (dec : Decomp) (limit : Nat) (d : Bytes), (decompress .legacyCustom dec limit d).2 ≤ limit + 1) := by
  intro h
  have := h (fun _ => some ([0, 0, 0], false)) 0 []
  simp [decompress] at this

/-- **Compressed flag without a usable decompressor** (none configured, or grpc-encoding absent /
    identity) is an error, never a message. -/
theorem compressed_without_decompressor_is_error (cfg : Cfg) (dec : Decomp) (tail out : Bytes)
    (hu : ¬ Usable cfg) : (recvAndDecompress cfg dec ((1 : UInt8) :: tail)).res ≠ .ok out := by
  intro h
  obtain ⟨b0, payload, hst, _, hcase⟩ := recv_ok_sound cfg dec _ out h
  have hb : b0 = 1 := (List.cons.inj hst).1.symm
  rcases hcase with ⟨h0, _⟩ | ⟨_, hu', _⟩
  · rw [hb] at h0; exact absurd h0 (by decide)
  · exact hu hu'

/-- **Unknown flag value** (anything but 0 and 1) is an error, never a message. -/
theorem unknown_flag_is_error (cfg : Cfg) (dec : Decomp) (b0 : UInt8) (tail out : Bytes)
    (h0 : b0 ≠ 0) (h1 : b0 ≠ 1) : (recvAndDecompress cfg dec (b0 :: tail)).res ≠ .ok out := by
  intro h
  obtain ⟨b, payload, hst, _, hcase⟩ := recv_ok_sound cfg dec _ out h
  have hb : b = b0 := (List.cons.inj hst).1.symm
  rcases hcase with ⟨hz, _⟩ | ⟨ho, _⟩
  · exact h0 (hb ▸ hz)
  · exact h1 (hb ▸ ho)

/-- **Truncated streams.** The empty stream is the clean end (io.EOF); a partial header, or a complete
    header (declared length within the limit) followed by fewer bytes than declared, is
    io.ErrUnexpectedEOF — never a message and never a clean end. -/
theorem truncated_is_error_never_message (cfg : Cfg) (dec : Decomp) :
    (recvAndDecompress cfg dec []).res = .error .eof ∧
    (∀ s : Bytes, s ≠ [] → s.length < 5 → (recvAndDecompress cfg dec s).res = .error .unexpectedEOF) ∧
    (∀ (b0 : UInt8) (L : Nat) (part : Bytes), L < 4294967296 → L ≤ cfg.limit → part.length < L →
      (recvAndDecompress cfg dec (b0 :: (be32 L ++ part))).res = .error .unexpectedEOF) := by
  refine ⟨by simp [recvAD_def, recvMsg_nil, afterRecv], ?_, ?_⟩
  · intro s h0 h5; simp [recvAD_def, recvMsg_short cfg.limit s h0 h5, afterRecv]
  · intro b0 L part hL hlim hpart
    rw [recvAD_def, recvMsg_header cfg.limit b0 L hL part]
    simp [Nat.not_lt.mpr hlim, hpart, afterRecv]

/-- **Sender.** The frame of a message is flag, big-endian length of the payload, payload; the flag is 1
    exactly when a compressor is configured and the message is non-empty; the length prefix reads back as
    the payload length whenever that is below 2^32 (`msgHeader` truncates with `uint32(…)` above). -/
theorem frame_length_prefix (comp : Option (Bytes → Bytes)) (m : Bytes) :
    (∃ (flag : UInt8) (payload : Bytes), frame comp m = flag :: (be32 payload.length ++ payload) ∧
      ((flag = 0 ∧ payload = m ∧ (comp = none ∨ m = [])) ∨ (flag = 1 ∧ m ≠ [] ∧ ∃ f, comp = some f ∧ payload = f m))) ∧
    (∀ n rest, n < 4294967296 → u32 (be32 n ++ rest) = n) := by
  refine ⟨?_, fun n rest h => u32_be32 n h rest⟩
  rcases frame_cases comp m with ⟨hf, hc⟩ | ⟨f, hc, hne, hf⟩
  · exact ⟨0, m, hf, .inl ⟨rfl, rfl, hc⟩⟩
  · exact ⟨1, f m, hf, .inr ⟨rfl, hne, f, hc, rfl⟩⟩

-- a concrete compressor/decompressor pair satisfying the hypotheses, and both outcomes
example : recvAll ⟨10, .newApi, .named, false⟩ (fun p => some (p.map (· ^^^ 1), false)) 5
    (wire (fun m => m.map (· ^^^ 1)) [(true, [1, 2, 3]), (false, []), (false, [9])]) = ([[1, 2, 3], [], [9]], .eof) := by decide
/-- (only for the examples below: `Except` has no decidable equality) -/
def failsWith (r : Except Err Bytes) (e : Err) : Bool := match r with | .error e' => e' == e | .ok _ => false

example : failsWith (recvAndDecompress ⟨2, .none, .empty, false⟩ (fun _ => none) [0, 0, 0, 0, 3, 1, 2, 3]).res
    .resourceExhausted = true := by decide
example : failsWith (recvAndDecompress ⟨8, .newApi, .named, true⟩ (fun _ => some (List.replicate 100 0, false)) [1, 0, 0, 0, 1, 7]).res
    .resourceExhausted = true ∧
    (recvAndDecompress ⟨8, .newApi, .named, true⟩ (fun _ => some (List.replicate 100 0, false)) [1, 0, 0, 0, 1, 7]).mat = 9 := by decide
example : failsWith (recvAndDecompress ⟨8, .none, .named, true⟩ (fun _ => none) [1, 0, 0, 0, 1, 7]).res .unimplemented = true := by decide
example : failsWith (recvAndDecompress ⟨8, .newApi, .named, true⟩ (fun _ => none) [2, 0, 0, 0, 1, 7]).res .internal = true := by decide

end GrpcProofs.C06
