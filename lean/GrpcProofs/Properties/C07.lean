/-
C07  grpc-timeout encoding never shortens a deadline and always decodes.
-/
import GrpcProofs.Lemmas.Timeout
namespace GrpcProofs.C07
open GrpcModel.Timeout GrpcModel.Generated

/-- Every positive int64 duration: the encoded (value, unit) has at most 8 digits and decodes to
    d' with d ≤ d' < d + unit (the hour clamp to MaxInt64 included). -/
theorem encode_decode (t : Nat) (h0 : 0 < t) (hmax : t ≤ maxInt64) :
    t ≤ decode (encode t).1 (encode t).2 ∧ decode (encode t).1 (encode t).2 < t + (encode t).2.ns
    ∧ 1 ≤ (encode t).1 ∧ (encode t).1 ≤ 99999999 :=
  Lemmas.Timeout.encode_decode t h0 hmax

/-- The header bytes produced for a positive duration are 1–8 ASCII digits plus a unit. -/
theorem encode_wellformed (t : Int) (h0 : 0 < t) (hmax : t ≤ maxInt64) :
    wellFormed (encodeBytes t) = true :=
  Lemmas.Timeout.encode_wellformed t h0 hmax

/-- Byte-level round trip: decoding the produced header yields d' with d ≤ d' < d + unit. -/
theorem decode_encode_bytes (t : Int) (h0 : 0 < t) (hmax : t ≤ maxInt64) :
    ∃ d', decodeBytes (encodeBytes t) = some d' ∧ t.toNat ≤ d' ∧ d' < t.toNat + (encode t.toNat).2.ns :=
  Lemmas.Timeout.decode_encode_bytes t h0 hmax

/-- Non-positive durations are sent as "0n". -/
theorem encode_nonpos (t : Int) (h : t ≤ 0) : encodeBytes t = [48, 110] := by
  simp [encodeBytes, h]

/-- The decoder accepts exactly the strings of 1–8 ASCII digits followed by one of H M S m u n. -/
theorem decode_accepts_iff (bs : List UInt8) : (decodeBytes bs).isSome = wellFormed bs :=
  Lemmas.Timeout.decode_accepts_iff bs

/-- Whatever is accepted decodes to a value that fits int64 (so the Go result is never negative
    and the multiplication never wraps). -/
theorem decode_no_overflow (bs : List UInt8) (d : Nat) (h : decodeBytes bs = some d) : d ≤ maxInt64 :=
  Lemmas.Timeout.decode_no_overflow bs d h

example : encode 100000000 = (100000, .u) := by decide
example : decodeBytes [49, 50, 83] = some 12000000000 := by decide
example : decodeBytes [57, 57, 57, 57, 57, 57, 57, 57, 72] = some maxInt64 := by decide
example : decodeBytes [49, 50, 51, 52, 53, 54, 55, 56, 57, 110] = none := by decide
example : wellFormed [43, 49, 83] = false := by decide

end GrpcProofs.C07
