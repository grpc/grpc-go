/-
C04  Inbound flow-control accounting is exact and never wedges a stream.

The model is
GrpcModel/Model/InFlow.lean: `InFlow.onData/onRead/maybeAdjust/newLimit` and `TrInFlow.*` port
internal/transport/flowcontrol.go with Go's uint32 wrap-around and int32 casts; `step` runs them
under the callers' protocol (`Ghost.legal`) and keeps, as ghost state computed ONLY from the ops and
the answers, what the PEER sees: `adv` = the stream window it holds (initial window + SETTINGS
increases + WINDOW_UPDATE increments − flow-controlled bytes sent), `cfg` = the configured window.

Histories (`legalRun`): any interleaving of
  data size pad   a DATA frame of any flow-controlled length 0 < size < 2^24, conforming or NOT,
                  padded or not (for a padded frame `pad p` = onRead(size − dataLen) follows later),
  req n / read k  Stream.read / ReadMessageHeader: requestRead(n) with any n < 2^32 (messages far larger
                  than the window included), then reads that add up to n, each at most what is queued,
  bdp n           a BDP update limit ≤ n ≤ 16 MiB,
until a frame is rejected (the callers then reset the stream).  `strict = true` additionally excludes
a BDP update arriving while `limit + delta` would exceed 2^31−1 (needs a read of ≥ 2 GiB − 16 MiB in
flight); it is needed only for the 2^31−1 bound and is violated by the unchanged code otherwise
(`advertised_bound_counterexample`, known finding F20).

Readings (DESIGN.md §7).  "restored to at least the configured window" is formalised as
`adv + pendingUpdate = limit + delta` with `pendingUpdate < limit/4` once everything delivered has been
read — the literal `adv ≥ limit` is false by design of the quarter-window batching — hence
`adv > 3/4·limit > 0`, and a read larger than the window is granted by `maybeAdjust`.
-/
import GrpcProofs.Lemmas.InFlow
import GrpcProofs.Lemmas.InFlowConn
namespace GrpcProofs.C04
open GrpcModel.InFlow GrpcProofs.Lemmas.InFlow GrpcModel.InFlowConn GrpcProofs.Lemmas.InFlowConn

/-- **Exact ledger**: along every legal history, as long as no frame was rejected, the window the
    peer holds is exactly `limit + delta − (pendingData + pendingUpdate)`, `pendingData` is exactly
    the bytes received and not yet read/given back, and the batched credit is below a quarter window. -/
theorem ledger_exact (l : Nat) (ops : List Op) (hl0 : l ≤ 2147483647)
    (hl : legalRun false (State.init l) ops = true)
    (ha : (run (State.init l) ops).1.g.failed = false) :
    ∀ s, s = (run (State.init l) ops).1 →
    s.g.adv = (s.f.limit : Int) + s.f.delta - ((s.f.pd : Int) + s.f.pu)
    ∧ s.f.pd = s.g.outstanding ∧ s.g.cfg = s.f.limit
    ∧ (s.f.pu = 0 ∨ s.f.pu < s.f.limit / 4) ∧ s.f.delta ≤ s.g.want := by
  rintro s rfl
  have h := finv_of_alive false l ops hl0 hl ha
  exact ⟨h.ledger, h.pd, h.cfg, h.pu, h.delta⟩

/-- **A conforming peer is accepted**: after any legal history, a DATA frame whose flow-controlled
    length fits the window the peer holds is accepted. -/
theorem accepts_conforming_peer (l : Nat) (ops : List Op) (size : Nat) (pad : Option Nat)
    (hl0 : l ≤ 2147483647) (hl : legalRun false (State.init l) (ops ++ [.data size pad]) = true)
    (hfit : (size : Int) ≤ (run (State.init l) ops).1.g.adv) :
    (step (run (State.init l) ops).1 (.data size pad)).2 = .accepted := by
  obtain ⟨h, hleg⟩ := finv_of_legal_snoc false l ops _ hl0 hl
  exact (step_data_iff h hleg).1.mpr hfit

/-- **Only excess is rejected**: a DATA frame is rejected (→ RST_STREAM FLOW_CONTROL_ERROR) only if it
    exceeds the window the peer holds. -/
theorem rejects_only_excess (l : Nat) (ops : List Op) (size : Nat) (pad : Option Nat)
    (hl0 : l ≤ 2147483647) (hl : legalRun false (State.init l) (ops ++ [.data size pad]) = true)
    (hrej : (step (run (State.init l) ops).1 (.data size pad)).2 = .rejected) :
    (size : Int) > (run (State.init l) ops).1.g.adv := by
  obtain ⟨h, hleg⟩ := finv_of_legal_snoc false l ops _ hl0 hl
  exact (step_data_iff h hleg).2.mp hrej

/-- **Advertised window ≤ 2^31−1** — proved for histories in which no BDP update arrives while
    `limit + delta` would exceed 2^31−1 (`strict`).  FULL statement (every legal history) is false for
    the unchanged code: `advertised_bound_counterexample`. -/
theorem advertised_le_max_partial (l : Nat) (ops : List Op) (hl0 : l ≤ 2147483647)
    (hl : legalRun true (State.init l) ops = true)
    (ha : (run (State.init l) ops).1.g.failed = false) :
    (run (State.init l) ops).1.g.adv ≤ 2147483647
    ∧ (run (State.init l) ops).1.f.limit + (run (State.init l) ops).1.f.delta ≤ 2147483647 := by
  have h := finv_of_alive true l ops hl0 hl ha
  exact ⟨finv_adv_le_max _ h, h.strictMax rfl⟩

/-- `maybeAdjust` bounds `limit + delta` by 2^31−1, but `newLimit` does not re-check it: a BDP update
    during a ~2 GiB read lifts the window the peer holds above 2^31−1. -/
theorem advertised_bound_counterexample :
    ¬ ∀ (l : Nat) (ops : List Op), l ≤ 2147483647 → legalRun false (State.init l) ops = true →
      (run (State.init l) ops).1.g.failed = false → (run (State.init l) ops).1.g.adv ≤ 2147483647 := by
  intro h
  have := h 65535 [.req 2147483647, .bdp 131070] (by decide) (by decide) (by decide)
  revert this
  decide

/-- **No wedge** (reading of "restored to at least the configured window"): whenever everything
    delivered so far has been read or given back (`pendingData = 0`), the peer holds
    `limit + delta − pendingUpdate` with `pendingUpdate` zero or below a quarter window: more than
    three quarters of the configured window, and at least one byte — it can always send, so a
    reading application is never stalled forever. -/
theorem no_wedge (l : Nat) (ops : List Op) (hl0 : l ≤ 2147483647)
    (hl : legalRun false (State.init l) ops = true)
    (ha : (run (State.init l) ops).1.g.failed = false)
    (hread : (run (State.init l) ops).1.g.outstanding = 0) :
    ∀ s, s = (run (State.init l) ops).1 →
    s.g.adv + s.f.pu = (s.f.limit : Int) + s.f.delta
    ∧ (s.f.pu = 0 ∨ s.f.pu < s.f.limit / 4)
    ∧ (s.g.adv ≥ (s.g.cfg : Int) ∨ s.g.adv + ((s.g.cfg / 4 : Nat) : Int) > (s.g.cfg : Int))
    ∧ (0 < s.g.cfg → 0 < s.g.adv) ∧ s.g.restored = true := by
  rintro s rfl
  have h := finv_of_alive false l ops hl0 hl ha
  have hR := finv_restored false _ h hread
  obtain ⟨hA, hB⟩ := (connRestored_iff _ _).mp hR
  have hled := h.ledger
  have hpd := h.pd
  exact ⟨by omega, h.pu, hA, hB, hR⟩

/-- **A read larger than the window is granted**: right after `requestRead(n)` (any n < 2^32) the
    peer may send all of the message that has not arrived yet, `min(n, 2^31−1) − pendingData` bytes,
    or else the window has been raised to the protocol maximum `limit + delta = 2^31−1`. -/
theorem big_read_granted (l : Nat) (ops : List Op) (n : Nat) (hl0 : l ≤ 2147483647)
    (hl : legalRun false (State.init l) (ops ++ [.req n]) = true) :
    ∀ s s', s = (run (State.init l) ops).1 → s' = (step s (.req n)).1 →
    s'.g.adv ≥ ((if n > 2147483647 then 2147483647 else n : Nat) : Int) - s.g.outstanding
    ∨ s'.f.limit + s'.f.delta = 2147483647 := by
  rintro s s' rfl rfl
  obtain ⟨h, hleg⟩ := finv_of_legal_snoc false l ops _ hl0 hl
  obtain ⟨d, e, _, hgr⟩ := step_req false _ n h hleg
  rw [e, ← h.pd]
  exact hgr

/-- **The run-time monitor never rejects the model**: on every (strict) legal history each answer of
    the ported code satisfies the executable C04 predicate `Ghost.verdict` — the same function the
    driver evaluates on the IMPLEMENTATION's answers. -/
theorem monitor_accepts_model (l : Nat) (pre : List Op) (op : Op) (hl0 : l ≤ 2147483647)
    (hl : legalRun true (State.init l) (pre ++ [op]) = true) :
    (run (State.init l) pre).1.g.verdict op (step (run (State.init l) pre).1 op).2 = .ok () := by
  obtain ⟨h, hleg⟩ := finv_of_legal_snoc true l pre op hl0 hl
  exact step_verdict _ op h hleg

/-- **Connection window ledger**: against a conforming peer the connection window it holds is exactly
    `limit − unacked`, between 0 and 2^31−1. -/
theorem conn_ledger (l : Nat) (ops : List TOp) (hl0 : l ≤ 2147483647)
    (hl : tlegalRun (TState.init l) ops = true) :
    ∀ s, s = trun (TState.init l) ops →
    s.adv = (s.f.limit : Int) - s.f.unacked ∧ 0 ≤ s.adv ∧ s.adv ≤ 2147483647 := by
  rintro s rfl
  have h := trun_inv _ ops (tinv_init l hl0) hl
  have hled := h.ledger
  have hlm := h.limMax
  have hun := h.un
  exact ⟨hled, by omega, by omega⟩

/-- **The connection window never wedges**: it is replenished on reception, independently of the
    application: after every step `unacked` is zero or below a quarter of the limit. -/
theorem conn_window (l : Nat) (ops : List TOp) (hl0 : l ≤ 2147483647)
    (hl : tlegalRun (TState.init l) ops = true) :
    ∀ s, s = trun (TState.init l) ops →
    (s.f.unacked = 0 ∨ s.f.unacked < s.f.limit / 4)
    ∧ (s.adv ≥ (s.f.limit : Int) ∨ s.adv + ((s.f.limit / 4 : Nat) : Int) > (s.f.limit : Int))
    ∧ (0 < s.f.limit → 0 < s.adv) ∧ connRestored s.adv s.f.limit = true := by
  rintro s rfl
  have h := trun_inv _ ops (tinv_init l hl0) hl
  have hled := h.ledger
  refine ⟨h.un, ?_⟩
  have hR := restored_of_quarter _ _ 0 _ (hled.trans (by omega)) h.un
  exact ⟨((connRestored_iff _ _).mp hR).1, ((connRestored_iff _ _).mp hR).2, hR⟩

/-! ### connection level: stream registration interleaved with BDP updates
(`GrpcModel/Model/InFlowConn.lean`: `openS` = the stream gets its id and enters activeStreams with
`inFlow{limit: t.initialWindowSize}`; `bdp n` = updateFlowControl raises `initialWindowSize`, the limit of
every ACTIVE stream and, through SETTINGS, the peer's window of exactly those streams) -/

/-- **Every open stream's ledger is exact at all times**, however stream registrations, per-stream
    traffic and BDP updates interleave: the window the peer holds for it equals
    `limit + delta − (pendingData + pendingUpdate)` and its limit is the connection's current
    (= last advertised) initial window. -/
theorem conn_streams_exact (l : Nat) (ops : List COp) (hl0 : l ≤ 2147483647)
    (hl : clegalRun (Conn.init l) ops = true) :
    ∀ e ∈ (crun (Conn.init l) ops).streams,
      e.2.g.adv = (e.2.f.limit : Int) + e.2.f.delta - ((e.2.f.pd : Int) + e.2.f.pu)
      ∧ e.2.f.limit = (crun (Conn.init l) ops).iws ∧ e.2.g.cfg = (crun (Conn.init l) ops).iws
      ∧ 0 ≤ e.2.g.adv := by
  intro e he
  obtain ⟨h1, h2⟩ := (crun_inv _ ops (cinv_init l hl0) hl).each e he
  exact ⟨h1.ledger, by rw [← h1.cfg]; exact h2, h2, h1.nonneg⟩

/-- **A conforming peer is accepted on every stream of the connection**, in particular on a stream
    that was registered after (or queued during) any number of BDP updates: a DATA frame is accepted
    iff it fits the window the peer holds for that stream. -/
theorem conn_accepts_iff_fits (l : Nat) (ops : List COp) (hl0 : l ≤ 2147483647)
    (hl : clegalRun (Conn.init l) ops = true) (size : Nat) (pad : Option Nat) :
    ∀ e ∈ (crun (Conn.init l) ops).streams,
      e.2.g.legal false e.2.f.delta (.data size pad) = true →
      ((step e.2 (.data size pad)).2 = .accepted ↔ (size : Int) ≤ e.2.g.adv)
      ∧ ((step e.2 (.data size pad)).2 = .rejected ↔ (size : Int) > e.2.g.adv) := by
  intro e he hleg
  exact step_data_iff ((crun_inv _ ops (cinv_init l hl0) hl).each e he).1 hleg

/-- **No stream of the connection wedges**: on every open stream on which everything delivered has been
    read or given back (payload read by the application, padding returned at once), the peer holds the
    current advertised initial window up to a batched credit that is zero or strictly below a quarter of
    it, and at least one byte (`Ghost.restored`, with `cfg` = the connection's initial window). -/
theorem conn_no_wedge (l : Nat) (ops : List COp) (hl0 : l ≤ 2147483647)
    (hl : clegalRun (Conn.init l) ops = true) :
    ∀ e ∈ (crun (Conn.init l) ops).streams, e.2.g.outstanding = 0 →
      e.2.g.restored = true ∧ e.2.g.cfg = (crun (Conn.init l) ops).iws := by
  intro e he h0
  obtain ⟨h1, h2⟩ := (crun_inv _ ops (cinv_init l hl0) hl).each e he
  exact ⟨finv_restored false e.2 h1 h0, h2⟩

/-- **A new stream starts with exactly the advertised window**: when a stream is registered — after
    any history, BDP updates included — the limit it enforces and the window the peer holds for it are
    both the connection's current initial window. -/
theorem new_stream_window (l : Nat) (ops : List COp) (id : Nat) (hl0 : l ≤ 2147483647)
    (hl : clegalRun (Conn.init l) (ops ++ [.openS id]) = true) :
    ∀ e ∈ (crun (Conn.init l) (ops ++ [.openS id])).streams, e.1 = id →
      e.2.f.limit = (crun (Conn.init l) ops).iws ∧ e.2.g.adv = ((crun (Conn.init l) ops).iws : Int)
      ∧ e.2.f.pd = 0 ∧ e.2.f.pu = 0 ∧ e.2.f.delta = 0 := by
  intro e he hid
  rw [clegalRun_append] at hl
  simp only [Bool.and_eq_true, clegalRun, clegal, Bool.not_eq_true'] at hl
  have hno : (crun (Conn.init l) ops).has id = false := hl.2.1
  rw [crun_append] at he
  simp only [crun, cstep, hno, Bool.false_eq_true, ↓reduceIte, List.mem_append, List.mem_singleton] at he
  rcases he with he | he
  · exfalso
    have : (crun (Conn.init l) ops).has id = true := by
      simp only [Conn.has, List.any_eq_true]
      exact ⟨e, he, by simp [hid]⟩
    rw [hno] at this; cases this
  · subst he
    exact ⟨rfl, rfl, rfl, rfl, rfl⟩

-- a legal history with a message 4x the window, padded frames and a BDP update
example : legalRun true (State.init 65535)
    [.req 5, .data 5 none, .read 5, .req 262140, .data 16384 (some 100), .pad 100, .read 16284,
     .bdp 131070, .data 65535 none] = true := by decide
example : (run (State.init 65535) [.req 5, .data 5 none, .read 5, .req 100, .data 16384 none, .read 100]).2
    = [.wu 0, .accepted, .wu 0, .wu 0, .accepted, .wu 0] := by decide
example : (run (State.init 65535) [.data 65535 none, .data 1 none]).2 = [.accepted, .rejected] := by decide
example : tlegalRun (TState.init 65535) [.data 16383, .data 1, .reset, .bdp 131070, .data 32767] = true := by decide
example : clegalRun (Conn.init 65535)
    [.openS 1, .sop 1 (.data 60000 none), .bdp 120000, .openS 3, .sop 3 (.data 100000 none), .closeS 1] = true := by decide

end GrpcProofs.C04
