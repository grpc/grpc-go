/-
C39  Priority failover uses the best available priority.
Model: GrpcModel/Model/Priority.lean (priority policy + the balancer group's sub-balancer cache).
`Reach s`: s is the state after some history of config updates (distinct priority names, as the xDS
tree produces them, and a child for every name, which parseConfig checks), child state reports (any
child, any of IDLE/CONNECTING/READY/TRANSIENT_FAILURE/other, also from stopped or removed children), init-timer
expirations (at once, op `timer`, or in two steps: `dispatch` when the deadline is reached, `runcb`
when the callback obtains the mutex), cache expirations and passages of time, in any order.
"usable" = READY, IDLE, or CONNECTING with its init timer still armed (`usable`).
-/
import GrpcProofs.Lemmas.PriorityB
import GrpcProofs.Lemmas.PriorityC
namespace GrpcProofs.C39
open GrpcModel.Priority GrpcProofs.Lemmas.Priority

theorem run_reach (ops : List Op) (hv : ∀ op ∈ ops, validOp op) : Reach (run ops) := by
  unfold run
  suffices h : ∀ s, Reach s → Reach (ops.foldl step s) from h _ Reach.init
  induction ops with
  | nil => intro s h; exact h
  | cons o os ih =>
    intro s h
    exact ih (fun op hop => hv op (List.mem_cons_of_mem _ hop)) _ (Reach.step o (hv o (List.mem_cons_self)) h)

/-- The child in use is the highest priority that is usable, else the lowest priority: every
    priority above it is started and not usable (failed or timed out), it is itself started and
    usable unless it is the last one, every priority below it is stopped. -/
theorem in_use_is_first_usable {s : St} (hr : Reach s) (hne : s.prios ≠ []) :
    ∃ above u below c, s.prios = above ++ u :: below ∧ s.inUse = some u ∧ findChild s u = some c ∧
      c.started = true ∧ (usable c = true ∨ below = []) ∧
      (∀ a ∈ above, ∃ ca, findChild s a = some ca ∧ ca.started = true ∧ usable ca = false) ∧
      (∀ b ∈ below, ∃ cb, findChild s b = some cb ∧ cb.started = false) := by
  obtain ⟨above, u, below, c, h⟩ := (reach_inv hr).sel hne
  exact ⟨above, u, below, c, h.split, h.inUse, h.child, h.started, h.usableOrLast, h.higher, h.lower⟩

/-- "not usable" for the four states a child policy reports: TRANSIENT_FAILURE, or CONNECTING
    with the init timer gone (it expired, or the child failed before and is re-connecting) -/
theorem not_usable_means_failed_or_timed_out (c : Child) (h4 : c.st.conn ≤ 3) (h : usable c = false) :
    c.st.conn = 3 ∨ (c.st.conn = 1 ∧ c.timer = none) := by
  unfold usable at h
  simp only [Bool.or_eq_false_iff, Bool.and_eq_false_imp, decide_eq_false_iff_not, decide_eq_true_eq] at h
  obtain ⟨⟨h2, h0⟩, h1⟩ := h
  have : c.st.conn = 1 ∨ c.st.conn = 3 := by omega
  rcases this with h | h
  · right; refine ⟨h, ?_⟩
    have := h1 h
    cases ht : c.timer with
    | none => rfl
    | some _ => simp [ht] at this
  · exact Or.inl h

/-- A priority is started only while every higher priority is started and has failed or timed
    out (in every reachable state, hence in particular at the moment it is started). -/
theorem lower_started_only_after_higher_failed_or_timed_out {s : St} (hr : Reach s) {pre post : List Nat} {n : Nat}
    (hsplit : s.prios = pre ++ n :: post) {c : Child} (hc : findChild s n = some c) (hs : c.started = true) :
    ∀ a ∈ pre, ∃ ca, findChild s a = some ca ∧ ca.started = true ∧ usable ca = false := by
  have hg := reach_inv hr
  obtain ⟨above, u, below, cu, hsel⟩ := hg.sel (by rw [hsplit]; simp)
  intro a ha
  rcases hsel.started_at_or_above hg.pn hsplit hc hs with ⟨mid, rfl⟩ | ⟨rfl, -⟩
  · exact hsel.higher a (by simp [ha])
  · exact hsel.higher a ha

/-- Below a started, usable priority every priority is stopped and reset. -/
theorem lower_stopped_when_higher_usable {s : St} (hr : Reach s) {pre post : List Nat} {n : Nat}
    (hsplit : s.prios = pre ++ n :: post) {c : Child} (hc : findChild s n = some c) (hs : c.started = true)
    (husable : usable c = true) :
    ∀ b ∈ post, ∃ cb, findChild s b = some cb ∧ cb.started = false ∧ cb.st = initState ∧ cb.timer = none := by
  have hg := reach_inv hr
  obtain ⟨above, u, below, cu, hsel⟩ := hg.sel (by rw [hsplit]; simp)
  rcases hsel.started_at_or_above hg.pn hsplit hc hs with ⟨mid, rfl⟩ | ⟨-, rfl⟩
  · obtain ⟨ca, hfa, _, hua⟩ := hsel.higher n (by simp)
    rw [hc] at hfa; injection hfa with hfa; subst hfa
    rw [husable] at hua; cases hua
  · intro b hb
    obtain ⟨cb, hfb, hsb⟩ := hsel.lower b hb
    have ok := hg.base.ok b cb hfb
    exact ⟨cb, hfb, hsb, ok.st hsb, ok.timer hsb⟩

/-- Once a priority is READY (more generally: usable) every lower priority is stopped: not started,
    its state reset, its init timer off.  (Where its sub-balancer then is, cached or closed:
    `stopped_child_is_cached_or_closed`.) -/
theorem lower_closed_when_higher_ready {s : St} (hr : Reach s) {pre post : List Nat} {n : Nat}
    (hsplit : s.prios = pre ++ n :: post) {c : Child} (hc : findChild s n = some c) (hs : c.started = true)
    (hready : c.st.conn = 2) :
    ∀ b ∈ post, ∃ cb, findChild s b = some cb ∧ cb.started = false ∧ cb.st = initState ∧ cb.timer = none :=
  lower_stopped_when_higher_usable hr hsplit hc hs (by simp [usable, hready])

/-- The state (connectivity + picker) last sent to the parent ClientConn is that of the child in
    use; with no priorities it is TRANSIENT_FAILURE with the all-priorities-removed error picker
    (or nothing was ever sent). -/
theorem parent_picker_is_in_use_childs {s : St} (hr : Reach s) :
    (s.prios ≠ [] → ∃ u c, s.inUse = some u ∧ findChild s u = some c ∧ s.lastUp = some c.st) ∧
    (s.prios = [] → s.inUse = none ∧ (s.lastUp = none ∨ s.lastUp = some ⟨3, .allrm⟩)) := by
  have hg := reach_inv hr
  constructor
  · intro hne
    obtain ⟨_, u, _, c, h⟩ := hg.sel hne
    exact ⟨u, c, h.inUse, h.child, h.lastUp⟩
  · exact hg.noPrio

/-- "Within its initial connection timeout" really is initial: a child's init timer is armed only
    while it has not reported TRANSIENT_FAILURE since it was last READY/IDLE (or since it was
    started), so a child that failed and re-connects is not given a second timeout. -/
theorem init_timer_only_before_failure {s : St} (hr : Reach s) {c : Child} (hc : c ∈ s.children) :
    (c.reportedTF = true → c.timer = none) ∧ (c.started = false → c.reportedTF = false ∧ c.timer = none ∧ c.st = initState) := by
  have h := (reach_inv hr).base.ok c.name c (findChild_of_mem (reach_inv hr).base.cn hc)
  exact ⟨h.tf, fun hs => ⟨h.notTF hs, h.timer hs, h.st hs⟩⟩

/-- What "started" means towards the balancer group: a child is started exactly when the group
    holds an active sub-balancer for it. -/
theorem started_iff_active_in_balancer_group {s : St} (hr : Reach s) (n : Nat) :
    (∃ b ∈ s.sbs, b.name = n ∧ b.cachedUntil = none) ↔ (∃ c ∈ s.children, c.name = n ∧ c.started = true) :=
  (reach_inv hr).base.sb_mem n

/-- What "closed" means: the sub-balancer of a stopped child is gone or sits in the deletion cache
    with a deadline (it is closed when the deadline passes, op `expire`). -/
theorem stopped_child_is_cached_or_closed {s : St} (hr : Reach s) {c : Child} (hc : c ∈ s.children) (hs : c.started = false)
    {b : Sb} (hb : b ∈ s.sbs) (hn : b.name = c.name) : b.cachedUntil ≠ none := by
  intro hnone
  obtain ⟨c', hc', hcn, hcs⟩ := (started_iff_active_in_balancer_group hr c.name).mp ⟨b, hb, hn, hnone⟩
  have : c' = c := Lemmas.Basic.eq_of_nodup_map (reach_inv hr).base.cn hc' hc hcn
  subst this
  rw [hs] at hcs; cases hcs

/-! The window between an init timer firing and its callback running.
`dispatch n`: the timer of child n has reached its deadline, the callback goroutine exists and
waits for the balancer's mutex; `runcb`: the oldest waiting callback runs.  In between the child may
report READY/IDLE/TF (the timer is stopped) and CONNECTING again (a NEW timer is armed). -/

/-- A callback waits only for a timer whose deadline has passed. -/
theorem callbacks_wait_only_after_deadline {s : St} (hr : Reach s) : ∀ p ∈ s.pending, p.2 ≤ s.now :=
  reach_pendOK hr

/-- The callback of a timer that has been stopped (the child's current timer is not the one it
    belongs to, or the child is gone) does nothing: it does not clear the child's new timer and
    does not re-sync, so the child keeps its whole (new) initial connection timeout. -/
theorem stale_callback_is_noop (s : St) {n : Nat} {d : Int} {rest : List (Nat × Int)}
    (hp : s.pending = (n, d) :: rest) (hstale : ∀ c, findChild s n = some c → c.timer ≠ some d) :
    step s .runcb = { clearOut s with pending := rest } := by
  rcases runCallback_cases (clearOut s) with ⟨e, _⟩ | ⟨_, _, _, e, h⟩ <;> cases (hp.symm.trans e)
  rcases h with ⟨⟨c, hf, ht⟩, _⟩ | ⟨_, e⟩
  · exact absurd ht (hstale c hf)
  · exact e

/-- Hence: whenever a waiting callback changes anything, it is the callback of the child's CURRENT
    timer and that timer's deadline has passed. -/
theorem callback_acts_only_on_its_own_expired_timer {s : St} (hr : Reach s) {n : Nat} {d : Int} {rest : List (Nat × Int)}
    (hp : s.pending = (n, d) :: rest) (hne : step s .runcb ≠ { clearOut s with pending := rest }) :
    (∃ c, findChild s n = some c ∧ c.timer = some d) ∧ d ≤ s.now :=
  ⟨Classical.byContradiction fun hno => hne (stale_callback_is_noop s hp fun c hc ht => hno ⟨c, hc, ht⟩),
    callbacks_wait_only_after_deadline hr (n, d) (hp ▸ List.mem_cons_self)⟩

-- the interleaving: timer of 1 fires at 10000 and waits; 1 reports READY, IDLE, CONNECTING (new timer); the
-- stale callback runs: 1 stays in use with its new timer, 2 is not started
def race : List Op := [.update [1, 2] [(1, 0), (2, 0)], .child 1 1, .advance 10000, .dispatch 1, .child 1 2, .child 1 0, .child 1 1, .runcb]
example : (run race).inUse = some 1 ∧ (run race).children.map (fun c => (c.started, c.timer)) = [(true, some 20000), (false, none)] := by decide

-- non-vacuity: fail-over, fall-back and recovery on a concrete history
def demo : List Op := [.update [1, 2, 3] [(1, 0), (2, 0), (3, 1)], .child 1 1, .child 1 3, .child 2 1, .advance 10000, .timer 2]
example : (run demo).inUse = some 3 := by decide
example : (run (demo ++ [.child 1 2])).inUse = some 1 ∧ ((run (demo ++ [.child 1 2])).children.map (·.started)) = [true, false, false] := by decide
example : (run (demo ++ [.child 1 2])).lastUp = some ⟨2, .stub 4⟩ := by decide
theorem demo_valid : ∀ op ∈ demo, validOp op := by
  intro op hop
  simp only [demo, List.mem_cons, List.mem_nil_iff, or_false] at hop
  rcases hop with rfl | rfl | rfl | rfl | rfl | rfl <;> simp [validOp, ValidCfg]
example : ∀ op ∈ demo, validOp op := demo_valid
example : Reach (run demo) := run_reach demo demo_valid

end GrpcProofs.C39
