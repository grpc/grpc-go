/-
C35  Aggregated state and endpoint round robin follow the precedence rule.
Models: GrpcModel/Model/LbConnState.lean (ConnectivityStateEvaluator),
        GrpcModel/Model/EpShard.lean (endpointsharding balancer + its round-robin picker),
        GrpcModel/Model/WAgg.lean (weighted_target's aggregator, a client of the evaluator).
-/
import GrpcProofs.Lemmas.LbConnState
import GrpcProofs.Lemmas.EpShard
import GrpcProofs.Lemmas.WAgg
namespace GrpcProofs.C35
open GrpcModel.LbConnState GrpcModel.EpShard GrpcModel.Generated

/-- T4: the model's numeric view of `connectivity.State` is the const block as it is in the source
    today, and the zero value of a `balancer.State` (a child that never reported) is IDLE. -/
theorem state_order_pinned :
    lbConnStateNames = ["Idle", "Connecting", "Ready", "TransientFailure", "Shutdown"] ∧
    ConnState.ofCode 0 = .idle ∧ ConnState.idle.code = 0 ∧ ConnState.shutdown.code = 4 := by decide

/-- The precedence rule is a function of the MULTISET of child states: READY if any child is READY,
    else CONNECTING if any is CONNECTING, else IDLE if any is IDLE, else TRANSIENT_FAILURE — also
    for no children. -/
theorem prec_multiset (l₁ l₂ : List ConnState) (h : l₁.Perm l₂) :
    prec l₁ = prec l₂ ∧ prec [] = .tf ∧
    (prec l₁ = .ready ↔ .ready ∈ l₁) ∧
    (prec l₁ = .connecting ↔ .ready ∉ l₁ ∧ .connecting ∈ l₁) ∧
    (prec l₁ = .idle ↔ .ready ∉ l₁ ∧ .connecting ∉ l₁ ∧ .idle ∈ l₁) ∧
    (prec l₁ = .tf ↔ .ready ∉ l₁ ∧ .connecting ∉ l₁ ∧ .idle ∉ l₁) := by
  refine ⟨by simp only [prec, h.mem_iff], rfl, ?_⟩
  simp only [prec]
  by_cases h1 : ConnState.ready ∈ l₁ <;> by_cases h2 : ConnState.connecting ∈ l₁ <;>
    by_cases h3 : ConnState.idle ∈ l₁ <;> simp [h1, h2, h3]

/-- ConnectivityStateEvaluator, every legal history (children added / changing state / removed in
    any order, any number of them): each uint64 counter is the number of children in that state
    modulo 2^64, and no child is recorded as SHUTDOWN. -/
theorem cse_counters_track_multiset (evs : List Ev) :
    (runTrack evs).1.numReady = BitVec.ofNat 64 ((runTrack evs).2.count .ready) ∧
    (runTrack evs).1.numConnecting = BitVec.ofNat 64 ((runTrack evs).2.count .connecting) ∧
    (runTrack evs).1.numTransientFailure = BitVec.ofNat 64 ((runTrack evs).2.count .tf) ∧
    (runTrack evs).1.numIdle = BitVec.ofNat 64 ((runTrack evs).2.count .idle) ∧
    .shutdown ∉ (runTrack evs).2 := by
  have h := Lemmas.LbConnState.tracks_run evs
  obtain ⟨hr, hc, ht, hi⟩ := h.counts.fields
  exact ⟨hr, hc, ht, hi, h.noShutdown⟩

/-- … hence (fewer than 2^64 children) `CurrentState`, which is also what `RecordTransition`
    returns, is the precedence-rule state of the current multiset of child states. -/
theorem cse_aggregate_precedence (evs : List Ev) (hl : (runTrack evs).2.length < 2 ^ 64) :
    (runTrack evs).1.currentState = prec (runTrack evs).2 ∧
    ∀ old new, ((runTrack evs).1.recordTransition old new).2
      = ((runTrack evs).1.recordTransition old new).1.currentState :=
  ⟨Lemmas.LbConnState.current_of_counts _ _ (Lemmas.LbConnState.tracks_run evs).counts hl, fun _ _ => rfl⟩

/-- The legality hypothesis is needed: told about a transition of a child it never saw, the
    evaluator underflows a counter and reports READY with no children (the `uint64(idx)*2-1` trick is
    only subtraction while the counter is positive). Exercised on the real code by raw `rt` ops. -/
theorem cse_underflow_counterexample :
    ¬ (∀ old new : ConnState, (({} : CSE).recordTransition old new).2 = prec ([new].filter (· ≠ .shutdown))) := by
  intro h
  exact absurd (h .ready .shutdown) (by decide)

/-- endpointsharding `updateStateLocked`, any children in any map order: the aggregate state is
    the precedence-rule state of the children's states (TRANSIENT_FAILURE for none). -/
theorem epshard_aggregate_precedence (cs : List Child) :
    (build cs).1 = prec (cs.map (·.state)) ∧ (build []).1 = .tf :=
  ⟨congrArg Prod.fst (Lemmas.EpShard.build_eq cs), rfl⟩

/-- Every state the balancer hands to the channel, from any state, for any op (resolver update,
    child report, ResolverError, ExitIdle) and any map iteration order: the aggregate state follows
    the rule, the picker holds exactly the children that are in the aggregate state (the error
    picker when there is none), and its start index is in range. -/
theorem epshard_every_push_ok (s : St) (op : Op) (oracle : List Del) (p : Pushed)
    (h : (step s op oracle).2.push = some p) : pushOk p = true := by
  obtain ⟨cs, r, rfl⟩ := (Lemmas.EpShard.step_ok s op oracle).push p h
  exact Lemmas.EpShard.pushOk_pushOf cs r oracle

/-- All histories: whenever child updates are not inhibited (i.e. the balancer is not closed), the
    state last given to the channel is the aggregate of the CURRENT children — the channel never
    works with a stale aggregate. -/
theorem epshard_channel_view_current (b : Bool) (ops : List (Op × List Del)) (p : Pushed)
    (hl : (run (init b) ops).last = some p) (hi : (run (init b) ops).inhibit = false) :
    p.agg = prec ((run (init b) ops).endpoints.map (·.state)) ∧
    p.childStates = (run (init b) ops).endpoints.map Child.cstate :=
  (Lemmas.EpShard.inv_run b ops).cur hi p hl

/-- All histories, all pick counts, any index (wrapped or not): every Pick on the channel's picker
    delegates to a child that is in the aggregate state (or to the error picker when no child is). -/
theorem picker_only_delegates_to_children_in_aggregate_state (b : Bool) (ops : List (Op × List Del))
    (p : Pushed) (hl : (run (init b) ops).last = some p) (next : BitVec 32) (k : Nat) (d : Del)
    (hd : d ∈ (pickSeq p.pickers next k).2) : delegateOk p d = true :=
  Lemmas.EpShard.picks_delegate_ok p ((Lemmas.EpShard.inv_run b ops).last p hl).pickers next k d hd

/- Full statement wanted:  ∀ pickers next k, every delegate is chosen ⌊k/n⌋ or ⌈k/n⌉ times.
   It is FALSE across the uint32 wrap (rr_wrap_counterexample); proved under the no-wrap hypothesis
   `next + k < 2^32`, hence `_partial`. -/

/-- Round robin, index level: k consecutive picks that do not wrap the uint32 index choose a
    delegate that occurs once in the list ⌊k/n⌋ or ⌈k/n⌉ times. -/
theorem rr_fair_partial (pickers : List Del) (d : Del) (h1 : pickers.count d = 1) (next : BitVec 32)
    (k : Nat) (hw : next.toNat + k < 4294967296) :
    let c := (pickSeq pickers next k).2.count d
    c = k / pickers.length ∨ (c = k / pickers.length + 1 ∧ k % pickers.length ≠ 0) :=
  Lemmas.EpShard.fair_of_count_one pickers d h1 next k hw

/-- All histories: on the channel's picker, any k consecutive picks starting at any index that
    does not wrap give EVERY child in the aggregate state ⌊k/n⌋ or ⌈k/n⌉ picks (the monitor's
    `windowFair`). -/
theorem rr_fair_children_partial (b : Bool) (ops : List (Op × List Del)) (p : Pushed)
    (hl : (run (init b) ops).last = some p) (next : BitVec 32) (k : Nat)
    (hw : next.toNat + k < 4294967296) :
    windowFair p (pickSeq p.pickers next k).2 = true :=
  Lemmas.EpShard.windowFair_of_pushedOk p ((Lemmas.EpShard.inv_run b ops).last p hl) next k hw

/-- … and the same for every SUPERSEDED picker the channel may still be picking on (RPCs that fetched
    it before a picker update): each picker generation has its own position, so in every history any k
    consecutive picks on the g-th most recently superseded picker — whatever was picked on other
    generations in between — give each of ITS children ⌊k/n⌋ or ⌈k/n⌉ picks (no index wrap). -/
theorem rr_fair_superseded_partial (b : Bool) (ops : List (Op × List Del)) (g : Nat) (p : Pushed) (w : List Del)
    (hg : (run (init b) ops).olds[g]? = some (p, w)) (k : Nat) (hw : p.next.toNat + k < 4294967296) :
    windowFair p (pickSeq p.pickers p.next k).2 = true ∧
    (step (run (init b) ops) (.pickold g k) []).2.picks = some (pickSeq p.pickers p.next k).2 := by
  have hm := (Lemmas.EpShard.inv_run b ops).olds (p, w) (List.mem_of_getElem? hg)
  exact ⟨Lemmas.EpShard.windowFair_of_pushedOk p hm p.next k hw, by simp [step, doPickOld, hg]⟩

/-- F8: without the no-wrap hypothesis the statement is false — three READY children, index
    2^32−3, three picks: one child is picked twice, one never. -/
theorem rr_wrap_counterexample :
    ¬ (∀ (p : Pushed) (k : Nat), pickersOk p = true → (p.childStates.map (·.ep)).Nodup →
        windowFair p (pickSeq p.pickers p.next k).2 = true) := by
  intro h
  have := h { agg := .ready, pickers := [.child 1 0, .child 2 1, .child 3 2], next := 4294967293#32,
              childStates := [⟨1, 0, .ready, true⟩, ⟨2, 1, .ready, true⟩, ⟨3, 2, .ready, true⟩] } 3
            (by decide) (by decide)
  revert this
  decide

/-- Every history of Add / Remove / UpdateState / UpdateWeight / Pause / Resume / Start in which an id
    is added once until removed and the aggregator is not used after Stop (`WAgg.RunOk`): the
    evaluator's counters are the numbers of children whose COUNTED state (`stateToAggregate`: the
    reported state, except that TRANSIENT_FAILURE → CONNECTING still counts as TRANSIENT_FAILURE)
    is READY / CONNECTING / TRANSIENT_FAILURE / IDLE — in particular what Remove takes out is what
    was counted. -/
theorem wagg_counters_track_children (ops : List GrpcModel.WAgg.Op) (hok : GrpcModel.WAgg.RunOk {} ops)
    (hns : (GrpcModel.WAgg.run {} ops).stopped = false) :
    let s := GrpcModel.WAgg.run {} ops
    s.cse.numReady = BitVec.ofNat 64 ((s.entries.map (·.agg)).count .ready) ∧
    s.cse.numConnecting = BitVec.ofNat 64 ((s.entries.map (·.agg)).count .connecting) ∧
    s.cse.numTransientFailure = BitVec.ofNat 64 ((s.entries.map (·.agg)).count .tf) ∧
    s.cse.numIdle = BitVec.ofNat 64 ((s.entries.map (·.agg)).count .idle) :=
  (Lemmas.WAgg.tracksW_run {} ops Lemmas.WAgg.tracksW_init hok hns).fields

/-- … hence every state the aggregator gives to its parent follows the precedence rule over the
    children's counted states, TRANSIENT_FAILURE when there are no children (the monitor's `pushOk`;
    fewer than 2^64 children). -/
theorem wagg_aggregate_precedence (ops : List GrpcModel.WAgg.Op) (op : GrpcModel.WAgg.Op)
    (hok : GrpcModel.WAgg.RunOk {} (ops ++ [op]))
    (hns : (GrpcModel.WAgg.step (GrpcModel.WAgg.run {} ops) op).1.stopped = false)
    (hlen : (GrpcModel.WAgg.step (GrpcModel.WAgg.run {} ops) op).1.entries.length < 2 ^ 64)
    (p : GrpcModel.WAgg.Push) (hp : (GrpcModel.WAgg.step (GrpcModel.WAgg.run {} ops) op).2 = some p) :
    GrpcModel.WAgg.pushOk ((GrpcModel.WAgg.step (GrpcModel.WAgg.run {} ops) op).1.entries.map (·.agg)) p = true := by
  obtain ⟨h1, h2⟩ := Lemmas.WAgg.runOk_snoc hok
  exact Lemmas.WAgg.push_ok _ op (Lemmas.WAgg.tracksW_run {} ops Lemmas.WAgg.tracksW_init h1) h2 hns hlen p hp

example : (pickSeq [.child 1 0, .child 2 1, .child 3 2] 4294967293#32 3).2 = [.child 3 2, .child 1 0, .child 1 0] := by decide
example : (pickSeq [.child 1 0, .child 2 1, .child 3 2] 4294967289#32 3).2 = [.child 2 1, .child 3 2, .child 1 0] := by decide
example : (runTrack [.add .tf, .add .idle, .change 0 .connecting, .remove 1]).2 = [.connecting] := by decide
example : (runTrack [.add .tf, .add .idle, .change 0 .connecting, .remove 1]).1.currentState = .connecting := by decide
example : (build [{ id := 1, ep := 0, state := .tf, hasPicker := true }, { id := 2, ep := 1 }]) = (.idle, [.nilp]) := by decide
example : ((step (init false) (.update 1 [⟨0, some .ready, false⟩, ⟨1, some .tf, true⟩, ⟨0, none, false⟩]) []).2.push.map (·.agg)) = some .idle := by decide  -- rotated by 1: e0's first occurrence reports nothing (zero value IDLE)

example : (GrpcModel.WAgg.step (GrpcModel.WAgg.run {} [.start, .add 1 1, .add 2 1, .upd 2 .tf, .upd 1 .tf, .upd 1 .connecting]) (.remove 1)).2
    = some ⟨.tf, .group [(2, 1, 1)]⟩ := by decide
example : (GrpcModel.WAgg.run {} [.start, .add 1 1, .upd 1 .tf, .upd 1 .connecting]).entries.map (fun e => (e.reported, e.agg))
    = [(.connecting, .tf)] := by decide

end GrpcProofs.C35
