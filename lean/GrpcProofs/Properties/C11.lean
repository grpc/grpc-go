/-
C11  A misbehaving server can never crash or hang the client transport — the part a model can state.

Model: GrpcModel/Model/ClientConn.lean.  `Frame` is whatever the x/net/http2 framer can hand to the
reader loop (parsed frames with arbitrary fields, `streamErr`, `connErr`), `run s es` ranges over
every sequence of frames interleaved in every way with loopy, the RPC goroutines and `Close`.

Partial: panics, goroutine leaks and real blocking are facts about the Go runtime; they are explored
by the correspondence run (every case runs the real transport in a synctest bubble that must be
empty after Close), not proved.
-/
import GrpcProofs.Lemmas.ClientConnStep
namespace GrpcProofs.C11
open GrpcModel.ClientConn GrpcProofs.Lemmas.ClientConn

/-- the connection goes away (read error / EOF), 5 s pass, `Close` runs to completion -/
def closeSeq : List Ev := [.frame .connErr, .tick 5000, .closeP2, .closeP3]

/-- **At most one status, never changed**: once a stream has its terminal outcome, no event sequence
whatsoever (frames for that stream, GOAWAY, RST, Close, …) changes it. -/
theorem status_never_changes (s : State) (es : List Ev) {i : Nat} {x : Strm} {t : Term}
    (hx : s.streams[i]? = some x) (ht : x.term = some t) :
    ∃ y, (run s es).streams[i]? = some y ∧ y.id = x.id ∧ y.term = some t :=
  (mono_run s es).outcome hx ht

/-- … and a `NewStream` call that has returned keeps its result. -/
theorem newstream_result_never_changes (s : State) (es : List Ev) {k : Nat} {r : Rpc} (hr : s.rpcs[k]? = some r) :
    ∃ r', (run s es).rpcs[k]? = some r' ∧ (∀ c b', r.st = .failed c b' → r'.st = .failed c b') ∧
      (∀ i, r.st = .opened i → r'.st = .opened i) :=
  (mono_run s es).rpc.2 k r hr

/-- Once `Close` has finished, every stream ever opened on the connection has a terminal outcome. -/
theorem every_stream_gets_a_status {s : State} (hr : Reach s) (hd : s.closeP = .done) {i : Nat} {x : Strm}
    (hx : s.streams[i]? = some x) : ∃ t, x.term = some t := by
  have hi := hr.inv
  cases ht : x.term with
  | some t => exact ⟨t, rfl⟩
  | none =>
    have hcl : s.tstate = .closing := hi.cp.mpr (by simp [hd])
    exact absurd hd ((hi.live i x hx ht).2 hcl).2

/-- **`Close` completes under every schedule in which its phases get their turn.**  Once `Close` has started (`closing`): if it
gets past its `select` at a moment that `select` is ready (`closeP2` when `writerDone` is closed or the 5 s timer has fired) and,
later, past `<-t.readerDone` at a moment the reader has returned (`closeP3`), it has finished, whatever else happens before and
in between (`es`, `es'`: frames, loopy, NewStream calls, RPC contexts, ticks) and in whatever order. -/
theorem close_completes_of_schedule {s : State} (hi : Inv s) (hc : s.tstate = .closing) (es es' : List Ev)
    (hen : ∀ t, (run s es).closeP = .waitWriter t → (run s es).lExited = true ∨ t ≤ (run s es).now)
    (hrd : (run s (es ++ .closeP2 :: es')).readerDone = true) :
    (run s (es ++ .closeP2 :: (es' ++ [.closeP3]))).closeP = .done := by
  rw [run_append, run] at hrd
  rw [run_append, run, run_append]
  have g1 := good_run s es
  have hc2 := g1.mono.closing hc
  have hi2 := g1.inv hi
  generalize run s es = s2 at hen hc2 hi2 hrd
  -- `closeP2` leaves `Close` past the select, and nothing that happens afterwards takes it back
  have hp3 := (good_run (step s2 .closeP2).1 es').pastSelect ((Good.refl s2).closeP2.mono.closing hc2)
    (closeP2_pastSelect (hi2.cp.mp hc2) hen)
  generalize run (step s2 .closeP2).1 es' = s3 at hrd hp3
  show s3.closeP3.closeP = .done
  unfold State.closeP3
  rcases hp3 with hp | hp <;> simp [hp, hrd]

/-- In particular when the reader has returned and 5 s pass before `closeP2`: `Close` armed its timer before (`Inv.tm`),
nothing arms it again, and the reader does not come back. -/
theorem close_completes_after_5s {s : State} (hi : Inv s) (hrd : s.readerDone = true) (es es' : List Ev)
    (h5 : s.now + 5000 ≤ (run s es).now) : (run s (es ++ .closeP2 :: (es' ++ [.closeP3]))).closeP = .done :=
  have hc := hi.rd hrd
  close_completes_of_schedule hi hc es es'
    (fun t ht => .inr (Nat.le_trans (hi.tm t ((good_run s es).timer hc (hi.cp.mp hc) ht)) h5))
    ((good_run s _).rd hrd)

/-- From every reachable state, losing the connection drives `Close` to completion. -/
theorem close_completes {s : State} (hr : Reach s) : (run s closeSeq).closeP = .done := by
  have hrd : (s.onFrame .connErr).readerDone = true := by
    unfold State.onFrame
    split
    · assumption
    · exact readerExit_done s
  exact close_completes_after_5s ((good_onFrame s .connErr).inv hr.inv) hrd [.tick 5000] [] (Nat.le_refl _)

/-- **Exactly one status**, for every schedule `es` from a reachable state that lets `Close` finish (which ones do:
`close_completes_of_schedule`): every stream ever opened ends with a terminal outcome, that outcome is legal (a code 0…16
chosen by the client, or io.EOF with the status the trailers carried), and an outcome assigned before `es` is the final one. -/
theorem exactly_one_status_of_done {s : State} (hr : Reach s) (es : List Ev) (hd : (run s es).closeP = .done) :
    (∀ (i : Nat) (y : Strm), (run s es).streams[i]? = some y → ∃ t, y.term = some t ∧ LegalTerm t) ∧
    (∀ (i : Nat) (x : Strm) (t : Term), s.streams[i]? = some x → x.term = some t →
      ∃ y : Strm, (run s es).streams[i]? = some y ∧ y.term = some t) := by
  have hr2 := hr.run es
  refine ⟨fun i y hy => ?_, fun i x t hx ht => ?_⟩
  · obtain ⟨t, ht⟩ := every_stream_gets_a_status hr2 hd hy
    exact ⟨t, ht, hr2.inv.lg i y t hy ht⟩
  · obtain ⟨y, hy, _, hterm⟩ := status_never_changes s es hx ht
    exact ⟨y, hy, hterm⟩

/-- **Exactly one status.**  For every reachable state, every further event sequence `es` (any frames in
any order, any interleaving) followed by the connection going away: every stream ever opened ends
with a terminal outcome, that outcome is legal (a code 0…16 chosen by the client, or io.EOF with the
status the trailers carried), and an outcome assigned at any earlier point is the final one. -/
theorem exactly_one_status {s : State} (hr : Reach s) (es : List Ev) :
    let s' := run (run s es) closeSeq
    (∀ (i : Nat) (y : Strm), s'.streams[i]? = some y → ∃ t, y.term = some t ∧ LegalTerm t) ∧
    (∀ (i : Nat) (x : Strm) (t : Term), (run s es).streams[i]? = some x → x.term = some t →
      ∃ y : Strm, s'.streams[i]? = some y ∧ y.term = some t) :=
  exactly_one_status_of_done (hr.run es) closeSeq (close_completes (hr.run es))

/-- **Status codes are legal**: in every reachable state, a stream's outcome is either an error the client
chose, with a code in 0…16, or io.EOF together with a recorded status (the grpc-status of the
trailers as a uint32, or the client's own INTERNAL for a stream the server ended without trailers). -/
theorem status_code_legal {s : State} (hr : Reach s) {i : Nat} {x : Strm} {t : Term}
    (hx : s.streams[i]? = some x) (ht : x.term = some t) :
    (∀ c, t.err = some c → c ≤ 16) ∧ (t.err = none → ∃ st, t.status = some st) := by
  obtain ⟨h1, h2⟩ := hr.inv.lg i x t hx ht
  exact ⟨h1, fun hn => Option.isSome_iff_exists.mp (h2 hn)⟩

/-- **No later than its deadline** (model part): when the RPC's context is done, the RPC goroutine's
reaction terminates the stream at once: afterwards it has an outcome (which one the statement leaves open; by `closeF_term`
it is the one the stream had, else DEADLINE_EXCEEDED / CANCELED) … -/
theorem stream_terminates_at_deadline (s : State) {k i : Nat} {r : Rpc} {x : Strm}
    (hr : s.rpcs[k]? = some r) (ho : r.st = .opened i) (hd : r.ctxDone s.now = true) (hx : s.streams[i]? = some x) :
    ∃ y, (s.ctxFire k).streams[i]? = some y ∧ ∃ t, y.term = some t := by
  unfold State.ctxFire
  simp only [hr, hd, Bool.not_true, Bool.false_eq_true, if_false, ho]
  rw [closeStream_streams, List.getElem?_modify, hx]
  simp only [if_true]
  exact ⟨_, rfl, _, closeF_term ..⟩

/-- … and a `NewStream` still blocked (MAX_CONCURRENT_STREAMS, draining transport) returns with the context's error. -/
theorem blocked_newstream_returns_at_deadline (s : State) {k : Nat} {r : Rpc} {ch : Option Nat}
    (hr : s.rpcs[k]? = some r) (hb : r.st = .blocked ch) (hd : r.ctxDone s.now = true) :
    ∃ r' c, (s.wake k .ctx).rpcs[k]? = some r' ∧ r'.st = .failed c false ∧ (c = cCanceled ∨ c = cDeadline) := by
  unfold State.wake
  simp only [hr, hb, hd, if_true]
  obtain ⟨r', h1, h2⟩ := updRpc_setSt_blocked (.failed (if r.cancelled = true then cCanceled else cDeadline) false) hr hb
  exact ⟨r', _, h1, h2, by by_cases hc : r.cancelled = true <;> simp [hc]⟩

/-- A blocked `NewStream` also returns (UNAVAILABLE, transparent retry allowed) once the transport is closed. -/
theorem blocked_newstream_returns_on_close (s : State) {k : Nat} {r : Rpc} {ch : Option Nat}
    (hr : s.rpcs[k]? = some r) (hb : r.st = .blocked ch) (hd : s.ctxDone = true) :
    ∃ r', (s.wake k .tctx).rpcs[k]? = some r' ∧ r'.st = .failed cUnavailable true := by
  unfold State.wake
  simp only [hr, hb, hd, if_true]
  exact updRpc_setSt_blocked _ hr hb

/-- **Nothing after done** (1): a HEADERS / RST_STREAM / framer stream-error for a stream id that is not in
`activeStreams` (never opened, or finished and removed) changes nothing at all. -/
theorem frame_for_unknown_stream_is_ignored (s : State) (sid : Nat) (hn : s.findActive sid = none) :
    (∀ es tr fs, s.onFrame (.headers sid es tr fs) = s) ∧ (∀ c, s.onFrame (.rst sid c) = s) ∧
    (∀ c, s.onFrame (.streamErr sid c) = s) := by
  -- a reader that has returned reads nothing (the `rfl`s); otherwise each of the three handlers starts with the lookup in
  -- `activeStreams` and returns when it fails
  refine ⟨fun es tr fs => ?_, fun c => ?_, fun c => ?_⟩ <;> unfold State.onFrame <;> split
  · rfl
  · simp only [State.operateHeaders, hn]
  · rfl
  · simp only [State.handleRST, hn]
  · rfl
  · simp only [hn]

/-- **Nothing after done** (2): DATA for such a stream only moves the connection-level flow-control window. -/
theorem data_for_unknown_stream (s : State) (sid size dl : Nat) (p es : Bool) (hrd : s.readerDone = false)
    (hn : (s.connOnData size).findActive sid = none) :
    s.onFrame (.data sid size dl p es) = s.connOnData size := by
  simp [State.onFrame, hrd, State.handleData, hn]

/-- The outcome is frozen, but the `Unprocessed` flag is not: a GOAWAY (or RST_STREAM(REFUSED_STREAM)) that
arrives after the stream got its final status and before loopy removed it from `activeStreams` still sets
the flag (`stream.unprocessed.Store(true)` is done for every victim, done or not; reproduced on the real
transport by the `hold-*` cases).  Witness: the server ends stream 1 (END_STREAM), then GOAWAY(0) is handled
before loopy's cleanup. -/
theorem unprocessed_can_flip_after_done :
    let w : List Ev := [.newRPC false none, .loopy, .flush, .frame (.data 1 0 0 false true)]
    let s := run (init false 400 none none) w
    (s.streams.map fun x => (x.term, x.unprocessed)) = [(some { err := none, status := some 13 }, false)] ∧
    ((s.onFrame (.goAway 0 0 [])).streams.map fun x => (x.term, x.unprocessed)) = [(some { err := none, status := some 13 }, true)] ∧
    ((s.onFrame (.rst 1 7)).streams.map fun x => (x.term, x.unprocessed)) = [(some { err := none, status := some 13 }, true)] := by
  decide

/-! `decodeLoop` ports `decodeGrpcMessageUnchecked` with every `msg[i]` / `msg[i+1:i+3]` as a bounds-checked
read (`none` = Go's "index out of range" panic).  The correspondence run compares the decoded message of
every trailers status with the real `Status().Message()`, over the whole escape grammar (all strings of
length ≤ 4 over `%`, hex digits, a non-hex byte; longer random ones with every truncation). -/

/-- **The client never panics while decoding a server-chosen `grpc-message`** (model part): for every byte
string the decoder's index accesses are in range. -/
theorem decodeGrpcMessage_never_panics (m : Bytes) : ∃ d, decodeGrpcMessage m = some d := by
  unfold decodeGrpcMessage
  split
  · exact ⟨_, rfl⟩
  · split
    · unfold decodeGrpcMessageUnchecked
      exact Option.isSome_iff_exists.mp (decodeLoop_isSome ..)
    · exact ⟨_, rfl⟩

/-- the decoded message is never longer than the header value -/
theorem decodeLoop_length (m : Bytes) : ∀ (fuel i : Nat) (acc d : Bytes), decodeLoop m fuel i acc = some d → i ≤ m.length →
    d.length + i ≤ acc.length + m.length := by
  intro fuel i acc d h hi
  fun_induction decodeLoop m fuel i acc with
  | case1 | case7 => cases h; omega   -- out of fuel, or past the end
  | case2 | case5 => cases h
  | case3 _ i _ _ _ _ hc _ _ _ _ _ _ _ _ ih =>
    -- `%XX` decoded: three bytes read, one written
    have := ih h (by simp at hc; omega)
    simp at this; omega
  | case4 _ _ _ _ _ _ _ _ _ _ _ _ ih | case6 _ _ _ _ _ _ _ ih =>
    -- `%` kept as it is, or any other byte: one read, one written
    have := ih h (by omega)
    simp at this; omega

end GrpcProofs.C11
