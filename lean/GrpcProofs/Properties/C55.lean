/-
C55  Binary logs are correctly truncated and never include omitted headers.

Vocabulary (GrpcModel/Model/Binlog.lean): `truncateMetadata h es` / `truncateMessage m d` /
`metadataKeyOmit` / `mdToMetadataProto` port the Go functions; `counted e` = key ≠ grpc-trace-bin;
`csize` = bytes that count towards the header limit; `Holds h inp out flag` = the statement for one
metadata entry; `metaVerdict` = the executable monitor that is run on the implementation.
`hfit : h = maxUInt → csize es ≤ h` only says that the total size of existing slices is < 2^64.

`truncateMetadata` keeps every grpc-trace-bin entry, also behind the first over-limit entry (/repo from
commit 6e01388 on; finding F7 is the loss of such an entry before it), so the full statement is a theorem:
`statement_holds`, `trace_bin_always_kept`.
-/
import GrpcProofs.Lemmas.Binlog
namespace GrpcProofs.C55
open GrpcModel.Binlog
open GrpcProofs.Lemmas

/-- THE STATEMENT, for the code: for every limit and every entry list, what `truncateMetadata` logs
    satisfies `Holds` — the counted entries kept are the longest in-order fitting prefix of the counted
    loggable entries, every grpc-trace-bin entry is kept, nothing else changes, truncated ⇔ dropped. -/
theorem statement_holds (h : Nat) (es : List Entry) (hfit : h = maxUInt → csize es ≤ h) :
    Holds h es (truncateMetadata h es).1 (truncateMetadata h es).2 :=
  Binlog.statement_holds h es hfit

/-- The monitor run on the implementation decides exactly the statement. -/
theorem metaVerdict_ok_iff (h : Nat) (inp out : List Entry) (flag : Bool) :
    metaVerdict h inp out flag = .ok ↔ Holds h inp out flag :=
  Binlog.metaVerdict_ok_iff h inp out flag

theorem code_verdict (h : Nat) (es : List Entry) (hfit : h = maxUInt → csize es ≤ h) :
    metaVerdict h es (truncateMetadata h es).1 (truncateMetadata h es).2 = .ok :=
  Binlog.code_verdict h es hfit

/-- What `Holds` (its local "next entry does not fit" form) gives: the logged counted entries are the
    longest fitting prefix of the counted loggable entries, and every grpc-trace-bin entry is logged. -/
theorem statement_implies {h : Nat} {inp out : List Entry} {flag : Bool} (H : Holds h inp out flag) :
    (∀ q, q <+: inp.filter counted → csize q ≤ h → q.length ≤ (out.filter counted).length) ∧
    (∀ e ∈ inp, e.key = traceBin → e ∈ out) :=
  ⟨Binlog.holds_longest H, Binlog.holds_trace_bin_kept H⟩

/-- Shape of the result: the LONGEST prefix of the entry list whose counted bytes (grpc-trace-bin = 0)
    fit in the header limit, followed by the grpc-trace-bin entries behind it. -/
theorem result_is_longest_fitting_prefix (h : Nat) (es : List Entry) (hfit : h = maxUInt → csize es ≤ h) :
    ∃ n, (truncateMetadata h es).1 = es.take n ++ (es.drop n).filter (fun e => !(counted e)) ∧
      csize (es.take n) ≤ h ∧ ∀ p, p <+: es → csize p ≤ h → p.length ≤ n :=
  Binlog.result_is_longest_fitting_prefix h es hfit

/-- Read on the counted (non-trace-bin) entries alone: those logged are the longest prefix of the
    counted loggable entries whose key+value sizes fit. -/
theorem counted_entries_longest_fitting_prefix (h : Nat) (es : List Entry) (hfit : h = maxUInt → csize es ≤ h) :
    (truncateMetadata h es).1.filter counted <+: es.filter counted ∧
    csize ((truncateMetadata h es).1.filter counted) ≤ h ∧
    ∀ q, q <+: es.filter counted → csize q ≤ h → q.length ≤ ((truncateMetadata h es).1.filter counted).length :=
  have H := statement_holds h es hfit
  ⟨H.countedPrefix, by rw [Binlog.csize_filter_counted]; exact H.fits, Binlog.holds_longest H⟩

theorem truncated_flag_iff_dropped (h : Nat) (es : List Entry) (hfit : h = maxUInt → csize es ≤ h) :
    ((truncateMetadata h es).2 = true ↔ (truncateMetadata h es).1 ≠ es) ∧
    ((truncateMetadata h es).2 = true ↔ (truncateMetadata h es).1.length < es.length) :=
  Binlog.truncated_flag_iff_dropped h es hfit

/-- "not counted": which counted entries are logged does not depend on the grpc-trace-bin entries
    present (deleting them all from the input gives the same counted output). -/
theorem trace_bin_not_counted (h : Nat) (es : List Entry) :
    (truncateMetadata h es).1.filter counted = (truncateMetadata h (es.filter counted)).1 := by
  have hnil : ∀ k, ((es.filter counted).drop k).filter (fun e => !(counted e)) = [] := fun k =>
    List.filter_eq_nil_iff.2 fun e he => by simp [(List.mem_filter.1 (List.mem_of_mem_drop he)).2]
  rw [Binlog.truncateMetadata_eq, Binlog.truncateMetadata_eq]
  simp only []
  rw [Binlog.filter_counted_append_filter_not, hnil, List.append_nil]
  split
  · rw [List.take_length, List.take_length]
  · exact Binlog.take_truncIndex_filter h es

/-- "always kept": every grpc-trace-bin entry of the input is logged, wherever it stands. -/
theorem trace_bin_always_kept (h : Nat) (es : List Entry) (hfit : h = maxUInt → csize es ≤ h)
    (e : Entry) (he : e ∈ es) (hk : e.key = traceBin) : e ∈ (truncateMetadata h es).1 :=
  Binlog.trace_bin_always_kept h es hfit e he hk

/-- A message entry holds exactly the first min(limit, len) payload bytes (so at most the limit),
    and truncated is set exactly when bytes were dropped. -/
theorem message_le_limit (m : Nat) (data : Bytes) (hlen : data.length ≤ maxUInt) :
    (truncateMessage m data).1 = data.take m ∧ (truncateMessage m data).1.length ≤ m ∧
    ((truncateMessage m data).2 = true ↔ (truncateMessage m data).1 ≠ data) ∧
    ((truncateMessage m data).2 = true ↔ m < data.length) :=
  Binlog.message_le_limit m data hlen

/-- `metadataKeyOmit` (its case list is regenerated from the Go source, T4) omits exactly: the seven
    literal names, and every grpc-* name other than grpc-trace-bin. -/
theorem metadataKeyOmit_spec (k : Bytes) :
    metadataKeyOmit k = true ↔
      (k ∈ [asciiBytes "lb-token", asciiBytes ":path", asciiBytes ":authority", asciiBytes "content-encoding",
            asciiBytes "content-type", asciiBytes "user-agent", asciiBytes "te"]
       ∨ (asciiBytes "grpc-" <+: k ∧ k ≠ asciiBytes "grpc-trace-bin")) :=
  Binlog.metadataKeyOmit_spec k

/-- Headers gRPC omits from logs never appear, for every map and every iteration order. -/
theorem omitted_never_appear (md : MD) (e : Entry) (he : e ∈ mdToMetadataProto md) :
    mustOmit e.key = false ∧
    e.key ∉ [asciiBytes ":path", asciiBytes ":authority", asciiBytes "content-type", asciiBytes "user-agent",
             asciiBytes "te", asciiBytes "lb-token"] ∧
    ¬ (asciiBytes "grpc-" <+: e.key ∧ e.key ≠ asciiBytes "grpc-trace-bin") :=
  Binlog.omitted_never_appear md e he

/-- …and nothing else is lost: groups are logged in iteration order, each key's values contiguous
    and in order, and an entry is logged iff its key is not omitted. -/
theorem loggable_all_appear_in_order :
    (∀ a b : MD, mdToMetadataProto (a ++ b) = mdToMetadataProto a ++ mdToMetadataProto b) ∧
    (∀ (k : Bytes) (vs : List Bytes), mdToMetadataProto [(k, vs)]
        = if metadataKeyOmit k then [] else vs.map (fun v => ⟨k, v⟩)) ∧
    (∀ (md : MD) (e : Entry), e ∈ mdToMetadataProto md ↔
        metadataKeyOmit e.key = false ∧ ∃ vs, (e.key, vs) ∈ md ∧ e.value ∈ vs) :=
  ⟨fun a b => by simp [mdToMetadataProto], fun k vs => by simp [mdToMetadataProto], Binlog.mem_mdToMetadataProto⟩

/-- End to end through `Build`: a client/server header entry satisfies the statement with respect to
    the loggable entries of the map (in its iteration order): it fits, is flagged iff something was dropped,
    holds every grpc-trace-bin entry, and holds only loggable entries, none with an omitted header. -/
theorem build_header_spec (h m : Nat) (md : MD) (hfit : h = maxUInt → csize (mdToMetadataProto md) ≤ h) :
    build h m (.serverHeader md) = build h m (.clientHeader md) ∧
    ∃ out flag, build h m (.clientHeader md) = .mdata out flag ∧
      Holds h (mdToMetadataProto md) out flag ∧ csize out ≤ h ∧ (flag = true ↔ out ≠ mdToMetadataProto md) ∧
      (∀ e ∈ mdToMetadataProto md, e.key = traceBin → e ∈ out) ∧
      ∀ e ∈ out, e ∈ mdToMetadataProto md ∧ mustOmit e.key = false := by
  refine ⟨rfl, _, _, rfl, ?_⟩
  have H := statement_holds h (mdToMetadataProto md) hfit
  refine ⟨H, H.fits, H.flag_iff, (statement_implies H).2, fun e he => ?_⟩
  have hin := (Binlog.truncateMetadata_sublist h _).subset he
  exact ⟨hin, (omitted_never_appear md e hin).1⟩

theorem build_message_spec (h m : Nat) (data : Bytes) (hlen : data.length ≤ maxUInt) :
    build h m (.message data) = .msg data.length (data.take m) (decide (m < data.length)) := by
  simp only [build]
  rw [Binlog.truncateMessage_eq m data hlen]

example : (truncateMetadata 4 [⟨asciiBytes "a", [49]⟩, ⟨traceBin, [116]⟩, ⟨asciiBytes "bb", [50, 50]⟩]).2 = true := by decide
example : (truncateMetadata 4 [⟨asciiBytes "a", [49]⟩, ⟨traceBin, [116]⟩, ⟨asciiBytes "bb", [50, 50]⟩]).1.length = 2 := by decide
-- a grpc-trace-bin entry behind an entry that does not fit (the input of F7): kept; the monitor names its loss
example : truncateMetadata 4 [⟨asciiBytes "bigkey", asciiBytes "bigvalue"⟩, ⟨traceBin, [116]⟩] = ([⟨traceBin, [116]⟩], true) := by decide
example : metaVerdict 4 [⟨asciiBytes "bigkey", asciiBytes "bigvalue"⟩, ⟨traceBin, [116]⟩] [] true = .traceBinDropped := by decide
example : Holds 2 [⟨asciiBytes "a", [49]⟩, ⟨traceBin, [116]⟩] [⟨asciiBytes "a", [49]⟩, ⟨traceBin, [116]⟩] false :=
  (metaVerdict_ok_iff _ _ _ _).1 (by decide)
example : truncateMessage 2 [1, 2, 3] = ([1, 2], true) := by decide
-- `String.reduceToList` turns the literals into character lists and leaves their evaluation to the kernel alone;
-- `decide` on the literals themselves would evaluate them in the elaborator as well.
example : metadataKeyOmit (asciiBytes "grpc-status") = true ∧ metadataKeyOmit (asciiBytes "grpc-trace-bin") = false :=
  ⟨(metadataKeyOmit_spec _).2 (Or.inr (by simp only [asciiBytes, String.reduceToList]; decide)), if_pos rfl⟩
example : mdToMetadataProto [(asciiBytes "te", [[1]]), (asciiBytes "a", [[1], [2]])] = [⟨asciiBytes "a", [1]⟩, ⟨asciiBytes "a", [2]⟩] := by
  have hte : metadataKeyOmit (asciiBytes "te") = true := (metadataKeyOmit_spec _).2 (Or.inl (by simp))
  have ha : metadataKeyOmit (asciiBytes "a") = false :=
    Bool.eq_false_iff.2 (mt (metadataKeyOmit_spec _).1 (by simp only [asciiBytes, String.reduceToList]; decide))
  simp [mdToMetadataProto, hte, ha]

end GrpcProofs.C55
