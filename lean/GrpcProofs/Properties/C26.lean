/-
C26  Requests are dispatched only to the registered method.
Every theorem about `dispatch` but the converse half of `dispatch_spec` is read off `dispatch_cases`
(GrpcProofs/Lemmas/Dispatch.lean).
-/
import GrpcProofs.Lemmas.Dispatch
namespace GrpcProofs.C26
open GrpcModel.Dispatch GrpcProofs.Lemmas.Dispatch

/-- The path splits in exactly one way: `parse p = (s, m)` iff `p = "/" ++ s ++ "/" ++ m` with no
    slash in `m` (split on the LAST slash; `s` may contain slashes, either part may be empty). -/
theorem parse_spec (p s m : Bytes) : parse p = some (s, m) ↔ p = slash :: (s ++ slash :: m) ∧ slash ∉ m :=
  parse_some p s m

/-- The request runs registered entry `e` of service number `i` exactly when the
    path is "/" ++ s ++ "/" ++ m (m without slash), `i` is the service registered under the name `s`
    and `e` is the entry the registration table holds for `m`. -/
theorem dispatch_spec (reg : List Service) (unk : Bool) (p : Bytes) (i : Nat) (e : Entry) :
    dispatch reg unk p = .run i e ↔
      ∃ s m svc, p = slash :: (s ++ slash :: m) ∧ slash ∉ m ∧ findService reg s = some (i, svc) ∧
        lookupMethod svc m = some e := by
  constructor
  · intro h
    rcases dispatch_cases reg unk p with ⟨_, hd⟩ | ⟨s, m, hp, ⟨_, hd⟩ | ⟨i', svc, hf, ⟨_, hd⟩ | ⟨e', hl, hd⟩⟩⟩ <;>
      rw [hd] at h
    · cases h
    · split at h <;> cases h
    · split at h <;> cases h
    · cases h
      obtain ⟨h1, h2⟩ := (parse_some p s m).mp hp
      exact ⟨s, m, svc, h1, h2, hf, hl⟩
  · rintro ⟨s, m, svc, h1, h2, hf, hl⟩
    have hp := (parse_some p s m).mpr ⟨h1, h2⟩
    unfold dispatch
    rw [hp]; simp only [hf, hl]

/-- Soundness in registry terms: whatever handler runs is registered under exactly this path. -/
theorem reaches_only_the_registered_handler (reg : List Service) (unk : Bool) (p : Bytes) (i : Nat) (e : Entry)
    (h : dispatch reg unk p = .run i e) :
    ∃ svc m, reg[i]? = some svc ∧ entryName svc e = some m ∧ p = slash :: (svc.name ++ slash :: m) ∧ slash ∉ m := by
  obtain ⟨s, m, svc, h1, h2, hf, hl⟩ := (dispatch_spec reg unk p i e).mp h
  obtain ⟨hi, hn⟩ := findService_some reg s i svc hf
  exact ⟨svc, m, hi, lookupMethod_some svc m e hl, by rw [hn]; exact h1, h2⟩

/-- Completeness: a path naming a registered service and one of its methods/streams (names without a
    slash in the method part) runs a handler of THAT service registered under THAT name. -/
theorem registered_is_dispatched (reg : List Service) (unk : Bool) (j : Nat) (svc : Service) (m : Bytes)
    (hnd : NoDupNames reg) (hj : reg[j]? = some svc) (hm : m ∈ svc.methods ++ svc.streams) (hs : slash ∉ m) :
    ∃ e, dispatch reg unk (slash :: (svc.name ++ slash :: m)) = .run j e ∧ entryName svc e = some m := by
  have hf := findService_of_mem reg j svc hnd hj
  cases hl : lookupMethod svc m with
  | none => exact absurd hm ((lookupMethod_none svc m).mp hl)
  | some e =>
    refine ⟨e, ?_, lookupMethod_some svc m e hl⟩
    exact (dispatch_spec reg unk _ j e).mpr ⟨svc.name, m, svc, rfl, hs, hf, hl⟩

/-- A malformed path (no leading slash, or no second slash) never reaches any handler, whether or
    not an unknown-service handler is installed; and only malformed paths get that answer. -/
theorem malformed_reaches_nothing (reg : List Service) (unk : Bool) (p : Bytes) :
    (¬ wellFormed p ↔ dispatch reg unk p = .malformed) ∧
    (¬ wellFormed p → (dispatch reg unk p).reachesHandler = false) := by
  have key : ¬ wellFormed p ↔ dispatch reg unk p = .malformed := by
    rw [wellFormed_iff_parse]
    rcases dispatch_cases reg unk p with ⟨hp, hd⟩ | ⟨s, m, hp, ⟨_, hd⟩ | ⟨i, svc, _, ⟨_, hd⟩ | ⟨e, _, hd⟩⟩⟩ <;>
      rw [hp, hd] <;> cases unk <;> simp
  refine ⟨key, fun h => ?_⟩
  rw [key.mp h]; rfl

/-- Any other well-formed path (no registered service/method matches) yields UNIMPLEMENTED, or the
    unknown-service handler when one is installed — never a registered handler. -/
theorem else_unimplemented_or_unknown_handler (reg : List Service) (unk : Bool) (p : Bytes)
    (hw : wellFormed p) (hnr : ∀ i e, dispatch reg unk p ≠ .run i e) :
    (unk = true → dispatch reg unk p = .unknownHandler) ∧
    (unk = false → dispatch reg unk p = .unimplService ∨ dispatch reg unk p = .unimplMethod) := by
  have hm : dispatch reg unk p ≠ .malformed := fun h => ((malformed_reaches_nothing reg unk p).1.mpr h) hw
  rcases dispatch_cases reg unk p with ⟨_, hd⟩ | ⟨s, m, _, ⟨_, hd⟩ | ⟨i, svc, _, ⟨_, hd⟩ | ⟨e, _, hd⟩⟩⟩
  · exact absurd hd hm
  · rw [hd]; cases unk <;> simp
  · rw [hd]; cases unk <;> simp
  · exact absurd hd (hnr i e)

-- non-vacuity ("/a/b/c" splits at the LAST slash; "/a" is malformed; "//" is service "" method "")
example : parse [47, 97, 47, 98, 47, 99] = some ([97, 47, 98], [99]) := by decide
example : parse [47, 97] = none := by decide
example : parse [47, 47] = some ([], []) := by decide
example : parse [97, 47, 98] = none := by decide
example : dispatch [{ name := [97], methods := [[98], [98]], streams := [[98], [99]] }] false [47, 97, 47, 98] = .run 0 (.method 1) := by decide
example : dispatch [{ name := [97], methods := [[98]], streams := [[99]] }] false [47, 97, 47, 99] = .run 0 (.stream 0) := by decide
example : dispatch [{ name := [97], methods := [[98, 47, 99]], streams := [] }] true [47, 97, 47, 98, 47, 99] = .unknownHandler := by decide
example : dispatch [{ name := [97], methods := [[98]], streams := [] }] false [47, 97, 47, 100] = .unimplMethod := by decide

end GrpcProofs.C26
