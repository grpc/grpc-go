/-
C10  A handler's status reaches the client unchanged.

Model: GrpcModel/Model/Status.lean (writeStatus → trailer fields → client operateHeaders →
NewWithProto → Err), GrpcModel/Model/StatusMsg.lean (grpc-message percent-encoding, UTF-8; function by
function equal to the model of C08, GrpcProofs/Lemmas/StatusMsg.lean),
GrpcModel/Prim/Base64.lean, GrpcModel/Model/Headers.lean (metadata ↔ header fields).

The statement as given, over the model:

    ∀ hs sub st tr, st.code < 2^32 →
      endToEnd hs sub (.status st) tr = .status ⟨st.code, sanitize st.msg, st.details⟩

is FALSE for the unchanged code (`status_roundtrip_counterexample_code`,
`status_roundtrip_counterexample_details`); what holds is `status_roundtrip_partial`, whose four
side conditions are exactly the excluded inputs, and `code_ge_2p31_malformed` /
`details_lost_when_unmarshalable` say what happens on them. All of them are cases of
`Lemmas.Status.endToEnd_eq`, which gives the client's end for every status and every trailer.
-/
import GrpcProofs.Lemmas.Status
import GrpcProofs.Lemmas.StatusProto
namespace GrpcProofs.C10
open GrpcModel.Status GrpcModel.Headers GrpcModel
open GrpcModel.Base64 (Bytes)

/-- The status round trip. For every response shape (`hs`: headers frame before the trailers, or
    trailers-only), content-subtype, trailer metadata `tr`, and every status with
    * a code below 2^31 (0…16 and out-of-range codes up to 2147483647),
    * any message bytes when there are no details; valid UTF-8 message and detail type URLs when
      there are (a proto3 string cannot hold anything else),
    * whose google.rpc.Status encoding is shorter than 2^64 bytes (`hsz`; any Go slice is — the
      protobuf round trip itself is proved for the Lean port of the wire format, `proto_roundtrip`),
    * and a handler that does not put `grpc-status-details-bin` into the trailer itself when it
      returns no details (`hu`),
    the client ends with exactly that code, the message with invalid UTF-8 replaced by U+FFFD, and
    the same details. -/
theorem status_roundtrip_partial (hs : Bool) (sub : Bytes) (st : Status) (tr : MD)
    (hc : st.code < 2147483648)
    (hv : st.details ≠ [] → StatusMsg.validUtf8 st.msg = true ∧ ∀ a ∈ st.details, StatusMsg.validUtf8 a.typeUrl = true)
    (hsz : (marshalBody st).length < 2 ^ 64)
    (hu : st.details = [] → ∀ kv ∈ tr, kv.1 ≠ hDetailsBin) :
    endToEnd hs sub (.status st) tr = .status ⟨st.code, StatusMsg.sanitize st.msg, st.details⟩ :=
  Lemmas.Status.endToEnd_roundtrip hs sub st tr hc hv
    (fun hd => Lemmas.StatusProto.unmarshal_marshal st (by omega) (hv hd).1 (hv hd).2 hsz) hu

/-- What happens on every code ≥ 2^31: the RPC ends with UNKNOWN "transport: malformed
    grpc-status: … value out of range" (never with the code sent, never with nil). -/
theorem code_ge_2p31_malformed (hs : Bool) (sub : Bytes) (st : Status) (tr : MD) (hc : 2147483648 ≤ st.code) :
    endToEnd hs sub (.status st) tr = .malformedStatus true (itoa st.code) := by
  rw [Lemmas.Status.endToEnd_eq, if_neg (Nat.not_lt.2 hc)]

/-- The full statement fails on codes ≥ 2^31 (suspected defect F11): written with
    `Itoa(int(uint32))`, parsed with `ParseInt(…, 10, 32)`. -/
theorem status_roundtrip_counterexample_code :
    ¬ (∀ (hs : Bool) (sub : Bytes) (st : Status) (tr : MD), st.code < 4294967296 →
        endToEnd hs sub (.status st) tr = .status ⟨st.code, StatusMsg.sanitize st.msg, st.details⟩) := by
  intro h
  have h1 := h true [] ⟨2147483648, [109], []⟩ [] (by decide)
  rw [code_ge_2p31_malformed true [] ⟨2147483648, [109], []⟩ [] (by decide)] at h1
  cases h1

/-- What happens when the status cannot be marshalled: code and sanitised message arrive, the
    details are lost (and so is a handler-supplied grpc-status-details-bin). -/
theorem details_lost_when_unmarshalable (hs : Bool) (sub : Bytes) (st : Status) (tr : MD)
    (hc : st.code < 2147483648) (hd : st.details ≠ []) (hm : marshal st = none) :
    endToEnd hs sub (.status st) tr = .status ⟨st.code, StatusMsg.sanitize st.msg, []⟩ := by
  rw [Lemmas.Status.endToEnd_eq, if_pos hc, if_neg hd, hm]; rfl

/-- …and on a message that is not valid UTF-8 when details are attached (finding F25): the
    details are dropped. -/
theorem status_roundtrip_counterexample_details :
    ¬ (∀ (hs : Bool) (sub : Bytes) (st : Status) (tr : MD), st.code < 2147483648 →
        endToEnd hs sub (.status st) tr = .status ⟨st.code, StatusMsg.sanitize st.msg, st.details⟩) := by
  intro h
  have h1 := h true [] ⟨3, [0xff], [⟨[116], [1]⟩]⟩ [] (by decide)
  rw [details_lost_when_unmarshalable true [] _ [] (by decide) (by simp) (by decide)] at h1
  cases h1

/-- A handler returning nil yields a nil client error (OK status, empty message, no details). -/
theorem handler_nil_client_nil (hs : Bool) (sub : Bytes) (tr : MD) (hu : ∀ kv ∈ tr, kv.1 ≠ hDetailsBin) :
    endToEnd hs sub .nil tr = .status ⟨0, [], []⟩ ∧ (endToEnd hs sub .nil tr).isNil = true := by
  have e : endToEnd hs sub .nil tr = endToEnd hs sub (.status ⟨0, [], []⟩) tr := rfl
  rw [e, Lemmas.Status.endToEnd_no_details hs sub 0 [] tr (by decide) hu]
  exact ⟨rfl, rfl⟩

/-- A non-OK status never becomes a nil error: every code ≠ 0 (in or out of range, even ≥ 2^31),
    every message, every detail list, every trailer metadata, both response shapes. -/
theorem nonok_never_nil (hs : Bool) (sub : Bytes) (st : Status) (tr : MD) (hc : st.code ≠ 0) :
    (endToEnd hs sub (.status st) tr).isNil = false :=
  Lemmas.Status.nonok_never_nil hs sub st tr hc

/-- A handler error that is not a status arrives as UNKNOWN with its (sanitised) text, never nil. -/
theorem plain_error_unknown (hs : Bool) (sub : Bytes) (m : Bytes) (tr : MD) (hu : ∀ kv ∈ tr, kv.1 ≠ hDetailsBin) :
    endToEnd hs sub (.plain m) tr = .status ⟨2, StatusMsg.sanitize m, []⟩ :=
  Lemmas.Status.endToEnd_no_details hs sub 2 m tr (by decide) hu

/-- Trailers-only and headers+trailers responses give the client the same status. The side conditions are those of
    `status_roundtrip_partial`; none is needed: `Lemmas.Status.paths_agree` is the same equation for every status. -/
theorem paths_agree (sub : Bytes) (st : Status) (tr : MD)
    (hc : st.code < 2147483648)
    (hv : st.details ≠ [] → StatusMsg.validUtf8 st.msg = true ∧ ∀ a ∈ st.details, StatusMsg.validUtf8 a.typeUrl = true)
    (hsz : (marshalBody st).length < 2 ^ 64)
    (hu : st.details = [] → ∀ kv ∈ tr, kv.1 ≠ hDetailsBin) :
    endToEnd true sub (.status st) tr = endToEnd false sub (.status st) tr :=
  Lemmas.Status.paths_agree sub st tr

/-- grpc-message: what the client decodes is the handler's text with every invalid UTF-8 byte
    replaced by U+FFFD — for every byte string (fast paths of both functions included). -/
theorem message_roundtrip (m : Bytes) : StatusMsg.decode (StatusMsg.encode m) = StatusMsg.sanitize m :=
  Lemmas.StatusMsg.decode_encode m

theorem message_roundtrip_valid (m : Bytes) (h : StatusMsg.validUtf8 m = true) :
    StatusMsg.decode (StatusMsg.encode m) = m := by
  rw [message_roundtrip, Lemmas.StatusMsg.sanitize_valid m h]

/-- grpc-status: `ParseInt(Itoa(c), 10, 32)` gives back c exactly when c < 2^31 and is a range
    error otherwise. -/
theorem grpc_status_decimal (c : Nat) :
    parseInt32 (itoa c) = if c < 2147483648 then .ok c else .rangeErr :=
  Lemmas.Status.parseInt32_itoa c

/-- grpc-status-details-bin: `decodeBinHeader(encodeBinHeader(b)) = b` for all bytes. -/
theorem details_bin_roundtrip (b : Bytes) : Base64.decodeBinHeader (Base64.encodeBinHeader b) = some b :=
  Lemmas.Base64.decodeBinHeader_encodeBinHeader b

/-- google.rpc.Status survives proto.Marshal / proto.Unmarshal (as ported): every code (uint32
    view, so negative int32 values included), valid-UTF-8 message and type URLs, any detail
    values, any number of details. -/
theorem proto_roundtrip (st : Status) (hc : st.code < 4294967296) (hm : StatusMsg.validUtf8 st.msg = true)
    (hd : ∀ d ∈ st.details, StatusMsg.validUtf8 d.typeUrl = true) (hsz : (marshalBody st).length < 2 ^ 64) :
    marshal st = some (marshalBody st) ∧ unmarshal (marshalBody st) = some st :=
  ⟨Lemmas.Status.marshal_of_valid st hm hd, Lemmas.StatusProto.unmarshal_marshal st hc hm hd hsz⟩

/-- The literal header names the client's switch knows (regenerated from operateHeaders; a new
    `case` there makes this fail: `scanField` then needs the same case). -/
theorem client_switch_names :
    Generated.mdwClientSwitchHeaders = ["content-type", "grpc-encoding", "grpc-status", "grpc-message", ":status"] := rfl

-- non-vacuity: concrete end-to-end instances (hypotheses of the partial theorem are satisfiable,
-- details really travel, both sides of the 2^31 boundary)
example : endToEnd false (asciiBytes "proto") (.status ⟨5, [104, 105], [⟨[116], [1, 2]⟩]⟩) [] =
    .status ⟨5, [104, 105], [⟨[116], [1, 2]⟩]⟩ :=
  status_roundtrip_partial false _ ⟨5, [104, 105], [⟨[116], [1, 2]⟩]⟩ [] (by decide) (by decide) (by decide) (fun h => nomatch h)
example : unmarshal (marshalBody ⟨5, [104, 105], [⟨[116], [1, 2]⟩]⟩) = some ⟨5, [104, 105], [⟨[116], [1, 2]⟩]⟩ := by decide
example : endToEnd true [] (.status ⟨16, [0xff], []⟩) [] = .status ⟨16, [0xEF, 0xBF, 0xBD], []⟩ :=
  status_roundtrip_partial true [] ⟨16, [0xff], []⟩ [] (by decide) (fun h => absurd rfl h) (by decide) (fun _ _ h => nomatch h)
example : endToEnd true [] (.status ⟨2147483648, [], []⟩) [] = .malformedStatus true (itoa 2147483648) :=
  code_ge_2p31_malformed true [] _ [] (by decide)
-- a handler that sets grpc-status-details-bin itself changes what the client sees (outside `hu`)
example : endToEnd true [] (.status ⟨5, [97], []⟩) [(hDetailsBin, [marshalBody ⟨5, [98], []⟩])] = .status ⟨5, [98], []⟩ := by
  rw [Lemmas.Status.endToEnd_eq, if_pos (by decide), if_pos rfl, Lemmas.MdWire.valsAll_cons, if_pos rfl]
  decide

end GrpcProofs.C10
