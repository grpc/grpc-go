/-
C20  Connection backoff stays within the documented bounds.

`backoffSat` is `Exponential.Backoff` read over the reals, with the saturating conversion at its end
(internal/backoff/backoff.go: `if backoff >= math.MaxInt64 { return math.MaxInt64 }`).
-/
import GrpcProofs.Lemmas.Backoff
namespace GrpcProofs.C20
open GrpcModel.Backoff

/-- For retry count 0 the backoff is the base delay (any conversion, any configuration). -/
theorem retries0_is_base (conv : Rat → Int) (c : Config) (r : Rat) : backoffWith conv c 0 r = c.base := by
  simp [backoffWith]

/-- Never negative: for every configuration (jitter > 1, multiplier < 1, negative or huge delays
    included), every retry count n ≠ 0 and every draw; for n = 0 it is the base delay, so
    non-negative iff the configured BaseDelay is. -/
theorem nonneg (c : Config) (n : Int) (r : Rat) (h : n = 0 → 0 ≤ c.base) : 0 ≤ backoffSat c n r := by
  by_cases hn : n = 0
  · subst hn; rw [show backoffSat c 0 r = c.base from retries0_is_base _ c r]; exact h rfl
  · unfold backoffSat backoffWith
    rw [if_neg hn]
    dsimp only
    split
    · exact Int.le_refl 0
    · next hb => exact Lemmas.Backoff.satConv_nonneg (not_lt.mp hb)

/-- The loop-and-clamp of the code computes the property's `min(base·mult^n, maxDelay)`
    (multiplier ≥ 1, base ≥ 0; any maxDelay). -/
theorem grow_is_min (c : Config) (n : Nat) (hb : 0 ≤ c.base) (hm : 1 ≤ c.mult) :
    core c n = min (c.base * c.mult ^ n) c.maxDelay := by
  unfold core
  rw [Lemmas.Backoff.clampMax_eq_min]
  exact Lemmas.Backoff.grow_min c.mult c.maxDelay hm n c.base (by exact_mod_cast hb)

/-- The band: n ≥ 1, multiplier ≥ 1, jitter ∈ [0,1], draw r ∈ [0,1] (Go draws from [0,1)):
    conv((1-j)·m) ≤ Backoff(n) ≤ conv((1+j)·m) with m = min(base·mult^n, maxDelay) and conv the
    truncating, saturating conversion characterised by `saturates`. -/
theorem band (c : Config) (n : Nat) (r : Rat) (hb : 0 ≤ c.base) (hx : 0 ≤ c.maxDelay) (hm : 1 ≤ c.mult)
    (hj0 : 0 ≤ c.jitter) (hj1 : c.jitter ≤ 1) (hn : 1 ≤ n) (hr0 : 0 ≤ r) (hr1 : r ≤ 1) :
    satConv ((1 - c.jitter) * target c n) ≤ backoffSat c n r ∧
    backoffSat c n r ≤ satConv ((1 + c.jitter) * target c n) := by
  have hne : (n : Int) ≠ 0 := by omega
  have hm0 := Lemmas.Backoff.target_nonneg c n hb hx hm
  -- the jitter factor 1 + j·(2r − 1) lies in [1 − j, 1 + j] ⊆ [0, 2]: all three inequalities below are
  -- linear in these products
  have h1 : 0 ≤ target c n * c.jitter * r := mul_nonneg (mul_nonneg hm0 hj0) hr0
  have h2 : 0 ≤ target c n * c.jitter * (1 - r) := mul_nonneg (mul_nonneg hm0 hj0) (sub_nonneg.mpr hr1)
  have h3 : 0 ≤ target c n * (1 - c.jitter) := mul_nonneg hm0 (sub_nonneg.mpr hj1)
  unfold backoffSat backoffWith
  rw [if_neg hne]
  simp only [Int.toNat_natCast]
  rw [show core c n = target c n from grow_is_min c n hb hm, if_neg (not_lt.mpr (by linarith))]
  exact ⟨Lemmas.Backoff.satConv_mono (by linarith), Lemmas.Backoff.satConv_mono (by linarith)⟩

/-- Saturating rather than wrapping: on non-negative reals the conversion is monotone, stays in
    [0, MaxInt64], truncates below 2^63 and is MaxInt64 from 2^63 on. -/
theorem saturates (x y : Rat) (hx : 0 ≤ x) (hxy : x ≤ y) :
    0 ≤ satConv x ∧ satConv x ≤ satConv y ∧ satConv y ≤ maxInt64 ∧
    (x < two63 → (satConv x : Rat) ≤ x ∧ x < ((satConv x + 1 : Int) : Rat)) ∧
    (two63 ≤ x → satConv x = maxInt64) := by
  refine ⟨Lemmas.Backoff.satConv_nonneg hx, Lemmas.Backoff.satConv_mono hxy, Lemmas.Backoff.satConv_le_max y, ?_, ?_⟩
  · intro h
    rw [Lemmas.Backoff.satConv_of_lt h]
    exact ⟨Rat.floor_le x, Rat.lt_floor_add_one x⟩
  · exact Lemmas.Backoff.satConv_of_ge

/-- A subchannel whose attempt failed at t with backoff b starts no attempt before t + b unless
    ResetConnectBackoff intervenes: for every sequence of connect / dial-failed / dial-ok / timer /
    reset / connection-lost / update-addresses events with non-decreasing timestamps (any strategy answers, negative
    ones included). `paced` is the predicate the monitor evaluates on the real event log. -/
theorem waits_at_least_backoff_unless_reset (ins : List In) (t0 : Int) (h : Mono t0 ins) :
    paced (trace {} ins) = true :=
  Lemmas.Backoff.paced_trace ins {} t0 h

/-- The index handed to the strategy is always the number of failed attempts since the last
    successful connection or reset (so it restarts at 0 after a success). -/
theorem idx_counts_failures_since_success_or_reset (ins : List In) : idxOk 0 (trace {} ins) = true :=
  Lemmas.Backoff.idxOk_trace ins {}

/-- resetTransportAndUnlock after a successful dial ("Success; reset backoff."): index 0, READY. -/
theorem idx_resets_on_success (s : AC) (b now : Int) (h : s.phase = .connecting b) :
    (acStep s (.dialOk now)).1.idx = 0 ∧ (acStep s (.dialOk now)).1.phase = .ready := by
  have sp := Lemmas.Backoff.acStep_spec s (.dialOk now)
  generalize acStep s (.dialOk now) = r at sp ⊢
  cases sp with
  | skip hn => exact absurd h (hn b)
  | dialOk => exact ⟨rfl, rfl⟩

/-- ResetConnectBackoff zeroes the index in every state and cuts a running backoff short. -/
theorem idx_resets_on_reset (s : AC) (now : Int) :
    (acStep s (.resetBackoff now)).1.idx = 0 ∧
    (∀ u b, s.phase = .backoff u b → (acStep s (.resetBackoff now)).1.phase = .idle) := by
  have sp := Lemmas.Backoff.acStep_spec s (.resetBackoff now)
  generalize acStep s (.resetBackoff now) = r at sp ⊢
  cases sp with
  | skip hn => exact hn.elim
  | resetInBackoff => exact ⟨rfl, fun _ _ _ => rfl⟩
  | reset hn => exact ⟨rfl, fun u b hp => absurd hp (hn u b)⟩

example : paced [.fail 10 5, .dial 14] = false := by decide
example : paced [.fail 10 5, .reset, .dial 11] = true := by decide
example : idxOk 0 [.ask 0, .dial 0, .fail 0 1, .ask 1, .dial 1, .ok, .ask 0] = true := by decide
example : idxOk 0 [.ask 0, .dial 0, .fail 0 1, .ask 0] = false := by decide
example : trace {} [.connect 0 7, .dialFailed 2, .timer 8, .timer 9, .connect 9 3] =
    [.ask 0, .dial 0, .fail 2 7, .ask 1, .dial 9] := rfl
example : Mono 0 [.connect 0 7, .dialFailed 2, .timer 9] := ⟨by decide, by decide, by decide, trivial⟩

end GrpcProofs.C20
