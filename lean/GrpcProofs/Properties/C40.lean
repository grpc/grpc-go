/-
C40  Outlier detection ejects by the A50 rules and counts ejections correctly.
Model: GrpcModel/Model/Outlier.lean (the balancer as it is; map order and random draws are
arguments).  Helper lemmas: GrpcProofs/Lemmas/Outlier.lean (the loops, the bookkeeping, the counter),
OutlierScw.lean (sub-connection wrappers), OutlierReal.lean (the variance is non-negative).
`Reach s` = s is the state after some history of config/resolver updates, call results, timer
runs (any iteration order, any draws), sub-connection and child events and passages of time.
-/
import GrpcProofs.Lemmas.OutlierScw
import GrpcProofs.Lemmas.OutlierReal
namespace GrpcProofs.C40
open GrpcModel.Outlier GrpcProofs.Lemmas.Outlier

theorem run_reach (ops : List Op) : Reach (run ops) :=
  List.foldlRecOn ops _ Reach.init fun _ h op _ => h.step op

/-- An endpoint that is not ejected and is ejected after a run of the interval timer was ejected
    in that run (timestamp = now) and, on the calls counted since the previous run, had at least
    the configured request volume, at least minimum_hosts endpoints had that volume, and it failed
    the success-rate criterion (exact: rate < mean − stdev·factor/1000, see
    `sr_criterion_is_mean_minus_stdev`) or the failure-percentage criterion (the binary64
    comparison failures/calls·100 > threshold of the code, `pctGT`) — for every iteration order
    and all random draws. -/
theorem eject_only_if_volume_and_criterion {s : St} (hr : Reach s) (c : Cfg) (hc : s.cfg = some c)
    (oS oF d : List Nat) {x y : Ep} (hx : x ∈ s.eps) (hxe : x.ej = none)
    (hy : y ∈ (step s (.fire oS oF d)).eps) (hid : y.id = x.id) (hye : y.ej ≠ none) :
    y.ej = some s.now ∧
    ((∃ a, c.sr = some a ∧ a.vol ≤ x.actS + x.actF ∧ a.minHosts ≤ (considered (s.eps.map Ep.swap) a.vol).length ∧
        belowMean (considered (s.eps.map Ep.swap) a.vol) a.param x.swap = true) ∨
     (∃ a, c.fp = some a ∧ a.vol ≤ x.actS + x.actF ∧ a.minHosts ≤ (considered (s.eps.map Ep.swap) a.vol).length ∧
        0 < x.actS + x.actF ∧ pctGT x.actF (x.actS + x.actF) a.param = true)) := by
  obtain ⟨js, h, rfl⟩ := fire_entry (reach_inv hr).nodup hc oS oF d hx hy hid
  have hej := (unejStep_spec c s.now (applyEj s.now js x.swap)).ej
  -- ejected after the last loop and not before: not un-ejected there, so ejected by the two loops
  rw [hej, applyEj_ej] at hye ⊢
  by_cases hflag : (unejStep c s.now (applyEj s.now js x.swap)).2 = true
  · exact absurd (if_pos hflag) hye
  by_cases hmem : x.swap.id ∈ js
  swap
  · rw [if_neg hflag, if_neg hmem] at hye
    exact absurd hxe hye
  rw [if_neg hflag, if_pos hmem]
  refine ⟨rfl, ?_⟩
  obtain ⟨k, a, ha, ho⟩ := h.ok _ hmem
  have ho := outSet_isOut (findEp_swapped (reach_inv hr).nodup hx) ho
  cases k with
  | sr =>
    simp only [isOut, srOut, Bool.and_eq_true, decide_eq_true_eq] at ho
    obtain ⟨⟨⟨hvol, hhosts⟩, _⟩, hbelow⟩ := ho
    exact .inl ⟨a, ha, hvol, hhosts, hbelow⟩
  | fp =>
    simp only [isOut, fpOut, Bool.and_eq_true, decide_eq_true_eq] at ho
    obtain ⟨⟨⟨hvol, hhosts⟩, hpos⟩, hpct⟩ := ho
    exact .inr ⟨a, ha, hvol, hhosts, hpos, hpct⟩

/-- Where the binary64 comparison agrees with the exact one, the failure-percentage criterion is
    exactly failures·100 > threshold·calls.  (It does not always: 11 failures of 20 calls at
    threshold 55 is `>` in binary64.) -/
theorem fp_criterion_exact_where_float_agrees (f rv thr : Nat)
    (hagree : pctGT f rv thr = decide (thr * rv < f * 100)) (h : pctGT f rv thr = true) : thr * rv < f * 100 := by
  rw [hagree] at h; simpa using h

example : pctGT 11 20 55 = true ∧ 55 * 20 = 11 * 100 := by decide
example : pctGT 10 20 50 = false := by decide
example : pctGT 11 20 50 = true := by decide

/-- The model's exact decision procedure is the A50 criterion over the reals. -/
theorem sr_criterion_is_mean_minus_stdev (l : List Ep) (factor : Nat) (e : Ep) :
    belowMean l factor e = true ↔
      ((rate e : ℚ) : ℝ) < ((mean l : ℚ) : ℝ) - Real.sqrt ((variance l : ℚ) : ℝ) * ((factor : ℝ) / 1000) := by
  have hv : (0 : ℝ) ≤ ((variance l : ℚ) : ℝ) := Rat.cast_nonneg.mpr (GrpcProofs.Lemmas.OutlierReal.variance_nonneg l)
  have ht : (0 : ℝ) ≤ (factor : ℝ) / 1000 := div_nonneg (Nat.cast_nonneg _) (by norm_num)
  -- √v·t = √(v·t²), and √x < d ⇔ 0 < d ∧ x < d²
  rw [lt_sub_comm, ← Real.sqrt_mul_self ht, ← Real.sqrt_mul hv]
  simp only [belowMean, Bool.and_eq_true, decide_eq_true_eq]
  rw [← Rat.cast_lt (K := ℝ), ← Rat.cast_lt (K := ℝ) (p := _ * _)]
  simp only [Rat.cast_zero, Rat.cast_sub, Rat.cast_mul, Rat.cast_div, Rat.cast_natCast, Rat.cast_ofNat, Rat.cast_pow, ← sq]
  constructor
  · rintro ⟨h0, h⟩
    exact (Real.sqrt_lt' h0).mpr h
  · intro h
    have h0 := lt_of_le_of_lt (Real.sqrt_nonneg _) h
    exact ⟨h0, (Real.sqrt_lt' h0).mp h⟩

/-- No other event ejects: after anything but a run of the interval timer every ejected endpoint
    was ejected before, with the same timestamp and multiplier. -/
theorem only_the_interval_timer_ejects (s : St) (op : Op) (hop : ∀ a b c, op ≠ .fire a b c) {y : Ep}
    (hy : y ∈ (step s op).eps) (hej : y.ej ≠ none) : ∃ x ∈ s.eps, x.id = y.id ∧ x.ej = y.ej ∧ x.mult = y.mult := by
  have plain (hp : plainOp op = true) : ∃ x ∈ s.eps, x.id = y.id ∧ x.ej = y.ej ∧ x.mult = y.mult := by
    obtain ⟨x, hx, k⟩ := (plain_small s op hp).ejKept.exists_before hy
    exact ⟨x, hx, k.id.symm, k.ej.symm, k.mult.symm⟩
  cases op with
  | update c ids => exact (update_mem s c ids hy).old hej
  | fire a b c => exact absurd rfl (hop a b c)
  | _ => exact plain rfl

/-- In every loop state `l` of a run of the timer in a reachable state: if the ejected share of the
    current endpoints is at or above max_ejection_percent (`maxPct·n ≤ ejected·100`) the iteration
    ejects nothing — for every order and all draws.  (The check of the code is the integer comparison
    `ejected·100 ≥ percent·endpoints`.) -/
theorem no_eject_at_or_above_max_percent {l : Loop} (hl : InFire l) (k : AlgK) (a : Alg) (maxPct : Nat)
    (ts : Int) (out : Nat → Bool) (id : Nat) (hout : ∀ j, out j = true → j ∈ idsOf l.eps)
    (hshare : maxPct * l.eps.length ≤ trueCount l.eps * 100) :
    (algStep k a maxPct ts out l id).eps = l.eps ∧ (algStep k a maxPct ts out l id).nEj = l.nEj := by
  rcases algStep_cases k a maxPct ts out l id (hout id) with h | h
  · exact ⟨h.eps, h.nEj⟩
  · exact absurd ((inFire_inv hl).cnt ▸ by exact_mod_cast hshare) h.below

/-- `InFire` covers every iteration of both loops of every run of the timer in a reachable state. -/
theorem timer_loops_are_InFire {s : St} (hr : Reach s) (c : Cfg) (oS oF d : List Nat) :
    (∀ a, c.sr = some a → ∀ pre, pre <+: oS →
      InFire (pre.foldl (algStep .sr a c.maxPct s.now (outSet .sr (swapped s) a)) { eps := swapped s, nEj := s.nEj, draws := d })) ∧
    (∀ a, c.fp = some a → ∀ pre, pre <+: oF →
      InFire (pre.foldl (algStep .fp a c.maxPct s.now (outSet .fp (srLoop c s oS d).eps a)) (srLoop c s oS d))) := by
  have hrun : ∀ k a order {l}, InFire l → InFire (runAlg k a c.maxPct s.now order l) := fun k a order _ h =>
    runAlg_induction (fun _ id hout h => h.step k a _ _ _ id hout) order h
  have hsr := (algsLoop_induction (P := InFire) (c := c) (.start hr d) (fun k a order _ _ => hrun k a order) oS oF).1
  exact ⟨fun a _ pre _ => hrun .sr a pre (.start hr d), fun a _ pre _ => hrun .fp a pre hsr⟩

/-- An endpoint that is ejected already is skipped by both loops (the `continue` under
    `!epInfo.latestEjectionTimestamp.IsZero()`). -/
theorem already_ejected_is_skipped (k : AlgK) (a : Alg) (maxPct : Nat) (ts : Int) (out : Nat → Bool) (l : Loop) (id : Nat)
    (hout : ∀ j, out j = true → j ∈ idsOf l.eps) {e : Ep} (hf : findEp l.eps id = some e) (hej : e.ejected = true) :
    (algStep k a maxPct ts out l id).eps = l.eps ∧ (algStep k a maxPct ts out l id).nEj = l.nEj := by
  rcases algStep_cases k a maxPct ts out l id (hout id) with h | h
  · exact ⟨h.eps, h.nEj⟩
  · obtain ⟨e', hf', hej'⟩ := h.found
    cases hf.symm.trans hf'
    cases hej.symm.trans hej'

/-- numEndpointsEjected counts ejections correctly: in every reachable state it equals the number
    of ejected endpoints of the current set (and endpoint ids are distinct).  (It rests on two things
    the code does: a removed endpoint that is ejected leaves the counter, and an ejected endpoint is
    not ejected again; `opsRemoved` and `opsTwice` below exercise the two.) -/
theorem counter_equals_true_count {s : St} (hr : Reach s) : s.nEj = (trueCount s.eps : Int) ∧ (idsOf s.eps).Nodup :=
  ⟨(reach_inv hr).cnt.symm, (reach_inv hr).nodup⟩

def cfgFp : Cfg := { interval := 10, base := 30, maxEj := 300, maxPct := 50, sr := none, fp := some ⟨50, 100, 1, 2⟩ }

/-- an ejected endpoint is removed by a resolver update -/
def opsRemoved : List Op :=
  [.update cfgFp [1, 2, 3], .calls 1 0 4, .calls 2 4 0, .calls 3 4 0, .advance 10, .fire [] [1, 2, 3] [0], .update cfgFp [2, 3]]

/-- an ejected endpoint meets the criterion again at the next run -/
def opsTwice : List Op :=
  [.update cfgFp [1, 2, 3], .calls 1 0 4, .advance 10, .fire [] [1, 2, 3] [0], .calls 1 0 4, .advance 10, .fire [] [1, 2, 3] [0]]

example : (run opsRemoved).nEj = 0 ∧ trueCount (run opsRemoved).eps = 0 := by decide
example : (run opsTwice).nEj = 1 ∧ trueCount (run opsTwice).eps = 1 := by decide

/-- The last loop of the interval timer, for any endpoint: it is un-ejected iff it was ejected at
    `ts` and now > ts + min(base·multiplier, max(base, max_ejection_time)). -/
theorem uneject_rule_step (c : Cfg) (now : Int) (z : Ep) :
    ((unejStep c now z).1.ej = none ↔
      (z.ej = none ∨ ∃ ts, z.ej = some ts ∧ now > ts + min (c.base * z.mult) (max c.base c.maxEj))) := by
  have hu := unejStep_spec c now z
  have hflag := hu.flag
  have hej := hu.ej
  rw [ejectionTime] at hflag
  rw [hej, ← hflag]
  cases (unejStep c now z).2 <;> simp

/-- An endpoint ejected at `ts` is not decided upon by a run of the timer (both loops skip it) and
    is un-ejected by that run iff now > ts + min(base·multiplier, max(base, max_ejection_time));
    otherwise it keeps its timestamp and multiplier. -/
theorem uneject_rule_of_ejected {s : St} (hr : Reach s) (c : Cfg) (hc : s.cfg = some c) (oS oF d : List Nat)
    {x y : Ep} (hx : x ∈ s.eps) (ts : Int) (hxe : x.ej = some ts)
    (hy : y ∈ (step s (.fire oS oF d)).eps) (hid : y.id = x.id) :
    x.id ∉ ejIds (fire s oS oF d).2.1.evs ∧
    (y.ej = none ↔ s.now > ts + min (c.base * x.mult) (max c.base c.maxEj)) ∧
    (y.ej ≠ none → y.ej = some ts ∧ y.mult = x.mult) := by
  obtain ⟨js, h, rfl⟩ := fire_entry (reach_inv hr).nodup hc oS oF d hx hy hid
  have hsw : x.swap.ej = some ts := hxe
  have hnot : x.swap.id ∉ js := fun hm => by
    obtain ⟨e, hf, he⟩ := h.fresh _ hm
    cases (findEp_swapped (reach_inv hr).nodup hx).symm.trans hf
    cases hsw.symm.trans he
  rw [fire_evs hc oS oF d, h.evs, applyEj_not_mem _ _ _ hnot]
  have hu := unejStep_spec c s.now x.swap
  have hej := hu.ej
  have hmult := hu.mult
  refine ⟨hnot, by rw [uneject_rule_step, hsw]; simp; rfl, fun hne => ?_⟩
  rw [hej] at hne ⊢
  cases hf : (unejStep c s.now x.swap).2
  · exact ⟨hsw, hmult (hsw ▸ nofun)⟩
  · simp [hf] at hne

/-- An endpoint ejected at `ts` that is not decided upon in this run of the timer is un-ejected by
    it iff now > ts + min(base·multiplier, max(base, max_ejection_time)); otherwise it keeps its
    timestamp and multiplier. -/
theorem uneject_after_rule {s : St} (hr : Reach s) (c : Cfg) (hc : s.cfg = some c) (oS oF d : List Nat)
    {x y : Ep} (hx : x ∈ s.eps) (ts : Int) (hxe : x.ej = some ts)
    (hnot : x.id ∉ ejIds (fire s oS oF d).2.1.evs)
    (hy : y ∈ (step s (.fire oS oF d)).eps) (hid : y.id = x.id) :
    (y.ej = none ↔ s.now > ts + min (c.base * x.mult) (max c.base c.maxEj)) ∧
    (y.ej ≠ none → y.ej = some ts ∧ y.mult = x.mult) :=
  (uneject_rule_of_ejected hr c hc oS oF d hx ts hxe hy hid).2

/-- Nothing else un-ejects: call results, sub-connection and child events, passage of time keep
    every endpoint's ejection state, and so does a config/resolver update with an ejection
    algorithm configured for the endpoints it keeps. -/
theorem uneject_only_in_timer_or_noop (s : St) :
    (∀ op, plainOp op = true → ∀ x ∈ s.eps, ∃ y ∈ (step s op).eps, y.id = x.id ∧ y.ej = x.ej ∧ y.mult = x.mult) ∧
    (∀ c ids, c.noop = false → ∀ x ∈ s.eps, ids.contains x.id = true →
      ∃ y ∈ (step s (.update c ids)).eps, y.id = x.id ∧ y.ej = x.ej ∧ y.mult = x.mult) := by
  have key {x : Ep} {eps : List Ep} : (∃ y ∈ eps, KeepEj x y) → ∃ y ∈ eps, y.id = x.id ∧ y.ej = x.ej ∧ y.mult = x.mult :=
    fun ⟨y, hy, k⟩ => ⟨y, hy, k.id, k.ej, k.mult⟩
  exact ⟨fun op hp x hx => key ((plain_small s op hp).ejKept.exists_after hx), fun c ids hn x hx hc => key (update_keep s c ids hn hx hc)⟩

/-- FULL STATEMENT (false for the unchanged code): whenever a wrapper is ejected and the child has a
    health listener registered on it, the last state delivered to that listener is
    TRANSIENT_FAILURE.
    PROVED: the last state delivered to it is TRANSIENT_FAILURE or nothing has been delivered to it
    at all — an ejected sub-connection never shows a non-failing health state to the child. -/
theorem ejected_looks_TF_to_child_partial {s : St} (hr : Reach s) :
    ∀ w ∈ s.scws, w.ejected = true → w.hl = true → (w.last = none ∨ w.last = some 3) :=
  fun w hw => reach_ok hr w hw

/-- A live wrapper whose `endpointInfo` pointer is a current endpoint is ejected exactly when
    that endpoint is (at quiescence): ejection and un-ejection reach all sub-connections of the
    endpoint and no others, new sub-connections of an ejected endpoint start ejected. -/
theorem scw_ejected_iff_endpoint_ejected {s : St} (hr : Reach s) {w : Scw} (hw : w ∈ s.scws) {e : Ep} (he : e ∈ s.eps)
    (hlive : w.dead = false) (haddr : w.addr = e.id) (hptr : w.ep = some e.gen) : w.ejected = e.ejected :=
  (reach_linked hr).ejected_eq w hw e he ⟨hlive, haddr, hptr⟩

/-- The two together: while an endpoint is ejected, none of its live sub-connections with a
    registered health listener has shown the child anything but TRANSIENT_FAILURE. -/
theorem ejected_endpoint_never_looks_healthy {s : St} (hr : Reach s) {w : Scw} (hw : w ∈ s.scws) {e : Ep} (he : e ∈ s.eps)
    (hlive : w.dead = false) (haddr : w.addr = e.id) (hptr : w.ep = some e.gen) (hej : e.ej ≠ none) (hl : w.hl = true) :
    w.last = none ∨ w.last = some 3 := by
  have h1 := scw_ejected_iff_endpoint_ejected hr hw he hlive haddr hptr
  have h2 : e.ejected = true := by
    cases h : e.ej with
    | none => exact absurd h hej
    | some _ => simp [Ep.ejected, h]
  exact ejected_looks_TF_to_child_partial hr w hw (h1.trans h2) hl

/-- F5d: endpoint 1 is ejected (its listener gets TRANSIENT_FAILURE); the sub-connection goes IDLE
    and READY again, the child registers a new health listener, the sub-connection reports
    healthy: the new listener has been told nothing. -/
def opsTF : List Op :=
  [.update cfgFp [1, 2, 3], .sc 1 2, .calls 1 0 4, .calls 2 4 0, .calls 3 4 0, .advance 10, .fire [] [1, 2, 3] [0],
   .sc 1 0, .sc 1 2, .health 1 2]

theorem ejected_looks_TF_to_child_counterexample :
    ¬ (∀ s, Reach s → ∀ w ∈ s.scws, w.ejected = true → w.hl = true → w.last = some 3) := by
  intro h
  have := h _ (run_reach opsTF)
  revert this
  decide

/-- After a config with neither algorithm every current endpoint is un-ejected with multiplier 0
    (and only the endpoints of the update exist). -/
theorem noop_config_unejects_all (s : St) (c : Cfg) (ids : List Nat) (hn : c.noop = true) :
    ∀ y ∈ (step s (.update c ids)).eps, y.ej = none ∧ y.mult = 0 ∧ ids.contains y.id = true := by
  intro y hy
  have h := update_mem s c ids hy
  exact ⟨(h.noop hn).1, (h.noop hn).2, h.listed⟩

/-- … and every live sub-connection wrapper of a current endpoint is un-ejected. -/
theorem noop_config_unejects_all_subconns {s : St} (hr : Reach s) (c : Cfg) (ids : List Nat) (hn : c.noop = true)
    {w : Scw} (hw : w ∈ (step s (.update c ids)).scws) {e : Ep} (he : e ∈ (step s (.update c ids)).eps)
    (hlive : w.dead = false) (haddr : w.addr = e.id) (hptr : w.ep = some e.gen) : w.ejected = false := by
  have h1 := scw_ejected_iff_endpoint_ejected (Reach.step (.update c ids) hr) hw he hlive haddr hptr
  have h2 := (noop_config_unejects_all s c ids hn e he).1
  rw [h1]; simp [Ep.ejected, h2]

/-- … and the counter is back to 0. -/
theorem noop_config_resets_counter {s : St} (hr : Reach s) (c : Cfg) (ids : List Nat) (hn : c.noop = true) :
    (step s (.update c ids)).nEj = 0 := by
  have h := counter_equals_true_count (Reach.step (.update c ids) hr)
  rw [h.1]
  have := trueCount_eq_zero fun y hy => (noop_config_unejects_all s c ids hn y hy).1
  simp [this]

-- the model does eject, and a no-op config un-ejects
example : (run [.update cfgFp [1, 2, 3], .calls 1 0 4, .advance 10, .fire [] [1, 2, 3] [0]]).eps.map (·.ej) = [some 10, none, none] := by decide
example : (run (opsRemoved ++ [.update { cfgFp with fp := none } [2, 3]])).eps.map (·.ej) = [none, none] := by decide

end GrpcProofs.C40
