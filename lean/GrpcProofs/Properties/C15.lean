/-
C15  Keepalive detects dead peers in bounded time and never kills healthy ones; ping-strike policy.
The invariant of the client loop and its preservation are in GrpcProofs/Lemmas/Keepalive.lean; the ledger
lemmas (ping strikes) are here, next to the predicates they speak of.

All theorems are about the timed automata of lean/GrpcModel/Model/Keepalive.lean (client loop
`fire`, server loop `serverFire`, ledger `handlePing`), for EVERY configuration (only `time_can_pass` asks for
Time, Timeout ≥ 1, and the two `…healthy_never_closed` for Timeout ≥ 1) and EVERY valid (urgent) event sequence:
arbitrary delays, reads, stream opens/closes, timer expiries.
Instants are Nat nanoseconds on a virtual clock; the tie to wall-clock time is the stated GAP.
-/
import GrpcProofs.Lemmas.Keepalive
namespace GrpcProofs.C15
open GrpcModel.Keepalive GrpcModel.Generated GrpcProofs.Lemmas.Keepalive

def after (c : Cfg) (es : List Ev) : KA := (run c (KA.init c) es).1

def safter (c : Cfg) (es : List Ev) : KA := (runG serverFire c (KA.init c) es).1

/-- FULL STATEMENT (C15, first sentence), for the client loop:
      not closed ∧ applicable ∧ loopy has caught up (`pendingInit = 0`) → now ≤ max(lastRead + Time, appSince) + Timeout.
    Time cannot pass `timerAt` without the timer firing (urgency, `Valid`), so this is "closed no
    later than".  It is FALSE of the unchanged code (`dead_peer_closed_by_counterexample`); what holds
    in general is the bound plus `slack`, which is `min Time Timeout` after a late wake, else 0. -/
theorem dead_peer_closed_by_partial (c : Cfg) (es : List Ev) (hv : Valid c (KA.init c) es = true)
    (hc : (after c es).closed = false) (ha : (after c es).applicable c = true)
    (hcu : (after c es).pendingInit = 0) :
    (after c es).now ≤ max ((after c es).lastRead + c.time) (after c es).appSince + c.timeout
      + (if (after c es).lateWake then min c.time c.timeout else 0) :=
  bound_of_inv (inv_run es (inv_init c) hv) hc ha hcu

/-- The exact bound of the statement holds whenever no frame is read while the keepalive loop is
    dormant (parked in `kpDormancyCond.Wait()`): for every `read` event of the run, the state just
    before it is not dormant. -/
theorem dead_peer_closed_by (c : Cfg) (es : List Ev) (hv : Valid c (KA.init c) es = true)
    (hn : ∀ pre post, es = pre ++ Ev.read :: post → (after c pre).dormant = false)
    (hc : (after c es).closed = false) (ha : (after c es).applicable c = true)
    (hcu : (after c es).pendingInit = 0) :
    (after c es).now ≤ max ((after c es).lastRead + c.time) (after c es).appSince + c.timeout := by
  have h := dead_peer_closed_by_partial c es hv hc ha hcu
  have hl : (after c es).lateWake = false := noLate_run es _ hv hn ⟨rfl, nofun⟩
  simpa [hl] using h

/-- … in particular always with PermitWithoutStream (never dormant; applicable from instant 0, so
    the bound is lastRead + Time + Timeout). -/
theorem dead_peer_closed_by_permit (c : Cfg) (hp : c.permit = true) (es : List Ev)
    (hv : Valid c (KA.init c) es = true) (hc : (after c es).closed = false)
    (hcu : (after c es).pendingInit = 0) :
    (after c es).now ≤ (after c es).lastRead + c.time + c.timeout := by
  have h := dead_peer_closed_by_partial c es hv hc (by simp [KA.applicable, hp]) hcu
  have hi := inv_run es (inv_init c) hv
  have hl : (after c es).lateWake = false := by
    cases hlw : (after c es).lateWake with
    | false => rfl
    | true => have := hi.late_np hlw; simp [hp] at this
  have h0 : (after c es).appSince = 0 := hi.app0 hp
  simp [hl, h0] at h
  omega

/-- The wake-up has two cooperating sites: NewStream registers the stream in `activeStreams` (caller
    goroutine), loopy later runs its `initStream`, which signals a dormant keepalive loop. In every
    reachable state a dormant loop with open streams still has an `initStream` on its way … -/
theorem dormant_with_streams_has_pending_wake (c : Cfg) (es : List Ev) (hv : Valid c (KA.init c) es = true)
    (hd : (after c es).dormant = true) (hs : 0 < (after c es).streams) : 0 < (after c es).pendingInit := by
  simp only [after] at hd hs ⊢
  rcases ((inv_run es (inv_init c) hv).dorm hd).idle with h0 | h0 <;> omega

/-- … and EVERY `initStream` wakes the loop, however many streams are registered by then: it leaves
    dormancy and pings at once. (So once loopy has caught up, `pendingInit = 0`, a loop with streams is
    not dormant and `dead_peer_closed_by` applies.) -/
theorem every_initStream_wakes (c : Cfg) (s : KA) (hc : s.closed = false) (hd : s.dormant = true)
    (ho : s.outstanding = false) :
    (step c s .initS).1.dormant = false ∧ (step c s .initS).2 = [Out.ping s.now] := by
  simp [step, stepG, hc, hd, sendAndSleep, ho]

/-- The unchanged code violates the literal bound: Time 10, Timeout 3, no PermitWithoutStream; the
    loop goes dormant at 10, a frame is read at 20, a stream opens at 29 (ping), the expiry at 32
    sees the stale read, discards the outstanding ping and pings again; at 34 > 33 = max(20+10, 29)+3
    the transport is still open (it closes at 35). -/
theorem dead_peer_closed_by_counterexample :
    ¬ ∀ (c : Cfg) (es : List Ev), Valid c (KA.init c) es = true →
        (after c es).closed = false → (after c es).applicable c = true → (after c es).pendingInit = 0 →
        (after c es).now ≤ max ((after c es).lastRead + c.time) (after c es).appSince + c.timeout := by
  intro h
  have := h ⟨10, 3, false⟩ [.delay 10, .fire, .delay 10, .read, .delay 9, .openS, .delay 3, .fire, .fire, .delay 2]
    (by decide) (by decide) (by decide) (by decide)
  revert this
  decide

/-- Time really can pass (the bounds are not vacuous by a time-lock): with Time, Timeout ≥ 1, in any
    state where the timer is due, after at most two expiries at that instant the loop is closed,
    dormant, or its timer is strictly in the future. -/
theorem time_can_pass (c : Cfg) (ht : 1 ≤ c.time) (hto : 1 ≤ c.timeout) (s : KA) (hok : Ev.ok s .fire = true) :
    ((fire c s).1.closed = true ∨ (fire c s).1.dormant = true ∨ (fire c s).1.now < (fire c s).1.timerAt) ∨
    (Ev.ok (fire c s).1 .fire = true ∧
      ((fire c (fire c s).1).1.closed = true ∨ (fire c (fire c s).1).1.dormant = true ∨
        (fire c (fire c s).1).1.now < (fire c (fire c s).1).1.timerAt)) := by
  obtain ⟨hc, hd, hn⟩ := ok_fire.1 hok
  have send_progress : ∀ (t : KA), ¬ (t.outstanding = true ∧ t.timeoutLeft = 0) →
      (sendAndSleep c t).1.now < (sendAndSleep c t).1.timerAt := by
    intro t hb
    simp only [sendAndSleep]
    cases ho : t.outstanding with
    | true => have : t.timeoutLeft ≠ 0 := fun h0 => hb ⟨ho, h0⟩; simp; omega
    | false => simp; omega
  -- an expiry that sees no new read closes, parks, or re-arms strictly later
  have seen : ∀ (t : KA), t.lastRead ≤ t.prevNano →
      (fire c t).1.closed = true ∨ (fire c t).1.dormant = true ∨ (fire c t).1.now < (fire c t).1.timerAt := by
    intro t hle
    apply fire_cases (c := c) (s := t) (P := fun r => r.1.closed = true ∨ r.1.dormant = true ∨ r.1.now < r.1.timerAt)
    · intro hr; exact absurd hr (Nat.not_lt.2 hle)
    · intro _ _ _; left; rfl
    · intro _ _ _ _; right; left; rfl
    · intro _ hb _; right; right; exact send_progress _ hb
  by_cases hr : s.lastRead > s.prevNano
  · -- the read is taken in and the timer re-armed for `lastRead + Time`; if that is due already, the next expiry sees nothing new
    rw [show fire c s = (_, []) from if_pos hr]
    by_cases hlt : s.now < s.lastRead + c.time
    · left; right; right; simp; omega
    · exact .inr ⟨ok_fire.2 ⟨hc, hd, by simp; omega⟩, seen _ (Nat.le_refl _)⟩
  · exact .inl (seen s (Nat.not_lt.1 hr))

/-- The big step the correspondence driver uses for `adv d` (`schedule`: let d ns pass, firing the
    timer whenever due) is a valid run of this automaton, so the theorems apply to what is diffed
    against the real transport. -/
theorem adv_is_valid_run (c : Cfg) (fuel : Nat) (s : KA) (d : Nat) (es : List Ev)
    (hs : s.closed = false → s.dormant = false → s.now ≤ s.timerAt)
    (h : schedule fire c s d fuel = some es) : Valid c s es = true := by
  fun_induction schedule fire c s d fuel generalizing es with
  | case1 => cases h
  | case2 s d fuel hq =>
    -- the timer is not reached: one delay
    cases h
    simp only [Bool.or_eq_true, decide_eq_true_eq] at hq
    simp only [Valid, Bool.and_true, ok_delay]
    intro hc hd
    simp only [hc, hd, Bool.false_eq_true, or_self, false_or] at hq
    omega
  | case3 => cases h
  | case4 s d fuel hq w s1 es' hr ih =>
    -- the timer is due after `timerAt - now`: that delay, the expiry, and the rest from the state after it
    cases h
    simp only [Bool.or_eq_true, decide_eq_true_eq, not_or, Bool.not_eq_true] at hq
    obtain ⟨⟨hc, hd⟩, -⟩ := hq
    have hn := hs hc hd
    have hf : stepG fire c s1 .fire = fire c s1 := step_fire_eq hc
    simp only [Valid, Bool.and_eq_true, ok_delay, ok_fire]
    refine ⟨fun _ _ => by omega, ⟨hc, hd, show s.now + (s.timerAt - s.now) = s.timerAt by omega⟩, ?_⟩
    exact ih _ (hf ▸ fire_timer_ge) hr

/-- The only way to close: no frame for at least Time + Timeout. -/
theorem closed_only_after_silence (c : Cfg) (es : List Ev) (hv : Valid c (KA.init c) es = true)
    (hc : (after c es).closed = true) : (after c es).lastRead + c.time + c.timeout ≤ (after c es).now :=
  (inv_run es (inv_init c) hv).shut hc

/-- "receives some byte at least once every Time", on the INPUT clock `clockStep` (now, instant of the
    last `read` event — what the peer did, not what the model thinks): at every point of the run,
    now ≤ lastRead + Time. -/
def Healthy (c : Cfg) : Nat × Nat → List Ev → Prop
  | k, [] => k.1 ≤ k.2 + c.time
  | k, e :: es => k.1 ≤ k.2 + c.time ∧ Healthy c (clockStep k e) es

private theorem healthy_head {c : Cfg} {k : Nat × Nat} {es : List Ev} (h : Healthy c k es) : k.1 ≤ k.2 + c.time := by
  cases es with
  | nil => exact h
  | cons e es => exact h.1

private theorem healthy_run {c : Cfg} (hto : 1 ≤ c.timeout) : ∀ (es : List Ev) (s : KA), Inv c s → s.closed = false →
    Valid c s es = true → Healthy c (s.now, s.lastRead) es → (run c s es).1.closed = false
  | [], _, _, hc, _, _ => hc
  | e :: es, s, hi, hc, hv, hh => by
    simp only [Valid, Bool.and_eq_true] at hv
    rw [run_cons]
    have hi1 := inv_step hi e hv.1
    have hk := clock_agree (c := c) e hc
    have hh2 : Healthy c ((step c s e).1.now, (step c s e).1.lastRead) es := by rw [hk]; exact hh.2
    cases hc1 : (step c s e).1.closed with
    | false => exact healthy_run hto es _ hi1 hc1 hv.2 hh2
    | true =>
      have h1 := hi1.shut hc1
      have h2 := healthy_head hh2
      simp only at h2
      omega

/-- C15, second sentence: a connection on which a frame is read at least once every Time is never
    closed by keepalive (client loop; any PermitWithoutStream, any stream activity). -/
theorem healthy_never_closed (c : Cfg) (hto : 1 ≤ c.timeout) (es : List Ev)
    (hv : Valid c (KA.init c) es = true) (hh : Healthy c (0, 0) es) : (after c es).closed = false :=
  healthy_run hto es _ (inv_init c) rfl hv hh

theorem server_loop_eq (c : Cfg) (hp : c.permit = true) (s : KA) : serverFire c s = fire c s := by
  simp [serverFire, fire, hp]

/-- With PermitWithoutStream the server loop runs as the client loop does.  That is also why the two `server_…` theorems can take
    `Valid`, which is defined with the client's `step`, as their hypothesis: under `permit = true` it is the urgency condition
    of the server's run. -/
theorem safter_eq {c : Cfg} (hp : c.permit = true) (es : List Ev) : safter c es = after c es :=
  congrArg Prod.fst (runG_congr (server_loop_eq c hp) es _)

/-- Server: while nothing is read the connection is closed no later than lastRead + Time + Timeout. -/
theorem server_dead_peer_closed_by (c : Cfg) (hp : c.permit = true) (es : List Ev)
    (hv : Valid c (KA.init c) es = true) (hc : (safter c es).closed = false)
    (hcu : (safter c es).pendingInit = 0) :
    (safter c es).now ≤ (safter c es).lastRead + c.time + c.timeout := by
  rw [safter_eq hp] at hc hcu ⊢
  exact dead_peer_closed_by_permit c hp es hv hc hcu

/-- Server: a connection heard from at least once every Time is never closed by keepalive. -/
theorem server_healthy_never_closed (c : Cfg) (hp : c.permit = true) (hto : 1 ≤ c.timeout) (es : List Ev)
    (hv : Valid c (KA.init c) es = true) (hh : Healthy c (0, 0) es) : (safter c es).closed = false :=
  safter_eq hp es ▸ healthy_never_closed c hto es hv hh

/-- The spacing the statement demands before a ping, with the statement's literals (two hours). -/
def requiredLit (p : Policy) (s : Ledger) : Nat :=
  if s.ns = 0 ∧ p.permit = false then 7200000000000 else p.minTime

/-- This ping is at least `requiredLit` after the previous one (or is the first). -/
def spacedPing (p : Policy) (s : Ledger) : Prop :=
  ∀ l, s.lastPingAt = some l → l + requiredLit p s ≤ s.now

/-- Every ping of the run respects the spacing. -/
def Spaced (p : Policy) : Ledger → List LEv → Prop
  | _, [] => True
  | s, e :: es => (e = LEv.ping → spacedPing p s) ∧ Spaced p (lstep p s e) es

/-- The code's test `ns < 1 && !permit` and constant `defaultPingTimeout` are the statement's `ns = 0 ∧ permit = false`
    and two hours. -/
private theorem required_eq_requiredLit (p : Policy) (s : Ledger) : required p s = requiredLit p s := by
  have hc : (decide (s.ns < 1) && !p.permit) = true ↔ s.ns = 0 ∧ p.permit = false := by
    simp only [Bool.and_eq_true, decide_eq_true_eq, Bool.not_eq_true']
    exact and_congr_left' Nat.lt_one_iff
  simp only [required, requiredLit, hc]
  rfl

private theorem tooEarly_eq (p : Policy) (s : Ledger) :
    tooEarly p s = (match s.lastPingAt with | none => false | some l => decide (s.now < l + requiredLit p s)) := by
  unfold tooEarly
  cases s.lastPingAt with
  | none => rfl
  | some l => simp [required_eq_requiredLit]

private theorem not_early_of_spaced {p : Policy} {s : Ledger} (h : spacedPing p s) : tooEarly p s = false := by
  rw [tooEarly_eq]
  cases hl : s.lastPingAt with
  | none => rfl
  | some l => exact decide_eq_false (Nat.not_lt.2 (h l hl))

/-- C15, third sentence: no GOAWAY ENHANCE_YOUR_CALM — indeed not a single strike — for a client whose
    consecutive pings are at least MinTime apart while it has streams (or PermitWithoutStream) and
    at least two hours (7 200 000 000 000 ns) apart otherwise; any interleaving with delays, stream
    opens/closes and server writes. -/
theorem no_goaway_if_spaced (p : Policy) : ∀ (es : List LEv) (s : Ledger), s.strikes = 0 → s.goaway = false →
    Spaced p s es → (lrun p s es).goaway = false ∧ (lrun p s es).strikes = 0
  | [], _, h0, hg, _ => ⟨hg, h0⟩
  | e :: es, s, h0, hg, hs => by
    have step : (lstep p s e).strikes = 0 ∧ (lstep p s e).goaway = false := by
      cases e with
      | ping =>
        have := not_early_of_spaced (hs.1 rfl)
        by_cases hf : s.resetFlag = true <;> simp [lstep, handlePing, hf, this, h0, hg, maxPingStrikes]
      | _ => exact ⟨h0, hg⟩
    exact no_goaway_if_spaced p es _ step.1 step.2 hs.2

/-- A strike: a ping that is too early (statement's literals) and not forgiven by a server write
    since the previous ping. -/
def isStrike (p : Policy) (s : Ledger) : Bool :=
  !s.resetFlag && (match s.lastPingAt with | none => false | some l => decide (s.now < l + requiredLit p s))

def countStrikes (p : Policy) : Ledger → List LEv → Nat
  | _, [] => 0
  | s, e :: es => (if e = LEv.ping ∧ isStrike p s = true then 1 else 0) + countStrikes p (lstep p s e) es

def noWrite (es : List LEv) : Prop := ∀ e ∈ es, e ≠ LEv.write

private theorem lstep_noWrite {p : Policy} {s : Ledger} {e : LEv} (hf : s.resetFlag = false) (he : e ≠ .write) :
    (lstep p s e).resetFlag = false ∧
    (lstep p s e).strikes = s.strikes + (if e = .ping ∧ isStrike p s = true then 1 else 0) ∧
    (s.goaway = true → (lstep p s e).goaway = true) ∧
    (e = .ping → isStrike p s = true → 2 ≤ s.strikes → (lstep p s e).goaway = true) := by
  cases e with
  | write => exact absurd rfl he
  | ping =>
    have ht : tooEarly p s = isStrike p s := by rw [tooEarly_eq, isStrike, hf]; rfl
    simp only [lstep, handlePing, hf, ht, Bool.false_eq_true, if_false, true_and]
    cases isStrike p s <;> simp [maxPingStrikes]
    · exact .inl
    · exact ⟨.inl, fun h => .inr (by omega)⟩
  | _ => exact ⟨hf, rfl, id, nofun⟩

/-- What a stretch `es` without server writes, started in `s` with no forgiveness pending, does to the ledger. -/
private structure NoWriteRun (p : Policy) (s : Ledger) (es : List LEv) : Prop where
  flag : (lrun p s es).resetFlag = false
  strikes : (lrun p s es).strikes = s.strikes + countStrikes p s es
  sticky : s.goaway = true → (lrun p s es).goaway = true
  third : 1 ≤ countStrikes p s es → 3 ≤ s.strikes + countStrikes p s es → (lrun p s es).goaway = true

private theorem lrun_noWrite (p : Policy) : ∀ (es : List LEv) (s : Ledger), s.resetFlag = false → noWrite es → NoWriteRun p s es
  | [], _, hf, _ => ⟨hf, rfl, id, fun h => absurd h (Nat.not_succ_le_zero 0)⟩
  | e :: es, s, hf, hw => by
    obtain ⟨f1, s1, g1, g2⟩ := lstep_noWrite (p := p) hf (hw e (List.mem_cons_self ..))
    have R := lrun_noWrite p es (lstep p s e) f1 fun x hx => hw x (List.mem_cons_of_mem _ hx)
    refine ⟨R.flag, by rw [lrun, R.strikes, s1, Nat.add_assoc]; rfl, fun h => R.sticky (g1 h), fun h1 h3 => ?_⟩
    simp only [countStrikes] at h1 h3
    by_cases hrest : 1 ≤ countStrikes p (lstep p s e) es
    · exact R.third hrest (by omega)
    · -- the last strike of the stretch is this very ping
      by_cases hk : e = .ping ∧ isStrike p s = true
      · rw [if_pos hk] at h3; exact R.sticky (g2 hk.1 hk.2 (by omega))
      · rw [if_neg hk] at h1; omega

/-- Strikes accumulate: over a stretch without server writes, starting with no pending forgiveness,
    `pingStrikes` grows by exactly the number of too-early pings — well-spaced pings in between do
    not reset it. -/
theorem strikes_accumulate (p : Policy) : ∀ (es : List LEv) (s : Ledger), s.resetFlag = false → noWrite es →
    (lrun p s es).strikes = s.strikes + countStrikes p s es ∧ (lrun p s es).resetFlag = false :=
  fun es s hf hw => ⟨(lrun_noWrite p es s hf hw).strikes, (lrun_noWrite p es s hf hw).flag⟩

/-- C15, last clause: the third too-early ping that is not separated from the previous ones by
    server-sent headers or data triggers GOAWAY ENHANCE_YOUR_CALM — whatever else (delays, well
    spaced pings, stream opens/closes) happens in between. -/
theorem third_strike_goaway (p : Policy) : ∀ (es : List LEv) (s : Ledger), s.resetFlag = false → noWrite es →
    3 ≤ s.strikes + countStrikes p s es → 1 ≤ countStrikes p s es → (lrun p s es).goaway = true :=
  fun es s hf hw h3 h1 => (lrun_noWrite p es s hf hw).third h1 h3

/-- Server-sent headers / data / trailers forgive: the next ping (however early, however many
    strikes before) resets `pingStrikes` to 0 and cannot trigger the GOAWAY. -/
theorem strikes_reset_by_server_write (p : Policy) (s : Ledger) (es : List LEv)
    (hnp : ∀ e ∈ es, e ≠ LEv.ping) :
    let s' := lrun p (lstep p s .write) (es ++ [.ping])
    s'.strikes = 0 ∧ s'.goaway = s.goaway := by
  have key : ∀ (es : List LEv) (t : Ledger), (∀ e ∈ es, e ≠ LEv.ping) → t.resetFlag = true →
      (lrun p t (es ++ [.ping])).strikes = 0 ∧ (lrun p t (es ++ [.ping])).goaway = t.goaway := by
    intro es
    induction es with
    | nil => intro t _ hf; simp [lrun, lstep, handlePing, hf]
    | cons e es ih =>
      intro t hnp hf
      have hnp' : ∀ x ∈ es, x ≠ LEv.ping := fun x hx => hnp x (List.mem_cons_of_mem _ hx)
      have he : e ≠ LEv.ping := hnp e (List.mem_cons_self ..)
      cases e with
      | ping => exact absurd rfl he
      | write => exact ih (lstep p t .write) hnp' rfl
      | _ => exact ih (lstep p t _) hnp' hf
  have := key es (lstep p s .write) hnp (by simp [lstep])
  simpa [lstep] using this

-- dead peer, PermitWithoutStream: ping at Time, closed exactly at Time + Timeout
example : (run ⟨10, 20, true⟩ (KA.init ⟨10, 20, true⟩) [.delay 10, .fire, .delay 10, .fire, .delay 10, .fire]).2
    = [.ping 10, .close 30] := by decide
example : (after ⟨10, 20, true⟩ [.delay 10, .fire, .delay 10, .fire, .delay 9]).now = 29
    ∧ (after ⟨10, 20, true⟩ [.delay 10, .fire, .delay 10, .fire, .delay 9]).closed = false := by decide
example : Valid ⟨10, 20, true⟩ (KA.init ⟨10, 20, true⟩) [.delay 10, .fire, .delay 10, .fire, .delay 10, .fire] = true := by decide
-- healthy peer: a read exactly every Time
example : Healthy ⟨10, 3, true⟩ (0, 0) [.delay 10, .read, .fire, .delay 10, .read, .fire] := by
  simp [Healthy, clockStep]
-- the late wake closes at 35
example : (run ⟨10, 3, false⟩ (KA.init ⟨10, 3, false⟩)
    [.delay 10, .fire, .delay 10, .read, .delay 9, .openS, .delay 3, .fire, .fire, .delay 3, .fire]).2
    = [.ping 29, .ping 32, .close 35] := by decide
-- three strikes: first ping free, then three pings 1 ns apart with MinTime 5 and a stream open
example : (lrun ⟨5, false⟩ Ledger.init [.openS, .ping, .delay 1, .ping, .delay 1, .ping, .delay 1, .ping]).goaway = true := by decide
example : countStrikes ⟨5, false⟩ Ledger.init [.openS, .ping, .delay 1, .ping, .delay 1, .ping, .delay 1, .ping] = 3 := by decide
-- spaced exactly MinTime: no strike; two-hour rule without streams
example : Spaced ⟨5, false⟩ Ledger.init [.openS, .ping, .delay 5, .ping, .doneS, .delay 7200000000000, .ping] := by
  simp [Spaced, spacedPing, lstep, handlePing, Ledger.init, requiredLit, tooEarly]
example : (lrun ⟨5, false⟩ Ledger.init [.ping, .delay 7199999999999, .ping]).strikes = 1 := by decide

end GrpcProofs.C15
