import GrpcProofs.Lemmas.LoopyC02Trace
/-!
# C02  Outbound per-stream byte order, completeness and END_STREAM placement

Model: `GrpcModel/Model/Loopy.lean`; property predicate: `GrpcModel.Loopy.C02` in `GrpcModel/Model/LoopySpec.lean`
(read its header: byte identity = offset in the stream's application byte stream; what is demanded of the frames; what is
demanded of the environment, on whose breach a stream is marked `wild` and no longer judged).

All theorems quantify over the side and over EVERY finite history of control items and `processData` calls.
-/
namespace GrpcProofs.C02
open GrpcModel.Loopy GrpcModel.Loopy.C02 GrpcProofs.Loopy

/-- **C02.** The trace of every history satisfies the executable C02 predicate (the one the monitor evaluates on the real
writer's frames): per stream, DATA frames carry consecutive byte ranges of what the application wrote, never more; END_STREAM sits
on the frame that ends the stream and nothing follows it; trailers come only after all DATA written before them; no frame follows
trailers, RST_STREAM or `cleanupStream` (except the RST_STREAM belonging to the same close). -/
theorem c02_holds (side : Side) (ops : List Op) : C02.holds (trace side ops) = true := by
  have := (runFrom_ord (wf_init side) (ord_init side) ops).1
  simp only [holds, trace, run, this, Option.isNone_none]

/-- The refinement invariant behind it, at the end of every history: unless `run()` has returned, every stream the spec still
judges is established in the writer iff it is open in the spec, and then the writer's queue is exactly the unsent suffix of the
application byte stream: ghost offsets consecutive from `sent`, `sent + queued = written`, trailers and END_STREAM queued at the
positions where the application asked for them. -/
theorem refinement_invariant (side : Side) (ops : List Op) :
    let s := final side ops
    let m := (runMon Mon.init (trace side ops)).1
    s.closed = true ∨ ∀ id, (m.str id).wild = true ∨
      (((m.str id).phase = .open ↔ id ∈ s.keys) ∧ (id ∈ s.keys → QInv (s.str id) (m.str id))) :=
  (runFrom_ord (wf_init side) (ord_init side) ops).2

/-- Completeness: whenever the queue of an established, judged stream is empty, everything the application wrote has been put on the
wire (`sent = written`: no loss), including the END_STREAM it asked for. -/
theorem drained_complete (side : Side) (ops : List Op) (id : Nat) :
    let s := final side ops
    let m := (runMon Mon.init (trace side ops)).1
    s.closed = false → id ∈ s.keys → (m.str id).wild = false → (s.str id).items = [] →
      (m.str id).sent = (m.str id).written ∧ ((m.str id).esAt.isSome → (m.str id).esSent = true) := by
  intro s m hc hk hw hnil
  rcases refinement_invariant side ops with h | h
  · rw [hc] at h; cases h
  · rcases h id with h | g
    · rw [hw] at h; cases h
    · obtain ⟨hsent, _, hes⟩ := (GoodAt.qinv g hk).drained hnil
      exact ⟨hsent, hes⟩

/-- Every reachable state is well-formed. In a well-formed state the queue of the stream at the head of the active list starts with
a data item (`Wf.head_item`), which is when the unchecked `str.itl.peek().(*dataFrame)` of `processData` is safe; the model's
`processData` answers `Out.panic` in the other case only (row `panic` of `Does`, which `Wf.not_panic` excludes). The statement is
`Wf` of the state: that no step of a history emits `Out.panic` is a consequence of these that is not stated on its own. -/
theorem no_panic (side : Side) (ops : List Op) : Wf (final side ops) := wf_reachable side ops

/-- Order, no loss, no duplication, END_STREAM placement, read off the wire: for every stream that is judged to the end of the
history, the DATA frames (`wire id` = their `(offset, size, END_STREAM)` in wire order) carry consecutive byte ranges of the
application byte stream starting at offset 0, and only the last of them may carry END_STREAM. -/
theorem data_frames_consecutive (side : Side) (ops : List Op) (id : Nat)
    (hw : ((runMon Mon.init (trace side ops)).1.str id).wild = false) : Seq 0 (wire id (trace side ops)) := by
  have h := c02_holds side ops
  simp only [holds, Option.isNone_iff_eq_none] at h
  have := (runMon_exp h hw).2
  simpa [Exp, Mon.init] using this

/-- The same in bytes: whatever the content `c` of the stream's application byte stream (the concatenation of the 5-byte-prefixed
messages the application wrote), the concatenated DATA payloads on the wire are exactly its first `total` bytes. -/
theorem wire_bytes_are_prefix {α : Type} (c : List α) (side : Side) (ops : List Op) (id : Nat)
    (hw : ((runMon Mon.init (trace side ops)).1.str id).wild = false) :
    payload c (wire id (trace side ops)) = c.take (total (wire id (trace side ops))) := by
  have := seq_payload c (data_frames_consecutive side ops id hw)
  simpa using this

/-- A stream carries END_STREAM at most once and only on its last DATA frame. -/
theorem end_stream_once_and_last (side : Side) (ops : List Op) (id : Nat)
    (hw : ((runMon Mon.init (trace side ops)).1.str id).wild = false) (a b : List (Nat × Nat × Bool)) (o n : Nat)
    (h : wire id (trace side ops) = a ++ (o, n, true) :: b) : b = [] :=
  seq_es_last (data_frames_consecutive side ops id hw) a b o n h

/-! ### non-vacuity: the predicate is falsifiable -/

/-- duplicated bytes -/
example : C02.holds [(.register 1, []), (.data 1 5 10 false, []), (.tick 0, [.data 1 0 5 false]), (.tick 0, [.data 1 0 10 false])] = false := by
  decide
/-- lost bytes -/
example : C02.holds [(.register 1, []), (.data 1 5 10 false, []), (.tick 0, [.data 1 5 10 false])] = false := by decide
/-- END_STREAM before the end -/
example : C02.holds [(.register 1, []), (.data 1 5 10 true, []), (.tick 0, [.data 1 0 5 true])] = false := by decide
/-- DATA after END_STREAM -/
example : C02.holds [(.register 1, []), (.data 1 5 10 true, []), (.tick 0, [.data 1 0 15 true]), (.tick 0, [.data 1 15 0 false])] = false := by
  decide
/-- trailers before all DATA -/
example : C02.holds [(.register 1, []), (.data 1 5 10 false, []), (.serverHeaders 1 true 3 true 0, [.headers 1 true [3], .rst 1 0])] = false := by
  decide
/-- a frame after trailers -/
example : C02.holds [(.register 1, []), (.serverHeaders 1 true 3 false 0, [.headers 1 true [3]]), (.tick 0, [.data 1 0 0 false])] = false := by
  decide
/-- the good case: data, then trailers with their RST_STREAM -/
example : C02.holds [(.register 1, []), (.data 1 5 10 false, []), (.serverHeaders 1 true 3 true 0, []),
    (.tick 0, [.data 1 0 15 false, .headers 1 true [3], .cb .cleanupOnWrite 1, .rst 1 0])] = true := by decide
/-- the model does it: two messages, the second split by the stream window, END_STREAM on the very last frame -/
example : (trace .client [.register 1, .settings [(4, 20)] [], .data 1 5 10 false, .data 1 5 10 true, .tick 0, .tick 0,
      .winUpdate 1 100, .tick 0]).map (·.2) =
    [[], [.settingsAck], [], [], [.cb .onEachWrite 1, .data 1 0 15 false], [.cb .onEachWrite 1, .data 1 15 5 false], [],
     [.cb .onEachWrite 1, .data 1 20 10 true]] := by
  decide

/-- … and that stream is judged to the end (the hypothesis of the three theorems above is satisfiable), with everything sent -/
example : let m := (runMon Mon.init (trace .client [.register 1, .settings [(4, 20)] [], .data 1 5 10 false, .data 1 5 10 true,
      .tick 0, .tick 0, .winUpdate 1 100, .tick 0])).1
    (m.str 1).wild = false ∧ (m.str 1).sent = 30 ∧ (m.str 1).written = 30 ∧ (m.str 1).esSent = true := by
  decide

end GrpcProofs.C02
