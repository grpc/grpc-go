/-
C14  GOAWAY and graceful drain never lose or double-run accepted work — CLIENT half.

Model: GrpcModel/Model/ClientConn.lean (`http2Client` as a per-connection state machine; one event
= one critical section of reader / loopy / NewStream / Close, so `run s es` ranges over every
interleaving and every frame sequence).

Statement (client part): after a client receives GOAWAY(last-stream-id N) it opens no new stream on
that connection, streams with id <= N are not failed by the GOAWAY, streams with id > N fail as
unprocessed; a later GOAWAY with a larger id is a connection error.

The last clause depends on the reader loop.  Where `reader` returns when `handleGoAway` reports an error
(`if errClose = t.handleGoAway(frame); errClose != nil { return }`; `errCloses = true`, read off the source by T4) it
holds: `second_goaway_larger_is_conn_error`.  Where the loop goes on reading (`errClose = t.handleGoAway(frame)` without
`return`; `errCloses = false`) the error is detected and dropped: `…_partial` and `…_counterexample`.
-/
import GrpcProofs.Lemmas.ClientConnGoAway
import GrpcProofs.Lemmas.ClientConnStep
namespace GrpcProofs.C14
open GrpcModel.ClientConn GrpcProofs.Lemmas.ClientConn

theorem snapF_same (x : Strm) : (snapF x).id = x.id ∧ (snapF x).term = x.term ∧ (snapF x).unprocessed = x.unprocessed := by
  simp [snapF]

/-- **No new stream after GOAWAY.**  Once a GOAWAY has been accepted the transport is never `reachable`
again, and along every continuation (`es` arbitrary: more frames, NewStream calls racing with it,
loopy, Close …) no stream id is allocated and the set of streams is unchanged. -/
theorem no_new_stream_after_goaway {s : State} (hr : Reach s) {n : Nat} (c : Nat) (d : Bytes) (h : Accepted s n) (es : List Ev) :
    let s1 := s.onFrame (.goAway n c d)
    s1.tstate ≠ .reachable ∧ s1.goAwayClosed = true ∧
    (run s1 es).tstate ≠ .reachable ∧ (run s1 es).nextID = s1.nextID ∧
    (run s1 es).streams.map (·.id) = s1.streams.map (·.id) := by
  intro s1
  have hga : s1.goAwayClosed = true := onFrame_goAway_ga c d h
  have hnr := (good_onFrame s (.goAway n c d)).mono.ga_notReachable hr.ga_notReachable hga
  have hm := mono_run s1 es
  exact ⟨hnr, hga, hm.notReach hnr, (hm.frozen hnr).1, hm.ids hnr⟩

/-- **Streams with id ≤ N are not failed by the GOAWAY**: the frame leaves their identity, outcome
(`term`: none = still running) and Unprocessed flag as they were; if any stream is still in
`activeStreams` the whole record is untouched. -/
theorem le_N_not_failed_by_goaway {s : State} {n : Nat} (c : Nat) (d : Bytes) (h : Accepted s n) {i : Nat} {x : Strm}
    (hx : s.streams[i]? = some x) (hle : x.id ≤ n) :
    ∃ y, (s.onFrame (.goAway n c d)).streams[i]? = some y ∧ y.id = x.id ∧ y.term = x.term ∧
      y.unprocessed = x.unprocessed ∧ (s.activeCount ≠ 0 → y = x) := by
  have hv : isVictim n (upper s) x = false := by
    simp [isVictim]; intro _ h2; omega
  obtain ⟨y, hy, hyx⟩ := onFrame_goAway_get c d h hx
  simp only [hv, Bool.false_eq_true, and_false, if_false] at hyx
  refine ⟨y, hy, ?_⟩
  rcases hyx with rfl | ⟨h0, rfl⟩
  · exact ⟨rfl, rfl, rfl, fun _ => rfl⟩
  · have ⟨e1, e2, e3⟩ := snapF_same x
    exact ⟨e1, e2, e3, fun ha => absurd h0 ha⟩

/-- **Streams with id > N fail as unprocessed**: every stream still in `activeStreams` that has no
outcome yet and whose id is above N (and not above the previous GOAWAY's id, if any) ends with
UNAVAILABLE and `Unprocessed() = true` (eligible for transparent retry). -/
theorem gt_N_unprocessed {s : State} {n : Nat} (c : Nat) (d : Bytes) (h : Accepted s n) {i : Nat} {x : Strm}
    (hx : s.streams[i]? = some x) (ha : x.inActive = true) (hterm : x.term = none) (hgt : n < x.id) (hup : x.id ≤ upper s) :
    ∃ y, (s.onFrame (.goAway n c d)).streams[i]? = some y ∧ y.id = x.id ∧
      y.term = some { err := some 14, status := some 14 } ∧ y.unprocessed = true := by
  have hv : isVictim n (upper s) x = true := by simp [isVictim, ha, hgt, hup]
  have hac := activeCount_pos hx ha
  obtain ⟨y, hy, rfl | ⟨h0, -⟩⟩ := onFrame_goAway_get c d h hx
  · exact ⟨_, hy, by simp [hac, hv, closeF, markF, hterm, cUnavailable_eq]⟩
  · exact absurd h0 hac

/-- …and a stream that already had its outcome keeps it (`closeStream` is idempotent). -/
theorem goaway_keeps_outcome {s : State} {n : Nat} (c : Nat) (d : Bytes) {i : Nat} {x : Strm} {t : Term}
    (hx : s.streams[i]? = some x) (hterm : x.term = some t) :
    ∃ y, (s.onFrame (.goAway n c d)).streams[i]? = some y ∧ y.term = some t := by
  obtain ⟨y, hy, -, ht⟩ := (mono_step s (.frame (.goAway n c d))).outcome hx hterm
  exact ⟨y, hy, ht⟩


/-- **A later GOAWAY with a larger id is a connection error** — in a tree whose reader loop returns when
`handleGoAway` reports an error (`errCloses`): the reader exits and `Close` starts (state `closing`;
C11's `every_stream_gets_a_status` then gives every stream its outcome). -/
theorem second_goaway_larger_is_conn_error {s : State} {n : Nat} (c : Nat) (d : Bytes)
    (hfix : s.errCloses = true)
    (h1 : s.readerDone = false) (h2 : s.tstate ≠ .closing)
    (hga : s.goAwayClosed = true) (hgt : n > s.prevGoAwayID) :
    (s.onFrame (.goAway n c d)).readerDone = true ∧ (s.onFrame (.goAway n c d)).tstate = .closing := by
  rw [onFrame_goAway n c d h1, handleGoAway_rejected c d h2 (.inr ⟨hga, hgt⟩), if_pos (by simp [hfix])]
  exact ⟨readerExit_done _, readerExit_tstate _ h1⟩

/-- What a tree with `errCloses = false` (`errClose = t.handleGoAway(frame)` without `return`) does
with a later GOAWAY whose id exceeds the previous one's: `handleGoAway` returns its connection error
(counted in `goAwayErrs`) and *nothing else changes*: no stream is touched, the transport state,
`prevGoAwayID` and the control buffer are as before, the reader keeps reading.

Full statement (false in that configuration, see the counterexample below): "… and the connection is closed". -/
theorem second_goaway_larger_is_conn_error_partial {s : State} {n : Nat} (c : Nat) (d : Bytes)
    (hnofix : s.errCloses = false)
    (h1 : s.readerDone = false) (h2 : s.tstate ≠ .closing) (hev : ¬(n > 0 ∧ n % 2 = 0))
    (hga : s.goAwayClosed = true) (hgt : n > s.prevGoAwayID) :
    s.onFrame (.goAway n c d) = { s with goAwayErrs := s.goAwayErrs + 1 } := by
  -- `hev` plays no part: an even id is rejected one test earlier, with the same result
  rw [onFrame_goAway n c d h1, handleGoAway_rejected c d h2 (.inr ⟨hga, hgt⟩), if_neg (by simp [hnofix])]

def witness : List Ev :=
  [.newRPC false none, .loopy, .flush, .frame (.goAway 1 0 []), .loopy, .frame (.goAway 3 0 [])]

/-- **A later GOAWAY with a larger id is NOT treated as a connection error when `errCloses = false`.**  The state after
GOAWAY(1) is a counterexample to GOAWAY(3) ending the reader or starting `Close`.  `witness_state` below says where the
history leaves the transport: the error was detected (`goAwayErrs = 1`), but the transport is `draining` (not `closing`), the
reader is alive, stream 1 is still open, loopy has nothing queued and `Close` has not started. -/
theorem second_goaway_larger_is_conn_error_counterexample :
    ¬ (∀ (s : State) (n c : Nat) (d : Bytes), s.errCloses = false → s.readerDone = false → s.tstate ≠ .closing →
        s.goAwayClosed = true → n > s.prevGoAwayID →
        ((s.onFrame (.goAway n c d)).readerDone = true ∨ (s.onFrame (.goAway n c d)).tstate = .closing)) := by
  intro h
  have := h (run (init false 400 none none) (witness.take 5)) 3 0 [] (by decide) (by decide) (by decide) (by decide) (by decide)
  revert this
  decide

theorem witness_state :
    let s := run (init false 400 none none) witness
    s.goAwayErrs = 1 ∧ s.tstate = .draining ∧ s.readerDone = false ∧ s.closeP = .none ∧ s.cbuf = [] ∧
    s.connClosed = false ∧ (s.streams.map (·.term)) = [none] := by decide

/-- with `errCloses = true` (`reader` returns after `t.handleGoAway(frame)` reports an error) the same history ends
`closing`: there `second_goaway_larger_is_conn_error` describes the code and the `_counterexample` does not -/
theorem witness_with_fix :
    let s := run (init true 400 none none) witness
    s.tstate = .closing ∧ s.readerDone = true := by decide

example : Accepted (run (init false 400 none none) (witness.take 3)) 1 := by unfold Accepted; decide
example : ((run (init false 400 none none) (witness.take 3)).streams.map (·.id)) = [1] := by decide

end GrpcProofs.C14
