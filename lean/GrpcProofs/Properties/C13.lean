import GrpcProofs.Lemmas.StreamQuota
/-!
C13 — Client never exceeds the server's MAX_CONCURRENT_STREAMS.

All statements are about `GrpcModel.StreamQuota` (one rule per `controlBuf` critical section or
channel operation of `internal/transport/http2_client.go`), for EVERY schedule `rs : List Rule`
(any number of callers, any interleaving of NewStream attempts, wake-ups, retries, ctx expiry,
stream closes, SETTINGS raising/lowering the limit incl. 0, header-list limit changes, GOAWAY,
GracefulClose) started from the state in which NewHTTP2Client returns, for every server preface
(`mcs` = MAX_CONCURRENT_STREAMS or absent, `hl` = MAX_HEADER_LIST_SIZE or absent).
-/
namespace GrpcProofs.C13
open GrpcModel.StreamQuota GrpcModel.Generated GrpcProofs.StreamQuota

def Reachable (s : State) : Prop := ∃ mcs hl rs, s = run (initAfterPreface mcs hl) rs

theorem reachable_inv {s : State} (h : Reachable s) : Inv s := by
  obtain ⟨mcs, hl, rs, rfl⟩ := h
  exact run_inv _ _ (inv_initAfterPreface mcs hl)

/-- **Quota ledger.** `streamQuota = maxConcurrentStreams − |open| − leaked` in every reachable
state; `leaked` counts the quota units taken by the closure's `draining` early return. -/
theorem quota_ledger {s : State} (h : Reachable s) :
    s.quota = (s.maxC : Int) - (s.openS.length : Int) - (s.leaked : Int) :=
  (reachable_inv h).ledger

/-- While the transport is not draining nothing has leaked: `streamQuota = max − open` exactly
("can go negative if server decreases it"). -/
theorem quota_ledger_live {s : State} (h : Reachable s) (hd : s.draining = false) :
    s.quota = (s.maxC : Int) - (s.openS.length : Int) := by
  have hi := reachable_inv h
  have hl : s.leaked = 0 := by
    rcases Nat.eq_zero_or_pos s.leaked with h0 | hp
    · exact h0
    · have := hi.leak hp; rw [hd] at this; cases this
  have := hi.ledger
  rw [hl] at this; simpa using this

/-- `maxC` is the most recent advertised MAX_CONCURRENT_STREAMS: SETTINGS sets it, nothing else touches it. -/
theorem settings_sets_latest_max (s : State) :
    (∀ n, (step s (.settings n)).1.maxC = n) ∧ (∀ r, isSettings r = false → (step s r).1.maxC = s.maxC) := by
  refine ⟨fun n => ?_, fun r hr => ?_⟩
  · exact (step_move s (.settings n)).of_settings.1
  · exact (step_emits s r).wire.elim (·.maxC hr) (·.maxC)

/-- **open ≤ latest max at every HEADERS emission.** Whenever a rule puts HEADERS for stream `id` on
the wire, the open streams *including the new one* number at most the latest advertised limit, the
new stream is the last element of the open list, and the limit was not changed by that rule. -/
theorem open_le_latest_max {s : State} (h : Reachable s) (r : Rule) (id : Nat)
    (he : id ∈ hdrIds (step s r).2) :
    (step s r).1.openS.length ≤ (step s r).1.maxC ∧
    (step s r).1.openS = s.openS ++ [⟨id, false⟩] ∧ (step s r).1.maxC = s.maxC := by
  have hi := reachable_inv h
  rcases (step_emits s r).wire with e | e
  · rw [e.hdrs] at he; cases he
  · rw [e.hdrs] at he
    cases List.mem_singleton.mp he
    refine ⟨?_, e.openS, e.maxC⟩
    rw [e.openS, e.maxC]
    have := e.room hi
    simp only [List.length_append, List.length_cons, List.length_nil]
    omega

/-- **ids are odd and strictly increasing**, over the whole life of the connection. -/
theorem ids_odd_increasing (mcs hl : Option Nat) (rs : List Rule) :
    (hdrIds (trace (initAfterPreface mcs hl) rs)).Pairwise (· < ·) ∧
    ∀ id ∈ hdrIds (trace (initAfterPreface mcs hl) rs), id % 2 = 1 := by
  obtain ⟨incr, ids, -⟩ := trace_ids (initAfterPreface mcs hl) rs (inv_initAfterPreface mcs hl).odd
  exact ⟨incr, fun id hid => let ⟨_, odd, _⟩ := ids id hid; odd⟩

/-- **A lowered limit blocks.** With the latest limit at or below the open count no rule emits HEADERS. -/
theorem lowered_limit_blocks {s : State} (h : Reachable s) (hlow : s.maxC ≤ s.openS.length) (r : Rule) :
    hdrIds (step s r).2 = [] := by
  have hi := reachable_inv h
  rcases (step_emits s r).wire with e | e
  · exact e.hdrs
  · have := e.room hi; omega

/-- **… until enough close.** After the limit is lowered to `maxC ≤ |open|`, no schedule without a
further SETTINGS emits HEADERS unless it contains MORE than `|open| − maxC` closeStream rules. -/
theorem lowered_limit_blocks_until_enough_close {s : State} (h : Reachable s) (rs : List Rule)
    (hns : ∀ r ∈ rs, isSettings r = false)
    (hk : s.maxC + rs.countP isClose ≤ s.openS.length) :
    hdrIds (trace s rs) = [] :=
  no_hdr_until_enough_close s rs (reachable_inv h) hns hk

/-- `waitingStreams` is at least the number of parked + woken callers, so the `waitingStreams--`
of an admitted waiter never underflows (the model's truncated subtraction is never truncating). -/
theorem waiting_ge_waiters {s : State} (h : Reachable s) : nWaiters s ≤ s.waiting :=
  (reachable_inv h).waiters

/-- **No admission while draining** (after GOAWAY or GracefulClose). -/
theorem no_admission_while_draining (s : State) (hd : s.draining = true) (r : Rule) :
    hdrIds (step s r).2 = [] := by
  rcases (step_emits s r).wire with e | e
  · exact e.hdrs
  · exact absurd (hd.symm.trans e.live) nofun

/-! Wake-ups.  Full statement (FALSE for the unchanged code, see the counterexample):
  `∀ mcs hl rs, let s := run (initAfterPreface mcs hl) rs;
     quiescent s → s.draining = false → starved s = false`
i.e. when no caller can take a step on its own, nobody is parked while stream quota is free.
Proved for schedules in which the header-list limit is not changed (`hls`) after the preface. -/

theorem countP_pos_of_hasP {l : List Caller} {f : Phase → Bool} (h : HasP l (fun p => f p = true)) :
    0 < l.countP (fun c => f c.phase) := by
  obtain ⟨j, x, hj, hfx⟩ := h
  exact List.countP_pos_iff.mpr ⟨x, List.mem_of_getElem? hj, hfx⟩

/-- **Progress (partial: no `hls` in the schedule).** Quota free, transport live and somebody parked ⇒
a wake-up is in flight: the token is in the channel, or a woken caller is about to retry, or a
caller is parked on an already-closed channel. -/
theorem progress_when_quota_free_partial (mcs hl : Option Nat) (rs : List Rule)
    (hr : ∀ r ∈ rs, isHls r = false) :
    let s := run (initAfterPreface mcs hl) rs
    s.draining = false → s.quota > 0 → nParked s > 0 →
      s.token = true ∨ nWoken s > 0 ∨ nParkedOld s > 0 := by
  intro s hd hq hp
  have hI : Inv s := run_inv _ _ (inv_initAfterPreface mcs hl)
  have hL : NoLostWakeup s := run_noLostWakeup _ _ hr (inv_initAfterPreface mcs hl) (noLostWakeup_initAfterPreface mcs hl)
  obtain ⟨j, cj, hj, hpj⟩ := hasP_of_countP_pos (f := isParked) hp
  -- a parked caller is blocked on some generation `g`: an old one, or the current one (`NoLostWakeup`)
  cases hph : cj.phase with
  | blocked g =>
    have hg := hI.gens j cj g hj hph
    rcases Nat.lt_or_ge g s.gen with hlt | hge
    · exact .inr (.inr (List.countP_pos_iff.mpr ⟨cj, List.mem_of_getElem? hj, by simp [hph, hlt]⟩))
    · obtain rfl : g = s.gen := by omega
      rcases hL.inFlight hd hq ⟨j, cj, hj, hph⟩ with ht | ⟨k, ck, hk, hwk⟩
      · exact .inl ht
      · exact .inr (.inl (countP_pos_of_hasP (f := isWoken) ⟨k, ck, hk, by simp [hwk, isWoken]⟩))
  | _ => rw [hph] at hpj; cases hpj

/-- **No waiter while quota is free (partial: no `hls` in the schedule).** In a quiescent state of a
live transport nobody is parked with `streamQuota > 0`. -/
theorem no_waiter_while_quota_free_partial (mcs hl : Option Nat) (rs : List Rule)
    (hr : ∀ r ∈ rs, isHls r = false) :
    let s := run (initAfterPreface mcs hl) rs
    quiescent s = true → s.draining = false → starved s = false := by
  intro s hqz hd
  cases hst : starved s with
  | false => rfl
  | true =>
    exfalso
    simp only [starved, Bool.and_eq_true, decide_eq_true_eq] at hst
    obtain ⟨hq, hp⟩ := hst
    simp only [quiescent, Bool.and_eq_true, beq_iff_eq, Bool.or_eq_true, Bool.not_eq_true'] at hqz
    obtain ⟨⟨⟨_, hw0⟩, ho0⟩, htok⟩ := hqz
    have hprog : s.token = true ∨ nWoken s > 0 ∨ nParkedOld s > 0 :=
      progress_when_quota_free_partial mcs hl rs hr hd hq hp
    rcases hprog with ht | hw | ho
    · rcases htok with htf | hp0
      · rw [ht] at htf; cases htf
      · omega
    · omega
    · omega

/-- **Counterexample to the unrestricted statement** (known finding F19, reproduced on the real
transport by the correspondence run): limit 1; caller 0 admitted; caller 1 (large header list) and
caller 2 park; SETTINGS lowers MAX_HEADER_LIST_SIZE; stream 1 closes (quota 1, token); caller 1
takes the token, fails `checkForHeaderListSize` and returns — caller 2 stays parked, quota free,
nothing in flight. -/
theorem no_waiter_while_quota_free_counterexample :
    ¬ (∀ (mcs hl : Option Nat) (rs : List Rule),
        let s := run (initAfterPreface mcs hl) rs
        quiescent s = true → s.draining = false → starved s = false) := by
  intro h
  have := h (some 1) none
    [.call 300, .tryNew 0, .call 5000, .tryNew 1, .call 300, .tryNew 2, .hls 1000,
     .closeStream 1 (some 0), .wake 1, .retry 1]
  revert this
  decide

/-- `nextID` never exceeds `MaxStreamID` (1610612735) by more than two per admission that found it
exceeded (each such caller goes on to GracefulClose, after which nothing is admitted). -/
theorem nextID_bound (mcs hl : Option Nat) (rs : List Rule) :
    let s := run (initAfterPreface mcs hl) rs
    s.nextID ≤ 1610612735 + 2 * s.flagged := by
  intro s
  have hI : Inv s := run_inv _ _ (inv_initAfterPreface mcs hl)
  have hm : s.maxSID = 1610612735 := by
    show (run _ _).maxSID = _
    rw [run_maxSID, initAfterPreface_maxSID]; rfl
  have := hI.idb
  rw [hm] at this
  omega

/-- Every id put on the wire is a valid client stream id (< 2^31) — partial: under the assumption
that fewer than 2^28 admissions race the first GracefulClose. -/
theorem ids_valid_partial (mcs hl : Option Nat) (rs : List Rule)
    (hf : (run (initAfterPreface mcs hl) rs).flagged < 268435456) :
    ∀ id ∈ hdrIds (trace (initAfterPreface mcs hl) rs), id < 2147483648 := by
  intro id hid
  obtain ⟨-, ids, -⟩ := trace_ids (initAfterPreface mcs hl) rs (inv_initAfterPreface mcs hl).odd
  obtain ⟨-, -, below⟩ := ids id hid
  have := nextID_bound mcs hl rs
  simp only at this
  omega

/-- the limit is reached and respected: limit 2, three callers → two HEADERS (ids 1, 3), one parked -/
example :
    let rs : List Rule := [.call 300, .call 300, .call 300, .tryNew 0, .tryNew 1, .tryNew 2]
    hdrIds (trace (initAfterPreface (some 2) none) rs) = [1, 3] ∧
    nParked (run (initAfterPreface (some 2) none) rs) = 1 := by decide

/-- lowering to 0 with two open, then one close: still nothing; raising to 2 wakes the waiter -/
example :
    let rs : List Rule := [.call 300, .call 300, .tryNew 0, .tryNew 1, .settings 0, .call 300, .tryNew 2,
      .closeStream 1 none, .settings 2, .wake 2, .retry 2]
    hdrIds (trace (initAfterPreface none none) rs) = [1, 3, 5] ∧
    (run (initAfterPreface none none) rs).quota = 0 := by decide

end GrpcProofs.C13
