/-
C57  Expiring cache and one-shot primitives fire exactly once.

Models: GrpcModel/Model/TimeoutCache.lean (critical sections of Add/Remove/Clear are rules, the
timer goroutine and Clear's callback loop are split into their non-atomic steps),
GrpcModel/Model/Event.lean and GrpcModel/Model/RefCounted.lean (one rule per atomic access;
counting abstraction = any number of goroutines).
The statements with a `Reach s` hypothesis hold of every reachable state of every interleaving; the
others (`add_step`, `fire_progress`, `decrement_to_zero_schedules_cleanup`) describe one step from any state.
-/
import GrpcProofs.Lemmas.TimeoutCache
import GrpcProofs.Lemmas.Event
import GrpcProofs.Lemmas.RefCounted
namespace GrpcProofs.C57

section Cache
open GrpcModel.TimeoutCache GrpcProofs.Lemmas.TimeoutCache

/-- The expiry callback of an entry runs at most once — counting the runs that have happened, the
    run a timer goroutine is about to make (`tm = cb`) and the runs Clear(true) callers still owe. -/
theorem callback_at_most_once {s : St} (h : Reach s) (id : Nat) (hid : id < s.n) :
    (s.ent id).cbRuns + (s.ent id).owed + b2n ((s.ent id).tm = .cb) ≤ 1 := by
  -- cbRuns + owed + [tm = cb] = [evicted] + clearedCb, and clearedCb ≤ cleared ≤ 1 - [evicted]
  have := ((reach_inv h).ent id hid).linear
  omega

/-- An entry that a Remove call returned never has its callback run: not now, not pending, and in
    no continuation of the schedule (even when the timer had already fired and its goroutine was
    waiting for the lock when Remove ran — the `deleted` flag). -/
theorem never_if_removed_first {s : St} (h : Reach s) (id : Nat) (hid : id < s.n)
    (hr : (s.ent id).removed ≥ 1) (rs : List Rule) :
    ((run s rs).ent id).cbRuns = 0 ∧ ((run s rs).ent id).owed = 0 ∧ ((run s rs).ent id).tm ≠ .cb := by
  induction rs generalizing s with
  | nil =>
    simp only [run]
    have := ((reach_inv h).ent id hid).linear
    generalize s.ent id = e at hr this ⊢
    have z : e.cbRuns = 0 ∧ e.owed = 0 ∧ b2n (e.tm = .cb) = 0 := by omega
    exact ⟨z.1, z.2.1, fun hc => nomatch (b2n_pos hc).symm.trans z.2.2⟩
  | cons r rs ih =>
    simp only [run]
    cases st : apply s r with
    | none => exact ih h hid hr
    | some t =>
      have m := ((reach_inv h).step st).2 id hid
      exact ih (Reach.step r h st) m.1 (Nat.le_trans hr m.2.removed)

/-- Exactly once if it expired or was cleared with callbacks:
    (1) the timer goroutine got past its `deleted` check and has finished → the callback ran once;
    (2) the timer fired, no Remove/Clear ever took the entry, goroutine finished → ran once;
    (3) taken by Clear(true) and that caller's loop is through with it → ran once;
    (4) taken by Clear(false) → never;
    (5) nothing can get stuck: a fired timer can always take the lock, a pending callback can
        always run, an owed callback can always be paid. -/
theorem exactly_once_if_expired_or_cleared {s : St} (h : Reach s) (id : Nat) (hid : id < s.n) :
    ((s.ent id).tm = .done → (s.ent id).deleted = false → (s.ent id).cbRuns = 1) ∧
    ((s.ent id).tm = .done → (s.ent id).removed = 0 → (s.ent id).cleared = 0 → (s.ent id).cbRuns = 1) ∧
    ((s.ent id).clearedCb ≥ 1 → (s.ent id).owed = 0 → (s.ent id).cbRuns = 1) ∧
    ((s.ent id).cleared ≥ 1 → (s.ent id).clearedCb = 0 → (s.ent id).cbRuns = 0 ∧ (s.ent id).tm ≠ .cb) ∧
    ((s.ent id).tm = .fired → (apply s (.timerLock id)).isSome) ∧
    ((s.ent id).tm = .cb → (apply s (.timerCall id)).isSome) ∧
    ((s.ent id).owed > 0 → (apply s (.clearCall id)).isSome) := by
  have ok := (reach_inv h).ent id hid
  have en {k out e'} (m : Move (some k) out (s.ent id) e') : (apply s (k.rule id)).isSome :=
    Option.isSome_iff_exists.2 ⟨_, (apply_move k).2 ⟨hid, _, _, m, rfl⟩⟩
  have p1 : (s.ent id).tm = .fired → (apply s (.timerLock id)).isSome := fun ht => by
    cases hd : (s.ent id).deleted
    · exact en (.lock ht hd)
    · exact en (.lockDeleted ht hd)
  have p2 : (s.ent id).tm = .cb → (apply s (.timerCall id)).isSome := fun ht => en (.call ht)
  have p3 : (s.ent id).owed > 0 → (apply s (.clearCall id)).isSome := fun ht => en (.clearCall ht)
  generalize s.ent id = e at ok p1 p2 p3 ⊢
  have := ok.linear
  -- conditions on `tm` and `deleted` become values of the indicators; the rest is linear arithmetic
  have one : e.tm = .done → e.deleted = false → e.cbRuns = 1 := fun ht hd => by
    have := b2n_pos (show evicted e from ⟨.inr ht, hd⟩)
    have := b2n_neg (show ¬e.tm = .cb by rw [ht]; decide)
    omega
  refine ⟨one, fun ht hr hc => one ht ?_, by omega, fun _ _ => ⟨by omega, fun hc => ?_⟩, p1, p2, p3⟩
  · cases hd : e.deleted
    · rfl
    · have := b2n_pos (.inr hd : e.tm = .stopped ∨ e.deleted = true); omega
  · have := b2n_pos hc; omega

/-- A removal returns the entry to exactly one caller: over the whole history at most one Remove
    call got this entry, and then no Clear did. -/
theorem remove_returns_to_exactly_one_caller {s : St} (h : Reach s) (id : Nat) (hid : id < s.n) :
    (s.ent id).removed + (s.ent id).cleared ≤ 1 := by
  have := ((reach_inv h).ent id hid).linear
  omega

/-- The Remove call itself: it returns an item iff the key is mapped; it then credits exactly
    that entry, unmaps the key, and a second Remove of the key (before a new Add) returns nothing. -/
theorem remove_step {s t : St} (h : Reach s) (k : Nat) (st : apply s (.remove k) = some t) :
    (∀ id, s.cache k = some id →
        removeResult s k = some (s.ent id).item ∧ (t.ent id).removed = (s.ent id).removed + 1 ∧
        (s.ent id).removed = 0 ∧ (s.ent id).key = k) ∧
    (s.cache k = none → removeResult s k = none ∧ t = s) ∧
    removeResult t k = none := by
  obtain ⟨hk, rfl⟩ | ⟨id, hk, rfl⟩ := apply_remove.1 st
  · have hr : removeResult t k = none := by simp only [removeResult, hk]
    exact ⟨fun id hc => (nomatch hk.symm.trans hc), fun _ => ⟨hr, rfl⟩, hr⟩
  · refine ⟨fun id' hc => ?_, fun hc => (nomatch hc.symm.trans hk), by simp [removeResult, setKey]⟩
    cases hk.symm.trans hc
    obtain ⟨hid, hkey, ht, hd⟩ := ((reach_inv h).cache k id).1 hk
    have := ((reach_inv h).ent id hid).taken
    rw [b2n_neg (by rcases ht with ht | ht <;> simp [ht, hd])] at this
    refine ⟨by simp only [removeResult, hk], ?_, by omega, hkey⟩
    show (setEnt s.ent id _ id).removed = _
    rw [setEnt_self, stopTimer_eq]

/-- Entries are told apart by identity, not by key: the timer goroutine of an entry that Remove or
    Clear has already taken (its timer had fired, so it is still queued on the mutex) changes nothing
    in the map when it finally gets the lock — in particular it does not evict a NEW entry that was
    added under the same key in the meantime — and it runs no callback. -/
theorem stale_timer_spares_readded_key {s t : St} (h : Reach s) (id : Nat) (hid : id < s.n)
    (hf : (s.ent id).tm = .fired) (htaken : (s.ent id).removed + (s.ent id).cleared ≥ 1)
    (st : apply s (.timerLock id) = some t) :
    t.cache = s.cache ∧ (t.ent id).tm = .done ∧ (t.ent id).cbRuns = (s.ent id).cbRuns ∧
    (∀ j, j ≠ id → t.ent j = s.ent j) := by
  have taken := ((reach_inv h).ent id hid).taken
  have hd : (s.ent id).deleted = true := by
    cases hdel : (s.ent id).deleted with
    | true => rfl
    | false => simp [b2n, hf, hdel] at taken; omega
  obtain ⟨-, _, _, m, rfl⟩ := (apply_move .lock).1 st
  cases m with
  | lockDeleted => exact ⟨rfl, by simp [setEnt], by simp [setEnt], fun j hj => setEnt_ne _ _ hj⟩
  | lock _ hd' => exact nomatch hd.symm.trans hd'

/-- Clear's loop `for key := range c.cache` visits entry `id` iff the key stored in the entry maps
    to it (justifies the pointwise form of rule `clear`). -/
theorem clear_visits_iff {s : St} (h : Reach s) (id : Nat) :
    (∃ k, s.cache k = some id) ↔ s.cache (s.ent id).key = some id := by
  constructor
  · rintro ⟨k, hk⟩
    have := ((reach_inv h).keyOf hk).2
    rw [this]; exact hk
  · intro h; exact ⟨_, h⟩

/-- Add returns `(existing item, false)` and changes nothing when the key is mapped, else creates
    a fresh armed entry. -/
theorem add_step {s t : St} (k item : Nat) (st : apply s (.add k item) = some t) :
    (s.cache k ≠ none → t = s ∧ (addResult s k item).2 = false) ∧
    (s.cache k = none → (addResult s k item) = (item, true) ∧ t.n = s.n + 1 ∧ t.cache k = some s.n ∧
        (t.ent s.n).tm = .armed ∧ (t.ent s.n).cbRuns = 0) := by
  obtain ⟨_, hk, rfl⟩ | ⟨hk, rfl⟩ := apply_add.1 st <;> simp_all [addResult, setEnt, setKey]

-- expiry runs the callback; Remove after the timer fired suppresses it; Clear(true) runs it
example : ((run init [.add 7 1, .timerFire 0, .timerLock 0, .timerCall 0]).ent 0).cbRuns = 1 := by decide
example : ((run init [.add 7 1, .timerFire 0, .remove 7, .timerLock 0, .timerCall 0]).ent 0).cbRuns = 0 := by decide
example : ((run init [.add 7 1, .timerFire 0, .remove 7, .timerLock 0]).ent 0).tm = .done := by decide
example : ((run init [.add 7 1, .timerFire 0, .clear true, .timerLock 0, .clearCall 0, .clearCall 0]).ent 0).cbRuns = 1 := by decide
example : ((run init [.add 7 1, .remove 7, .add 7 2, .timerFire 1, .timerLock 1]).cache 7) = none := by decide
-- the key is re-added while the removed entry's timer goroutine is still queued: the new entry survives
example : ((run init [.add 7 1, .timerFire 0, .remove 7, .add 7 2, .timerLock 0, .timerCall 0]).cache 7) = some 1 := by decide
example : ((run init [.add 7 1, .timerFire 0, .remove 7, .add 7 2, .timerLock 0, .timerCall 0]).ent 0).cbRuns = 0 := by decide
example : ((run init [.add 7 1, .timerFire 0, .clear true, .clearCall 0, .add 7 2, .timerLock 0, .timerCall 0]).ent 0).cbRuns = 1 := by decide
end Cache

section Ev
open GrpcModel.Event GrpcProofs.Lemmas.Event

/-- Of any number of concurrent firers exactly one is told `true`:
    at most one ever (counting the one that has won the CAS and not yet returned), and as soon as
    the event is fired there is exactly one such winner; when all calls have returned and there was
    at least one, exactly one `true` has been returned.  The channel is closed exactly once, by the
    winner, before it returns; and a caller is told `false` only after the event has fired. -/
theorem fire_true_for_exactly_one {s : St} (h : Reach s) :
    s.trues + s.f1 ≤ 1 ∧
    (s.fired = true → s.trues + s.f1 = 1) ∧
    (s.f0 = 0 → s.f1 = 0 → s.trues + s.falses ≥ 1 → s.trues = 1) ∧
    s.closed = s.trues ∧
    (s.falses ≥ 1 → s.fired = true) := by
  have inv := reach_inv h
  have won := inv.won
  cases hf : s.fired <;> rw [hf] at won
  · -- not fired: nobody has won the CAS, nobody has returned
    have hfl := inv.unfired hf
    simp only [Bool.false_eq_true, if_false] at won
    exact ⟨by omega, nofun, by omega, inv.chan, by omega⟩
  · -- fired: `won` says exactly one winner, pending or returned
    simp only [if_true] at won
    exact ⟨by omega, fun _ => by omega, by omega, inv.chan, fun _ => rfl⟩

/-- a firer that is at its CAS can always take the step (no blocking) and the winner can close -/
theorem fire_progress (s : St) : (s.f0 > 0 → (apply s .casOk).isSome ∨ (apply s .casFail).isSome) ∧
    (s.f1 > 0 → (apply s .close).isSome) := by
  simp only [apply]
  cases hf : s.fired <;> simp_all

example : (run init [.fireStart, .fireStart, .fireStart, .casOk, .casFail, .close, .casFail]).trues = 1 := by decide
example : (run init [.fireStart, .fireStart, .casOk, .casOk, .close, .close]).closed = 1 := by decide
end Ev

section RC
open GrpcModel.RefCounted GrpcProofs.Lemmas.RefCounted

/-- The cleanup runs exactly once when the count reaches zero: while the count has never been 0 it
    has not run and is not pending; from the moment the count has reached 0 there is exactly one
    cleanup (pending in the goroutine whose Decrement returned 0 — which can always proceed — or
    done), however many more Decrement / TryIncrement calls race with it.  The count has reached 0
    iff it is ≤ 0 now, and until then it equals the number of live references. -/
theorem cleanup_exactly_once_at_zero {s : St} (h : Reach s) (hm : s.misuse = false) :
    s.zeros + s.z = (if s.dead then 1 else 0) ∧
    (s.dead = true ↔ s.cnt ≤ 0) ∧
    (s.dead = false → s.cnt = s.held) ∧
    (s.z > 0 → (apply s .onZero).isSome) := by
  have inv := reach_inv h
  have enabled : s.z > 0 → (apply s .onZero).isSome := fun hz => by simp [apply, hz]
  cases hd : s.dead
  · -- never been 0: the `live` ledger
    obtain ⟨he, hpos, hz, hzs⟩ := inv.live hm hd
    exact ⟨by simp only [Bool.false_eq_true, if_false]; omega, ⟨nofun, fun hc => by omega⟩, fun _ => he, enabled⟩
  · -- has been 0: the `gone` ledger
    obtain ⟨hle, -, hz⟩ := inv.gone hm hd
    exact ⟨by simp only [if_true]; omega, ⟨fun _ => hle, fun _ => rfl⟩, nofun, enabled⟩

/-- the Decrement that takes the count from 1 to 0 is the one that gets the cleanup -/
theorem decrement_to_zero_schedules_cleanup {s t : St} (st : apply s .decr = some t) (h1 : s.cnt = 1) :
    t.z = s.z + 1 ∧ t.dead = true := by
  simp only [apply] at st
  split at st <;> simp at st
  subst st; simp [h1]

/-- No resurrection: once the count has reached 0, no TryIncrement ever returns true again, the
    count stays ≤ 0 and no second cleanup appears — in every continuation of the schedule in which
    Increment's contract (caller holds a live reference) is respected.  Extra Decrement calls and
    TryIncrement goroutines that loaded a positive count before the death are covered. -/
theorem no_resurrection {s : St} (h : Reach s) (hd : s.dead = true) (rs : List Rule)
    (hm : (run s rs).misuse = false) :
    (run s rs).trues = s.trues ∧ (run s rs).cnt ≤ 0 ∧ (run s rs).dead = true ∧
    (run s rs).zeros + (run s rs).z = 1 := by
  induction rs generalizing s with
  | nil =>
    obtain ⟨hc, -, hz⟩ := (reach_inv h).gone hm hd
    exact ⟨rfl, hc, hd, Nat.add_comm _ _ ▸ hz⟩
  | cons r rs ih =>
    have hms := run_misuse _ hm
    simp only [run] at hm ⊢
    cases st : apply s r with
    | none => rw [st] at hm; exact ih h hd hm
    | some t =>
      rw [st] at hm
      have := ih (Reach.step r h st) ((step_sticky r st).1 hd) hm
      exact ⟨this.1.trans (step_trues_dead r (reach_inv h) hms hd st), this.2⟩

/-- TryIncrement on a dead resource: the Load branch returns false, the CAS of a goroutine that
    loaded a positive count earlier cannot succeed. -/
theorem try_increment_fails_when_dead {s : St} (h : Reach s) (hm : s.misuse = false) (hd : s.dead = true)
    (c : Int) : apply s (.casOk c) = none ∧ apply s .tryLoadLive = none :=
  dead_blocks_try (reach_inv h) hm hd c

-- a TryIncrement that loaded 1 loses against the Decrement to 0 and then reports false
example : (run init [.tryStart, .tryLoadLive, .decr, .casFail 1, .tryLoadDead, .onZero]).falses = 1 := by decide
example : (run init [.tryStart, .tryLoadLive, .decr, .casFail 1, .tryLoadDead, .onZero]).zeros = 1 := by decide
example : (run init [.tryStart, .tryLoadLive, .casOk 1, .decr, .decr, .onZero]).zeros = 1 := by decide
example : (run init [.tryStart, .tryLoadLive, .casOk 1, .decr]).zeros = 0 := by decide
end RC

end GrpcProofs.C57
