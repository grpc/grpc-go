import GrpcProofs.Lemmas.EDSParse
/-!
# C45  xDS resource parsing is total and accepted resources satisfy invariants — PARTIAL

Proved here (about the models in `GrpcModel/Model/EDSParse.lean`, `GrpcModel/Model/XdsInv.lean`):
the EDS clause of the statement for every ClusterLoadAssignment, and the RDS weighted-cluster clause.
Totality and determinism hold for the models by construction (total Lean functions); for the real code
they are observed by the correspondence run (every input parsed twice, panics reported).
NOT proved (`_partial` in spirit, see props/C45.py LEVEL_NOTE): the RDS route, CDS and LDS validators
are not modelled; their invariants (`XdsInv.rdsInv` …) are evaluated by the monitor on the real
validators' outputs only.

Full statement of the property, for reference: "for any bytes presented as a Listener,
RouteConfiguration, Cluster or ClusterLoadAssignment, unmarshalling returns either an error or an
update, never panics, and gives the same answer every time; every accepted update satisfies the
documented invariants".
-/
namespace GrpcProofs.C45
open GrpcModel.EDSParse GrpcProofs.Lemmas.EDSParse

/-- Every accepted EDS update satisfies `Inv`: priorities contiguous from 0, no repeated address,
    no repeated (locality, priority), locality weights non-zero with per-priority sums ≤ 2^32-1,
    endpoint weights non-zero with per-locality sums ≤ 2^32-1, drop denominators ∈ {100, 10^4, 10^6}.
    For every proto whose uint32 fields are < 2^32 and every setting of the env switches. -/
theorem eds_accept_implies_inv (env : Env) (m : ClusterLoadAssignment) (hty : m.typed) (u : EndpointsUpdate)
    (h : unmarshal env m = .ok u) : GrpcModel.EDSParse.Inv u = true := by
  obtain ⟨drops, acc, hd, hl, hc, rfl⟩ := unmarshal_ok h
  exact inv_of_accInv (localitiesLoop_inv accInv_init hty hl) (dropsLoop_ok hd) hc

/-- The contiguity clause spelled out: with n distinct priorities in the accepted update, every
    locality's priority is < n and each of 0 … n-1 is the priority of some locality. -/
theorem eds_priorities_contiguous (env : Env) (m : ClusterLoadAssignment) (hty : m.typed) (u : EndpointsUpdate)
    (h : unmarshal env m = .ok u) :
    (∀ l ∈ u.localities, l.priority < (prioritiesOf u).length) ∧
    (∀ i, i < (prioritiesOf u).length → ∃ l ∈ u.localities, l.priority = i) := by
  obtain ⟨drops, acc, -, hl, hc, rfl⟩ := unmarshal_ok h
  obtain ⟨c1, c2⟩ := (localitiesLoop_inv accInv_init hty hl).contiguous hc
  exact ⟨fun l hl => c1 l.priority ((mem_distinct _ _).mpr (List.mem_map_of_mem hl)),
    fun i hi => by simpa using (mem_distinct _ _).mp (c2 i hi)⟩

/-- Nothing is invented or lost: the localities of an accepted update are exactly the input
    localities of non-zero weight, in order, with their id, weight and priority. -/
theorem eds_update_reflects_input (env : Env) (m : ClusterLoadAssignment) (u : EndpointsUpdate)
    (h : unmarshal env m = .ok u) :
    u.localities.map outKey = (m.endpoints.filter (fun l => l.weight ≠ 0)).map inKey := by
  obtain ⟨drops, acc, -, hl, -, rfl⟩ := unmarshal_ok h
  simpa using localitiesLoop_keys hl

/-- RDS: an accepted weighted-cluster action keeps exactly the clusters of non-zero weight, there is
    at least one, and their total weight is positive and fits uint32. -/
theorem rds_weighted_clusters_positive_total (ws kept : List Nat) (hty : ∀ w ∈ ws, w ≤ maxUint32)
    (h : GrpcModel.XdsInv.weightedClusters ws = .ok kept) :
    kept = ws.filter (· ≠ 0) ∧ kept ≠ [] ∧ (∀ w ∈ kept, w > 0) ∧ 0 < kept.sum ∧ kept.sum ≤ 4294967295 := by
  unfold GrpcModel.XdsInv.weightedClusters at h
  cases hl : GrpcModel.XdsInv.wcLoop ws 0 [] with
  | error e => simp [hl] at h
  | ok r =>
    obtain ⟨t, acc⟩ := r
    simp only [hl] at h
    split at h
    · simp at h
    · rename_i hne
      simp only [Except.ok.injEq] at h
      subst h
      obtain ⟨e, a, b⟩ := wcLoop_ok hty (by simp) hl
      rw [List.nil_append] at e
      rw [Nat.zero_add] at a
      subst e a
      refine ⟨rfl, fun he => hne (by rw [he]; rfl), fun w hw => ?_, by omega, b⟩
      exact Nat.pos_of_ne_zero (by simpa using (List.mem_filter.mp hw).2)

/-! ### the error branches are reachable and acceptance is not vacuous -/

def loc (r : String) (w p : Nat) (es : List LbEndpoint) : LocalityLbEndpoints :=
  { hasLocality := true, region := r, zone := "z", subZone := "s", weight := w, priority := p, endpoints := es, mdErr := false }
def env0 : Env := { dualstack := true, httpConnect := false, hashKeyCompat := false }

-- (string concatenation does not reduce in the kernel, so the accepted witness has no endpoints)
example : unmarshal env0 { clusterName := "c", drops := [⟨"x", 5, 2⟩], endpoints := [loc "r" 1 0 [], loc "r" 0 9 [], loc "r2" 7 1 []] }
    = .ok { drops := [⟨"x", 5, 1000000⟩], localities := [⟨"r", "z", "s", [], 1, 0⟩, ⟨"r2", "z", "s", [], 7, 1⟩] } := by decide
example : unmarshal env0 { clusterName := "c", drops := [], endpoints := [loc "r" 1 1 []] } = .error .prio := by decide
example : unmarshal env0 { clusterName := "c", drops := [], endpoints := [loc "r" 1 0 [], loc "r" 1 0 []] } = .error .duploc := by decide
example : unmarshal env0 { clusterName := "c", drops := [], endpoints := [loc "r" 4294967295 0 [], loc "r2" 1 0 []] } = .error .locsum := by decide
example : GrpcModel.XdsInv.weightedClusters [0, 0] = .error .empty := by decide
example : GrpcModel.XdsInv.weightedClusters [4294967295, 0, 1] = .error .sum := by decide
example : GrpcModel.XdsInv.weightedClusters [3, 0, 1] = .ok [3, 1] := by decide

end GrpcProofs.C45
