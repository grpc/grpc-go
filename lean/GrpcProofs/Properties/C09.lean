/-
C09  User metadata crosses the wire unchanged and reserved headers never leak.

Model: GrpcModel/Model/MdWire.lean (validation, createHeaderFields metadata part, server and client
operateHeaders, writeHeaderLocked, the framer's name/value checks), GrpcModel/Model/Headers.lean,
GrpcModel/Prim/Base64.lean, trailers via GrpcModel/Model/Status.lean.

The statement as given is false of the unchanged code in three places, each proved below on a
concrete witness, with the `_partial` theorem stating what does hold:
  * user keys "host" / "connection" (valid per the statement) do not reach the handler
    (`md_roundtrip_counterexample_host`, `md_roundtrip_counterexample_connection`);
  * content-type IS surfaced as user metadata on both sides (`content_type_surfaced_*`, F17);
  * grpc-accept-encoding, which the client transport adds whenever a compressor is registered in its
    process, is surfaced to the handler like user metadata and is not even in the reserved table
    (`accept_encoding_surfaced_counterexample`, F30).
-/
import GrpcProofs.Lemmas.MdWire
namespace GrpcProofs.C09
open GrpcModel.Status GrpcModel.Headers GrpcModel.MdWire GrpcModel
open GrpcModel.Base64 (Bytes)
open GrpcProofs.Lemmas.MdWire (sentPairs valsFor baseMD ctMD Surfaceable)

/-- Client → server. Full statement: for all `md`, `added` with `validOutgoing md added` the
    handler runs and sees, for EVERY key, the transport's values for that key followed by the
    user's. Proved with the side condition `hs` (no user key "host" / "connection" is sent); the
    two excluded keys are genuine counterexamples (below).
    `md` is the MD given to NewOutgoingContext, `added` the pairs appended with
    AppendToOutgoingContext (`appendToOutgoing` lower-cases their keys). -/
theorem md_roundtrip_partial (c : CallCfg) (md : MD) (kv : List (Bytes × Bytes))
    (hv : validOutgoing md (appendToOutgoing kv) = true)
    (hs : ∀ p ∈ sentPairs md (appendToOutgoing kv), p.1 ≠ hConnection ∧ p.1 ≠ hHost) :
    ∃ F m, clientSend c md (appendToOutgoing kv) = some F ∧ serverRecv F = .handler m ∧
      ∀ key, mdGet m key = mdGet (baseMD c) key ++ valsFor (sentPairs md (appendToOutgoing kv)) key :=
  Lemmas.MdWire.md_roundtrip c md (appendToOutgoing kv) hv hs

/-- Per-key value order: a user (non-reserved) key receives the base MD's values for it, then the
    appended pairs' values for it, each in the order given. -/
theorem per_key_order (md : MD) (added : List (Bytes × Bytes)) (key : Bytes) (hk : isReservedHeader key = false) :
    valsFor (sentPairs md added) key =
      (md.filter fun kv => kv.1 = key).flatMap (·.2) ++ ((added.filter fun p => lower p.1 = key).map (·.2)) :=
  Lemmas.MdWire.valsFor_sentPairs md added key hk

/-- The transport contributes exactly :authority, content-type (F17), user-agent and, when
    compressors are registered in the client process, grpc-accept-encoding (F30). -/
theorem transport_added_keys (c : CallCfg) :
    baseMD c = [(hAuthority, [c.authority]), (hContentType, [contentTypeOf c.subtype]), (hUserAgent, [c.userAgent])] ++
      (if c.acceptEncoding.isEmpty then [] else [(hAcceptEncoding, [c.acceptEncoding])]) := rfl

def demoCfg : CallCfg :=
  { scheme := asciiBytes "http", path := asciiBytes "/s/m", authority := asciiBytes "a", subtype := [], userAgent := asciiBytes "ua" }

/-- the same client with a compressor registered (e.g. after importing encoding/gzip) -/
def demoCfgGzip : CallCfg := { demoCfg with acceptEncoding := asciiBytes "gzip" }

/-- F30: with a compressor registered the handler sees `grpc-accept-encoding` although the user
    sent no metadata at all — a header the transport adds is surfaced as user metadata — and the
    name is not in `isReservedHeader`, so user metadata may carry it as well (its values are then
    appended after the transport's). -/
theorem accept_encoding_surfaced_counterexample :
    isReservedHeader hAcceptEncoding = false ∧
    ∃ F m, clientSend demoCfgGzip [] [] = some F ∧ serverRecv F = .handler m ∧
      mdGet m hAcceptEncoding = [asciiBytes "gzip"] := by
  obtain ⟨F, m, hF, hm, hget⟩ := Lemmas.MdWire.md_roundtrip demoCfgGzip [] [] rfl (fun _ h => nomatch h)
  exact ⟨Lemmas.MdWire.server_names.acceptEncoding_plain.1, F, m, hF, hm,
    (hget _).trans (by rw [Lemmas.MdWire.mdGet_baseMD_acceptEncoding _ (by decide)]; rfl)⟩

/-- "host" is valid user metadata, is sent, and is discarded by the server (A41 Host rules). -/
theorem md_roundtrip_counterexample_host :
    validOutgoing [(hHost, [[120]])] [] = true ∧
    ∃ F m, clientSend demoCfg [(hHost, [[120]])] [] = some F ∧ serverRecv F = .handler m ∧ mdGet m hHost = [] := by
  have ⟨hr, hne⟩ := Lemmas.MdWire.server_names.host_plain
  have hv : validOutgoing [(hHost, [[120]])] [] = true := by decide
  have hp : sentPairs [(hHost, [[120]])] [] = [(hHost, [120])] := by simp [sentPairs, hr]
  obtain ⟨m, hget, h⟩ := Lemmas.MdWire.serverRecv_clientSend demoCfg [(hHost, [[120]])] []
  rw [hp] at h
  exact ⟨hv, _, m, by simp [clientSend, hv], h.trans (by simp [valsFor, hne]), (hget _).trans (if_pos rfl)⟩

/-- "connection" is valid user metadata, is sent, and makes the server reset the stream. -/
theorem md_roundtrip_counterexample_connection :
    validOutgoing [(hConnection, [[120]])] [] = true ∧
    ∃ F, clientSend demoCfg [(hConnection, [[120]])] [] = some F ∧ serverRecv F = .rstProtocol := by
  have hv : validOutgoing [(hConnection, [[120]])] [] = true := by decide
  have hp : sentPairs [(hConnection, [[120]])] [] = [(hConnection, [120])] := by
    simp [sentPairs, Lemmas.MdWire.server_names.connection_plain]
  obtain ⟨m, _, h⟩ := Lemmas.MdWire.serverRecv_clientSend demoCfg [(hConnection, [[120]])] []
  rw [hp] at h
  exact ⟨hv, _, by simp [clientSend, hv], h.trans (by simp [valsFor])⟩

/-- Invalid user metadata fails in `newClientStream` (INTERNAL) and nothing is handed to the
    transport. -/
theorem invalid_md_fails_before_send (c : CallCfg) (md : MD) (added : List (Bytes × Bytes))
    (h : validOutgoing md added = false) : clientSend c md added = none := by
  simp [clientSend, h]

/-- `ValidatePair` accepts exactly the statement's domain: non-empty lowercase key of
    [0-9a-z-_.] (or a pseudo-header name, which is then never sent), and printable-ASCII values
    unless the key ends in "-bin". -/
theorem validate_pair_iff (k : Bytes) (vs : List Bytes) :
    validatePair k vs = true ↔
      (k ≠ [] ∧ (k.head? = some 58 ∨ ∀ b ∈ k, validKeyChar b = true)) ∧
      (isBinKey k = true ∨ ∀ v ∈ vs, ∀ b ∈ v, ¬ (b < 0x20 ∨ b > 0x7E)) := by
  unfold validatePair validateKey hasNotPrintable
  cases k with
  | nil => simp
  | cons c rest =>
    by_cases hc : c = 58
    · subst hc; simp
    · simp [hc, List.all_eq_true]

/-- Reserved names are never sent from user metadata, by the client … -/
theorem reserved_never_sent_client (md : MD) (added : List (Bytes × Bytes)) :
    ∀ f ∈ userFields md added, isReservedHeader f.1 = false := by
  intro f hf
  rw [Lemmas.MdWire.userFields_eq] at hf
  obtain ⟨p, hp, rfl⟩ := List.mem_map.mp hf
  exact Lemmas.MdWire.sentPairs_nonreserved md added p hp

/-- … or by the server (headers and trailers both go through appendHeaderFieldsFromMD). -/
theorem reserved_never_sent_server (md : MD) : ∀ f ∈ fieldsFromMD md, isReservedHeader f.1 = false :=
  Lemmas.Status.fieldsFromMD_names md

/-- Whatever field list a peer sends, the handler's metadata contains no reserved name other than
    the whitelisted ones (:authority, user-agent) and content-type. -/
theorem reserved_never_surfaced_server_partial (fields : List Field) (m : MD) (h : serverRecv fields = .handler m) :
    ∀ kv ∈ m, isReservedHeader kv.1 = false ∨ isWhitelistedHeader kv.1 = true ∨ kv.1 = hContentType := by
  open Lemmas.MdWire in
  intro kv hkv
  rcases serverRecv_handler h kv hkv with hm | ha
  · exact fold_keys srvField (·.mdata) srvField_mdata fields {} rfl kv hm
  · exact ha ▸ .inr (.inl (server_names.whitelisted hAuthority (by simp)).2.1)

/-- The same for the client's `Header()` … -/
theorem reserved_never_surfaced_header_partial (fields : List Field) (m : MD) (h : clientHeaders fields = .md m) :
    ∀ kv ∈ m, isReservedHeader kv.1 = false ∨ isWhitelistedHeader kv.1 = true ∨ kv.1 = hContentType :=
  open Lemmas.MdWire Lemmas.Status in
  clientHeaders_md h ▸ fold_keys scanField (·.mdata) scanField_mdata fields { isGRPC := false } rfl

/-- … and `Trailer()`. -/
theorem reserved_never_surfaced_trailer_partial (initialHeader : Bool) (fields : List Field) :
    ∀ kv ∈ (clientTrailers initialHeader fields).2, isReservedHeader kv.1 = false ∨ isWhitelistedHeader kv.1 = true ∨ kv.1 = hContentType := by
  open Lemmas.MdWire Lemmas.Status in
  rcases clientTrailers_md initialHeader fields with e | e <;> rw [e]
  · nofun
  · exact fold_keys scanField (·.mdata) scanField_mdata fields _ rfl

/-- F17: without the content-type exception the statement is false — a plain RPC without any user
    metadata already shows content-type to the handler … -/
theorem content_type_surfaced_counterexample_server :
    ¬ (∀ (fields : List Field) (m : MD), serverRecv fields = .handler m →
        ∀ kv ∈ m, isReservedHeader kv.1 = false ∨ isWhitelistedHeader kv.1 = true) := by
  intro h
  obtain ⟨F, m, _, hm, hget⟩ := Lemmas.MdWire.md_roundtrip demoCfg [] [] rfl (fun _ h => nomatch h)
  exact Lemmas.MdWire.contentType_surfaced
    (by rw [hget, Lemmas.MdWire.mdGet_baseMD_contentType]; exact List.cons_ne_nil _ _) (h F m hm)

/-- … and to the client's Header(). -/
theorem content_type_surfaced_counterexample_client :
    ¬ (∀ (fields : List Field) (m : MD), clientHeaders fields = .md m →
        ∀ kv ∈ m, isReservedHeader kv.1 = false ∨ isWhitelistedHeader kv.1 = true) := by
  intro h
  obtain ⟨m, hm, hget⟩ := Lemmas.MdWire.header_roundtrip [] [] (by decide)
  exact Lemmas.MdWire.contentType_surfaced (by rw [hget, ctMD, mdGet, if_pos rfl]; exact List.cons_ne_nil _ _) (h _ m hm)

/-- Server → client, headers: when the frame passes the framer (`hw`; `valid_md_wire_ok` gives this
    for the metadata fields of validated metadata, not for the content-type value) the client's
    Header() has, for EVERY key, content-type's value under that key followed by exactly the
    server's values in order. -/
theorem header_roundtrip (sub : Bytes) (header : MD) (hw : wireOK (headerFrame sub header) = true) :
    ∃ m, clientHeaders (headerFrame sub header) = .md m ∧
      ∀ key, mdGet m key = mdGet (ctMD sub) key ++ valsFor (sentPairs header []) key :=
  Lemmas.MdWire.header_roundtrip sub header hw

/-- Server → client, trailers (status without details, code < 2^31 — see C10 for the rest). -/
theorem trailer_roundtrip (hs : Bool) (sub : Bytes) (st : Status) (tr : MD)
    (hc : st.code < 2147483648) (hd : st.details = []) :
    ∀ key, mdGet (clientTrailers (!hs) (writeStatus hs sub st tr)).2 key =
      mdGet (if hs then [] else ctMD sub) key ++ valsFor (sentPairs tr []) key :=
  Lemmas.MdWire.trailer_roundtrip hs sub st tr hc hd

/-- Several header calls in one handler (SetHeader / SendHeader through either API, `hdrRun`): the
    client's Header() has, for every non-reserved key, exactly the values of the calls that
    SUCCEEDED, in call order — `metadata.Join` semantics; a call that failed (validation, or after
    the HEADERS frame went out) contributes nothing. The handler's metadata values are only read:
    in the model no call can change what a later call, or a later RPC, contributes. -/
theorem header_calls_roundtrip (sub : Bytes) (calls : List (HdrApi × MD))
    (hw : wireOK (headerFrame sub (Lemmas.MdWire.hdrRun calls {}).1.header) = true) (key : Bytes) (hk : isReservedHeader key = false) :
    ∃ m, clientHeaders (headerFrame sub (Lemmas.MdWire.hdrRun calls {}).1.header) = .md m ∧
      mdGet m key = mdGet (ctMD sub) key ++ (Lemmas.MdWire.accepted calls {}).flatMap (Lemmas.MdWire.valsAll · key) :=
  Lemmas.MdWire.header_calls_roundtrip sub calls hw key hk

/-- Several SetTrailer calls (status without details, code < 2^31): the same for Trailer(). -/
theorem trailer_calls_roundtrip (hs : Bool) (sub : Bytes) (st : Status) (mds : List MD)
    (hc : st.code < 2147483648) (hd : st.details = []) (key : Bytes) (hk : isReservedHeader key = false) :
    mdGet (clientTrailers (!hs) (writeStatus hs sub st (mds.foldl trlCall []))).2 key =
      mdGet (if hs then [] else ctMD sub) key ++ mds.flatMap (Lemmas.MdWire.valsAll · key) :=
  Lemmas.MdWire.trailer_calls_roundtrip hs sub st mds hc hd key hk

/-- `metadata.Join` on maps: per key, the first argument's values then the second's; the result
    is a proper map again. -/
theorem join_per_key (a b : MD) (ha : Lemmas.MdWire.Distinct a) (key : Bytes) :
    Lemmas.MdWire.Distinct (mdJoin a b) ∧ mdGet (mdJoin a b) key = mdGet a key ++ Lemmas.MdWire.valsAll b key :=
  ⟨Lemmas.MdWire.distinct_mdJoin a b ha, Lemmas.MdWire.mdGet_mdJoin a b key⟩

/-- Validated metadata only produces header fields the HTTP/2 framer of the peer accepts (legal
    lowercase token names; values without control bytes: printable ASCII, or base64 text). -/
theorem valid_md_wire_ok (md : MD) (h : validate md = true) : wireOK (fieldsFromMD md) = true := by
  open Lemmas.MdWire in
  rw [fieldsFromMD_eq, wireOK, List.all_map, List.all_eq_true]
  intro p hp
  obtain ⟨hr, ⟨vs, hkv, hv⟩ | ⟨_, hq, _⟩⟩ := mem_sentPairs hp
  · exact valid_field_ok p.1 vs p.2 hv (List.all_eq_true.mp h _ hkv) hr
  · cases hq

/-- Binary values: any bytes survive `encodeMetadataHeader`/`decodeMetadataHeader` … -/
theorem bin_value_roundtrip (k v : Bytes) : decodeMetadataHeader k (encodeMetadataHeader k v) = some v :=
  Lemmas.Status.decode_encode_md k v

/-- … and a peer that pads its base64 is understood as well. -/
theorem bin_value_padded_peer (k v : Bytes) (hk : isBinKey k = true) :
    decodeMetadataHeader k (Base64.encodeStd v) = some v := by
  simp only [decodeMetadataHeader, hk, if_true]
  exact Lemmas.Base64.decodeBinHeader_encodeStd v

/-- AppendToOutgoingContext lower-cases keys (ASCII), once and for all. -/
theorem append_lowercases (kv : List (Bytes × Bytes)) :
    ∀ p ∈ appendToOutgoing kv, lower p.1 = p.1 := by
  intro p hp
  simp only [appendToOutgoing, List.mem_map] at hp
  obtain ⟨q, _, rfl⟩ := hp
  exact Lemmas.MdWire.lower_idem q.1

/-- The reserved / whitelisted tables of the Go source (regenerated on every run). -/
theorem reserved_table :
    Generated.mdwReservedHeaders = ["content-type", "user-agent", "grpc-message-type", "grpc-encoding", "grpc-message",
      "grpc-status", "grpc-timeout", "te"] ∧
    Generated.mdwWhitelistedHeaders = [":authority", "user-agent"] := ⟨rfl, rfl⟩

/-- The literal names of the server's field switch (a new `case` there makes this fail: `srvField` then needs the same case). -/
theorem server_switch_names :
    Generated.mdwServerSwitchHeaders = ["content-type", "grpc-accept-encoding", "grpc-encoding", ":method", ":path",
      "grpc-timeout", "connection"] := rfl

example : (Lemmas.MdWire.hdrRun [(.ctxSet, [([104], [[49]])]), (.ssSend, [([104], [[50]]), ([105], [])]), (.ctxSet, [([104], [[51]])])] {}).1.header
    = [([104], [[49], [50]]), ([105], [])] := by decide
example : validOutgoing [([107], [[118]]), ([107, 45, 98, 105, 110], [[0, 255]])] (appendToOutgoing [([70, 111, 111], [120])]) = true := by decide
example : ∃ m, serverRecv (baseFields demoCfg ++ userFields [([107], [[118], [119]])] (appendToOutgoing [([75], [120])])) = .handler m ∧
    mdGet m [107] = [[118], [119], [120]] :=
  -- `clientSend` of validated metadata is `some` of this very field list
  have ⟨_, m, hF, hm, hget⟩ := md_roundtrip_partial demoCfg [([107], [[118], [119]])] [([75], [120])] (by decide) (by decide)
  ⟨m, Option.some.inj hF ▸ hm, (hget _).trans (by decide)⟩
example : validOutgoing [([75], [[118]])] [] = false := by decide
example : clientHeaders (headerFrame [] [([104], [[1, 2]])]) = .fail 13 := by decide   -- control byte in a value: framer rejects

end GrpcProofs.C09
