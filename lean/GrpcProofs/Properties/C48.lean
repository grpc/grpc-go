/-
C48  RBAC and authz policies are enforced exactly as written.
-/
import GrpcProofs.Lemmas.Authz
import GrpcProofs.Lemmas.Basic
namespace GrpcProofs.C48
open GrpcModel.RBAC GrpcModel.Authz GrpcProofs.Lemmas.RBAC GrpcProofs.Lemmas.Authz

/-- "a policy matches when one of its permissions and one of its principals match" -/
def PolicyMatches (r : Request) (p : Policy) : Prop :=
  (∃ perm ∈ p.perms.toList, perm.eval r = true) ∧ (∃ prin ∈ p.prins.toList, prin.eval r = true)

theorem policy_matches_iff (r : Request) (p : Policy) : p.matches r = true ↔ PolicyMatches r p := by
  simp [Policy.matches, PolicyMatches, permList_any_eq, prinList_any_eq]

theorem findMatch_iff (r : Request) (e : Engine) :
    e.findMatch r = true ↔ ∃ p ∈ e.policies, PolicyMatches r p := by
  simp [Engine.findMatch, policy_matches_iff]

/-- an engine rejects when it is an ALLOW engine without, or a DENY engine with, a matching policy -/
theorem engineRejects_iff (r : Request) (e : Engine) :
    Spec.engineRejects r e = true ↔
      (e.action = .allow ∧ ¬ ∃ p ∈ e.policies, PolicyMatches r p) ∨
      (e.action = .deny ∧ ∃ p ∈ e.policies, PolicyMatches r p) := by
  rw [engineRejects_eq]
  cases e.action <;> simp [← findMatch_iff]

/-- **The chain decision.**  For every chain (any number of engines, any policy trees) and every request:
    the RPC is allowed exactly when the context is complete and no ALLOW engine lacks, and no DENY engine has, a
    matching policy; it fails with Internal exactly when the context is incomplete; and on a complete context the
    decision is the reference decision `Spec.decision` that the monitor evaluates on the implementation. -/
theorem chain_decision_spec (c : Chain) (r : Request) :
    (isAuthorized c r = .allow ↔
      r.wellFormed = true ∧ ∀ e ∈ c,
        (e.action = .allow → ∃ p ∈ e.policies, PolicyMatches r p) ∧
        (e.action = .deny → ¬ ∃ p ∈ e.policies, PolicyMatches r p))
    ∧ (isAuthorized c r = .internal ↔ r.wellFormed = false)
    ∧ (r.wellFormed = true → isAuthorized c r = Spec.decision c r) := by
  have hall : Spec.allowed c r = true ↔ ∀ e ∈ c, (e.action = .allow → ∃ p ∈ e.policies, PolicyMatches r p) ∧
      (e.action = .deny → ¬ ∃ p ∈ e.policies, PolicyMatches r p) := by
    simp only [Spec.allowed, Bool.not_eq_true', List.any_eq_false, engineRejects_iff]
    refine forall₂_congr fun e _ => ?_
    by_cases hp : ∃ p ∈ e.policies, PolicyMatches r p <;> simp [hp]
  rw [isAuthorized_eq, GrpcModel.RBAC.Spec.decision, ← hall]
  cases r.wellFormed <;> cases Spec.allowed c r <;> simp

/-- A request is rejected with PermissionDenied exactly when the context is complete and some DENY engine has a
    matching policy or some ALLOW engine has none. -/
theorem chain_denied_iff (c : Chain) (r : Request) :
    isAuthorized c r = .deny ↔
      r.wellFormed = true ∧ ∃ e ∈ c,
        (e.action = .allow ∧ ¬ ∃ p ∈ e.policies, PolicyMatches r p) ∨
        (e.action = .deny ∧ ∃ p ∈ e.policies, PolicyMatches r p) := by
  simp only [isAuthorized_eq, GrpcModel.RBAC.Spec.decision, Spec.allowed, ← engineRejects_iff, ← List.any_eq_true]
  cases r.wellFormed
  · simp
  · by_cases h : c.any (Spec.engineRejects r) = true <;> simp [h]

/-- The Go engine keeps its policies in a map and iterates it in random order; the decision cannot depend on
    that order. -/
theorem engine_order_irrelevant (a : Action) (ps ps' : List Policy) (r : Request) (h : ps.Perm ps') :
    Engine.findMatch ⟨a, ps⟩ r = Engine.findMatch ⟨a, ps'⟩ r :=
  h.any_eq

/-- Permission trees: and = every child, or = some child, not = negation, any = true, and each leaf is its
    leaf matcher (path → the method name, header → the request's headers incl. :path/:method, destination
    CIDR/port → the local address, metadata → its `invert`, requested_server_name → matched against ""). -/
theorem perm_eval_spec (r : Request) :
    (∀ l, (Perm.and l).eval r = true ↔ ∀ p ∈ l.toList, p.eval r = true)
    ∧ (∀ l, (Perm.or l).eval r = true ↔ ∃ p ∈ l.toList, p.eval r = true)
    ∧ (∀ p, (Perm.not p).eval r = true ↔ ¬ p.eval r = true)
    ∧ Perm.any.eval r = true
    ∧ (∀ h, (Perm.header h).eval r = h.matches r.headers)
    ∧ (∀ m, (Perm.urlPath (some m)).eval r = m.matches r.path)
    ∧ (∀ c, (Perm.destIp c).eval r = true ↔ ∃ ip, r.dst = some ip ∧ c.contains ip = true)
    ∧ (∀ p, (Perm.destPort p).eval r = true ↔ r.dstPort = some p)
    ∧ (∀ b, (Perm.metadata b).eval r = b)
    ∧ (∀ m, (Perm.reqServerName (some m)).eval r = m.matches []) := by
  refine ⟨fun l => ?_, fun l => ?_, fun p => ?_, ?_, fun h => ?_, fun m => ?_, fun c => ?_, fun p => ?_, fun b => ?_, fun m => ?_⟩
  · rw [Perm.eval, permList_all_eq, List.all_eq_true]
  · rw [Perm.eval, permList_any_eq, List.any_eq_true]
  · rw [Perm.eval]; simp
  · rw [Perm.eval]
  · rw [Perm.eval]
  · rw [Perm.eval]
  · rw [Perm.eval, dstIpEval]; cases r.dst <;> simp
  · rw [Perm.eval]; simp
  · rw [Perm.eval]
  · rw [Perm.eval]

/-- Principal trees, likewise (remote CIDR → the peer address; direct_remote_ip, source_ip and remote_ip are the
    same matcher; authenticated → `authenticated_spec`). -/
theorem prin_eval_spec (r : Request) :
    (∀ l, (Prin.and l).eval r = true ↔ ∀ p ∈ l.toList, p.eval r = true)
    ∧ (∀ l, (Prin.or l).eval r = true ↔ ∃ p ∈ l.toList, p.eval r = true)
    ∧ (∀ p, (Prin.not p).eval r = true ↔ ¬ p.eval r = true)
    ∧ Prin.any.eval r = true
    ∧ (∀ m, (Prin.authenticated m).eval r = authEval r m)
    ∧ (∀ k c, (Prin.remoteIp k c).eval r = true ↔ ∃ ip, r.src = some ip ∧ c.contains ip = true)
    ∧ (∀ h, (Prin.header h).eval r = h.matches r.headers)
    ∧ (∀ m, (Prin.urlPath (some m)).eval r = m.matches r.path)
    ∧ (∀ b, (Prin.metadata b).eval r = b) := by
  refine ⟨fun l => ?_, fun l => ?_, fun p => ?_, ?_, fun m => ?_, fun k c => ?_, fun h => ?_, fun m => ?_, fun b => ?_⟩
  · rw [Prin.eval, prinList_all_eq, List.all_eq_true]
  · rw [Prin.eval, prinList_any_eq, List.any_eq_true]
  · rw [Prin.eval]; simp
  · rw [Prin.eval]
  · rw [Prin.eval]
  · rw [Prin.eval, srcIpEval]; cases r.src <;> simp
  · rw [Prin.eval]
  · rw [Prin.eval]
  · rw [Prin.eval]

/-- Authenticated principal: only on a TLS connection; with no principal_name any TLS peer; otherwise the name
    matcher must match one of the peer's identities, which are the URI SANs of the first certificate if it has
    any, else its DNS SANs if it has any, else its subject; no certificate = the empty identity. -/
theorem authenticated_spec (r : Request) :
    authEval r none = r.tls
    ∧ (∀ m, authEval r (some m) = true ↔ r.tls = true ∧ ∃ id ∈ Spec.identities r, m.matches id = true)
    ∧ (r.certs = [] → Spec.identities r = [[]])
    ∧ (∀ c t, r.certs = c :: t →
        (c.uris ≠ [] → Spec.identities r = c.uris)
        ∧ (c.uris = [] → c.dns ≠ [] → Spec.identities r = c.dns)
        ∧ (c.uris = [] → c.dns = [] → Spec.identities r = [c.subject])) := by
  refine ⟨?_, fun m => ?_, fun h => ?_, fun c t h => ⟨fun hu => ?_, fun hu hd => ?_, fun hu hd => ?_⟩⟩
  · unfold authEval; cases r.tls <;> simp
  · rw [authEval_some]; simp
  · simp [Spec.identities, h]
  · simp [Spec.identities, h, hu]
  · simp [Spec.identities, h, hu, hd]
  · simp [Spec.identities, h, hu, hd]

/-- CIDR ranges: the address is inside exactly when it is of the same family and its `len` most significant
    bits equal those of the prefix. -/
theorem cidr_contains_spec :
    (∀ (a b : BitVec 32) n, n ≤ 32 → ((Cidr.v4 a n).contains (.v4 b) = true ↔ ∀ i, i < n → a.getMsbD i = b.getMsbD i))
    ∧ (∀ (a b : BitVec 128) n, n ≤ 128 → ((Cidr.v6 a n).contains (.v6 b) = true ↔ ∀ i, i < n → a.getMsbD i = b.getMsbD i))
    ∧ (∀ a n b, (Cidr.v4 a n).contains (.v6 b) = false)
    ∧ (∀ a n b, (Cidr.v6 a n).contains (.v4 b) = false)
    ∧ (∀ c : Cidr, c.ok = true ↔ (∃ a n, c = .v4 a n ∧ n ≤ 32) ∨ (∃ a n, c = .v6 a n ∧ n ≤ 128)) := by
  refine ⟨fun a b n hn => ?_, fun a b n hn => ?_, fun _ _ _ => rfl, fun _ _ _ => rfl, fun c => ?_⟩
  · exact Lemmas.Basic.shift_xor_zero_iff a b n hn
  · exact Lemmas.Basic.shift_xor_zero_iff a b n hn
  · cases c <;> simp [Cidr.ok, and_assoc]

/-- Header leaves.  The value is the comma-joined list of the header's values.  Except for `present`, an absent
    header never matches (whatever `invert`); a present one matches when (value = exact / has the prefix / has the
    suffix / contains the substring / parses as an int64 in [lo, hi)) differs from `invert`. -/
theorem header_leaf_spec (name : Str) (inv : Bool) (md : MD) :
    (∀ spec, (∀ b, spec ≠ .present b) → valueFromMD md name = none → HdrM.matches ⟨name, spec, inv⟩ md = false)
    ∧ (∀ v, valueFromMD md name = some v →
        (∀ s, HdrM.matches ⟨name, .exact s, inv⟩ md = (decide (v = s) != inv))
        ∧ (∀ s, HdrM.matches ⟨name, .pfx s, inv⟩ md = true ↔ (s <+: v ↔ inv = false))
        ∧ (∀ s, HdrM.matches ⟨name, .sfx s, inv⟩ md = true ↔ (s <:+ v ↔ inv = false))
        ∧ (∀ s, HdrM.matches ⟨name, .contains s, inv⟩ md = true ↔ (s <:+: v ↔ inv = false))
        ∧ (∀ lo hi, HdrM.matches ⟨name, .range lo hi, inv⟩ md = true ↔
            ((∃ i, parseInt64 v = some i ∧ lo ≤ i ∧ i < hi) ↔ inv = false)))
    ∧ (∀ b, HdrM.matches ⟨name, .present b, inv⟩ md = true ↔
        ((∃ v, valueFromMD md name = some v) ↔ (b != inv) = true)) := by
  refine ⟨fun spec hs hv => ?_, fun v hv => ?_, fun b => ?_⟩
  · cases spec <;> simp_all [HdrM.matches]
  · -- a present header matches when the leaf's test differs from `invert`
    have hinv : ∀ b : Bool, (b != inv) = true ↔ (b = true ↔ inv = false) := by cases inv <;> simp
    refine ⟨fun s => ?_, fun s => ?_, fun s => ?_, fun s => ?_, fun lo hi => ?_⟩
    · simp only [HdrM.matches, hv]
      congr 1
      rw [Bool.eq_iff_iff]; simp
    · simp only [HdrM.matches, hv]; rw [hinv, List.isPrefixOf_iff_prefix]
    · simp only [HdrM.matches, hv]; rw [hinv, List.isSuffixOf_iff_suffix]
    · simp only [HdrM.matches, hv]; rw [hinv, hasSub_iff]
    · simp only [HdrM.matches, hv]
      cases hp : parseInt64 v with
      | none => cases inv <;> simp
      | some i => by_cases hr : lo ≤ i ∧ i < hi <;> cases inv <;> simp [hr]
  · simp only [HdrM.matches]
    cases hv : valueFromMD md name <;> cases b <;> cases inv <;> simp

/-- `NewChainEngine` fails exactly on a LOG action or on a policy containing an unsupported / malformed rule;
    otherwise the chain is the configuration itself. -/
theorem newChainEngine_accepts_iff (c : Chain) :
    (newChainEngine c = some c ↔
      ∀ e ∈ c, e.action ≠ .log ∧ ∀ p ∈ e.policies, p.perms.ok = true ∧ p.prins.ok = true)
    ∧ (newChainEngine c = some c ∨ newChainEngine c = none) := by
  unfold newChainEngine
  constructor
  · simp only [Option.ite_none_right_eq_some, and_true, List.all_eq_true, Engine.ok, Policy.ok, Bool.and_eq_true,
      bne_iff_ne, ne_eq]
  · split <;> simp

/-- Whatever `translatePolicy` accepts, `NewChainEngine` accepts (so `NewStatic` fails only in the translator). -/
theorem translate_builds (p : SDKPolicy) (c : Chain) (h : translate p = some c) : newChainEngine c = some c :=
  translate_ok p c h

/-- The RBAC policy emitted for one rule matches exactly the requests the rule matches as written
    (principals: none = anyone, else one of them under the wildcard rules against the TLS identities;
     paths: none = any, else one of them; headers: each key has one of its values). -/
theorem rule_policy_matches_iff (r : Request) (rule : Rule) (perm : Perm)
    (h : parseRequest rule.paths rule.headers = some perm) :
    Policy.matches ⟨.cons perm .nil, .cons (parsePeer rule.principals) .nil⟩ r = Spec.ruleMatches r rule := by
  rw [parseRequest_eq] at h
  split at h <;> cases h
  exact rulePolicy_eval r rule

/-- **What the translation really decides**, for every accepted policy and every complete request: the reference
    decision of the policy from which every rule whose name is repeated by a later rule of the same list has
    been removed. -/
theorem authz_lastWins_semantics (p : SDKPolicy) (c : Chain) (r : Request)
    (h : newStatic p = some c) (hw : r.wellFormed = true) :
    intercept c r =
      GrpcModel.Authz.Spec.decision { p with deny := Spec.lastWins p.deny, allow := Spec.lastWins p.allow } r :=
  static_decision p c r h hw

/- Full statement (FALSE of the model, where a later rule overwrites an earlier one of the same name; see
   `authz_semantics_counterexample`, finding F4):
     ∀ p c r, newStatic p = some c → r.wellFormed → intercept c r = Authz.Spec.decision p r
   i.e. "denied if it matches any deny rule and otherwise allowed exactly when it matches some allow rule".
   Proved below under the extra hypothesis that rule names are distinct within each list — the hypothesis a
   `translatePolicy` that rejects duplicate names discharges. -/
theorem authz_semantics_partial (p : SDKPolicy) (c : Chain) (r : Request)
    (hd : (p.deny.map (·.name)).Nodup) (ha : (p.allow.map (·.name)).Nodup)
    (h : newStatic p = some c) (hw : r.wellFormed = true) :
    intercept c r = GrpcModel.Authz.Spec.decision p r := by
  rw [static_decision p c r h hw, lastWins_nodup _ hd, lastWins_nodup _ ha]

/-- F4 witness: {"name":"pol","deny_rules":[{"name":"d","request":{"paths":["/x/secret"]}},
    {"name":"d","request":{"paths":["/x/other"]}}],"allow_rules":[{"name":"a"}]} is accepted by the model's
    `newStatic` and a request for /x/secret — which matches the first deny rule — is allowed. -/
def f4Policy : SDKPolicy :=
  { name := [112, 111, 108]
    deny := [⟨[100], [], [[47, 120, 47, 115, 101, 99, 114, 101, 116]], []⟩,
             ⟨[100], [], [[47, 120, 47, 111, 116, 104, 101, 114]], []⟩]
    allow := [⟨[97], [], [], []⟩] }

def f4Request : Request :=
  { missing := false, path := [47, 120, 47, 115, 101, 99, 114, 101, 116], md := [], src := some (.v4 0x0a000001#32),
    dst := some (.v4 0x0a000002#32), dstPort := some 443, tls := false, certs := [] }

theorem authz_semantics_counterexample :
    ¬ ∀ (p : SDKPolicy) (c : Chain) (r : Request), newStatic p = some c → r.wellFormed = true →
        intercept c r = GrpcModel.Authz.Spec.decision p r := by
  intro h
  have hc : ∃ c, newStatic f4Policy = some c ∧ intercept c f4Request = .allow := by
    refine ⟨_, rfl, ?_⟩
    decide
  obtain ⟨c, h1, h2⟩ := hc
  have := h f4Policy c f4Request h1 (by decide)
  rw [h2] at this
  revert this
  decide

/-- Unconditionally: whatever is allowed matches some allow rule as written. -/
theorem authz_allowed_sound (p : SDKPolicy) (c : Chain) (r : Request)
    (h : newStatic p = some c) (hallow : intercept c r = .allow) :
    p.allow.any (Spec.ruleMatches r) = true := by
  have hw : r.wellFormed = true := ((chain_decision_spec c r).1.mp hallow).1
  rw [static_decision p c r h hw] at hallow
  cases h2 : (Spec.lastWins p.allow).any (Spec.ruleMatches r) with
  | false => simp [GrpcModel.Authz.Spec.decision, h2] at hallow
  | true =>
    obtain ⟨rule, hr, hm⟩ := List.any_eq_true.mp h2
    exact List.any_eq_true.mpr ⟨rule, lastWins_sub _ _ hr, hm⟩

/-- Unconditionally: a matching deny rule whose name no later deny rule repeats does deny. -/
theorem authz_deny_engine_sound (p : SDKPolicy) (c : Chain) (r : Request)
    (h : newStatic p = some c) (hw : r.wellFormed = true)
    (rule : Rule) (hr : rule ∈ Spec.lastWins p.deny) (hm : Spec.ruleMatches r rule = true) :
    intercept c r = .deny := by
  rw [static_decision p c r h hw]
  simp only [GrpcModel.Authz.Spec.decision]
  have : (Spec.lastWins p.deny).any (Spec.ruleMatches r) = true := List.any_eq_true.mpr ⟨rule, hr, hm⟩
  simp [this]

example : newStatic f4Policy ≠ none := by decide
example : GrpcModel.Authz.Spec.decision f4Policy f4Request = .deny := by decide
example : isAuthorized [⟨.deny, [⟨.cons .any .nil, .cons .any .nil⟩]⟩] f4Request = .deny := by decide
example : isAuthorized [⟨.allow, [⟨.cons (.destPort 443) .nil, .cons (.remoteIp 0 (.v4 0x0a000000#32 8)) .nil⟩]⟩] f4Request = .allow := by
  decide
example : isAuthorized [] { f4Request with dstPort := none } = .internal := by decide
example : (Cidr.v4 0x0a000000#32 8).contains (.v4 0x0b000001#32) = false := by decide
example : newChainEngine [⟨.log, []⟩] = none := by decide
example : translate { f4Policy with allow := [] } = none := by decide

end GrpcProofs.C48
