/-
C43  xDS watchers see the latest valid resource and correct errors.
Model: GrpcModel/Model/XdsAuth.lean, layer A (the authority's serializer callbacks, ported from
internal/xds/clients/xdsclient/authority.go). Helper lemmas: GrpcProofs/Lemmas/XdsAuth.lean and the modules under GrpcProofs/Lemmas/XdsAuth/.

All statements quantify over every authority state or every event history (`Auth.run (Auth.init n ign) hist`:
arbitrary interleavings of watch / unwatch calls, responses from any server with valid, invalid and missing
resources, watch-expiry events and stream failures), with no bound on lengths or on the number of servers,
resources and watchers.
-/
/- Vocabulary: `Accepted` (GrpcProofs/Lemmas/XdsAuth/Inv.lean), `FreshRun`, `NoDupRun`, `ghostRun` (Ghost.lean),
   `ledgerRun` (Ledger.lean), each explained where it is defined. -/
import GrpcProofs.Lemmas.XdsAuth
namespace GrpcProofs.C43
open GrpcModel.XdsAuth GrpcModel.XdsAuth.Spec GrpcProofs.Lemmas.XdsAuth

/-- **C43, clause 1.** In every history, a ResourceChanged(c) callback goes to a watcher `w` only for a
    resource `w` watches, with a content `c` that the decoder accepted for that resource in some response of
    the history (this one included), and `c` is what the client caches for the resource afterwards. -/
theorem changed_only_with_accepted (n : Nat) (ign : List Bool) (hist : List AEv) (e : AEv) (w : Nat) (c : String)
    (h : (⟨w, .changed c⟩ : Cb) ∈ ((Auth.run (Auth.init n ign) hist).step e).cbs) :
    ∃ p ∈ ((Auth.run (Auth.init n ign) hist).step e).auth.res,
      w ∈ p.2.watchers ∧ p.2.cache = some c ∧ Accepted (hist ++ [e]) p.1 c := by
  rcases fits_step h with ⟨_, _, _, hk⟩ | ⟨p, hp, hw, hc⟩
  · exact nomatch hk
  refine ⟨p, hp, hw, hc, ?_⟩
  have := cacheAcc_run (hist ++ [e]) (hist ++ [e]) (Auth.init n ign) (fun _ h => h) (by simp [Auth.init])
  rw [run_snoc] at this
  exact this p hp c hc

/-- **C43, clause 2.** In every history (any interleaving of watches, unwatches, responses of any server,
    expiries and stream failures) no watcher ever receives ResourceChanged with the content it already holds
    unless a NACK was reported to it since it received that content. -/
theorem no_duplicate_changed_unless_nack_intervened (n : Nat) (ign : List Bool) (hist : List AEv)
    (hf : FreshRun (Auth.init n ign) hist) : NoDupRun (Auth.init n ign) (fun _ => {}) hist :=
  (ghost_run hist _ _ (inv_init n ign) .nil (List.forall_mem_nil _) hf).1

/-- the predicate is not vacuous: it rejects a repeated ResourceChanged … -/
example : okSeq {} [.changed "c", .changed "c"] = false := by decide
/-- … accepts the repetition after a NACK (the code re-notifies because `md.ErrState != nil`) … -/
example : okSeq {} [.changed "c", .ambErr (.nack "e"), .changed "c"] = true := by decide
/-- … and the model does produce that sequence: accept c, reject, accept c again. -/
example :
    let a0 := (Auth.init 1 [false]).step (.watch ⟨"T", "r"⟩ 1)
    let a1 := a0.auth.step (.update 0 1 "T" "v1" [("r", .ok "c")])
    let a2 := a1.auth.step (.update 0 1 "T" "v2" [("r", .bad "e")])
    let a3 := a2.auth.step (.update 0 1 "T" "v3" [("r", .ok "c")])
    let a4 := a3.auth.step (.update 0 1 "T" "v4" [("r", .ok "c")])
    (a1.cbs, a2.cbs, a3.cbs, a4.cbs) =
      ([⟨1, .changed "c"⟩], [⟨1, .ambErr (.nack "e")⟩], [⟨1, .changed "c"⟩], []) := by decide

/-- A watch that cannot even start (no channel yet and the transport to the first server cannot be created) tells
    the watcher the error and registers nothing; `hns` in the two characterisations below excludes exactly this
    event. -/
theorem failed_watch_reports_error (a : Auth) (k : Key) (w : Nat) (h : cannotStart a = true) :
    a.step (.watch k w) = { auth := a, cbs := [⟨w, .resErr .other⟩] } := by
  exact (Shape.refused k w h).eq

/-- **C43, clause 3.** For every state and event: watcher `w` receives AmbientError(er) iff it watches a resource
    with a cached value and (a) an update that is processed (from the active or a higher-priority server) rejects
    that resource with an error string different from the one recorded by the previous rejection (DESIGN section 7
    reading: the code de-duplicates by `Err.Error()`; see `rejected_duplicate_already_reported` below), or (b) a
    stream fails before any response and no fallback server is tried (it is not the active server's stream, or no
    server is left, or nothing is uncached), or (c) `w` is a new watcher and the last
    update of the cached resource was NACKed. -/
theorem ambient_iff_cached_and_rejected_or_stream_failed (a : Auth) (e : AEv) (w : Nat) (er : Err)
    (hns : ∀ k w', e = .watch k w' → cannotStart a = false) :
    (⟨w, .ambErr er⟩ : Cb) ∈ (a.step e).cbs ↔
      (∃ p ∈ a.res, w ∈ p.2.watchers ∧ p.2.cache.isSome = true ∧
        ((∃ srv gen ver es t, e = .update srv gen p.1.typ ver es ∧ (revert a srv).2.2 = true ∧
            entLookup es p.1.name = some (.bad t) ∧ er = .nack t ∧ p.2.err.map (·.1) ≠ some t) ∨
         (∃ srv, e = .failure srv false ∧ er = .conn ∧ (uncachedWatch a = false ∨ fallbackTarget a srv = none)))) ∨
      (∃ k r t v, e = .watch k w ∧ lookup a.res k = some r ∧ r.cache.isSome = true ∧ r.status = .nacked ∧
          r.err = some (t, v) ∧ er = .nack t) := by
  rw [mem_step_cbs]
  constructor
  · intro h
    cases h with
    | @update srv gen ver es p _ _ hp hw hc hk =>
      cases hk with
      | accepted _ _ _ hk | omitted _ _ _ _ _ hk => exact nomatch hk
      | rejected t he hd hk =>
        obtain ⟨hcache, rfl⟩ := errKind_eq_ambErr.mp hk.symm
        exact .inl ⟨p, hp, hw, hcache, .inl ⟨srv, gen, ver, es, t, rfl, hc, he, rfl, hd⟩⟩
    | @failed srv p _ _ hp hw hg hk =>
      obtain ⟨hcache, rfl⟩ := errKind_eq_ambErr.mp hk.symm
      exact .inl ⟨p, hp, hw, hcache, .inr ⟨srv, rfl, rfl, hg⟩⟩
    | @greeted k _ r _ _ hl hk =>
      obtain ⟨_, _, ⟨⟩⟩ | ⟨hs, t, v, he, hk⟩ | ⟨_, ⟨⟩⟩ := mem_initialKinds.mp hk
      obtain ⟨hcache, rfl⟩ := errKind_eq_ambErr.mp hk.symm
      exact .inr ⟨k, r, t, v, rfl, hl, hcache, hs, he, rfl⟩
  · rintro (⟨p, hp, hw, hcache, ⟨srv, gen, ver, es, t, rfl, hc, he, rfl, hd⟩ | ⟨srv, rfl, rfl, hg⟩⟩ | ⟨k, r, t, v, rfl, hl, hc, hs, he, rfl⟩)
    · exact .update hp hw hc (.rejected t he hd (errKind_eq_ambErr.mpr ⟨hcache, rfl⟩).symm)
    · exact .failed hp hw hg (errKind_eq_ambErr.mpr ⟨hcache, rfl⟩).symm
    · exact .greeted (hns k w rfl) hl
        (mem_initialKinds.mpr (.inr (.inl ⟨hs, t, v, he, (errKind_eq_ambErr.mpr ⟨hc, rfl⟩).symm⟩)))

/-- **C43, clause 4.** For every state and event: watcher `w` receives ResourceError(er) iff it watches a resource
    and (a) a processed update rejects it while nothing is cached (same de-duplication), (b) a processed
    state-of-the-world response of a type with AllResourcesRequiredInSotW omits it while it is cached and the
    server does not have ignore_resource_deletion, (c) its watch expiry timer fired, (d) a stream fails before any
    response, nothing is cached and no fallback server is tried, or (e) `w` is a new watcher of a resource that is
    NACKed without cache or marked non-existent. -/
theorem resource_error_iff_no_valid (a : Auth) (e : AEv) (w : Nat) (er : Err)
    (hns : ∀ k w', e = .watch k w' → cannotStart a = false) :
    (⟨w, .resErr er⟩ : Cb) ∈ (a.step e).cbs ↔
      (∃ p ∈ a.res, w ∈ p.2.watchers ∧
        ((∃ srv gen ver es t, e = .update srv gen p.1.typ ver es ∧ (revert a srv).2.2 = true ∧ p.2.cache = none ∧
            entLookup es p.1.name = some (.bad t) ∧ er = .nack t ∧ p.2.err.map (·.1) ≠ some t) ∨
         (∃ srv gen ver es, e = .update srv gen p.1.typ ver es ∧ (revert a srv).2.2 = true ∧ er = .notFound ∧
            entLookup es p.1.name = none ∧ sotw p.1.typ = true ∧ p.2.cache.isSome = true ∧
            p.2.status ≠ .notExist ∧ ignOf a srv = false) ∨
         (e = .dne p.1 ∧ er = .notFound) ∨
         (∃ srv, e = .failure srv false ∧ er = .conn ∧ p.2.cache = none ∧
            (uncachedWatch a = false ∨ fallbackTarget a srv = none)))) ∨
      (∃ k r, e = .watch k w ∧ lookup a.res k = some r ∧
        ((r.status = .nacked ∧ r.cache = none ∧ ∃ t v, r.err = some (t, v) ∧ er = .nack t) ∨
         (r.status = .notExist ∧ er = .notFound))) := by
  rw [mem_step_cbs]
  constructor
  · intro h
    cases h with
    | @update srv gen ver es p _ _ hp hw hc hk =>
      cases hk with
      | accepted _ _ _ hk => exact nomatch hk
      | rejected t he hd hk =>
        obtain ⟨hcache, rfl⟩ := errKind_eq_resErr.mp hk.symm
        exact .inl ⟨p, hp, hw, .inl ⟨srv, gen, ver, es, t, rfl, hc, hcache, he, rfl, hd⟩⟩
      | omitted he hs hcache hst hi hk =>
        cases hk
        exact .inl ⟨p, hp, hw, .inr (.inl ⟨srv, gen, ver, es, rfl, hc, rfl, he, hs, hcache, hst, hi⟩)⟩
    | @expired p _ hp hw => exact .inl ⟨p, hp, hw, .inr (.inr (.inl ⟨rfl, rfl⟩))⟩
    | @failed srv p _ _ hp hw hg hk =>
      obtain ⟨hcache, rfl⟩ := errKind_eq_resErr.mp hk.symm
      exact .inl ⟨p, hp, hw, .inr (.inr (.inr ⟨srv, rfl, rfl, hcache, hg⟩))⟩
    | @refused k _ hcs => rw [hns k w rfl] at hcs; exact nomatch hcs
    | @greeted k _ r _ _ hl hk =>
      obtain ⟨_, _, ⟨⟩⟩ | ⟨hs, t, v, he, hk⟩ | ⟨hs, ⟨⟩⟩ := mem_initialKinds.mp hk
      · obtain ⟨hcache, rfl⟩ := errKind_eq_resErr.mp hk.symm
        exact .inr ⟨k, r, rfl, hl, .inl ⟨hs, hcache, t, v, he, rfl⟩⟩
      · exact .inr ⟨k, r, rfl, hl, .inr ⟨hs, rfl⟩⟩
  · rintro (⟨p, hp, hw, ⟨srv, gen, ver, es, t, rfl, hc, hcache, he, rfl, hd⟩ |
        ⟨srv, gen, ver, es, rfl, hc, rfl, he, hs, hcache, hst, hi⟩ | ⟨rfl, rfl⟩ | ⟨srv, rfl, rfl, hcache, hg⟩⟩ | ⟨k, r, rfl, hl, hcase⟩)
    · exact .update hp hw hc (.rejected t he hd (errKind_eq_resErr.mpr ⟨hcache, rfl⟩).symm)
    · exact .update hp hw hc (.omitted he hs hcache hst hi rfl)
    · exact .expired hp hw
    · exact .failed hp hw hg (errKind_eq_resErr.mpr ⟨hcache, rfl⟩).symm
    · refine .greeted (hns k w rfl) hl (mem_initialKinds.mpr ?_)
      rcases hcase with ⟨hs, hc, t, v, he, rfl⟩ | ⟨hs, rfl⟩
      · exact .inr (.inl ⟨hs, t, v, he, (errKind_eq_resErr.mpr ⟨hc, rfl⟩).symm⟩)
      · exact .inr (.inr ⟨hs, rfl⟩)

/-- **C43, clauses 3+4 (which callback).** In every reachable state: after ResourceError the watcher's resource has
    no cached value ("no valid resource exists"), after AmbientError it still has one. -/
theorem error_kind_matches_cache (n : Nat) (ign : List Bool) (hist : List AEv) (hf : FreshRun (Auth.init n ign) hist)
    (e : AEv) (w : Nat) (er : Err)
    (hns : ∀ k w', e = .watch k w' → cannotStart (Auth.run (Auth.init n ign) hist) = false) :
    let a := Auth.run (Auth.init n ign) hist
    ((⟨w, .resErr er⟩ : Cb) ∈ (a.step e).cbs → ∃ p ∈ (a.step e).auth.res, w ∈ p.2.watchers ∧ p.2.cache = none) ∧
    ((⟨w, .ambErr er⟩ : Cb) ∈ (a.step e).cbs → ∃ p ∈ (a.step e).auth.res, w ∈ p.2.watchers ∧ p.2.cache.isSome = true) :=
  error_step (inv_run n ign hist).rinv hns

/-- **C43, clause 3, the de-duplication reading.** In every reachable state, if a resource's recorded error is
    `t` (so that a further rejection with the same error string is NOT re-delivered), then every watcher of the
    resource has already been told exactly this error: its last NACK callback carried `t` and it received no
    ResourceChanged since. Also: what each watcher holds is exactly the cached value. -/
theorem rejected_duplicate_already_reported (n : Nat) (ign : List Bool) (hist : List AEv)
    (hf : FreshRun (Auth.init n ign) hist) :
    ∀ p ∈ (Auth.run (Auth.init n ign) hist).res, ∀ w ∈ p.2.watchers,
      (ghostRun (Auth.init n ign) (fun _ => {}) hist w).holds = p.2.cache ∧
      ∀ t v, p.2.err = some (t, v) → (ghostRun (Auth.init n ign) (fun _ => {}) hist w).nack = some t :=
  (ghost_run hist _ _ (inv_init n ign) .nil (List.forall_mem_nil _) hf).2

/-- **C43, clause 5.** A watch on a resource that already has a state delivers to the new watcher, at once and in
    this order: ResourceChanged(cached value) if there is one; the recorded NACK error if the last update was
    rejected (AmbientError if something is cached, ResourceError otherwise); ResourceError(not found) if the
    resource is marked non-existent. Under the state invariant these are exactly the five listed cases. The
    watcher is registered, and the first watch of a resource subscribes it on the active server. -/
theorem new_watcher_gets_cache_and_error_state (a : Auth) (k : Key) (w : Nat) :
    (∀ r, lookup a.res k = some r → RInv r →
      (watch a k w).cbs = (initialKinds r).map (fun kd => ⟨w, kd⟩) ∧
      ((∃ c, r.cache = some c ∧ r.status = .acked ∧ initialKinds r = [.changed c]) ∨
       (∃ c t v, r.cache = some c ∧ r.status = .nacked ∧ r.err = some (t, v) ∧
          initialKinds r = [.changed c, .ambErr (.nack t)]) ∨
       (r.cache = none ∧ r.status = .requested ∧ initialKinds r = []) ∨
       (∃ t v, r.cache = none ∧ r.status = .nacked ∧ r.err = some (t, v) ∧ initialKinds r = [.resErr (.nack t)]) ∨
       (r.cache = none ∧ r.status = .notExist ∧ initialKinds r = [.resErr .notFound])) ∧
      (k, { r with watchers := r.watchers ++ [w] }) ∈ (watch a k w).auth.res) ∧
    (lookup a.res k = none →
      (watch a k w).cbs = [] ∧ Cmd.sub (channelToUse a).2.2 k ∈ (watch a k w).cmds ∧
      (k, newRState w (channelToUse a).2.2) ∈ (watch a k w).auth.res) := by
  constructor
  · intro r hl hr
    rw [watch_old w hl]
    exact ⟨rfl, greeting hr, List.mem_map.mpr ⟨_, lookup_mem hl, by simp [addWatcher]⟩⟩
  · intro hl
    rw [watch_new w hl]
    exact ⟨rfl, List.mem_append_right _ (List.mem_singleton_self _), List.mem_append_right _ (List.mem_singleton_self _)⟩

/-- removing the last watcher of a resource unsubscribes it on every server it was subscribed on and deletes
    its state -/
theorem last_unwatch_unsubscribes (a : Auth) (k : Key) (w : Nat) (r : RState) (hl : lookup a.res k = some r)
    (hlast : r.watchers.filter (· ≠ w) = []) :
    (∀ i ∈ r.chans, Cmd.unsub i k ∈ (unwatch a k w).cmds) ∧ ∀ p ∈ (unwatch a k w).auth.res, p.1 ≠ k := by
  by_cases hr : a.res.filter (·.1 ≠ k) = []
  · rw [show unwatch a k w = _ from (Shape.lastOfAll k w r hl hlast hr).eq]
    exact ⟨fun i hi => List.mem_append_left _ (List.mem_map_of_mem hi), List.forall_mem_nil _⟩
  · rw [show unwatch a k w = _ from (Shape.last k w r hl hlast hr).eq]
    exact ⟨fun i hi => List.mem_map_of_mem hi, fun p hp => of_decide_eq_true (List.mem_filter.mp hp).2⟩

/-- the commands of the last unwatch, in order: first the unsubscriptions on every channel the resource was
    subscribed on, only then (if it was the authority's last resource) the release of the channel references -/
theorem last_unwatch_unsubscribes_before_release (a : Auth) (k : Key) (w : Nat) (r : RState)
    (hl : lookup a.res k = some r) (hlast : r.watchers.filter (· ≠ w) = []) :
    (unwatch a k w).cmds =
      (r.chans.map fun i => Cmd.unsub i k) ++ (if a.res.filter (·.1 ≠ k) = [] then a.opened.map Cmd.release else []) := by
  by_cases hr : a.res.filter (·.1 ≠ k) = []
  · rw [show unwatch a k w = _ from (Shape.lastOfAll k w r hl hlast hr).eq, if_pos hr]
  · rw [show unwatch a k w = _ from (Shape.last k w r hl hlast hr).eq, if_neg hr, List.append_nil]

/-- layer B: whatever else a channel is used for (it may be shared with another authority and stay open), after
    the unsubscribe command the resource is no longer in its subscription set -/
theorem chanUnsub_forgets (c : Chan) (now : Nat) (k : Key) (ho : c.opened = true) (ht : c.types.contains k.typ = true) :
    k ∉ (chanUnsub c now k).subs.map (·.1) := by
  unfold chanUnsub
  simp only [ho, Bool.not_true, Bool.false_eq_true, ↓reduceIte, ht]
  by_cases hs : c.subs.any (·.1 = k) = true
  · simp only [hs, Bool.not_true, Bool.false_eq_true, ↓reduceIte]
    unfold sendReq
    split
    · simp only [startTimers_keys]
      simp
    · simp
  · simp only [hs, Bool.not_false, ↓reduceIte]
    simp only [List.any_eq_true, decide_eq_true_eq, not_exists, not_and] at hs
    simp only [List.mem_map, not_exists, not_and]
    intro p hp hpk
    exact hs p hp hpk

/-- **C43, clause 6.** In every history over a client with at least one server: the set of (server, resource)
    subscriptions the authority holds (subscribe / unsubscribe / release commands it issued, accumulated) is at
    every moment exactly {(i, k) | resource k has a state and i ∈ its channel set}, and a resource has a state
    only while it has at least one watcher. Hence once all watchers of a resource are removed it is subscribed
    nowhere. -/
theorem unsubscribed_when_no_watchers (n : Nat) (ign : List Bool) (hn : 0 < n) (hist : List AEv)
    (hf : FreshRun (Auth.init n ign) hist) (i : Nat) (k : Key) :
    ((i, k) ∈ ledgerRun (Auth.init n ign) [] hist ↔
      ∃ r, (k, r) ∈ (Auth.run (Auth.init n ign) hist).res ∧ i ∈ r.chans) ∧
    ∀ p ∈ (Auth.run (Auth.init n ign) hist).res, p.2.watchers ≠ [] := by
  exact ⟨ledger_run hist (Auth.init n ign) [] (inv_init n ign) ⟨by simp [Auth.init], by simp [Auth.init]⟩
    (by intro i k; simp [Auth.init]) i k, (inv_run n ign hist).watched⟩

end GrpcProofs.C43
