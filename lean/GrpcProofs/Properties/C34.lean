/-
C34  pick_first connects in order, picks only READY, keeps sticky TF.
Model: GrpcModel/Model/PickFirst.lean (full port of balancer/pickfirst/pickfirst.go).
A history is `run {} ops`; `RunOk {} ops` says the (fake) channel keeps the rules the real channel
guarantees: states only for existing SubConns, SHUTDOWN only after Shutdown(), health updates only to
a listener registered since the SubConn last became READY (`opOk`).
-/
import GrpcProofs.Lemmas.PickFirstAddr
import GrpcProofs.Lemmas.PickFirst
import GrpcProofs.Lemmas.PickFirstReady
import GrpcProofs.Lemmas.PickFirstSticky
import GrpcModel.Generated.PickFirst
namespace GrpcProofs.C34
open GrpcModel.PickFirst GrpcProofs.Lemmas.PickFirst GrpcProofs.Lemmas.PickFirstAddr GrpcProofs.Lemmas.PickFirstReady
open GrpcModel.LbConnState (ConnState)

/-- T4: the three address families and the happy-eyeballs delay the harness waits for (250 ms). -/
theorem constants_pinned :
    GrpcModel.Generated.pfIpAddrFamilyNames = ["ipAddrFamilyUnknown", "ipAddrFamilyV4", "ipAddrFamilyV6"] ∧
    GrpcModel.Generated.pfConnectionDelayInterval = 250000000 := by decide

/-- deDupAddresses: no duplicates, exactly the members of the input, and a sublist of it (nothing is reordered). -/
theorem dedup_spec (l : List Addr) :
    (deDup l).Nodup ∧ (∀ a, a ∈ deDup l ↔ a ∈ l) ∧ (deDup l).Sublist l := by
  obtain ⟨h1, h2, h3⟩ := deDupAux_spec [] l
  exact ⟨h1, fun a => by have := h2 a; simpa [deDup] using this, h3⟩

/-- interleaveAddresses is a permutation of its input. -/
theorem interleave_perm (l : List Addr) : (interleave l).Perm l := (interleave_spec l).1

/-- … that preserves the relative order inside each address family. -/
theorem interleave_preserves_family_order (l : List Addr) (f : Fam) :
    (interleave l).filter (·.fam = f) = l.filter (·.fam = f) := (interleave_spec l).2 f

/-- … and starts with the resolver's first address (RFC 8305: the first family stays first). -/
theorem interleave_starts_with_first_address (l : List Addr) : (interleave l).head? = l.head? :=
  interleave_head l

/-- Address pre-processing is a permutation of the de-duplicated input that preserves the relative
    order within each family (the monitor's `prepOk`, for every input list). -/
theorem preprocess_ok (inp : List Addr) : prepOk inp (preprocess inp) = true := by
  obtain ⟨h1, h2⟩ := interleave_spec (deDup inp)
  simp only [prepOk, preprocess, Bool.and_eq_true, List.isPerm_iff, List.all_eq_true]
  exact ⟨h1, fun f _ => decide_eq_true (h2 f)⟩

/-- pick_first never reports READY unless it is with a SubConn whose raw state is READY — every op,
    every reachable state: READY is reported exactly with a SubConn picker, and that SubConn is in the
    balancer's map with rawConnectivityState = READY. -/
theorem ready_reported_only_for_raw_ready (ops : List Op) (op : Op) (hok : RunOk {} (ops ++ [op]))
    (st : ConnState) (p : Picker) (h : Ev.push st p ∈ (step (run {} ops) op).2.evs) :
    (st = .ready ↔ ∃ X, p = .ready X) ∧
    ∀ X, p = .ready X → ∃ sc ∈ (step (run {} ops) op).1.subConns, sc.id = X ∧ sc.raw = .ready := by
  obtain ⟨h1, h2⟩ := runOk_snoc hok
  obtain ⟨hg, hr⟩ := inv_run {} ops good_init reg_init h1
  exact (step_op _ op hg hr h2).1.readyOK st p h

/-- pick_first never returns a SubConn unless that SubConn's latest (raw) state is READY — every
    reachable state of a balancer that was not closed: a Pick on the channel's picker returns SubConn X
    only if X is the one SubConn of the map and its rawConnectivityState is READY; and whenever the
    reported state is READY the picker is that SubConn's. -/
theorem pick_returns_only_ready_subconn (ops : List Op) (hok : RunOk {} ops) (hns : (run {} ops).state ≠ .shutdown) :
    (∀ X, (pick (run {} ops)).2.2 = .sc X → ∃ sc, (run {} ops).subConns = [sc] ∧ sc.id = X ∧ sc.raw = .ready) ∧
    ((run {} ops).state = .ready →
      ∃ sc, (run {} ops).subConns = [sc] ∧ sc.raw = .ready ∧ (run {} ops).picker = .ready sc.id) := by
  have hr := reg_ready _ (inv_run {} ops good_init reg_init hok).2 hns
  exact ⟨fun X hX => hr.1 X (pick_sc _ X hX), hr.2⟩

/-- A happy-eyeballs timer that was cancelled (a SubConn became READY / failed, a resolver update, Close)
    may already have fired: its callback is then waiting for b.mu and Stop() cannot stop it.  When it
    finally runs it does nothing — no SubConn is created or connected, nothing is reported, and the
    balancer's map, state, picker, address index and armed timer are what they were (the `cancelled`
    flag set under the mutex; a check of "is the address still current" would not do: READY re-seeks
    the index to the very address the timer was armed for). -/
theorem stale_timer_callback_is_inert (s : St) :
    (step s .late).2.evs = [] ∧ (step s .late).1.subConns = s.subConns ∧ (step s .late).1.state = s.state ∧
    (step s .late).1.picker = s.picker ∧ (step s .late).1.idx = s.idx ∧ (step s .late).1.addrs = s.addrs ∧
    (step s .late).1.timer = s.timer ∧ (step s .late).1.firstPass = s.firstPass := by
  simp only [step, lateFire_eq]
  split <;> simp

/-- Once one SubConn becomes READY all other SubConns are shut down: afterwards the map holds that
    SubConn only, and Shutdown() was called on every other SubConn of the map. -/
theorem others_shut_down_on_ready (ops : List Op) (hok : RunOk {} ops) (id err : Nat) (sd : SC)
    (ha : activeSC (run {} ops) id = some sd) :
    (step (run {} ops) (.sc id .ready err)).1.subConns.map (·.id) = [id] ∧
    ∀ x ∈ (run {} ops).subConns, x.id ≠ id → Ev.sd x.id ∈ (step (run {} ops) (.sc id .ready err)).2.evs :=
  scState_ready_others _ id err sd (inv_run {} ops good_init reg_init hok).1.wf ha

/-- Within a pass connections are requested in list order, at most once per position of the list: the positions
    of the address list on which Connect() was requested since the index was last reset are strictly
    increasing and never ahead of the index; and every Connect() issued by a connection request while
    the first pass is still running is the logged one, on the SubConn of the address at the index. -/
theorem connect_order_is_list_order (ops : List Op) (hok : RunOk {} ops) :
    (run {} ops).passLog.Pairwise (· < ·) ∧ (∀ i ∈ (run {} ops).passLog, i ≤ (run {} ops).idx) ∧
    ∀ id, Ev.connect id ∈ (requestConnection (run {} ops)).2 →
      (requestConnection (run {} ops)).1.firstPass = false ∨
      ((requestConnection (run {} ops)).1.passLog = (run {} ops).passLog ++ [(requestConnection (run {} ops)).1.idx] ∧
        ∃ sc ∈ (requestConnection (run {} ops)).1.subConns, sc.id = id ∧
          (requestConnection (run {} ops)).1.addrs[(requestConnection (run {} ops)).1.idx]? = some sc.addr) := by
  have hg := (inv_run {} ops good_init reg_init hok).1
  exact ⟨hg.pl.1, hg.pl.2, fun id h => requestConnection_connects _ id h⟩

/-- After every address failed TRANSIENT_FAILURE is reported: when a SubConn reports TRANSIENT_FAILURE
    during the first pass and afterwards the index is past the end of the list and every SubConn of the
    map has failed in this pass, the balancer is in TRANSIENT_FAILURE and the first pass is over. -/
theorem tf_after_all_failed (s : St) (id err : Nat) (sd : SC) (ha : activeSC s id = some sd)
    (hfp : s.firstPass = true) (hnr : sd.raw ≠ .ready)
    (hv : isValid (scState s id .tf err).1 = false) (hf : ∀ sc ∈ (scState s id .tf err).1.subConns, sc.failed = true) :
    (scState s id .tf err).1.state = .tf ∧ (scState s id .tf err).1.firstPass = false := by
  have hfp' : (setSC s (sd.withRaw .tf)).firstPass = true := hfp
  rw [scState_seek (new := .tf) ha nofun nofun (by simp [hnr]), if_pos hfp'] at hv hf ⊢
  exact scFirstPass_tf_endOK _ _ _ hv hf

/-- Sticky TRANSIENT_FAILURE.  Take any balancer state `s` (with a well-formed SubConn map, `WF`)
    in which TRANSIENT_FAILURE is the reported state, the address list is not empty and no SubConn is
    READY — the situation pick_first is in after every address failed (`tf_after_all_failed`).  Let
    `ops` be ANY continuation, of any length, made of
      * resolver updates with ANY non-empty address list (addresses added, removed, re-ordered,
        duplicated, shuffled; health listener switched on or off) — each starts a new first pass;
      * SubConn state reports other than the two that end the period: a SubConn of the map becoming
        READY, or going CONNECTING→IDLE (which the code treats as connected-and-dropped, issue 7862);
      * happy-eyeballs timer firings, Picks, ExitIdle, resolver errors, health updates.
    Then after `ops` the balancer is still in that situation, and whatever comes next — one more such
    op, an EMPTY resolver update or Close — reports nothing but TRANSIENT_FAILURE: never CONNECTING,
    never IDLE, never READY.  (After an empty resolver update everything is torn down and the next
    non-empty update starts from CONNECTING: that is the code's documented design and outside this
    statement.)  The case that needs the balancer's own state in the CONNECTING branch of the first pass
    (and not only the SubConn's) is a resolver update that adds an address: [A]; A fails; [A,B]; B CONNECTING
    must not produce UpdateState(CONNECTING); the check replays that input. -/
theorem sticky_tf (s : St) (hw : WF s) (hst : s.state = .tf) (hne : s.addrs ≠ [])
    (hnr : ∀ sc ∈ s.subConns, sc.raw ≠ .ready) (ops : List Op)
    (hq : GrpcProofs.Lemmas.PickFirstSticky.Quiet s ops) (op : Op) (hok : opOk (run s ops) op = true)
    (hends : GrpcProofs.Lemmas.PickFirstSticky.ends (run s ops) op = false) :
    ((run s ops).state = .tf ∧ (run s ops).addrs ≠ [] ∧ ∀ sc ∈ (run s ops).subConns, sc.raw ≠ .ready) ∧
    ∀ st p, Ev.push st p ∈ (step (run s ops) op).2.evs → st = .tf := by
  have h := GrpcProofs.Lemmas.PickFirstSticky.inTF_run s ops ⟨hw, hst, hne, hnr⟩ hq
  exact ⟨⟨h.state, h.addrs, h.noReady⟩, (GrpcProofs.Lemmas.PickFirstSticky.inTF_step _ op h hok hends).1⟩

example : preprocess [⟨.v6, 1⟩, ⟨.v6, 2⟩, ⟨.v4, 1⟩, ⟨.v6, 1⟩, ⟨.unknown, 1⟩, ⟨.v4, 2⟩]
    = [⟨.v6, 1⟩, ⟨.v4, 1⟩, ⟨.unknown, 1⟩, ⟨.v6, 2⟩, ⟨.v4, 2⟩] := by decide
example : (run {} [.update false [⟨.v4, 1⟩, ⟨.v4, 2⟩], .sc 1 .connecting 0, .tick, .sc 2 .connecting 0, .sc 2 .ready 0]).subConns.map (·.id) = [2] := by decide
example : (step (run {} [.update false [⟨.v4, 1⟩, ⟨.v4, 2⟩], .sc 1 .connecting 0, .sc 1 .tf 1, .sc 2 .connecting 0]) (.sc 2 .tf 2)).2.evs
    = [.push .tf (.connErr 2)] := by decide
-- in TRANSIENT_FAILURE the resolver adds an address: its SubConn is connected to, and its CONNECTING report is
-- not forwarded
example : (step (run {} [.update false [⟨.v4, 1⟩], .sc 1 .connecting 0, .sc 1 .tf 1]) (.update false [⟨.v4, 1⟩, ⟨.v4, 2⟩])).2.evs
    = [.newSc 2 ⟨.v4, 2⟩, .connect 2] := by decide
example : (step (run {} [.update false [⟨.v4, 1⟩], .sc 1 .connecting 0, .sc 1 .tf 1, .update false [⟨.v4, 1⟩, ⟨.v4, 2⟩]]) (.sc 2 .connecting 0)).2.evs
    = [] := by decide
example : GrpcProofs.Lemmas.PickFirstSticky.Quiet (run {} [.update false [⟨.v4, 1⟩], .sc 1 .connecting 0, .sc 1 .tf 1])
    [.update false [⟨.v4, 1⟩, ⟨.v4, 2⟩], .sc 2 .connecting 0, .sc 2 .tf 3, .tick, .resErr] := by
  simp only [GrpcProofs.Lemmas.PickFirstSticky.Quiet]; decide

end GrpcProofs.C34
