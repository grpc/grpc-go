/-
C30  Connectivity state reporting is consistent and never missed  (PARTIAL: see props/C30.py)

Model: GrpcModel/Model/Connectivity.lean.  Invariants: GrpcProofs/Lemmas/Connectivity.lean (one
addrConn) and GrpcProofs/Lemmas/ConnectivitySys.lean (csm, WaitForStateChange callers, serializer).

Sub-channel theorems are about `acStep`: ANY action on ANY addrConn state reachable by ANY sequence
of actions (`AcReach n health a`; n = number of addresses, `health` = legacy LB-channel health
checking in force).  `(o, n) ∈ (acStep a act).2` reads: this action made
`updateConnectivityState` report the change o → n.
Channel theorems are about `SReach s`: any state of the channel model reachable by any interleaving
of sub-channel actions, LB-policy calls, serializer runs, idle entry/exit, Close and
WaitForStateChange callers' steps.
-/
import GrpcProofs.Lemmas.ConnectivitySys
import GrpcModel.Generated.Connectivity
namespace GrpcProofs.C30
open GrpcModel.Connectivity GrpcProofs.Lemmas.Connectivity

/-- T4: the order of `connectivity.State` in the source is the model's constructor order. -/
theorem state_order_matches_source :
    GrpcModel.Generated.connStateNames = ["Idle", "Connecting", "Ready", "TransientFailure", "Shutdown"] :=
  rfl

/-- **Nothing leaves SHUTDOWN** (sub-channel): no action ever reports a change out of SHUTDOWN. -/
theorem nothing_leaves_shutdown {n : Nat} {health : Bool} {a : AC} (hr : AcReach n health a) (act : AcAct)
    (o nw : ConnState) (hm : (o, nw) ∈ (acStep a act).2) : o ≠ ConnState.shutdown :=
  (link_of_reported hr hm).ne_shutdown

/-- **Nothing leaves SHUTDOWN** (channel): in the sequence of published channel states nothing
    follows SHUTDOWN. -/
theorem channel_never_leaves_shutdown {s : Sys} (hr : SReach s) (l1 l2 : List ConnState)
    (h : s.published = l1 ++ ConnState.shutdown :: l2) : l2 = [] :=
  (reach_invA hr).shutLast l1 l2 h

/-- **A sub-channel reaches READY only from CONNECTING** — for sub-channels without legacy
    LB-channel health checking.
    Full statement (false, see the counterexample): the same for `AcReach n health a` with any `health`. -/
theorem ready_only_from_connecting_partial {n : Nat} {a : AC} (hr : AcReach n false a) (act : AcAct) (o : ConnState)
    (hm : (o, ConnState.ready) ∈ (acStep a act).2) : o = ConnState.connecting := by
  have := (link_of_reported hr hm).legal
  revert this; cases o <;> decide

/-- the sub-channel state after: Connect, dial succeeds, createTransport installs the transport
    (health checking takes over), the health function reports TRANSIENT_FAILURE -/
def healthTF : AC := (acRun 1 true [.connect, .dialOk 0, .lockCreated 0, .healthSet 0 .transientFailure]).1

theorem healthTF_reach : AcReach 1 true healthTF := acRunFrom_reach _ _ _ AcReach.init

/-- With legacy health checking the statement is FALSE: the health function's
    setConnectivityState(READY) moves the sub-channel TRANSIENT_FAILURE → READY. -/
theorem ready_only_from_connecting_counterexample :
    ¬ (∀ (n : Nat) (health : Bool) (a : AC), AcReach n health a → ∀ (act : AcAct) (o : ConnState),
        (o, ConnState.ready) ∈ (acStep a act).2 → o = ConnState.connecting) := by
  intro h
  have := h 1 true healthTF healthTF_reach (.healthSet 0 .ready) .transientFailure (by decide)
  cases this

/-- **A sub-channel leaves TRANSIENT_FAILURE only to IDLE or SHUTDOWN** — without legacy health
    checking. Full statement (false, see the counterexample): the same for any `health`. -/
theorem tf_only_to_idle_or_shutdown_partial {n : Nat} {a : AC} (hr : AcReach n false a) (act : AcAct) (nw : ConnState)
    (hm : (ConnState.transientFailure, nw) ∈ (acStep a act).2) : nw = ConnState.idle ∨ nw = ConnState.shutdown := by
  have := (link_of_reported hr hm).legal
  revert this; cases nw <;> decide

/-- **…to IDLE only after the back-off**: TRANSIENT_FAILURE → IDLE is reported only by the critical
    section that a connect goroutine enters from program point `afterBackoff`, with a live context;
    and (`backoff_left_only_by_timer_or_reset`) a goroutine is at `afterBackoff` only by leaving the
    back-off select through the timer or ResetConnectBackoff. -/
theorem tf_to_idle_only_after_backoff {n : Nat} {a : AC} (hr : AcReach n false a) (act : AcAct)
    (hm : (ConnState.transientFailure, ConnState.idle) ∈ (acStep a act).2) :
    ∃ g x, act = AcAct.lockAfterBackoff g ∧ a.gors g = some x ∧ x.pc = GPc.afterBackoff ∧ a.ctxLive x.ctx = true :=
  ((link_of_reported hr hm).tfIdle rfl rfl).resolve_right fun h => nomatch h.1

theorem backoff_left_only_by_timer_or_reset (a : AC) (act : AcAct) (g : Nat) (y : Gor)
    (h : (acStep a act).1.gors g = some y) (hp : y.pc = GPc.afterBackoff) :
    (∃ x, a.gors g = some x ∧ x.pc = GPc.afterBackoff) ∨
    (act = AcAct.backoffEnd g ∧ ∃ x, a.gors g = some x ∧ x.pc = GPc.backoff) := by
  suffices a.gors g = some y ∨ (act = AcAct.backoffEnd g ∧ ∃ x, a.gors g = some x ∧ x.pc = GPc.backoff) from
    this.imp_left fun h => ⟨y, h, hp⟩
  -- a record written with another program point is not the one found at g
  have wrote : ∀ {b : AC} {g' : Nat} {x' : Gor}, (b.setGor g' x').gors g = some y → x'.pc ≠ .afterBackoff →
      b.gors g = some y := by
    intro b g' x' h hx
    simp only [AC.setGor] at h
    split at h
    · cases h; exact absurd hp hx
    · exact h
  have sc : ∀ b : AC, b.startConnect.1.gors g = some y → b.gors g = some y := by
    intro b h
    rw [startConnect_eq] at h
    split at h
    · exact h
    · exact wrote h nofun
  have sp := acStep_spec a act
  generalize acStep a act = r at sp h
  cases sp with
  | backoffEnd hg hpc =>
    simp only [AC.setGor] at h
    split at h
    · next e => subst e; exact .inr ⟨rfl, _, hg, hpc⟩
    · exact .inl h
  | skip | closeDead | closeOld | addrsOnly | closeCur | tearDown | health => exact .inl h
  | connect | addrsSome | addrsNone => have := sc _ h; exact .inl this
  | dialFail => exact .inl (wrote (b := a) h (by dsimp only; split <;> nofun))
  | dialNone | dialOk | createdDead | createdHealth | failedDead | backoffCtxDone | afterBackoffDead
  | createdClosed | createdReady | failedLive | afterBackoffLive =>
    exact .inl (wrote (b := a) h nofun)

/-- With legacy health checking the statement is FALSE: the health function's retry loop calls
    setConnectivityState(CONNECTING) while the sub-channel is TRANSIENT_FAILURE. -/
theorem tf_only_to_idle_or_shutdown_counterexample :
    ¬ (∀ (n : Nat) (health : Bool) (a : AC), AcReach n health a → ∀ (act : AcAct) (nw : ConnState),
        (ConnState.transientFailure, nw) ∈ (acStep a act).2 → nw = ConnState.idle ∨ nw = ConnState.shutdown) := by
  intro h
  have := h 1 true healthTF healthTF_reach (.healthSet 0 .connecting) .connecting (by decide)
  rcases this with h | h <;> cases h

/-- **GetState returns the most recently published state** (`getState` returns `csm.state`; IDLE before
    anything was published). -/
theorem getState_is_last_published {s : Sys} (hr : SReach s) : s.csm.state = s.published.getLast?.getD ConnState.idle :=
  (reach_invA hr).lastPub

/-- **WaitForStateChange(src) returns true whenever the state differs from src at or after the
    call** (code order: get the notify channel, then read the state).  `w.sawDiff` is the ghost
    "the state differed from src at the call's first action or at some moment since".  Once it is
    set, the caller is never blocked and cannot conclude "unchanged": in the select its channel is
    already closed, and before its read either the read will see a different state or its channel is
    already closed.  (It can then only return true — or false if its context is done as well, the
    Go select being free to pick either ready case: `wait_false_only_if_ctx_done`.) -/
theorem wait_returns_true_if_differs {s : Sys} (hr : SReach s) (id : Nat) (w : Waiter) (hw : s.waiters id = some w)
    (ho : w.codeOrder = true) (hd : w.sawDiff = true) :
    (∀ ch, w.pc = WPc.sel ch → s.csm.chanClosed ch = true ∧
        (w.ctxDone = false → ∀ p, wstep s.csm w p = some (s.csm, { w with pc := WPc.done true }))) ∧
    (∀ ch, w.pc = WPc.gotChan ch → s.csm.state ≠ w.src ∨ s.csm.chanClosed ch = true) := by
  have hi := (reach_invA hr).winv id w hw
  constructor
  · intro ch hp
    obtain ⟨hh, hsame⟩ := hi.sel hp ho
    -- the ghost is set, and under an open channel the state would still be `src`
    have hc : s.csm.chanClosed ch = true :=
      (hh.saw_iff.mp hd).elim (fun hne => Bool.of_not_eq_false fun hcl => hne (hsame hcl)) fun hcl => hcl
    refine ⟨hc, ?_⟩
    intro hctx p
    simp [wstep, hp, hctx, hc]
  · exact fun ch hp => (hi.gotChan hp).saw_iff.mp hd

/-- it returns true only if the state did differ at or after the call -/
theorem wait_true_only_if_differed {s : Sys} (hr : SReach s) (id : Nat) (w : Waiter) (hw : s.waiters id = some w)
    (ho : w.codeOrder = true) (hp : w.pc = WPc.done true) : w.sawDiff = true :=
  ((reach_invA hr).winv id w hw).doneTrue hp ho

/-- it returns false only if its context is done -/
theorem wait_false_only_if_ctx_done {s : Sys} (hr : SReach s) (id : Nat) (w : Waiter) (hw : s.waiters id = some w)
    (hp : w.pc = WPc.done false) : w.ctxDone = true :=
  ((reach_invA hr).winv id w hw).doneFalse hp

/-- The opposite order (read the state, then get the channel) MISSES a change: the caller reads
    IDLE = src, the channel becomes CONNECTING (no notify channel exists yet, nothing is closed), the
    caller then allocates a fresh channel and sits in the select although the state has differed
    from src since its call began — it cannot move. -/
theorem wrong_order_misses_a_change :
    ∃ (acts : List Act) (w : Waiter) (ch : Nat), (run acts).waiters 1 = some w ∧ w.codeOrder = false ∧ w.pc = WPc.sel ch ∧
      w.sawDiff = true ∧ w.ctxDone = false ∧ (run acts).csm.state ≠ w.src ∧ (run acts).csm.chanClosed ch = false ∧
      ∀ p, wstep (run acts).csm w p = none := by
  refine ⟨[.startWait 1 .idle false, .wstep 1 false, .exitIdle, .wstep 1 false],
    { src := .idle, codeOrder := false, pc := .sel 0, ctxDone := false, sawDiff := true }, 0, ?_⟩
  refine ⟨by decide, rfl, rfl, rfl, rfl, by decide, by decide, ?_⟩
  intro p
  cases p <;> decide

/-- **Sub-channel state updates reach the LB policy in the order they happened**: for every
    sub-channel k, the states delivered to its StateListener are a prefix of the states that
    updateConnectivityState reported for k (`hist` records every reported change, in order) — none
    reordered, none skipped before a later one is delivered.  **And none arrive after the
    sub-channel is shut down**: nothing follows SHUTDOWN in what the LB policy receives. -/
theorem lb_sees_updates_in_order_none_after_shutdown {s : Sys} (hr : SReach s) (k : Nat) :
    proj k s.delivered <+: proj k s.hist ∧ ShutLast (proj k s.delivered) := by
  have h := reach_invC hr
  have hp := h.delPrefix k
  refine ⟨hp, shutLast_prefix hp ?_⟩
  cases hk : s.acs k with
  | none =>
    rw [h.histNone hk]
    exact shutLast_nil
  | some a => exact (h.acOk hk).shutLast

/-- the second half on its own: nothing is delivered for a sub-channel after its SHUTDOWN -/
theorem lb_sees_nothing_after_shutdown {s : Sys} (hr : SReach s) (k : Nat) (l1 l2 : List ConnState)
    (h : proj k s.delivered = l1 ++ ConnState.shutdown :: l2) : l2 = [] :=
  (lb_sees_updates_in_order_none_after_shutdown hr k).2 l1 l2 h

/-- dial fails → TRANSIENT_FAILURE, back-off, IDLE; reconnect, READY; GOAWAY → IDLE; shutdown. -/
example : (acRun 1 false [.connect, .dialFail 0, .lockFailed 0, .backoffEnd 0, .lockAfterBackoff 0, .connect, .dialOk 1,
                          .lockCreated 1, .onClose 0, .tearDown, .connect]).2 =
    [(.idle, .connecting), (.connecting, .transientFailure), (.transientFailure, .idle), (.idle, .connecting),
     (.connecting, .ready), (.ready, .idle), (.idle, .shutdown)] := rfl

/-- the Connecting → Idle shortcut of issue 7862: the transport's onClose runs before createTransport
    re-acquires ac.mu. -/
example : (acRun 1 false [.connect, .dialOk 0, .onClose 0, .lockCreated 0]).2 =
    [(.idle, .connecting), (.connecting, .idle)] := rfl

/-- the LB policy sees CONNECTING, READY for sub-channel 0; after ccb.close nothing more. -/
example : (run [.exitIdle, .newSubConn 1 false, .ac 0 .connect, .deliver, .ac 0 (.dialOk 0), .ac 0 (.lockCreated 0), .deliver,
               .close, .ac 0 .tearDown, .deliver]).delivered = [(0, .connecting), (0, .ready)] := rfl

end GrpcProofs.C30
