import GrpcProofs.Lemmas.LoopyC01
/-!
# C01  Outbound DATA never exceeds the peer's flow-control windows

Model: `GrpcModel/Model/Loopy.lean` (port of `loopyWriter` in internal/transport/controlbuf.go).
Property predicate: `GrpcModel.Loopy.C01` in `GrpcModel/Model/LoopySpec.lean` — the PEER's ledger (RFC 7540 §6.9):
connection window `65535 + Σ WINDOW_UPDATE(0) − Σ DATA`, per stream `initial window at open + Σ WINDOW_UPDATE(id) +
Σ (new − old SETTINGS_INITIAL_WINDOW_SIZE) − Σ DATA(id)`; a DATA frame must fit both (an empty one always may be
sent), no DATA frame is larger than 16384 bytes and no HEADERS/CONTINUATION fragment is larger than 16384 bytes.
The ledger is computed from the observable trace only (control items in, frames out), never from the writer's state.

All theorems quantify over the side (client/server) and over EVERY finite history `ops : List Op` of control items and
`processData` calls: any interleaving of application writes of any sizes on any number of streams, WINDOW_UPDATEs
(including ones that wrap the writer's uint32 `sendQuota`), SETTINGS that raise or lower the initial window, resets,
trailers, GOAWAYs, and of the map iteration order in `applySettings` (the `order` oracle) and every HPACK block length
(the `hb` oracle).  No hypothesis on the history is needed.
-/
namespace GrpcProofs.C01
open GrpcModel.Loopy GrpcModel.Loopy.C01 GrpcProofs.Loopy

/-- **C01.** The trace of every history satisfies the executable C01 predicate (the one the monitor evaluates on the real
writer's frames): no DATA frame exceeds the peer's connection window or its stream's window, none is larger than
16384 bytes, no header fragment is larger than 16384 bytes. -/
theorem c01_holds (side : Side) (ops : List Op) : C01.holds (trace side ops) = true := by
  have := (runFrom_led (led_init side) ops).1
  simp only [holds, trace, run, this, Option.isNone_none]

/-- The ledger invariant behind it, at the end of every history: unless `run()` has returned, `sendQuota` is at most the peer's
connection window (equal up to the uint32 wrap-around of `sendQuota += increment`, which only ever loses credit), and for
every established stream `oiws − bytesOutStanding` IS the peer's window for that stream. -/
theorem ledger_invariant (side : Side) (ops : List Op) :
    let s := final side ops
    let p := (runMon Peer.init (trace side ops)).1
    s.closed = true ∨ ((s.sendQuota : Int) ≤ p.conn ∧ p.iws = s.oiws ∧ ∀ id ∈ s.keys, p.win id = some (s.quota id)) := by
  have := (runFrom_led (led_init side) ops).2
  rcases this with h | h
  · exact Or.inl h
  · exact Or.inr ⟨h.conn, h.iws, h.win⟩

/-- The peer-granted connection window never goes negative. -/
theorem conn_window_never_negative (side : Side) (ops : List Op) :
    0 ≤ (runMon Peer.init (trace side ops)).1.conn :=
  runMon_conn_nonneg _ (by decide)

/-- Every DATA frame the writer emits, at any point of any history, fits the peer's connection window and its stream's window
as they stand just before the frame (or is empty). `pa` is the ledger after everything that precedes the frame. -/
theorem data_within_windows (side : Side) (ops : List Op) (pre post : List (Op × List Out)) (op : Op) (a b : List Out)
    (id off size : Nat) (es : Bool) (htr : trace side ops = pre ++ (op, a ++ .data id off size es :: b) :: post) :
    ∃ pa, ((runMon Peer.init pre).1.recv op (a ++ .data id off size es :: b)).sendAll a = (pa, none) ∧
      (size = 0 ∨ ((size : Int) ≤ pa.conn ∧ ∃ w, pa.win id = some w ∧ (size : Int) ≤ w)) := by
  obtain ⟨pa, h1, _, h3⟩ := trace_frame_ok side ops htr
  exact ⟨pa, h1, h3⟩

/-- No DATA frame is larger than 16 KiB. -/
theorem data_frame_le_16384 (side : Side) (ops : List Op) (op : Op) (outs : List Out) (id off size : Nat) (es : Bool)
    (h1 : (op, outs) ∈ trace side ops) (h2 : Out.data id off size es ∈ outs) : size ≤ 16384 :=
  frameOK_of_mem_trace side ops h1 h2

/-- No HEADERS/CONTINUATION fragment exceeds the frame size, whatever the HPACK block length. -/
theorem header_fragment_le_16384 (side : Side) (ops : List Op) (op : Op) (outs : List Out) (id : Nat) (es : Bool)
    (frags : List Nat) (h1 : (op, outs) ∈ trace side ops) (h2 : Out.headers id es frags ∈ outs) :
    ∀ x ∈ frags, x ≤ 16384 :=
  frameOK_of_mem_trace side ops h1 h2

/-- `writeHeader` splits a block of any length into fragments of at most 16384 bytes that add up to the block. -/
theorem header_split_exact (L : Nat) :
    (headerFrags maxFrameLen L).sum = L ∧ ∀ x ∈ headerFrags maxFrameLen L, x ≤ 16384 := by
  refine ⟨headerFrags_sum _ _, ?_⟩
  have := headerFrags_le (m := maxFrameLen) (by decide) L
  rw [maxFrameLen_eq] at this
  exact this

/-! ### non-vacuity: the predicate is falsifiable and the model does write data -/

/-- a frame one byte over the stream window is rejected -/
example : C01.holds [(.register 1, []), (.settings [(4, 10)] [], [.settingsAck]), (.tick 0, [.data 1 0 11 false])] = false := by
  decide
/-- a frame one byte over the connection window is rejected -/
example : C01.holds [(.register 1, []), (.register 3, []), (.winUpdate 1 100000, []), (.winUpdate 3 100000, []),
    (.tick 0, [.data 1 0 16384 false]), (.tick 0, [.data 1 16384 16384 false]), (.tick 0, [.data 1 32768 16384 false]),
    (.tick 0, [.data 3 0 16383 false]), (.tick 0, [.data 3 16383 1 false])] = false := by
  decide
/-- lowering the initial window below what is in flight makes the stream window negative: only empty frames may follow -/
example : C01.holds [(.register 1, []), (.tick 0, [.data 1 0 100 false]), (.settings [(4, 50)] [], [.settingsAck]),
    (.tick 0, [.data 1 100 0 true])] = true := by decide
example : C01.holds [(.register 1, []), (.tick 0, [.data 1 0 100 false]), (.settings [(4, 50)] [], [.settingsAck]),
    (.tick 0, [.data 1 100 1 false])] = false := by decide
example : C01.holds [(.tick 0, [.data 1 0 16385 false])] = false := by decide
example : C01.holds [(.register 1, []), (.serverHeaders 1 false 16385 false 0, [.headers 1 false [16385]])] = false := by decide
/-- the model really emits DATA, clamped by the stream window (10), then waits -/
example : (trace .server [.register 1, .settings [(4, 10)] [], .data 1 5 100 false, .tick 0, .tick 0]).map (·.2) =
    [[], [.settingsAck], [], [.cb .onEachWrite 1, .data 1 0 10 false], []] := by decide

end GrpcProofs.C01
