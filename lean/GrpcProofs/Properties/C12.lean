import GrpcProofs.Lemmas.ServerAdmission
import GrpcProofs.Lemmas.Timeout
/-!
C12 — A misbehaving client cannot reach a handler illegally, and active streams never exceed
MaxConcurrentStreams.

Statements are about `GrpcModel.ServerAdmission`: `serve` = x/net/http2's header validation followed
by `http2Server.operateHeaders` (checks in source order); `step` = the connection as a state machine
over HEADERS (arbitrary header lists, ids, flags), client RST_STREAM / DATA, handler completion and
time. They hold for EVERY server state, header list and op sequence.

Readings (see LEVEL_NOTE of props/C12.py): an id is illegal if it is even or not above the highest id
operateHeaders accepted; the content-type clause proved here is "some content-type field is a gRPC
content type" — the strict clause "every content-type field is valid" is FALSE for the unchanged code
(counterexample below, known finding F20, reproduced on the real server by the correspondence run).
"Never panics" is observed on the real server, not proved.
-/
namespace GrpcProofs.C12
open GrpcModel.ServerAdmission GrpcModel.Generated GrpcProofs.ServerAdmission

/-- **handle ⇒ legal.** If the transport hands a request to the server's handler machinery then: the
id is odd and above every id accepted before; the header block arrived complete (not truncated) and is
exactly what the client sent; exactly one `:method`, and it is POST; a gRPC content-type is present;
every grpc-timeout is well-formed; at most one `:authority` and at most one `host`; every non-reserved
`-bin` header is valid base64; no `connection` header; the transport is reachable; and strictly fewer
than MaxConcurrentStreams streams were active. -/
theorem handle_implies_legal (s : SrvState) (r : Req) (to : Option Nat) (h : serve s r = .handle to) :
    r.id % 2 = 1 ∧ r.id > s.maxStreamID ∧ framer s.maxHL r.raw = .ok r.raw false ∧ HeaderLegal r.raw ∧
    s.reachable = true ∧ s.active.length < s.maxStreams := by
  obtain ⟨hfr, hp⟩ := serve_handle h
  refine ⟨hp.odd, hp.fresh, hfr, ?_, hp.reachable, hp.belowLimit⟩
  generalize r.raw = fields at *
  have hnoerr : ∀ f ∈ fields, setsHeaderError f = false := by
    simpa [parse_headerError] using hp.noHeaderError
  exact {
    method := parse_method_unique hp.post (framer_pseudo_unique hfr _ admission_names.method_pseudo)
    contentType := by
      obtain ⟨f, hf, hs⟩ := List.any_eq_true.mp (parse_isGRPC fields ▸ hp.isGRPC)
      exact ⟨f, hf, of_setsGRPC hs⟩
    timeout := fun f hf hn => by simpa [setsHeaderError_timeout hn] using hnoerr f hf
    authority := ⟨framer_pseudo_unique hfr _ admission_names.authority_pseudo, parse_nHost fields ▸ hp.nHost⟩
    binary := fun f hf hsuf hres => by simpa [setsHeaderError_bin hsuf hres] using hnoerr f hf
    noConnection := fun f hf hn =>
      List.any_eq_false.mp (parse_protocolError fields ▸ hp.noProtocolError) f hf (setsProtocolError_connection hn) }

/-- **handle ⇒ every grpc-timeout is in the wire grammar** `1*8DIGIT ( H / M / S / m / u / n )`: the
admission model judges a timeout with the SAME `decodeBytes` the C07 model is about, whose accepted
language `GrpcProofs.Lemmas.Timeout.decode_accepts_iff` characterises exactly — no sign, no space,
no more than eight digits. -/
theorem handle_implies_timeout_grammar (s : SrvState) (r : Req) (to : Option Nat) (h : serve s r = .handle to) :
    ∀ f ∈ r.raw, f.name = str "grpc-timeout" → GrpcModel.Timeout.wellFormed f.value = true := by
  intro f hf hn
  obtain ⟨_, _, _, hl, _⟩ := handle_implies_legal s r to h
  have := hl.timeout f hf hn
  rw [GrpcProofs.Lemmas.Timeout.decode_accepts_iff] at this
  exact this

/-- the request of the counterexample: a valid request plus a second, invalid content-type -/
def mixedContentType : Req :=
  { id := 1, endStream := false,
    raw := [⟨str ":method", str "POST"⟩, ⟨str ":scheme", str "http"⟩, ⟨str ":path", str "/s/m"⟩,
            ⟨str ":authority", str "a"⟩, ⟨str "content-type", str "application/grpc"⟩,
            ⟨str "te", str "trailers"⟩, ⟨str "content-type", str "text/html"⟩] }

def validReq (id : Nat) : Req :=
  { id := id, endStream := false,
    raw := [⟨str ":method", str "POST"⟩, ⟨str ":scheme", str "http"⟩, ⟨str ":path", str "/s/m"⟩,
            ⟨str ":authority", str "a"⟩, ⟨str "content-type", str "application/grpc"⟩, ⟨str "te", str "trailers"⟩] }

theorem validReq_and_mixedContentType_handled :
    serve (initState 1 16777216) (validReq 1) = .handle none ∧
    serve (initState 1 16777216) mixedContentType = .handle none := by
  decide

/-- **Counterexample to the strict content-type clause** (known finding F20): a request carrying
`content-type: application/grpc` AND `content-type: text/html` is handed to the handler. -/
theorem handle_implies_all_content_types_valid_counterexample :
    ¬ (∀ (s : SrvState) (r : Req) (to : Option Nat), serve s r = .handle to →
        ∀ f ∈ r.raw, f.name = str "content-type" → validContentType f.value = true) := by
  intro h
  have := h (initState 1 16777216) mixedContentType none validReq_and_mixedContentType_handled.2
    ⟨str "content-type", str "text/html"⟩ (List.mem_of_getLast? rfl) rfl
  exact absurd this (by decide)

theorem illegal_id_never_handled (s : SrvState) (r : Req) (hid : r.id % 2 ≠ 1 ∨ r.id ≤ s.maxStreamID) :
    ∀ to, serve s r ≠ .handle to := by
  intro to h
  have hp := (serve_handle h).2
  rcases hid with h | h
  · exact h hp.odd
  · exact Nat.not_le_of_gt hp.fresh h

/-- a header block the framer rejects never reaches operateHeaders: RST_STREAM(PROTOCOL_ERROR) -/
theorem framer_reject_never_handled (s : SrvState) (r : Req) (hid : r.id ≠ 0) (h : framer s.maxHL r.raw = .streamErr) :
    serve s r = .rst 1 := by
  rw [serve_of_ne_zero hid, h]

/-- **Excess streams get RST_STREAM(REFUSED_STREAM).** A request that passes every earlier check of
operateHeaders while MaxConcurrentStreams streams are active is refused with code 7, whatever its
`:method`, path or timeout. -/
theorem excess_gets_refused_stream (s : SrvState) (r : Req) (fields : List Field)
    (hid0 : r.id ≠ 0) (hfr : framer s.maxHL r.raw = .ok fields false)
    (hodd : r.id % 2 = 1) (hgt : r.id > s.maxStreamID)
    (hauth : (parse fields).nAuthority ≤ 1 ∧ (parse fields).nHost ≤ 1)
    (hproto : (parse fields).protocolError = false) (hgrpc : (parse fields).isGRPC = true)
    (herr : (parse fields).headerError = false) (hreach : s.reachable = true)
    (hfull : s.active.length ≥ s.maxStreams) :
    serve s r = .rst 7 := by
  rw [serve_of_ne_zero hid0, hfr]
  have hp : ReachesLimit s r.id fields false :=
    { complete := rfl, odd := hodd, fresh := hgt, nAuthority := hauth.1, nHost := hauth.2,
      noProtocolError := hproto, isGRPC := hgrpc, noHeaderError := herr, reachable := hreach }
  exact hp.refused hfull

@[simp] theorem removeActive_maxStreams (s : SrvState) (id : Nat) : (removeActive s id).maxStreams = s.maxStreams := rfl
@[simp] theorem updActive_maxStreams (s : SrvState) (id : Nat) (f : Active → Active) :
    (updActive s id f).maxStreams = s.maxStreams := rfl

/-- **A handler runs only for a registered /service/method**, and only for a request the transport decided to handle. -/
theorem handler_runs_only_for_registered_method (reg : List (Bytes × Bytes)) (s : SrvState) (op : Op) (id : Nat)
    (h : Out.handlerStarted id ∈ (step reg s op).2) :
    ∃ r to, op = .headers r ∧ r.id = id ∧ serve s r = .handle to ∧
      ∃ sm pos, pathOf s r = 47 :: sm ∧ lastSlash sm = some pos ∧ (sm.take pos, sm.drop (pos + 1)) ∈ reg := by
  rcases step_quiet reg s op with ⟨r, rfl⟩ | q
  · rcases stepHeaders_cases reg s r with q | ⟨to, a, hs, hd, e⟩
    · exact absurd h (q.out id)
    · rw [step, e] at h
      exact ⟨r, to, rfl, ((Out.handlerStarted.injEq ..).mp (List.mem_singleton.mp h)).symm, hs, dispatch_known hd⟩
  · exact absurd h (q.out id)

/-- **active ≤ MaxConcurrentStreams over all frame sequences**, for every configured limit
(0 = unlimited = 2^32−1), every MaxHeaderListSize and every set of registered methods. -/
theorem active_le_maxStreams (reg : List (Bytes × Bytes)) (mcs mhl : Nat) (ops : List Op) :
    (run reg (initState mcs mhl) ops).active.length ≤ (if mcs = 0 then 4294967295 else mcs) := by
  simpa [initState] using (run_advances reg (initState mcs mhl) ops).bound (by simp [initState])

/-- `t.maxStreamID = streamID` happens as soon as the id check is passed — before any of the later
rejections (duplicate host, connection header, content-type, header error, draining, REFUSED_STREAM,
:method, expired deadline): the id of a request that is turned down is used up all the same. -/
theorem accepted_id_recorded (reg : List (Bytes × Bytes)) (s : SrvState) (r : Req)
    (h : passesIdCheck s r = true) : (step reg s (.headers r)).1.maxStreamID = r.id := by
  have hm : (stepHeaders reg s r).1.maxStreamID = (bumpId s r).maxStreamID := by
    rcases stepHeaders_cases reg s r with q | ⟨_, _, _, _, e⟩
    · exact q.maxStreamID
    · rw [e]
  rw [step, hm, bumpId_maxStreamID, if_pos h]

/-- the highest accepted id never decreases, and a handled request raises it to its own id: ids that
reach a handler are strictly increasing -/
theorem maxStreamID_monotone (reg : List (Bytes × Bytes)) (s : SrvState) (op : Op) :
    s.maxStreamID ≤ (step reg s op).1.maxStreamID ∧
    ∀ id, Out.handlerStarted id ∈ (step reg s op).2 → s.maxStreamID < id ∧ (step reg s op).1.maxStreamID = id := by
  refine ⟨(step_advances reg s op).id_le, fun id hid => ?_⟩
  obtain ⟨r, to, rfl, rfl, hs, _⟩ := handler_runs_only_for_registered_method reg s op id hid
  have hpass := passesIdCheck_of_handle hs
  exact ⟨lt_of_passesIdCheck hpass, accepted_id_recorded reg s r hpass⟩

/-- **A used id is never handled later.** Once a HEADERS frame with a legal id `k` has been received —
whether it was handled, refused with REFUSED_STREAM or answered with an early abort — no request
with an id ≤ k is handed to a handler, after any further sequence of frames. -/
theorem used_id_never_handled_later (reg : List (Bytes × Bytes)) (s : SrvState) (r : Req) (ops : List Op)
    (h : passesIdCheck s r = true) (r' : Req) (hle : r'.id ≤ r.id) :
    ∀ to, serve (run reg (step reg s (.headers r)).1 ops) r' ≠ .handle to := by
  apply illegal_id_never_handled
  right
  have h1 := accepted_id_recorded reg s r h
  have h2 := (run_advances reg (step reg s (.headers r)).1 ops).id_le
  omega

example : serve (initState 1 16777216) (validReq 1) = .handle none := validReq_and_mixedContentType_handled.1

/-- the second request at limit 1 is refused with REFUSED_STREAM; an even id is a connection error;
GET is answered 405; a bad `-bin` value 400 -/
example :
    let reg := [(str "s", str "m")]
    let s1 := (step reg (initState 1 16777216) (.headers (validReq 1))).1
    s1.active.length = 1 ∧ serve s1 (validReq 3) = .rst 7 ∧ serve s1 (validReq 4) = .connError ∧
    serve (initState 2 16777216) { validReq 1 with raw := ⟨str ":method", str "GET"⟩ :: (validReq 1).raw.tail } = .earlyAbort 405 13 ∧
    serve (initState 2 16777216) { validReq 1 with raw := (validReq 1).raw ++ [⟨str "a-bin", str "!!!"⟩] } = .earlyAbort 400 13 := by
  decide

end GrpcProofs.C12
