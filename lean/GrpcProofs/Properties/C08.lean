/-
C08  grpc-message percent-encoding is a lossless printable-ASCII round trip.

Model: lean/GrpcModel/Model/GrpcMessage.lean (encodeGrpcMessage[Unchecked], decodeGrpcMessage[Unchecked])
over lean/GrpcModel/Prim/Utf8.lean (Go's utf8.DecodeRuneInString, string(rune), ValidString,
string([]rune(s))).  `WellFormed` is the Unicode Standard's Table 3-7, independent of the decoder.
-/
import GrpcProofs.Lemmas.GrpcMessage
import GrpcProofs.Lemmas.Utf8Valid
namespace GrpcProofs.C08
open GrpcModel.GrpcMessage GrpcModel.Utf8 GrpcModel.Generated

/-- Every byte of the encoded grpc-message value — fast path or slow path, for EVERY message
    byte string — is printable ASCII (0x20 … 0x7E). -/
theorem encode_printable (m : List UInt8) :
    (∀ b ∈ encode m, 0x20 ≤ b.toNat ∧ b.toNat ≤ 0x7E) ∧ (∀ b ∈ encodeUnchecked m, 0x20 ≤ b.toNat ∧ b.toNat ≤ 0x7E) := by
  have h := Lemmas.GrpcMessage.encLoop_printable m.length m
  have h2 : ∀ b ∈ encodeUnchecked m, 0x20 ≤ b.toNat ∧ b.toNat ≤ 0x7E := by
    intro b hb
    have := List.all_eq_true.mp h b hb
    simpa [printable] using this
  exact ⟨by rw [Lemmas.GrpcMessage.encode_eq_unchecked]; exact h2, h2⟩

/-- For every message, decoding the encoded value yields Go's `string([]rune(m))`: the message with
    each invalid byte replaced by U+FFFD (see `sanitize_spec`). -/
theorem roundtrip_any (m : List UInt8) : decode (encode m) = sanitize m :=
  Lemmas.GrpcMessage.decode_encode m

/-- "invalid sequences become U+FFFD and nothing else changes", precisely: at each position, a byte
    the decoder reports as (RuneError, 1) is replaced by EF BF BD and one byte is skipped; otherwise the
    `size` bytes of the scalar are copied unchanged. -/
theorem sanitize_spec (m : List UInt8) :
    sanitize [] = [] ∧
    (m ≠ [] → sanitize m =
      if isInvalid (decodeRune m) then replacement ++ sanitize (m.drop 1)
      else m.take (decodeRune m).2 ++ sanitize (m.drop (decodeRune m).2)) :=
  ⟨rfl, Lemmas.Utf8.sanitize_unfold m⟩

/-- The round trip is the identity exactly on well-formed UTF-8, and its result always is well-formed. -/
theorem sanitize_valid_iff (m : List UInt8) :
    (decode (encode m) = m ↔ WellFormed m) ∧ WellFormed (decode (encode m)) := by
  rw [roundtrip_any]
  refine ⟨⟨fun h => h ▸ Lemmas.Utf8.wellFormed_sanitize m,
    fun h => Lemmas.Utf8.valid_sanitize m ((Lemmas.Utf8.valid_iff_wellFormed m).mpr h)⟩,
    Lemmas.Utf8.wellFormed_sanitize m⟩

/-- Every well-formed (Unicode Table 3-7) UTF-8 message decodes back to itself. -/
theorem roundtrip_valid (m : List UInt8) (h : WellFormed m) : decode (encode m) = m :=
  (sanitize_valid_iff m).1.2 h

/-- Go's `utf8.ValidString` (as modelled and diffed) accepts exactly Table 3-7. -/
theorem valid_iff_wellFormed (m : List UInt8) : valid m = true ↔ WellFormed m :=
  Lemmas.Utf8.valid_iff_wellFormed m

/-- Decoding an arbitrary header value never panics: the index-for-index model, in which `msg[i]` and
    `msg[i+1:i+3]` out of range are represented as `none`, always returns a value — the one computed
    by the total `decode`. -/
theorem decode_never_panics (h : List UInt8) :
    decodeP h = some (decode h) ∧ decodeUncheckedP h = some (decLoop h) :=
  ⟨Lemmas.GrpcMessage.decodeP_eq h, Lemmas.GrpcMessage.decodeUncheckedP_eq h⟩

/-- The fast path of `encodeGrpcMessage` agrees with the slow path. -/
theorem encode_eq_unchecked (m : List UInt8) : encode m = encodeUnchecked m :=
  Lemmas.GrpcMessage.encode_eq_unchecked m

/-- The fast path of `decodeGrpcMessage` agrees with the slow path. -/
theorem decode_eq_unchecked (h : List UInt8) : decodeP h = decodeUncheckedP h := by
  rw [Lemmas.GrpcMessage.decodeP_eq, Lemmas.GrpcMessage.decodeUncheckedP_eq, Lemmas.GrpcMessage.decode_eq_decLoop]

/-- A header value without a complete `%XY` position is returned unchanged. -/
theorem decode_plain_id (h : List UInt8) (hn : hasEscape h = false) : decode h = h := by
  rw [Lemmas.GrpcMessage.decode_eq_decLoop]; exact Lemmas.GrpcMessage.decLoop_noEscape h hn

-- "é%" = C3 A9 25  →  "%C3%A9%25"
example : encode [0xC3, 0xA9, 0x25] = [37, 67, 51, 37, 65, 57, 37, 50, 53] := by decide
example : decode [37, 67, 51, 37, 65, 57, 37, 50, 53] = [0xC3, 0xA9, 0x25] := by decide
-- a lone continuation byte and a truncated 3-byte rune both become U+FFFD
example : sanitize [0x61, 0x80, 0xE2, 0x82] = [0x61, 0xEF, 0xBF, 0xBD, 0xEF, 0xBF, 0xBD, 0xEF, 0xBF, 0xBD] := by decide
example : valid [0xE2, 0x82, 0xAC] = true ∧ valid [0xED, 0xA0, 0x80] = false ∧ valid [0xC0, 0x80] = false := by decide
-- '%' handling at the end of the string: "a%4" and "%" stay, "%41" decodes, "%4G" stays
example : decode [0x61, 37, 0x34] = [0x61, 37, 0x34] ∧ decode [37] = [37] ∧ decode [37, 0x34, 0x31] = [0x41]
    ∧ decode [37, 0x34, 0x47] = [37, 0x34, 0x47] := by decide
example : WellFormed [0xE2, 0x82, 0xAC] :=
  WellFormed.cons _ [] (Scalar.rE1_EC _ _ _ (by decide) (by decide) (by decide)) WellFormed.nil

end GrpcProofs.C08
