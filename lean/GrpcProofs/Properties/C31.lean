/-
C31  Serialized callbacks run in FIFO order exactly once; the unbounded queue beneath delivers every
value exactly once in order and signals end-of-stream only after all values were consumed; PubSub
delivers each subscriber the published values in publish order starting with the latest value at
subscription, and nothing after unsubscription.

Models: GrpcModel/Model/{Unbounded,Serializer,PubSub}.lean.

"All interleavings" = all lists of atomic actions of the models (`List Op`, `List Act`): every
theorem below is for an arbitrary list, i.e. unbounded and for every schedule.
-/
import GrpcProofs.Lemmas.PubSub
namespace GrpcProofs.C31
open GrpcModel

section unbounded
open GrpcModel.Unbounded
variable {α : Type}

/-- FIFO refinement, every history: the values received so far followed by what is still buffered
    (channel slot ++ backlog) are exactly the accepted Puts in order — each value is delivered
    at most once, in order, none is lost or invented. -/
theorem unbounded_fifo (ops : List (Op α)) :
    received (run init ops).2 ++ abs (run init ops).1 = accepted (run init ops).2 := by
  simpa [abs, init] using Lemmas.Unbounded.fifo ops (init : St α) Lemmas.Unbounded.inv_init

/-- End-of-stream is signalled only after every accepted value has been received. -/
theorem unbounded_eos_only_after_all_consumed (ops : List (Op α))
    (h : (step (run init ops).1 .recv).2 = .eos) :
    received (run init ops).2 = accepted (run init ops).2 ∧ (run init ops).1.closing = true := by
  have hinv := Lemmas.Unbounded.run_inv ops (init : St α) Lemmas.Unbounded.inv_init
  have hf := unbounded_fifo ops
  generalize (run init ops).1 = s at *
  simp only [Lemmas.Unbounded.step_eq _ _ hinv] at h
  cases hc : s.chan <;> cases hcl : s.chanClosed <;> simp [hc, hcl] at h
  obtain ⟨h3, h4⟩ := hinv.of_chanClosed hcl
  exact ⟨by simpa [abs, hc, h4] using hf, h3⟩

/-- After `Close`, every `Put` — whatever happens in between — is rejected and changes nothing. -/
theorem unbounded_put_after_close_rejected (ops1 ops2 : List (Op α)) (v : α) :
    step (run init (ops1 ++ .close :: ops2)).1 (.put v) =
      ((run init (ops1 ++ .close :: ops2)).1, .rejected) := by
  have hi := Lemmas.Unbounded.run_inv ops1 (init : St α) Lemmas.Unbounded.inv_init
  apply Lemmas.Unbounded.put_closing
  rw [Lemmas.Unbounded.run_append]
  simp only [run]
  exact Lemmas.Unbounded.run_closing _ _ (Lemmas.Unbounded.step_inv _ _ hi)
    (Lemmas.Unbounded.step_closing _ .close hi)

/-- The code never sends on or closes a closed channel (no runtime panic), in any history. -/
theorem unbounded_no_panic (ops : List (Op α)) (s : St α) (h : Lemmas.Unbounded.Inv s) :
    ∀ p ∈ (run s ops).2, p.2 ≠ .panic := by
  induction ops generalizing s with
  | nil => simp [run]
  | cons o os ih =>
    exact List.forall_mem_cons.mpr
      ⟨Lemmas.Unbounded.step_no_panic s o h, ih _ (Lemmas.Unbounded.step_inv s o h)⟩

/-- The executable monitor used on the implementation (`Unbounded.Mon.step`: put-after-close
    rejected, put-before-close accepted, FIFO exactly once, end-of-stream only after everything was
    consumed and Close was called, and — for a consumer that calls `Load` after every successful
    read — no accepted value is ever stuck behind an empty channel and end-of-stream is not
    withheld; this covers the close-while-draining window in `Load`) never reports a violation on
    the model, for every op sequence. -/
theorem unbounded_monitor_ok [DecidableEq α] (ops : List (Op α)) :
    ∀ v ∈ verdicts (init : St α) Mon.init ops, ∀ c, v ≠ .viol c :=
  Lemmas.Unbounded.verdicts_ok ops init Mon.init Lemmas.Unbounded.coupled_init

end unbounded

section serializer
open GrpcModel.Serializer
variable {α : Type}

/-- Exactly once, in submission order, in every interleaving: the callbacks started so far followed
    by those accepted and not yet started (in queue order) are exactly the accepted submissions in
    order. -/
theorem serializer_runs_each_once_in_order (as : List (Act α)) :
    startedOf (run init as).2 ++ pending (run init as).1 = acceptedOf (run init as).2 := by
  simpa [pending, inflight, init, Unbounded.abs, Unbounded.init] using
    (Lemmas.Serializer.fifo as (init : St α) Lemmas.Serializer.sinv_init).1

/-- When shutdown is reported complete (`done` closed), the context was cancelled, every accepted
    callback has been started — in order — and every started callback has returned. -/
theorem serializer_all_before_shutdown_run_before_done (as : List (Act α))
    (h : (run init as).1.done = true) :
    startedOf (run init as).2 = acceptedOf (run init as).2 ∧
    endedOf (run init as).2 = startedOf (run init as).2 ∧
    (run init as).1.cancelled = true := by
  have hf := serializer_runs_each_once_in_order as
  have he := (Lemmas.Serializer.fifo as (init : St α) Lemmas.Serializer.sinv_init).2
  have hok := Lemmas.Serializer.view_ok (Lemmas.Serializer.run_sinv as (init : St α) Lemmas.Serializer.sinv_init)
  obtain ⟨hfir, hpend, hcur⟩ := hok.of_done h
  simp only [Lemmas.Serializer.view] at hpend hcur
  rw [hpend] at hf
  rw [hcur] at he
  exact ⟨by simpa using hf, by simpa [Lemmas.Serializer.curOf, init] using he, hok.cancelled_of_fired hfir⟩

/-- Work submitted after shutdown never runs and its submitter is told so: once `callbacks.Close`
    has run (in particular once `done` is reported), every submission is rejected (the `onFailure`
    / `ErrSerializerClosed` path) and leaves the serializer's state untouched; and a submission is
    only ever rejected after the context was cancelled. -/
theorem serializer_after_shutdown_never_runs_and_caller_told (as : List (Act α)) (cb : α) :
    let s := (run init as).1
    ((s.fired = true ∨ s.done = true) → step s (.sched cb) = (s, .rejected cb)) ∧
    ((step s (.sched cb)).2 = .rejected cb → s.cancelled = true) ∧
    ((step s (.sched cb)).2 = .accepted cb ∨ (step s (.sched cb)).2 = .rejected cb) := by
  have hinv := Lemmas.Serializer.run_sinv as (init : St α) Lemmas.Serializer.sinv_init
  generalize (run init as).1 = s at *
  simp only [Lemmas.Serializer.step_eq _ _ hinv.buf]
  refine ⟨fun h => ?_, fun h => ?_, ?_⟩
  · have hcl : s.buf.closing = true :=
      h.elim (fun hf => hinv.closing_eq_fired ▸ hf) fun hd => Lemmas.Serializer.closing_of_exited hinv (hinv.done_iff.mp hd)
    rw [Lemmas.Unbounded.put_closing _ _ hcl, hcl]
    rfl
  · split at h
    · rename_i hcl; exact (hinv.of_fired (hinv.closing_eq_fired ▸ hcl)).1
    · cases h
  · split
    · exact .inr rfl
    · exact .inl rfl

/-- No lost callback and no withheld shutdown, in every reachable state of every interleaving: a
    step of the run goroutine makes progress (strictly decreases `work`) unless the goroutine is
    legitimately parked — nothing is pending and `Close` has not run — or has exited. In
    particular it is never parked on an empty channel while a callback sits in the backlog, nor
    while a requested close is still to be carried out (the `Load` close-while-draining window). -/
theorem serializer_never_stuck (as : List (Act α)) :
    let s := (run init as).1
    work (tick s) < work s ∨ (s.pc = .recv ∧ pending s = [] ∧ s.fired = false) ∨ s.done = true :=
  Lemmas.Serializer.tick_progress _ (Lemmas.Serializer.run_sinv as init Lemmas.Serializer.sinv_init)

/-- Once `Close` has run, the run goroutine alone reaches `done` within `work s` steps (callbacks
    returning), whatever state the interleaving left it in. -/
theorem serializer_shutdown_completes (as : List (Act α)) (h : (run init as).1.fired = true) :
    (ticks (work (run init as).1) (run init as).1).done = true :=
  Lemmas.Serializer.terminates _ _ (Lemmas.Serializer.run_sinv as init Lemmas.Serializer.sinv_init) h (Nat.le_refl _)

/-- The executable trace monitor used on the implementation (`Serializer.Mon.step`: one callback
    at a time, started in submission order exactly once, rejected only after cancel, nothing
    accepted after a rejection or after done, done only after cancel when everything accepted has
    run and returned, no panic) never reports a violation on the model, in any interleaving. -/
theorem serializer_monitor_ok [DecidableEq α] (as : List (Act α)) :
    ∀ v ∈ (Mon.run Mon.init (run (init : St α) as).2).2, ∀ c, v ≠ .viol c :=
  (Lemmas.Serializer.run_coupled as init Mon.init Lemmas.Serializer.coupled_init).2

/-- The two quiescence checks of the op-level driver are theorems too: whenever the model's run
    goroutine is parked or has exited, the monitor state coupled to it passes `Mon.quiescent`. -/
theorem serializer_quiescent_ok [DecidableEq α] (as : List (Act α))
    (hq : tick (run (init : St α) as).1 = (run (init : St α) as).1) :
    ∀ c, (Mon.run Mon.init (run (init : St α) as).2).1.quiescent (run (init : St α) as).1.fired ≠ .viol c := by
  have hmc := (Lemmas.Serializer.run_coupled as (init : St α) Mon.init Lemmas.Serializer.coupled_init).1
  generalize (run init as).1 = s at *
  generalize (Mon.run Mon.init (run init as).2).1 = m at *
  have hinv := hmc.inv
  have m1 : m.acc = pending s := hmc.sees.acc
  have m4 : m.doneSeen = s.done := hmc.sees.doneSeen
  have hp := Lemmas.Serializer.tick_progress _ hinv
  rw [hq] at hp
  rcases hp with hp | ⟨h1, h2, h3⟩ | hp
  · omega
  · simp [Mon.quiescent, m1, h2, h3]
  · have hpe : pending s = [] := ((Lemmas.Serializer.view_ok hinv).of_done hp).2.1
    simp [Mon.quiescent, m1, m4, hp, hpe]

end serializer

section pubsub
open GrpcModel.PubSub

/-- Nothing after unsubscription: a message is only ever handed to a subscriber that is subscribed
    at that very moment (the check and `OnMessage` are one atomic step under `ps.mu`), and
    unsubscribing removes the subscriber. No reachability hypothesis is needed. -/
theorem pubsub_nothing_after_unsubscribe (st : St) (a : Act) (s v : Nat)
    (h : (step st a).2 = .delivered s v) : s ∈ st.subs ∧ a = .run := by
  cases a <;> simp only [step] at h
  case run =>
    -- `delivered` comes only from the branch guarded by `st.subs.contains s`
    split at h
    · split at h
      · rename_i hc; cases h; exact ⟨by simpa using hc, rfl⟩
      · cases h
    · cases h
  all_goals (repeat' split at h) <;> cases h

theorem pubsub_unsubscribe_removes (st : St) (s : Nat) : s ∉ (step st (.unsubscribe s)).1.subs := by
  simp [step]

/-- Per subscriber: latest value at subscription first, then every later publish, in publish order,
    each at most once, nothing else — in every interleaving in which each Subscriber value
    subscribes at most once (`Fresh`). Stated through the executable trace monitor
    `PubSub.Mon.step` that is also run on the implementation: it keeps, per subscriber, the list of
    deliveries owed (the message current at Subscribe, then each message published while
    subscribed and before the PubSub was stopped) and accepts a delivery only if the subscriber is
    subscribed now and the delivered value is the first one owed to it. -/
theorem pubsub_subscriber_sees_latest_then_publish_order (as : List Act) (hf : Fresh [] as) :
    ∀ v ∈ (Mon.run Mon.init (run init as).2).2, ∀ c, v ≠ .viol c :=
  (Lemmas.PubSub.run_coupled as init Mon.init ⟨Lemmas.PubSub.pinv_init, rfl⟩ hf).2

/-- … and nothing owed is dropped: whenever the serializer has nothing pending, every delivery the
    monitor considers owed has been made (so with `serializer_never_stuck`, every value published
    before the stop reaches every subscriber that stays subscribed). -/
theorem pubsub_all_owed_delivered_when_idle (as : List Act) (hf : Fresh [] as)
    (hidle : Serializer.pending (run init as).1.ser = []) :
    (Mon.run Mon.init (run init as).2).1.pend = [] := by
  rw [(Lemmas.PubSub.run_coupled as init Mon.init ⟨Lemmas.PubSub.pinv_init, rfl⟩ hf).1.mon]
  simp [Lemmas.PubSub.monOf, Lemmas.PubSub.owed, hidle]

/-- Outside that domain the statement is FALSE of the code as it is: a Subscriber that
    unsubscribes and subscribes again while a callback of its first subscription is still queued
    receives that stale message (published before, and superseded at, its new subscription) before
    the latest one. Witness: subscribe 1; publish 7 (callback queued); unsubscribe 1; publish 8;
    subscribe 1 again; run the queue → subscriber 1 gets 7, then 8. -/
theorem pubsub_resubscribe_counterexample :
    ¬ ∀ as : List Act, ∀ v ∈ (Mon.run Mon.init (run init as).2).2, ∀ c, v ≠ .viol c := by
  intro h
  have := h [.subscribe 1, .publish 7, .unsubscribe 1, .publish 8, .subscribe 1,
             .run, .run, .run, .run] (.viol 2) (by decide) 2
  exact this rfl

end pubsub

section examples
open GrpcModel.Unbounded in
example : ((run (init : St Nat) [.put 1, .put 2, .recv, .load, .close, .recv, .load, .recv]).2.map (·.2))
    = [.ok, .ok, .got 1, .none, .none, .got 2, .none, .eos] := by decide
-- the close-while-draining window: Close with a non-empty backlog, end-of-stream only after the drain
open GrpcModel.Unbounded in
example : ((run (init : St Nat) [.put 1, .put 2, .close, .put 3, .recv, .recv, .load, .recv, .recv, .load, .recv]).2.map (·.2))
    = [.ok, .ok, .none, .rejected, .got 1, .none, .none, .got 2, .none, .none, .eos] := by decide
-- the monitor does reject wrong outputs (it is not vacuous)
open GrpcModel.Unbounded in
example : (Mon.step (Mon.step (Mon.init : Mon Nat) (.put 1) .ok).1 .recv .eos).2 = .viol 4 := by decide
open GrpcModel.Unbounded in
example : (Mon.step (Mon.step (Mon.init : Mon Nat) (.put 1) .ok).1 .recv .none).2 = .viol 5 := by decide
open GrpcModel.Serializer in
example : (run (init : St Nat) [.sched 1, .run, .sched 2, .cancel, .run, .fire, .sched 3, .run, .run, .ret,
      .run, .run, .run, .ret, .run]).2
    = [.accepted 1, .none, .accepted 2, .cancelled, .none, .closed, .rejected 3, .none, .started 1, .ended 1,
       .none, .none, .started 2, .ended 2, .done] := by decide
open GrpcModel.Serializer in
example : (Mon.step (Mon.step (Mon.init : Mon Nat) (.accepted 1)).1 (.started 2)).2 = .viol 5 := by decide
open GrpcModel.PubSub in
example : (run init [.publish 5, .subscribe 1, .subscribe 2, .publish 6, .run, .run, .run, .run, .ret,
      .run, .run, .run, .ret, .run, .run, .run]).2.filter (fun e => match e with | .delivered .. => true | _ => false)
    = [.delivered 1 5, .delivered 2 5, .delivered 1 6] := by decide
open GrpcModel.PubSub in
example : Fresh [] [.subscribe 1, .publish 7, .unsubscribe 1, .subscribe 2] := by simp [Fresh]
end examples

end GrpcProofs.C31
