import GrpcProofs.Lemmas.LoopyC03
/-!
# C03  A stream with data and window credit is always eventually written

Model: `GrpcModel/Model/Loopy.lean`; property predicate: `GrpcModel.Loopy.C03` in `GrpcModel/Model/LoopySpec.lean`
(`stateOk`: no lost wake-up as a state predicate; `tickOk`: progress + rotation of one `processData` call; `orderOk`: every other
control item keeps the order of the active list). "Eventually" is made a bound: `served_within`.

`loopyWriter.run` is a single goroutine that alternates `handle(item)` and `processData()`; a history is any finite sequence of
those two kinds of steps, so no fairness assumption about the Go scheduler is involved. All theorems quantify over the side and over
EVERY history (any order of data arrival, window exhaustion, WINDOW_UPDATEs — including ones that arrive while the stream is not
yet waiting — SETTINGS changes in both directions, stream closes, and any map iteration order in `applySettings`).
-/
namespace GrpcProofs.C03
open GrpcModel.Loopy GrpcModel.Loopy.C03 GrpcProofs.Loopy

/-- **C03 (executable predicate).** In every history every step satisfies the predicate the monitor evaluates on the real
writer: the state after the step is well-formed (`stateOk`, which contains the no-lost-wake-up clause), a `processData` call serves
or parks the head of the active list with exactly `min(16384, stream quota, sendQuota, head item)` bytes and rotates the list, and
any other control item leaves the order of the list alone. -/
theorem c03_holds (side : Side) (ops : List Op) : C03.holds (C03.vrunFrom (init side) ops) = true :=
  vrunFrom_holds (wf_init side) ops

/-- **No lost wake-up.** In every reachable state, an established stream with queued items and positive stream quota
(`oiws − bytesOutStanding > 0`) is on the active list — whatever the order in which the data, the WINDOW_UPDATEs and the SETTINGS
that produced that quota arrived. -/
theorem no_lost_wakeup (side : Side) (ops : List Op) (id : Nat) :
    let s := final side ops
    id ∈ s.keys → (s.str id).items ≠ [] → 0 < s.quota id → id ∈ s.active := by
  exact fun hk hne hq => (wf_reachable side ops).active_of_quota hk hne hq

/-- A stream is `waitingOnStreamQuota` only while it really has no stream quota (and it has data): the peer raising the window by
WINDOW_UPDATE or by SETTINGS_INITIAL_WINDOW_SIZE takes it out of that state in the very step that handles the frame. -/
theorem waiting_only_without_quota (side : Side) (ops : List Op) (id : Nat) :
    let s := final side ops
    id ∈ s.keys → (s.str id).state = .waiting → s.quota id ≤ 0 ∧ (s.str id).items ≠ [] := by
  intro s hk hw
  have h := wf_reachable side ops
  exact ⟨h.waitQuota id hk hw, h.items_ne_nil hk (by rw [hw]; decide)⟩

/-- The active list is exactly the set of established streams in state `active`, without duplicates, and each of them has a data
item at the head of its queue. -/
theorem active_list_exact (side : Side) (ops : List Op) :
    let s := final side ops
    s.active.Nodup ∧ (∀ id, id ∈ s.active ↔ (id ∈ s.keys ∧ (s.str id).state = .active)) ∧
    ∀ id ∈ s.active, ∃ off h d es tl, (s.str id).items = .data off h d es :: tl := by
  intro s
  have h := wf_reachable side ops
  exact ⟨h.actNodup, fun id => ⟨h.actKeys id, fun hh => h.actAll id hh.1 hh.2⟩, fun id hi => h.head_item hi⟩

/-- **Progress.** In a reachable, running state with connection quota, `processData` serves the stream at the head of the active
list: it writes `min(16384, stream quota, sendQuota, head item)` bytes of it (an empty item gives an empty frame), or — only if that
stream has no stream quota — parks it; every other stream is left untouched. -/
theorem head_served (side : Side) (ops : List Op) (hb : Nat) (id : Nat) (rest : List Nat) :
    let s := final side ops
    s.closed = false → s.sendQuota ≠ 0 → s.active = id :: rest →
    ∃ off hl d es tl, (s.str id).items = .data off hl d es :: tl ∧
      (if s.quota id ≤ 0 ∧ ¬ (hl = 0 ∧ d = 0) then (step s (.tick hb)).outs = [] ∧ (step s (.tick hb)).st.active = rest
       else (∃ es' extra, (step s (.tick hb)).outs =
                [.cb .onEachWrite id, .data id off (min (min (min 16384 (s.quota id).toNat) s.sendQuota) (hl + d)) es'] ++ extra ∧
              ∀ o ∈ extra, ¬ isData o) ∧
            ((step s (.tick hb)).st.active = rest ∨ (step s (.tick hb)).st.active = rest ++ [id])) := by
  intro s hc hq hact
  obtain ⟨off, hl, d, es, tl, hs⟩ := step_head (wf_reachable side ops) hc hq hact hb
  refine ⟨off, hl, d, es, tl, hs.items, ?_⟩
  obtain ⟨hp, ho⟩ | ⟨hp, hw⟩ := hs.outcome
  · rw [if_pos hp]; exact ho
  · rw [if_neg hp]; exact hw

/-- **Round robin.** A `processData` call that finds connection quota moves every stream behind the head exactly one place forward
and changes neither its queue nor its quota: nobody is overtaken. -/
theorem round_robin (side : Side) (ops : List Op) (hb : Nat) (hd : Nat) (rest : List Nat) (id : Nat) :
    let s := final side ops
    s.closed = false → s.sendQuota ≠ 0 → s.active = hd :: rest → id ∈ rest →
    id ∈ (step s (.tick hb)).st.active ∧ (step s (.tick hb)).st.active.idxOf id + 1 = s.active.idxOf id ∧
    (step s (.tick hb)).st.str id = s.str id ∧ (step s (.tick hb)).st.quota id = s.quota id := by
  intro s hc hq hact hid
  exact tick_position (wf_reachable side ops) hc hq hact hid hb

/-- **Eventually = within `k + 1` writer iterations.** From any reachable state, the stream at position `k` of the active list is
served by the `(k+1)`-th of any consecutive `processData` calls (`hbs` = their HPACK oracles), as long as the writer is running and
has connection quota at each of them: it gets `min(16384, its stream quota, sendQuota, head item)` bytes. The other streams cannot
starve it: each of them delays it by at most one frame. -/
theorem served_within (side : Side) (ops : List Op) (id : Nat) (k : Nat) (hbs : List Nat) :
    let s := final side ops
    hbs.length = k + 1 → id ∈ s.active → s.active.idxOf id = k →
    (∀ j, j ≤ k → (runFrom s (ticks (hbs.take j))).1.closed = false ∧ (runFrom s (ticks (hbs.take j))).1.sendQuota ≠ 0) →
    ∃ off hl d es tl, (s.str id).items = .data off hl d es :: tl ∧
      let sk := (runFrom s (ticks (hbs.take k))).1
      let r := step sk (.tick (hbs.getD k 0))
      if s.quota id ≤ 0 ∧ ¬ (hl = 0 ∧ d = 0) then r.outs = []
      else ∃ es' extra, r.outs = [.cb .onEachWrite id, .data id off (min (min (min 16384 (s.quota id).toNat) sk.sendQuota) (hl + d)) es'] ++ extra ∧
        ∀ o ∈ extra, ¬ isData o := by
  intro s hlen hmem hk hlive
  exact GrpcProofs.Loopy.served_within (wf_reachable side ops) id k hbs hlen hmem hk hlive

/-- **Idle means nothing can be sent.** `run()` stops calling `processData` (and blocks for the next control item) only when
`processData` reports isEmpty, and it reports that only when `sendQuota = 0` or the active list is empty — by `no_lost_wakeup` the
latter means that no established stream has both queued data and stream quota. (The T2 component `s_loopyrun` checks this idle
condition on the real `run()` goroutine.) -/
theorem idle_means_nothing_sendable (s : St) (hb : Nat) (r : Res) (hr : r = processData s hb) (hidle : r.ret = .tick true) :
    s.sendQuota = 0 ∨ s.active = [] := by
  subst hr
  exact does_tick_idle (handleItem_does s (.tick hb)) hidle

/-- a lost wake-up is rejected: stream 1 has data and stream quota 5 but is not on the active list -/
example : C03.stateOk ⟨false, 100, [], [⟨1, .waiting, 5, 1, true, 10⟩]⟩ = false := by decide
/-- starving the head is rejected: processData served stream 3 although stream 1 was at the head -/
example : C03.tickOk
    ⟨false, 100, [1, 3], [⟨1, .active, 50, 1, true, 10⟩, ⟨3, .active, 50, 1, true, 10⟩]⟩
    ⟨false, 90, [1], [⟨1, .active, 50, 1, true, 10⟩, ⟨3, .empty, 40, 0, false, 0⟩]⟩
    [.data 3 0 10 false] = false := by decide
/-- the model: two starved streams, the window update for stream 3 arrives BEFORE stream 3 has started waiting; both get served in order -/
example : ((C03.vrunFrom (init .server) [.register 1, .register 3, .settings [(4, 4)] [], .data 1 5 5 false, .data 3 5 5 false,
      .tick 0, .winUpdate 3 100, .tick 0, .tick 0, .winUpdate 1 100, .tick 0]).map fun x => (dataFor 1 x.2.2.1, dataFor 3 x.2.2.1, x.2.2.2.active)) =
    [([], [], []), ([], [], []), ([], [], []), ([], [], [1]), ([], [], [1, 3]),
     ([4], [], [3]), ([], [], [3]), ([], [10], []), ([], [], []), ([], [], [1]), ([6], [], [])] := by
  decide

end GrpcProofs.C03
