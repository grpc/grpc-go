/-
C16  Control-frame throttling never deadlocks and close releases everything.

"The connection reader is blocked by control-frame throttling only while at least the configured
number of peer-triggered control frames are queued, and it is released as soon as the queue drops
below that number or the connection closes. After the control buffer is closed no item is accepted,
and every queued stream-creation request is failed exactly once."

Model: GrpcModel/Model/ControlBuf.lean (atomic steps of executeAndPut / get / throttle's load and
wait / finish / done).  Every theorem is for an
arbitrary op list = every interleaving of any number of producers, the writer, any number of
reader goroutines (each split into its two atomic halves) and close, and for every limit ≥ 1.
-/
import GrpcProofs.Lemmas.ControlBuf
namespace GrpcProofs.C16
open GrpcModel.ControlBuf

private theorem reach (limit : Nat) (hl : 1 ≤ limit) (ops : List Op) :
    Lemmas.ControlBuf.Inv (run (init limit) ops).1 :=
  Lemmas.ControlBuf.run_inv ops _ (Lemmas.ControlBuf.inv_init limit hl)

/-- While the buffer is open the throttling channel exists iff at least `limit` throttled items are
    queued (and `transportResponseFrames` is exactly that number); once closed it is nil. -/
theorem chan_set_iff_trf_ge_limit (limit : Nat) (hl : 1 ≤ limit) (ops : List Op) :
    let s := (run (init limit) ops).1
    (s.closed = false → (s.chan.isSome = true ↔ limit ≤ throttledCount s.list) ∧ s.trf = throttledCount s.list) ∧
    (s.closed = true → s.chan = none) := by
  have h := reach limit hl ops
  intro s
  refine ⟨fun hc => ⟨?_, h.trfEq hc⟩, fun hc => (h.closedClean hc).1⟩
  have := h.chanIff hc
  rw [h.trfEq hc, Lemmas.ControlBuf.run_limit] at this
  exact this

/-- A reader is blocked inside `throttle()` only while the buffer is open, `done` is open and at
    least `limit` throttled items are queued — whatever generation of the channel it loaded and
    however its load and its wait interleave with puts, gets and close. -/
theorem reader_blocked_only_if_ge_limit (limit : Nat) (hl : 1 ≤ limit) (ops : List Op) (r : Nat)
    (hb : readerBlocked (run (init limit) ops).1 r = true) :
    (run (init limit) ops).1.closed = false ∧ (run (init limit) ops).1.done = false ∧
    (run (init limit) ops).1.limit ≤ throttledCount (run (init limit) ops).1.list := by
  exact Lemmas.ControlBuf.blocked_open_full _ (reach limit hl ops) r hb

/-- No lost wake-up, every interleaving: as soon as fewer than `limit` throttled items are queued,
    or the buffer has been closed, or `done` is closed, NO reader is blocked: each reader's wait
    (`thr2`) passes — including readers that loaded the channel pointer before it was closed and
    replaced. -/
theorem released_when_below_or_closed (limit : Nat) (hl : 1 ≤ limit) (ops : List Op) (r : Nat)
    (h : throttledCount (run (init limit) ops).1.list < (run (init limit) ops).1.limit ∨
         (run (init limit) ops).1.closed = true ∨ (run (init limit) ops).1.done = true) :
    readerBlocked (run (init limit) ops).1 r = false ∧
    ((run (init limit) ops).1.readers.lookup r ≠ none → (step (run (init limit) ops).1 (.thr2 r)).2 = .pass) := by
  have hr := Lemmas.ControlBuf.released _ (reach limit hl ops) h r
  exact ⟨hr, (Lemmas.ControlBuf.step_move _ _).passes hr⟩

/-- After `finish`, whatever happens in between, every put is rejected and changes nothing. -/
theorem put_after_close_rejected (limit : Nat) (ops : List Op) (it : Item)
    (hc : (run (init limit) ops).1.closed = true) :
    step (run (init limit) ops).1 (.put it) = ((run (init limit) ops).1, .putErr) := by
  simp [step, hc]

theorem closed_is_permanent (s : St) (o : Op) (hc : s.closed = true) : (step s o).1.closed = true := by
  have hm := Lemmas.ControlBuf.step_move s o
  generalize step s o = r at hm
  cases hm with
  | put h | putThr h | putFull h | park _ h | got _ h | gotThr _ h | gotFull _ h | fin h | finChan h =>
    exact absurd hc (Bool.eq_false_iff.mp h)
  | _ => exact hc

/-- `finish` sets `closed` (it never stops short on a panic). -/
theorem finish_closes (limit : Nat) (hl : 1 ≤ limit) (ops : List Op) :
    (step (run (init limit) ops).1 .finish).1.closed = true :=
  (Lemmas.ControlBuf.step_move _ _).closes (reach limit hl ops).not_stuck

/-- Every queued item is accounted for exactly once: what the writer took (`deliveredOf`) followed
    by what is still queued is exactly what was accepted, in order; at `finish` the queue is
    dropped as a whole and the clientHeaders among the dropped items — those and no others — are
    orphaned, each exactly once (list equality, so multiplicities are exact); after that nothing is
    queued, taken or orphaned any more. -/
theorem each_queued_clientHeaders_orphaned_exactly_once (limit : Nat) (ops : List Op) :
    let s := (run (init limit) ops).1
    let tr := (run (init limit) ops).2
    (s.closed = false → deliveredOf tr ++ s.list = acceptedOf tr ∧ orphanedOf tr = []) ∧
    (s.closed = true → ∃ dropped, deliveredOf tr ++ dropped = acceptedOf tr ∧
        orphanedOf tr = (dropped.filter (·.hdr)).map (·.id) ∧ s.list = []) := by
  have h := Lemmas.ControlBuf.run_ledger ops (init limit) [] [] []
    (by simp [Lemmas.ControlBuf.Ledger, init])
  simpa [Lemmas.ControlBuf.Ledger, Lemmas.ControlBuf.hdrIds] using h

/-- Consequence, in the form "no stream-creation request is accepted and then forgotten": once the
    buffer is closed, every accepted clientHeaders item was either handed to the writer or orphaned —
    whatever the interleaving of puts, gets and finish. (A put that is concurrent with finish is
    ordered by `c.mu` either before it — accepted, then orphaned — or after it — rejected.) -/
theorem accepted_clientHeaders_delivered_or_orphaned (limit : Nat) (ops : List Op) (it : Item)
    (hc : (run (init limit) ops).1.closed = true) (ha : it ∈ acceptedOf (run (init limit) ops).2)
    (hh : it.hdr = true) :
    it ∈ deliveredOf (run (init limit) ops).2 ∨ it.id ∈ orphanedOf (run (init limit) ops).2 := by
  obtain ⟨dropped, h1, h2, _⟩ := (each_queued_clientHeaders_orphaned_exactly_once limit ops).2 hc
  rw [← h1] at ha
  rcases List.mem_append.mp ha with hd | hd
  · exact Or.inl hd
  · refine Or.inr ?_
    rw [h2]
    exact List.mem_map.mpr ⟨it, List.mem_filter.mpr ⟨hd, by simpa using hh⟩, rfl⟩

/-- The code never dereferences a nil throttling channel and never closes one twice. -/
theorem no_panic (limit : Nat) (hl : 1 ≤ limit) (ops : List Op) (o : Op) :
    (step (run (init limit) ops).1 o).2 ≠ .panic :=
  fun hp => (reach limit hl ops).not_stuck (Lemmas.ControlBuf.step_panic hp)

/-- The writer's blocking `get` is never left parked while items are queued: if the single consumer
    sits in the select and the list is non-empty, a token is in `wakeupCh`. -/
theorem consumer_no_lost_wakeup (limit : Nat) (hl : 1 ≤ limit) (ops : List Op)
    (hp : (run (init limit) ops).1.parked = true) (hne : (run (init limit) ops).1.list ≠ []) :
    (run (init limit) ops).1.wakeup = true := by
  have h := reach limit hl ops
  cases hw : (run (init limit) ops).1.wakeup
  · exact absurd (h.consumer hp hw).2 hne
  · rfl

/-- The executable monitor run on the implementation (per op: accepted iff open, FIFO to the
    writer, `finish` orphans exactly the queued clientHeaders; per quiescent state: a blocked reader
    implies open ∧ ≥ limit throttled items queued) never fires on the model, in any interleaving. -/
theorem monitor_ok (limit : Nat) (hl : 1 ≤ limit) (ops : List Op) :
    ∀ v ∈ verdicts (init limit) (Mon.init limit) ops, ∀ c, v ≠ .viol c :=
  Lemmas.ControlBuf.verdicts_ok ops _ _ (Lemmas.ControlBuf.inv_init limit hl) (Lemmas.ControlBuf.mc_init limit)

-- limit 2: two throttled items create the channel; a reader loads it; one get closes it; reader passes
example : ((run (init 2) [.put ⟨1, true, false⟩, .thr1 7, .put ⟨2, true, false⟩, .thr1 8, .thr2 8,
      .get false, .thr2 8, .put ⟨3, true, false⟩, .thr1 9, .thr2 9, .put ⟨4, false, true⟩, .finish,
      .thr2 9, .put ⟨5, false, false⟩]).2.map (·.2))
    = [.putOk, .pass, .putOk, .loaded 0, .blocked, .got ⟨1, true, false⟩, .pass, .putOk, .loaded 1,
       .blocked, .putOk, .orphaned [4], .pass, .putErr] := by decide
-- the lost-wake-up window: reader loads generation 0, the queue drops and rises again (generation 1):
-- the reader is NOT stuck on the dead generation
example : readerBlocked (run (init 1) [.put ⟨1, true, false⟩, .thr1 7, .get false, .put ⟨2, true, false⟩]).1 7 = false := by
  decide
example : (Mon.readers ⟨2, [⟨1, true, false⟩], false, false⟩ true) = .viol 7 := by decide
example : (Mon.step ⟨2, [⟨1, false, true⟩], false, false⟩ .finish (.orphaned [])).2 = .viol 6 := by decide

end GrpcProofs.C16
