/-
C25  Server stop semantics and per-connection handler limit hold.

Two models:
  * GrpcModel.Semaphore — `atomicSemaphore` of server.go at the grain of its atomic operations
    (one sequential acquirer = the transport's reader, any number of releasing handler goroutines;
    `Reach cap s` = s is reachable from newHandlerQuota(cap) under ANY interleaving of the rules);
  * GrpcModel.ServerStop — server + connections + handlers + Stop/GracefulStop, one external event at
    a time (`apply s op`, `runOps`), in which a stream is dispatched to a handler only while fewer than
    cap handlers of its connection run.
-/
import GrpcProofs.Lemmas.Semaphore
import GrpcProofs.Lemmas.ServerStop
namespace GrpcProofs.C25
open GrpcModel

/-- At most `cap` slots are ever held: handlers running ≤ MaxConcurrentStreams. -/
theorem semaphore_running_le_n (cap : Nat) (s : Semaphore.St) (h : Semaphore.Reach cap s) : s.h ≤ cap :=
  (Lemmas.Semaphore.reach_inv h).le

/-- The counter is exactly cap − held − (1 if the acquirer is parked); in particular n ≥ −1
    (the comment in server.go: "n will never be less than -1"). -/
theorem semaphore_counter (cap : Nat) (s : Semaphore.St) (h : Semaphore.Reach cap s) :
    s.n = (cap : Int) - s.h - (if s.apc = .parked then 1 else 0) ∧ -1 ≤ s.n := by
  have hi := Lemmas.Semaphore.reach_inv h
  have h1 := hi.cnt
  have h2 := hi.le
  simp only [Lemmas.Semaphore.parkedN] at h1
  refine ⟨h1, ?_⟩
  split at h1 <;> omega

/-- No lost release: whenever the acquirer is parked although a slot is free, exactly one wake-up
    is in flight (a releaser about to send, or the token in the channel) — and the step that
    delivers it is enabled: a sender never blocks, a buffered token can be received. -/
theorem semaphore_no_lost_release (cap : Nat) (s : Semaphore.St) (h : Semaphore.Reach cap s)
    (hp : s.apc = .parked) (hfree : s.h < cap) :
    s.s + s.c = 1 ∧
    (0 < s.s → (Semaphore.apply s .rSend).isSome = true) ∧
    (0 < s.c → (Semaphore.apply s .aRecv).isSome = true) := by
  have ht := (Lemmas.Semaphore.reach_inv h).tokP hp
  simp only [hfree, if_true] at ht
  refine ⟨ht, ?_, ?_⟩
  · intro hs
    have : s.c < 1 := by omega
    simp [Semaphore.apply, hs, this]
  · intro hcc
    simp [Semaphore.apply, hp, hcc]

/-- No wake-up token exists (about to be sent or buffered) while nobody waits, so a later acquire
    cannot slip through on a stale one. -/
theorem semaphore_no_stale_token (cap : Nat) (s : Semaphore.St) (h : Semaphore.Reach cap s)
    (hp : s.apc ≠ .parked) : s.s + s.c = 0 :=
  (Lemmas.Semaphore.reach_inv h).tokN hp

/-- release never blocks on the channel (it has capacity 1 and at most one token is ever in flight). -/
theorem semaphore_release_never_blocks (cap : Nat) (s : Semaphore.St) (h : Semaphore.Reach cap s)
    (hs : 0 < s.s) : s.c = 0 := by
  have hi := Lemmas.Semaphore.reach_inv h
  by_cases hp : s.apc = .parked
  · have := hi.tokP hp; split at this <;> omega
  · have := hi.tokN hp; omega

/-- acquire takes a slot immediately iff one is free (seen from a reachable state before its Add). -/
theorem semaphore_acquire_iff_free (cap : Nat) (s t : Semaphore.St) (h : Semaphore.Reach cap s)
    (hs : Semaphore.apply s .aAdd = some t) : (t.apc = .idle ↔ s.h < cap) ∧ (t.apc = .parked ↔ cap ≤ s.h) := by
  have hi := Lemmas.Semaphore.reach_inv h
  simp only [Semaphore.apply] at hs
  split at hs
  · rename_i ha
    have h1 := hi.cnt
    simp [ha, Lemmas.Semaphore.parkedN] at h1
    have h2 := hi.le
    split at hs
    · cases hs; simp; omega
    · cases hs; simp; omega
  · cases hs

/-- On any connection no more than MaxConcurrentStreams handlers run at once — after every sequence
    of dials, RPC starts, client cancellations, handler returns, GracefulStop and Stop. -/
theorem handlers_le_quota (cap : Nat) (w : Bool) (ops : List ServerStop.Op) (c : Nat) :
    (ServerStop.runningOn (ServerStop.runOps (ServerStop.init cap w) ops) c).length ≤ cap := by
  have h := Lemmas.ServerStop.runOps_inv cap w ops
  exact Nat.le_trans (h.bounded c) (Nat.le_of_eq h.cap)

/-- GracefulStop returns only after every in-flight handler has returned: the operation that makes a
    pending GracefulStop return leaves no handler running and no stream waiting for a handler slot. -/
theorem gracefulStop_returns_after_all_handlers (s : ServerStop.St) (o : ServerStop.Op)
    (hp : (ServerStop.apply s o).phase = .graceful) (h0 : s.returned = false)
    (h1 : (ServerStop.apply s o).returned = true) :
    (ServerStop.apply s o).run = [] ∧ ∀ x ∈ (ServerStop.apply s o).conns, x.blocked = none :=
  (Lemmas.ServerStop.apply_shape s o).returns hp h0 h1

/-- Every accepted RPC completes with the handler's status: a running handler whose stream was neither
    cancelled by its client nor torn down by Stop delivers exactly the code it returns — before,
    during and after a GracefulStop call. -/
theorem accepted_before_completes (s : ServerStop.St) (r code : Nat) (x : ServerStop.Rpc)
    (hx : ServerStop.getRpc s r = some x) (hrun : x.running = true) (hctx : x.ctxCancelled = false)
    (hcli : x.cli = none) :
    Lemmas.ServerStop.cliOf (ServerStop.apply s (.finish r code)) r = some code := by
  open Lemmas.ServerStop ServerStop in
  simp only [apply, finish, hx, hrun, Bool.not_true, Bool.false_eq_true, if_false, hctx, hcli,
    Option.isNone_none]
  -- the reader's and the client's work after the handler's return tell no client anything
  rw [settleStop_cliOf, (pumpConn_wakeWaiter_step _ _).cliOf]
  rw [if_pos (by simp), updConn_cliOf]
  -- `getRpc` does not read `run`, so the handler's departure from it is invisible here
  exact congrArg (·.bind (·.cli)) (getRpc_updRpc _ r (fun y => { y with cli := some code }) (fun _ => rfl) _
    (getRpc_updRpc s r (fun y => { y with running := false }) (fun _ => rfl) x hx))

/-- No RPC is accepted afterwards: once Stop or GracefulStop has been called (in every later state whose phase is
    not `serving`: `Closed` is an invariant of `runOps`) an RPC that is started is not sent —
    it fails UNAVAILABLE at the client, no connection's input changes, no handler is added. -/
theorem none_accepted_after (cap : Nat) (w : Bool) (ops : List ServerStop.Op) (c r : Nat)
    (hp : (ServerStop.runOps (ServerStop.init cap w) ops).phase ≠ .serving) :
    let s := ServerStop.runOps (ServerStop.init cap w) ops
    (ServerStop.apply s (.start c r)).run = s.run ∧ (ServerStop.apply s (.start c r)).conns = s.conns ∧
    (∀ x ∈ (ServerStop.apply s (.start c r)).rpcs,
      x ∈ s.rpcs ∨ (x.id = r ∧ x.sent = false ∧ x.cli = some ServerStop.codeUnavailable)) := by
  open Lemmas.ServerStop in
  intro s
  rcases start_cases s c r with ⟨l, e, hl⟩ | ⟨conn, l, hg, hu, -⟩
  · rw [ServerStop.apply, e]; exact ⟨rfl, rfl, hl⟩
  · -- a usable connection after a stop call contradicts `Closed`
    exact nomatch hu.symm.trans ((runOps_inv cap w ops).closed hp _ (getConn_mem hg)).1

/-- GracefulStop puts every connection into the draining state (its final GOAWAY is written). -/
theorem gracefulStop_drains_every_connection (s : ServerStop.St) (hp : s.phase = .serving) :
    ∀ x ∈ (ServerStop.apply s .gstop).conns, x.draining = true := by
  open Lemmas.ServerStop ServerStop in
  intro x hx
  simp only [apply, gstop, hp, ne_eq, not_true_eq_false, if_false] at hx
  obtain ⟨y, hy, hxy⟩ := settleStop_conns hx
  have hd : y.draining = true := by
    simp only [failWaiters, List.mem_map] at hy
    obtain ⟨z, ⟨w, _, rfl⟩, rfl⟩ := hy
    rfl
  rcases hxy with rfl | rfl <;> exact hd

/-- No RPC is accepted after the final GOAWAY even from a peer that ignores it (or whose HEADERS cross
    it on the wire): a stream opened on a draining connection never gets a handler — whatever runs
    afterwards ran before, or is the one stream that was already parked in the handler quota. -/
theorem final_goaway_never_dispatches (s : ServerStop.St) (c r : Nat) (conn : ServerStop.Conn)
    (hg : ServerStop.getConn s c = some conn) (hd : conn.draining = true) :
    ∀ x ∈ (ServerStop.apply s (.rawstart c r)).run, x ∈ s.run ∨ conn.blocked = some x.1 := by
  open Lemmas.ServerStop ServerStop in
  intro x hx
  obtain ⟨l, e | e⟩ := rawstart_cases s c r <;> rw [apply, e] at hx
  · exact .inl hx
  · rw [settleStop_run] at hx
    exact send_draining { s with rpcs := l } c r conn hg hd x hx

/-- Stop cancels every handler's context and every unfinished RPC ends non-OK at its client:
    after Stop every RPC that was ever sent has a cancelled context and a result, and a result
    is OK only if the client already had it before Stop. -/
theorem stop_cancels_all (s : ServerStop.St) (hp : s.phase ≠ .hard) :
    (∀ x ∈ (ServerStop.apply s .stop).rpcs, x.sent = true → x.ctxCancelled = true ∧ x.cli.isSome = true) ∧
    (∀ x ∈ (ServerStop.apply s .stop).rpcs, x.cli = some 0 → ∃ y ∈ s.rpcs, y.id = x.id ∧ y.cli = some 0) := by
  open Lemmas.ServerStop in
  refine ⟨fun x hx hs => ?_, fun x hx h0 => ?_⟩ <;> obtain ⟨z, hz, y, hy, rfl⟩ := stop_rpcs s hp hx
  · simp only at hs ⊢
    simp only [hs, Bool.or_true, true_and]
    split
    · simp
    · rename_i hne
      cases hc : y.cli with
      | none => simp [hc] at hne
      | some v => simp
  · simp only at h0
    -- the two ways to get a result from Stop give UNAVAILABLE, not OK
    split at h0
    · simp [ServerStop.codeUnavailable] at h0
    · rcases hy with rfl | rfl
      · exact ⟨y, hz, rfl, h0⟩
      · simp [ServerStop.codeUnavailable] at h0

-- the interesting states are reachable
open Semaphore in
example : applyAll (init 1) [.aCall, .aAdd, .aCall, .aAdd, .rCall, .rAdd] =
    some ⟨1, 0, 0, .parked, 0, 0, 1⟩ := by decide      -- parked, slot free, wake-up about to be sent
open Semaphore in
example : applyAll (init 1) [.aCall, .aAdd, .aCall, .aAdd, .rCall, .rAdd, .rSend, .aRecv] =
    some ⟨1, 0, 0, .idle, 1, 0, 0⟩ := by decide
open ServerStop in
example : (runOps (init 1 false) [.dial 1, .start 1 1, .cancel 1, .start 1 2]).run = [(1, 1)] ∧
    ((runOps (init 1 false) [.dial 1, .start 1 1, .cancel 1, .start 1 2]).conns.map (·.blocked)) = [some 2] := by decide
open ServerStop in
example : (runOps (init 2 false) [.dial 1, .start 1 1, .gstop, .start 1 2, .finish 1 5]).returned = true ∧
    ((runOps (init 2 false) [.dial 1, .start 1 1, .gstop, .start 1 2, .finish 1 5]).rpcs.map (·.cli)) = [some 5, some 14] := by decide

open ServerStop in
example : (runOps (init 1 false) [.rawdial 1, .rawstart 1 1, .gstop, .rawstart 1 2]).run = [(1, 1)] ∧
    (runOps (init 1 false) [.rawdial 1, .rawstart 1 1, .gstop, .rawstart 1 2, .finish 1 0]).returned = true ∧
    (runOps (init 1 false) [.rawdial 1, .rawstart 1 1, .gstop, .rawstart 1 2, .finish 1 0]).run = [] := by decide

end GrpcProofs.C25
