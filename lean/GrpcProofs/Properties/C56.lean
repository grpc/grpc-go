/-
C56  DNS resolution is paced and targets are parsed correctly.
Model: GrpcModel/Model/Dns.lean.
-/
import GrpcProofs.Lemmas.Dns
namespace GrpcProofs.C56
open GrpcModel.Dns GrpcProofs.Lemmas.Dns

theorem run_inv (D : Nat) (es : List Ev) (w : W) (h : Inv D w) (hd : ∀ e ∈ es, evDelayOk D e) :
    Inv D (run w es) := by
  fun_induction run w es with
  | case1 => exact h
  | case2 w e es ih =>
    exact ih (inv_step D w e h (hd e (List.mem_cons_self ..))) fun e' he' => hd e' (List.mem_cons_of_mem _ he')

theorem run_minI (es : List Ev) (w : W) : (run w es).minI = w.minI := by
  fun_induction run w es with
  | case1 => rfl
  | case2 w x xs ih => rw [ih, (step_lookups w x).1]

/-- A step that STARTS a lookup at time `t2` directly after a SUCCESSFUL lookup (started at `t1`, returned at
    `lastDone ≥ t1`) satisfies `lastDone + MinResolutionInterval ≤ t2` — the interval is counted from the moment the
    previous lookup RETURNED, however long it took; directly after a FAILED one, `lastDone + D ≤ t2` where D is any
    lower bound of the backoff delays the code drew. For every reachable state. -/
theorem lookup_spacing (D m : Nat) (es : List Ev) (e : Ev) (hd : ∀ x ∈ es, evDelayOk D x)
    (t1 t2 : Nat) (b1 b2 : Bool) (r : List (Nat × Bool))
    (hprev : (run (W.init m) es).lookups = (t1, b1) :: r)
    (hnew : (step (run (W.init m) es) e).lookups = (t2, b2) :: (t1, b1) :: r) :
    (b1 = true → (run (W.init m) es).lastDone + m ≤ t2 ∧ t1 + m ≤ t2) ∧
    (b1 = false → (run (W.init m) es).lastDone + D ≤ t2 ∧ t1 + D ≤ t2) := by
  have i := run_inv D es (W.init m) (inv_init D m) hd
  have hm : (run (W.init m) es).minI = m := run_minI es (W.init m)
  generalize run (W.init m) es = w at *
  rcases (step_lookups w e).2 with h | ⟨hi, -⟩ | ⟨due, ok, hw, h⟩
  · rw [h, hprev] at hnew; cases List.cons_ne_self _ _ hnew.symm
  · rw [(i.idleEmpty hi).1] at hprev; cases hprev
  · rw [h, hprev] at hnew
    cases hnew
    have hh : w.lookups.head? = some (t1, b1) := by rw [hprev]; rfl
    constructor <;> intro hb <;> subst hb
    · exact ⟨by have := i.doneOk due t1 hw hh; omega, by have := i.dueOk due t1 hw hh; omega⟩
    · exact ⟨by have := i.doneFail due t1 hw hh; omega, by have := i.dueFail due t1 hw hh; omega⟩

/-- Every successful lookup that was followed by another lookup was paid for by a distinct
    ResolveNow call: (#successful lookups other than the newest) ≤ #ResolveNow calls. -/
theorem relookups_le_resolveNow (m : Nat) (es : List Ev) :
    countOk (run (W.init m) es).lookups.tail ≤ (run (W.init m) es).rnCalls := by
  have i := run_inv 0 es (W.init m) (inv_init 0 m) (fun e _ => by cases e <;> simp [evDelayOk])
  generalize run (W.init m) es = w at *
  have h1 := i.tokens
  have h2 := i.tailOk
  split at h1 <;> omega

/-- After Close nothing happens any more: no event causes a lookup. -/
theorem stops_when_closed (w : W) (hc : w.mode = .closed) (es : List Ev) :
    (run w es).lookups = w.lookups ∧ (run w es).mode = .closed := by
  fun_induction run w es with
  | case1 => exact ⟨rfl, hc⟩
  | case2 w e es ih =>
    -- closed: `step` takes the arm that starts no lookup and leaves the mode (for `tick`, with or without advancing `now`)
    have hs : (step w e).lookups = w.lookups ∧ (step w e).mode = .closed := by
      cases e with
      | close => exact ⟨rfl, rfl⟩
      | tick to ok d dur => simp only [step, hc]; split <;> simp [hc]
      | _ => simp [step, hc]
    have := ih hs.2
    exact ⟨this.1.trans hs.1, this.2⟩

/-- The backoff index counts consecutive failures and resets on success. -/
theorem backoff_index (w : W) (ok : Bool) (d dur : Nat) :
    (doLookup w ok d dur).idx = if ok then 1 else w.idx + 1 :=
  (doLookup_fields w ok d dur).2.2

theorem parse_empty (ip : Bool) (d : List UInt8) : parseTarget ip [] d = .error .missingAddr := rfl

/-- IPv4 / bare IPv6 literal: default port -/
theorem parse_ip (t d : List UInt8) (ne : t ≠ []) : parseTarget true t d = .ok (t, d) := by
  unfold parseTarget; simp [ne]

/-- host:port -/
theorem parse_host_port (hst p d : List UInt8) (h1 : colon ∉ hst) (h2 : lbr ∉ hst) (h3 : rbr ∉ hst)
    (p1 : colon ∉ p) (p2 : lbr ∉ p) (p3 : rbr ∉ p) (pne : p ≠ []) :
    parseTarget false (hst ++ colon :: p) d = .ok (if hst = [] then localhost else hst, p) := by
  unfold parseTarget
  simp [split_plain hst p h1 h2 h3 p1 p2 p3, pne]

/-- host: (trailing colon) is rejected -/
theorem parse_trailing_colon (hst d : List UInt8) (h1 : colon ∉ hst) (h2 : lbr ∉ hst) (h3 : rbr ∉ hst) :
    parseTarget false (hst ++ [colon]) d = .error .endsWithColon := by
  unfold parseTarget
  simp [split_plain hst [] h1 h2 h3 (by simp) (by simp) (by simp)]

/-- [host]:port (host may contain colons: IPv6 literal with a port) -/
theorem parse_bracket_port (hst p d : List UInt8) (h2 : lbr ∉ hst) (h3 : rbr ∉ hst)
    (p1 : colon ∉ p) (p2 : lbr ∉ p) (p3 : rbr ∉ p) (pne : p ≠ []) :
    parseTarget false (lbr :: hst ++ rbr :: colon :: p) d = .ok (if hst = [] then localhost else hst, p) := by
  unfold parseTarget
  simp [split_bracket hst p h2 h3 p1 p2 p3, pne]

/-- [host]: is rejected -/
theorem parse_bracket_trailing_colon (hst d : List UInt8) (h2 : lbr ∉ hst) (h3 : rbr ∉ hst) :
    parseTarget false (lbr :: hst ++ [rbr, colon]) d = .error .endsWithColon := by
  unfold parseTarget
  have := split_bracket hst [] h2 h3 (by simp) (by simp) (by simp)
  simp [this]

/-- [host] gets the default port -/
theorem parse_bracket_default (hst d : List UInt8) (h2 : lbr ∉ hst) (h3 : rbr ∉ hst)
    (d1 : colon ∉ d) (d2 : lbr ∉ d) (d3 : rbr ∉ d) :
    parseTarget false (lbr :: hst ++ [rbr]) d = .ok (hst, d) := by
  unfold parseTarget
  obtain ⟨e, he⟩ := split_bracket_noport hst h3
  have s2 := split_bracket hst d h2 h3 d1 d2 d3
  simp [he, s2]

/-- a host without colon or brackets gets the default port -/
theorem parse_host_default (t d : List UInt8) (ne : t ≠ []) (h1 : colon ∉ t) (h2 : lbr ∉ t) (h3 : rbr ∉ t)
    (d1 : colon ∉ d) (d2 : lbr ∉ d) (d3 : rbr ∉ d) :
    parseTarget false t d = .ok (t, d) := by
  unfold parseTarget
  simp [ne, split_nocolon t h1, split_plain t d h1 h2 h3 d1 d2 d3]

/-- resolved addresses: IPv4 as is, IPv6 bracketed -/
theorem format_ip (a : List UInt8) :
    formatIP 4 a = some a ∧ formatIP 6 a = some (lbr :: a ++ [rbr]) ∧ formatIP 0 a = none := by
  simp [formatIP]

-- "[::1]:80" → ("::1", "80");  ":80" → ("localhost", "80");  "a:b:c" is invalid
example : (parseTarget false [91, 58, 58, 49, 93, 58, 56, 48] [52, 52, 51]).toOption = some ([58, 58, 49], [56, 48]) := by decide
example : (parseTarget false [58, 56, 48] [52, 52, 51]).toOption = some (localhost, [56, 48]) := by decide
example : (parseTarget false [97, 58, 98, 58, 99] [52, 52, 51]).toOption = none := by decide
example : (run (W.init 30) [.build true 0 0, .resolveNow, .tick 10 true 0 0, .tick 30 false 7 0, .tick 37 true 0 0]).lookups
    = [(37, true), (30, false), (0, true)] := by decide
-- a lookup that takes 5: the next one waits MinResolutionInterval from its RETURN (35), not from its start
example : (run (W.init 30) [.build true 0 5, .resolveNow, .tick 34 true 0 0, .tick 35 true 0 0]).lookups
    = [(35, true), (0, true)] := by decide

end GrpcProofs.C56
