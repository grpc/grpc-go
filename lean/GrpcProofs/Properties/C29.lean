/-
C29  A channel never goes idle under an active RPC.
Model: GrpcModel/Model/Idle.lean (every atomic access / lock acquisition of idle.Manager is one
rule; any number of goroutines).
All statements are about EVERY reachable state of EVERY interleaving.
-/
import GrpcProofs.Lemmas.Idle
namespace GrpcProofs.C29
open GrpcModel.Idle GrpcProofs.Lemmas.Idle

theorem reach_inv {s : St} (h : Reach s) : Inv s := by
  induction h with
  | init => exact inv_init
  | step r _ st ih => exact step_inv r ih st

/-- While the manager is not closed, the channel is never in idle mode while some RPC is between
    the return of OnCallBegin and the call of OnCallEnd. -/
theorem never_idle_under_active_rpc {s : St} (h : Reach s) (hc : s.closed = false) :
    s.idle = true → s.inCall = 0 :=
  fun hi => have ⟨_, _, hin, _⟩ := (reach_inv h).safe hc hi; hin

/-- cc.EnterIdleMode() is only ever called (rule tryEnter), and runs (holder = t3cb), in a state with no RPC in
    flight and none completing its OnCallBegin. -/
theorem enter_idle_only_without_active_rpc {s t : St} (h : Reach s) (hc : s.closed = false)
    (st : apply s .tryEnter = some t) : s.inCall = 0 ∧ t.inCall = 0 := by
  dsimp only [apply] at st
  obtain ⟨g, ⟨⟩⟩ := Option.ite_none_right_eq_some.1 st
  have ⟨_, _, hin⟩ := (reach_inv h).late hc (.inl g.1)
  exact ⟨hin, hin⟩

theorem no_rpc_during_enter_callback {s : St} (h : Reach s) (hc : s.closed = false) (hh : s.holder = .t3cb) :
    s.b2f = 0 ∧ s.b2s = 0 ∧ s.inCall = 0 :=
  (reach_inv h).late hc (Or.inr hh)

/-- While some goroutine is inside the cc.ExitIdleMode() callback — the channel is still LEAVING idle mode — no
    RPC has returned from OnCallBegin and none is about to (nobody is at the final store): every RPC start that
    found the channel idle returns only after the channel has left idle mode. -/
theorem no_rpc_returns_during_exit_callback {s : St} (h : Reach s) (hc : s.closed = false)
    (hh : s.holder = .xrcb ∨ s.holder = .xccb) : s.b2f = 0 ∧ s.b2s = 0 ∧ s.inCall = 0 := by
  have i := reach_inv h
  have hi : s.idle = true := i.exitIdle (by rcases hh with hh | hh <;> simp [exiting, hh])
  have ⟨hf, hs, hin, _⟩ := i.safe hc hi
  exact ⟨hf, hs, hin⟩

/-- OnCallBegin returns (its final store is enabled: some goroutine at b2f or b2s) only when the
    channel is not idle: an RPC start that found the channel idle or entering idle returns only
    after the channel has left idle mode. -/
theorem begin_returns_only_when_not_idle {s : St} (h : Reach s) (hc : s.closed = false) :
    (s.b2f > 0 ∨ s.b2s > 0) → s.idle = false := by
  intro hab
  have := (reach_inv h).safe hc
  cases hi : s.idle with
  | false => rfl
  | true => have := this hi; omega

/-- Enter-idle and exit-idle callbacks strictly alternate (the manager starts idle, so the sequence is exit, enter,
    exit, …), with or without Close: an exit callback happens only when exits = enters. -/
theorem exit_only_when_balanced {s t : St} (h : Reach s) (r : Rule) (st : apply s r = some t)
    (hx : t.exits = s.exits + 1) : s.exits = s.enters := by
  have a := (reach_inv h).alt
  rwa [if_pos (.inl ((apply_move st).exits hx))] at a

/-- … and an enter callback only when exits = enters + 1: the caller is a timer callback in its try section, so the
    channel is not idle (`tryOff`). -/
theorem enter_only_after_exit {s t : St} (h : Reach s) (r : Rule) (st : apply s r = some t)
    (hx : t.enters = s.enters + 1) : s.exits = s.enters + 1 := by
  obtain ⟨ht, he⟩ := (apply_move st).enters hx
  have i := reach_inv h
  simpa [(i.tryOff ht).2, show entering s = false from he] using i.alt

/-- The counter never leaves the int32 range assumed by the code (fewer than 2^31-1 RPCs). -/
theorem counter_in_range {s : St} (h : Reach s) : -M ≤ s.cnt ∧ s.cnt < M := by
  have i := reach_inv h
  have l := i.ledger
  have b := i.bound
  have hM := M_pos
  have : 0 ≤ s.counted := by unfold St.counted; split <;> omega
  split at l <;> omega

-- non-vacuity: an RPC starting while idle drives exit; the timer then re-enters idle
example : (run init [.beginCheck, .beginAddSlow, .exitLockR, .exitCheckIdleR, .exitCbDoneR, .exitAddR, .exitResetR,
    .beginStoreSlow]).inCall = 1 := by decide
example : (run init [.beginCheck, .beginAddSlow, .exitLockR, .exitCheckIdleR, .exitCbDoneR, .exitAddR, .exitResetR,
    .beginStoreSlow, .endCheckOpen, .endStoreTime, .endAdd, .timerCheck, .timerLoadFree, .timerActYes,
    .timerStoreAct, .timerLoadTime, .resetLock, .resetDone, .timerCheck, .timerLoadFree, .timerActNo,
    .casOk, .tryLock, .tryLoadOk, .tryEnter, .tryEnterDone]).idle = true := by decide
-- the race the re-check under the lock is there for: RPC starts between the CAS and the lock
example : (run init [.connectLock, .exitCheckIdleC, .exitCbDoneC, .exitAddC, .exitResetC, .timerCheck, .timerLoadFree,
    .timerActNo, .casOk, .beginCheck, .beginAddSlow, .tryLock, .tryLoadLost, .tryUndo2]).cnt = 1 := by decide

end GrpcProofs.C29
