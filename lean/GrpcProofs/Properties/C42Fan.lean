/-
C42, clause "no response is read until all watchers have finished processing the previous one", for the
whole fan-out of one response over the authorities that share an xdsChannel and their watchers.
Model: GrpcModel/Model/AdsFan.lean; invariant: GrpcProofs/Lemmas/AdsFan.lean.
A reachable state is `run {} ops` for an arbitrary list of watch / respond / done operations (any number of
authorities, watchers and resources, `done`s in any order).
-/
import GrpcProofs.Lemmas.AdsFan
namespace GrpcProofs.C42Fan
open GrpcModel.AdsFan GrpcProofs.Lemmas.AdsFan

/-- The stream's flow-control count is exactly the number of `done`s of responses that watchers still hold —
whatever authority they belong to, in every reachable state. -/
theorem outstanding_counts_busy_watchers (ops : List Op) :
    (run {} ops).outstanding = heldResp (run {} ops).ws :=
  (inv_run {} ops inv_init).count

/-- **No response is read while a watcher is still processing the previous one**: in every reachable state in
which some watcher (of any authority) still holds the `done` of a response, a response is current (flow control
is pending), exactly one response read is not yet complete, and the reader has entered `Recv` exactly as often
as it has been handed a response — it has not entered the `Recv` of the next one. -/
theorem no_read_while_watcher_busy (ops : List Op) (h : heldResp (run {} ops).ws > 0) :
    (run {} ops).cur.isSome = true ∧ (run {} ops).delivered = (run {} ops).completed + 1 ∧
    ((run {} ops).started = true → recvEntered (run {} ops) = (run {} ops).delivered) := by
  have hi := inv_run {} ops inv_init
  have hs : (run {} ops).cur.isSome = true := hi.cur.mpr (by rw [hi.count]; exact h)
  have hd := hi.deliv
  simp [hs] at hd
  exact ⟨hs, hd, fun hst => by simp [recvEntered, hst, hd]⟩

/-- …and the stream is released as soon as nobody holds one: flow control is free and every response read so
far is complete (the reader is in, or on its way to, the next `Recv`). -/
theorem released_when_all_watchers_done (ops : List Op) (h : heldResp (run {} ops).ws = 0) :
    (run {} ops).cur = none ∧ (run {} ops).delivered = (run {} ops).completed := by
  have hi := inv_run {} ops inv_init
  have hc : (run {} ops).cur = none :=
    Option.not_isSome_iff_eq_none.mp fun hs => by have := hi.cur.mp hs; rw [hi.count, h] at this; cases this
  have hd := hi.deliv
  simp [hc] at hd
  exact ⟨hc, hd⟩

/-- A `done` given back by ONE watcher does not release the stream while more than one unit is outstanding:
the count only goes down by one. -/
theorem one_done_of_several_does_not_release (s : St) (id : Nat) (v : Nat) (ws : List Watcher)
    (hp : popTok id s.ws = some (.resp v, ws)) (hmany : s.outstanding > 1) :
    (step s (.done id)).cur = s.cur ∧ (step s (.done id)).outstanding = s.outstanding - 1 ∧
    (step s (.done id)).completed = s.completed := by
  have : ¬ s.outstanding ≤ 1 := by omega
  simp [step, hp, this]

-- non-vacuity: top-level authority 0 has a non-blocking watcher, authority 1 a blocking one, both named in
-- the response; after the response authority 0 is finished and authority 1 is not: nothing more is read.
example :
    let s := run {} [.watch 1 "x" 1 true, .watch 0 "x" 2 false, .respond [(0, "x"), (1, "x")], .respond [(0, "x")]]
    (heldResp s.ws, s.cur, s.delivered, s.completed, recvEntered s, s.inbox.length) = (1, some 1, 1, 0, 1, 1) := by decide
example :
    let s := run {} [.watch 1 "x" 1 true, .watch 0 "x" 2 false, .respond [(0, "x"), (1, "x")], .respond [(0, "x")], .done 1]
    (heldResp s.ws, s.cur, s.delivered, s.completed, recvEntered s, s.inbox.length) = (0, none, 2, 2, 3, 0) := by decide

end GrpcProofs.C42Fan
