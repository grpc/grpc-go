/-
C18  Retries are bounded, policy-driven and replay the exact request.
The run-level statements start from `fresh`, the state `newClientStream` leaves, defined below.
Models: GrpcModel/Model/Retry.lean (csAttempt.shouldRetry), GrpcModel/Model/RetryLoop.lean
(clientStream.withRetry, retryLocked, bufferForRetryLocked, commitAttemptLocked, SendMsg, CloseSend,
RecvMsg, Header against a scripted server that answers at quiescent points).
-/
import GrpcProofs.Lemmas.RetryLoop
import GrpcProofs.Properties.C19
namespace GrpcProofs.C18
open GrpcModel.Retry GrpcModel.RetryLoop GrpcProofs.Lemmas.Retry GrpcProofs.Lemmas.RetryLoop

/-- A timed (non-transparent) retry is decided only while the RPC is neither finished nor committed
    nor dropped, with retries enabled, when the failed attempt received no response headers
    (no stream at all, or a Trailers-Only / header-less end), its status code is in the retry
    policy, the server's pushback does not forbid it, the throttler allows it, and the attempt
    limit is not reached. -/
theorem retry_only_if (dis : Bool) (pol : Option Policy) (cs : CS) (a : Attempt) (r : ℚ) (dur : Int) (fp : Bool)
    (h : (shouldRetry dis pol cs a r).2 = .backoff dur fp) :
    cs.finished = false ∧ cs.committed = false ∧ a.drop = false ∧ dis = false ∧
    (a.hasStream = true → a.trailersOnly = true) ∧
    (a.hasStream = true → parsePushback a.pushback ≠ .abort) ∧
    ∃ rp, pol = some rp ∧ rp.codes.contains a.code = true ∧
      (throttleOpt cs.throttler).2 = false ∧ cs.numRetries + 1 < rp.maxAttempts := by
  obtain ⟨pb, rp, ht⟩ := sr_backoff_conditions dis pol cs a r dur fp h
  have hc := ht.charged
  refine ⟨hc.unfinished, hc.uncommitted, hc.noDrop, hc.enabled, hc.trailersOnly, ?_, rp, hc.pol, hc.code,
    ht.notThrottled, ht.room⟩
  intro hst
  have hpb := hc.pushback
  rw [hst] at hpb; simp only [if_true] at hpb; rw [← hpb]; exact hc.noAbort

/-- A transparent retry is decided only for an attempt the server never processed: the stream was
    never created (and the transport said the request was not sent), or — on the first attempt
    only — the stream was refused / lies above a GOAWAY's last-stream-id (`Unprocessed`). -/
theorem transparent_only_if_unprocessed (dis : Bool) (pol : Option Policy) (cs : CS) (a : Attempt) (r : ℚ)
    (h : (shouldRetry dis pol cs a r).2 = .transparent) :
    cs.finished = false ∧ cs.committed = false ∧ a.drop = false ∧
    ((a.hasStream = false ∧ a.allowTransparent = true) ∨
     (cs.firstAttempt = true ∧ a.hasStream = true ∧ a.unprocessed = true)) :=
  sr_transparent_conditions dis pol cs a r h

/-- The effective attempt limit is the policy value capped by the channel limit. -/
theorem effective_max_is_min (chanMax ma ib mb : Int) (mu : ℚ) (codes : List Nat) (p : Policy)
    (h : convertPolicy chanMax ma ib mb mu codes = some p) : p.maxAttempts = min ma chanMax :=
  (GrpcProofs.C19.policy_max_capped chanMax ma ib mb mu codes p h).1

/-- the state after `newClientStream`: `ns` scripts the outcome of every stream creation of the RPC
    (`some c` = transport.NewStream fails with status c after a successful pick), `f0` is the fuel of
    the creation loop -/
def fresh (cstr sstr dis : Bool) (pol : Option Policy) (maxBuf : Int) (thr : Option Throttler) (script : List Beh)
    (ns : List (Option Nat)) (f0 : Nat) : St :=
  ((St.init cstr sstr dis pol maxBuf thr script ns).opNew f0).1

/-- `newClientStream` returned a stream -/
def newOk (cstr sstr dis : Bool) (pol : Option Policy) (maxBuf : Int) (thr : Option Throttler) (script : List Beh)
    (ns : List (Option Nat)) (f0 : Nat) : Prop :=
  ((St.init cstr sstr dis pol maxBuf thr script ns).opNew f0).2.1 = .ok

/-- With `fuelFor` fuel the model's bound on retries inside one operation is never hit: the loop
    terminates by itself (one transparent retry plus at most maxAttempts timed ones). -/
theorem fuel_suffices (cstr sstr dis : Bool) (pol : Option Policy) (maxBuf : Int) (thr : Option Throttler) (script : List Beh)
    (ns : List (Option Nat)) (f0 : Nat) (hm : 0 ≤ maxBuf) (hnew : newOk cstr sstr dis pol maxBuf thr script ns f0) (ops : List AppOp) (hops : ∀ o ∈ ops, o ≠ .new) (fuel : Nat)
    (hf : fuelFor (fresh cstr sstr dis pol maxBuf thr script ns f0) ≤ fuel) :
    ∀ r ∈ (St.run fuel (fresh cstr sstr dis pol maxBuf thr script ns f0) ops).2.1, r ≠ .outOfFuel :=
  (run_new_inv f0 fuel ops _ (init_unstarted ..) rfl hnew hops hf).fuel

/-- Bounded: the `grpc-previous-rpc-attempts` value `prev` of every attempt that got a stream (the model
    sets it to `numRetries` at creation) satisfies `prev + 1 ≤ maxAttempts` of the policy (already capped,
    see `effective_max_is_min`); without a policy — or before any timed retry — `prev + 1 ≤ 1`.  The number
    of attempts itself is not counted here. -/
theorem attempts_bounded (cstr sstr dis : Bool) (pol : Option Policy) (maxBuf : Int) (thr : Option Throttler) (script : List Beh)
    (ns : List (Option Nat)) (f0 : Nat) (hm : 0 ≤ maxBuf) (hnew : newOk cstr sstr dis pol maxBuf thr script ns f0) (ops : List AppOp) (hops : ∀ o ∈ ops, o ≠ .new) (fuel : Nat)
    (hf : fuelFor (fresh cstr sstr dis pol maxBuf thr script ns f0) ≤ fuel) :
    ∀ a ∈ (St.run fuel (fresh cstr sstr dis pol maxBuf thr script ns f0) ops).1.atts,
      a.prev + 1 ≤ 1 ∨ ∃ rp, pol = some rp ∧ a.prev + 1 ≤ rp.maxAttempts := by
  intro a ha
  have h := run_new_inv f0 fuel ops _ (init_unstarted ..) rfl hnew hops hf
  have hle := h.inv.bound.prevs a ha
  rcases h.inv.bound.bound.room with h0 | ⟨rp, hp, hlt⟩
  · left; omega
  · exact Or.inr ⟨rp, h.pol.symm.trans hp, by omega⟩

/-- Replay exactness.  At every point between two application operations: while the RPC is
    uncommitted the replay buffer spells exactly what the application has produced so far; what any
    attempt ever carried to the server is a prefix of that history; and a live current attempt has
    carried all of it. -/
theorem replay_exact (cstr sstr dis : Bool) (pol : Option Policy) (maxBuf : Int) (thr : Option Throttler) (script : List Beh)
    (ns : List (Option Nat)) (f0 : Nat) (hm : 0 ≤ maxBuf) (hnew : newOk cstr sstr dis pol maxBuf thr script ns f0) (ops : List AppOp) (hops : ∀ o ∈ ops, o ≠ .new) (fuel : Nat)
    (hf : fuelFor (fresh cstr sstr dis pol maxBuf thr script ns f0) ≤ fuel) :
    let st := (St.run fuel (fresh cstr sstr dis pol maxBuf thr script ns f0) ops).1
    (st.cs.committed = false → wireOf st.clientStreams st.replay = st.hist) ∧
    (∀ a ∈ st.atts, a.log <+: st.hist) ∧
    (∀ a, st.cur = some a → a.dead = false → a.log = st.hist) :=
  (run_new_inv f0 fuel ops _ (init_unstarted ..) rfl hnew hops hf).inv.good.rinv.exact

/-- … and a retry sends the new attempt exactly that buffer: the attempt `retryLocked` creates has
    received, when `replayBufferLocked` returns, precisely the wire image of the buffer, which by
    `replay_exact` is the application's history before the operation in progress. -/
theorem retry_replays_buffer (st : St) (d : Decision) (pb pc : List Wire) (h : RInv st pb pc)
    (hu : st.cs.committed = false) (hst : st.started = true) :
    ∃ a, (st.startRetry d).1.atts = st.atts ++ [a] ∧ a.log = wireOf st.clientStreams st.replay ∧
      a.log ++ pb = st.hist ∧ a.prev = (afterDecision st.cs d).numRetries := by
  obtain ⟨_, a, ha, hl, hp⟩ := startRetry_rinv st d pb pc h hu hst
  exact ⟨a, ha, hl, by rw [hl]; exact h.buf hu, hp⟩

/-- No attempt is created once the RPC is committed (by any operation other than `new`), and a
    committed RPC stays committed. -/
theorem no_new_attempt_when_committed (fuel : Nat) (st : St) (op : AppOp) (hop : op ≠ .new)
    (hc : st.cs.committed = true) :
    (st.step fuel op).1.atts.length = st.atts.length ∧ (st.step fuel op).1.cs.committed = true :=
  ((step_runs fuel st op hop).preserves Move.committed_len (fun _ _ _ _ h => h) ⟨hc, rfl⟩).symm

/-- Delivering a response header or a response message to the application commits the RPC … -/
theorem commit_on_delivery (fuel : Nat) (st : St) (op : AppOp) (hop : op ≠ .new)
    (h : (st.step fuel op).2.1.delivers = true) : (st.step fuel op).1.cs.committed = true :=
  (step_runs fuel st op hop).delivery_commits h

/-- … and so does exceeding the buffer limit: an uncommitted RPC never holds more than
    MaxRetryRPCBufferSize bytes, and the op that would exceed it commits instead of buffering. -/
theorem commit_on_buffer_limit (cstr sstr dis : Bool) (pol : Option Policy) (maxBuf : Int) (thr : Option Throttler) (script : List Beh)
    (ns : List (Option Nat)) (f0 : Nat) (hm : 0 ≤ maxBuf) (hnew : newOk cstr sstr dis pol maxBuf thr script ns f0) (ops : List AppOp) (hops : ∀ o ∈ ops, o ≠ .new) (fuel : Nat)
    (hf : fuelFor (fresh cstr sstr dis pol maxBuf thr script ns f0) ≤ fuel) :
    let st := (St.run fuel (fresh cstr sstr dis pol maxBuf thr script ns f0) ops).1
    (st.cs.committed = false → st.replaySize ≤ st.maxBuf) ∧
    (∀ (sz : Int) (op : ROp), st.replaySize + sz > st.maxBuf → (st.buffer sz op).cs.committed = true) := by
  refine ⟨(run_new_inv f0 fuel ops _ (init_unstarted ..) rfl hnew hops hf).inv.size, ?_⟩
  intro sz op hgt
  rcases buffer_cases _ sz op with ⟨hc, e⟩ | ⟨_, ⟨_, e⟩ | ⟨hs, _⟩⟩
  · rw [e]; exact hc
  · rw [e]; rfl
  · exact absurd hgt (not_lt.mpr hs)

/-- Negative limits: the very first `bufferForRetryLocked(0, op, nil)` exceeds the limit and commits
    (its nil cleanup is skipped). -/
theorem negative_limit_commits_at_once (cstr sstr dis : Bool) (pol : Option Policy) (maxBuf : Int) (thr : Option Throttler)
    (script : List Beh) (f0 : Nat) (hm : maxBuf < 0) : (fresh cstr sstr dis pol maxBuf thr script [] f0).cs.committed = true := by
  unfold fresh
  rw [St.opNew]
  show (St.init cstr sstr dis pol maxBuf thr script []).opNewOk.1.cs.committed = true
  rw [opNewOk_eq _ (init_unstarted ..), if_pos (show (St.init cstr sstr dis pol maxBuf thr script).maxBuf < 0 from hm)]
  rfl

/-- **Concurrent use** (one goroutine in SendMsg, one in RecvMsg).  In the schedule `cs.mu` leaves open —
    the receiver fails, retries and replays the buffer while the sender sits between its transport write
    and re-locking — replay exactness is kept: afterwards the buffer still spells the application's
    history, every attempt's wire log is a prefix of it and the live current attempt carries all of it,
    so the message written to the replaced attempt has been sent again on the current one
    (`withRetry`'s `a != cs.attempt` re-run, whatever the result of the op on the old attempt was). -/
theorem concurrent_send_replay_exact (fuel : Nat) (st : St) (size : Nat) (h : Good st) :
    (st.opSendRecv fuel size).2.1 = .outOfFuel ∨ (st.opSendRecv fuel size).2.2.1 = .outOfFuel ∨
    (let s := (st.opSendRecv fuel size).1
     (s.cs.committed = false → wireOf s.clientStreams s.replay = s.hist) ∧
     (∀ a ∈ s.atts, a.log <+: s.hist) ∧
     (∀ a, s.cur = some a → a.dead = false → a.log = s.hist)) := by
  rcases opSendRecv_good fuel st size h with hf | hf | hg
  · exact Or.inl hf
  · exact Or.inr (Or.inl hf)
  · exact Or.inr (Or.inr hg.rinv.exact)

end GrpcProofs.C18
