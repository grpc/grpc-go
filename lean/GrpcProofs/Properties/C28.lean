/-
C28  metadata API behaves as a case-insensitive ordered multimap.

Vocabulary (GrpcModel/Model/MD.lean): an `MD` is a Go map as an association list IN ITERATION ORDER
(every theorem quantifies over all lists, i.e. all orders); `mgetD md k` = `md[k]`; `lower` =
ASCII strings.ToLower; `NoFoldCollision md` = no two keys of the map are equal up to case;
`foldLookup md k` = the multimap value of `md` at `lower k`; `specOutgoing raw k` = base values then the
values appended by AppendToOutgoingContext, in call order; `histSpec ops` = the same read off a call
history; `St`/`step` = the reference machine (map objects on a heap, contexts refer to them).

F9 (reading): with two keys equal up to case the lookups disagree and depend on Go's map order —
`agreement_needs_no_collision`; the statement is proved on the domain `NoFoldCollision`.
-/
import GrpcProofs.Lemmas.MD
namespace GrpcProofs.C28
open GrpcModel.MD
open GrpcProofs.Lemmas

/-- FromOutgoingContext returns, for every key, exactly: nothing at a non-lower-case key, and at a
    lower-case key the base values followed by the appended values in call order. -/
theorem fromOutgoing_spec (raw : RawMD) (h : NoFoldCollision (raw.md.getD [])) :
    (∀ k, mgetD (fromOutgoing raw) k = if lower k = k then specOutgoing raw k else []) ∧
    (∀ x ∈ MD.keys (fromOutgoing raw), lower x = x) :=
  ⟨fun k => MD.mgetD_fromOutgoing_any raw k h, MD.keys_lower_fromOutgoing raw⟩

/-- Same, for ANY sequence of NewOutgoingContext / AppendToOutgoingContext calls: the context then
    carries a rawMD (unless no call was made) whose FromOutgoingContext is the history's multimap. -/
theorem fromOutgoing_history (ops : List OutOp)
    (hops : ∀ md, OutOp.newOut md ∈ ops → NoFoldCollision md) :
    match runOut ops with
    | none => ops = []
    | some raw => ∀ k, mgetD (fromOutgoing raw) k = if lower k = k then histSpec ops k else [] := by
  have hn := MD.rawNoFold_runOut hops
  cases hr : runOut ops with
  | none => exact MD.runOut_eq_none hr
  | some raw =>
    rw [hr] at hn
    exact MD.mgetD_fromOutgoing_runOut hr hn

/-- ValueFromOutgoingContext agrees with the full lookup (any case of the queried key). -/
theorem valueFromOutgoing_agrees (raw : RawMD) (k : Key) (h : NoFoldCollision (raw.md.getD [])) :
    valueFromOutgoing raw k = mgetD (fromOutgoing raw) (lower k) := by
  rw [MD.valueFromOutgoing_eq raw k h, MD.mgetD_fromOutgoing raw k h]

/-- FromIncomingContext is the lower-cased multimap of the stored MD. -/
theorem fromIncoming_spec (md : MD) (h : NoFoldCollision md) :
    (∀ k, mgetD (fromIncoming md) k = if lower k = k then foldLookup md k else []) ∧
    (∀ x ∈ MD.keys (fromIncoming md), lower x = x) :=
  ⟨fun k => MD.mgetD_fromIncoming_any md k h, MD.keys_lower_fromIncoming md⟩

/-- ValueFromIncomingContext agrees with the full lookup. -/
theorem valueFromIncoming_agrees (md : MD) (k : Key) (h : NoFoldCollision md) :
    valueFromIncoming md k = mgetD (fromIncoming md) (lower k) := by
  rw [MD.valueFromIncoming_eq md k h, MD.mgetD_fromIncoming md k h]

/-- Go's random map iteration order cannot be observed through any of the four readers. -/
theorem iteration_order_irrelevant (md md' : MD) (hp : md'.Perm md) (h : NoFoldCollision md)
    (added : List (List (Key × Val))) (k : Key) :
    mgetD (fromIncoming md') k = mgetD (fromIncoming md) k ∧
    valueFromIncoming md' k = valueFromIncoming md k ∧
    mgetD (fromOutgoing ⟨some md', added⟩) k = mgetD (fromOutgoing ⟨some md, added⟩) k ∧
    valueFromOutgoing ⟨some md', added⟩ k = valueFromOutgoing ⟨some md, added⟩ k := by
  have h' := MD.noFold_perm hp h
  refine ⟨?_, ?_, ?_, ?_⟩
  · rw [MD.mgetD_fromIncoming_any md' k h', MD.mgetD_fromIncoming_any md k h, MD.foldLookup_perm hp h]
  · rw [MD.valueFromIncoming_eq md' k h', MD.valueFromIncoming_eq md k h, MD.foldLookup_perm hp h]
  · rw [MD.mgetD_fromOutgoing_any _ k (by simpa using h'), MD.mgetD_fromOutgoing_any _ k (by simpa using h)]
    simp [specOutgoing, MD.foldLookup_perm hp h]
  · rw [MD.valueFromOutgoing_eq _ k (by simpa using h'), MD.valueFromOutgoing_eq _ k (by simpa using h)]
    simp [specOutgoing, MD.foldLookup_perm hp h]

/-- F9: without `NoFoldCollision` the agreement fails (MD{"Foo":{"A"},"foo":{"b"}}, key "Foo"), and
    the full lookup depends on the iteration order. -/
theorem agreement_needs_no_collision :
    (¬ ∀ (md : MD) (k : Key), valueFromIncoming md k = mgetD (fromIncoming md) (lower k)) ∧
    (∃ md md' : MD, md'.Perm md ∧ fromIncoming md' ≠ fromIncoming md) := by
  constructor
  · intro H
    have := H [([70, 111, 111], ["A"]), ([102, 111, 111], ["b"])] [70, 111, 111]
    revert this; decide
  · refine ⟨[([70, 111, 111], ["A"]), ([102, 111, 111], ["b"])],
      [([102, 111, 111], ["b"]), ([70, 111, 111], ["A"])], List.Perm.swap _ _ _, by decide⟩

/-- Get/Set/Append/Delete only look at the lower-cased key argument. -/
theorem get_set_append_delete_case_insensitive (md : MD) (k k' : Key) (vs : List Val)
    (h : lower k = lower k') :
    mdGet md k = mdGet md k' ∧ mdSet md k vs = mdSet md k' vs ∧
    mdAppend md k vs = mdAppend md k' vs ∧ mdDelete md k = mdDelete md k' := by
  simp [mdGet, mdSet, mdAppend, mdDelete, h]

/-- Get/Set/Append/Delete behave as a multimap keyed by the lower-cased key. -/
theorem multimap_laws (md : MD) (k k' : Key) (vs : List Val) :
    (vs ≠ [] → mdGet (mdSet md k vs) k' = if lower k = lower k' then vs else mdGet md k') ∧
    (mdSet md k [] = md) ∧
    (mdGet (mdAppend md k vs) k' = if lower k = lower k' then mdGet md k' ++ vs else mdGet md k') ∧
    (mdGet (mdDelete md k) k' = if lower k = lower k' then [] else mdGet md k') :=
  ⟨MD.get_set md k k' vs, by simp [mdSet], MD.get_append md k k' vs, MD.get_delete md k k'⟩

/-- Pairs / New: per lower-cased key, the values in argument order; all keys lower-case. -/
theorem pairs_new_spec (kv : List (Key × Val)) (k : Key) :
    mdGet (mdPairs kv) k = pairVals kv k ∧ mdGet (mdNew kv) k = pairVals kv k ∧
    (∀ x ∈ MD.keys (mdPairs kv), lower x = x) :=
  ⟨MD.get_pairs kv k, MD.get_pairs kv k, MD.keys_lower_foldl_addPair kv [] (fun _ hx => by cases hx)⟩

/-- Join concatenates the values of each key in argument order. -/
theorem join_concat_in_order (mds : List MD) (k : Key) (h : ∀ md ∈ mds, MD.WF md) :
    mgetD (mdJoin mds) k = (mds.map (mgetD · k)).flatten := by
  unfold mdJoin
  rw [MD.mgetD_foldl_joinOne, List.flatMap_def, List.map_congr_left fun md hmd => MD.exactVals_eq_mgetD (h md hmd) k]
  rfl

/-- Copy returns an equal map (that it is a DIFFERENT object is `copies_are_fresh`). -/
theorem copy_eq (md : MD) (h : MD.WF md) : mdCopy md = md := by
  unfold mdCopy
  simpa using MD.foldl_mset_eq_append md [] (by simpa using h)

/-- In every reachable state of the reference machine contexts refer to existing objects only. -/
theorem refsOK_reachable (ops : List Op) : MD.RefsOK (MD.runOps ops) :=
  Basic.foldl_inv (P := MD.RefsOK) (fun _ op h => MD.refsOK_step h op) ops (fun _ _ hx => by cases hx)

/-- An object just returned by Copy / FromIncomingContext / FromOutgoingContext / Join / New / Pairs
    is referenced by no context: whatever the caller then does to it changes no context read and no
    other object. -/
theorem copies_are_fresh (st : St) (hR : MD.RefsOK st) (op mu : Op) (d : Nat) (st1 : St) (m : MD)
    (hc : MD.creates op = some d) (h1 : step st op = (st1, .md m)) (hm : MD.mutates mu = some d) :
    (step st1 mu).1.ctxs = st.ctxs ∧
    (∀ c x, (c, x) ∈ st.ctxs →
      rawOf (step st1 mu).1 x = rawOf st x ∧ incOf (step st1 mu).1 x = incOf st x) ∧
    (∀ j, j ≠ d → getObj (step st1 mu).1 j = getObj st j) :=
  MD.copies_are_fresh st hR op mu d st1 m hc h1 hm

example : NoFoldCollision [([70, 111, 111], ["A"]), ([98], ["b"])] := by
  unfold NoFoldCollision; decide
example : mgetD (fromOutgoing (appendToOutgoing (some (newOutgoing [([70], ["A"])])) [([70], "x"), ([102], "y")])) [102] = ["A", "x", "y"] := by decide
example : valueFromOutgoing (appendToOutgoing none [([75], "v")]) [107] = ["v"] := by decide
example : mdGet (mdPairs [([75], "1"), ([107], "2")]) [75] = ["1", "2"] := by decide
example : (step (step {} (.lit 0 [([97], ["1"])])).1 (.copy 1 0)).2 = .md [([97], ["1"])] := by decide

end GrpcProofs.C28
