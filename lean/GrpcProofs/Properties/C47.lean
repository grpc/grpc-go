/-
C47  Header and string matchers implement Envoy matcher semantics.
The vocabulary of the statements (`CaseEq`, `FoldEq`, `Decimal`, `HeaderSem`, `SMSem`, `Lang`) is defined in
GrpcProofs/Lemmas/Matchers.lean. All statements are about the model in GrpcModel/Model/Matchers.lean (a port of the
Go matchers with ASCII case folding) and quantify over ALL byte strings, header maps and configurations.
A regex matcher is the reference matcher `Re.matches`, which `regex_full_string` characterises by `Lang`.
-/
import GrpcProofs.Lemmas.Matchers
namespace GrpcProofs.C47
open GrpcModel.Matchers GrpcProofs.Lemmas.Matchers

/-- Every header matcher sees the comma-joined values of the header (no space), or nothing when the key is absent. -/
theorem value_is_comma_join (md : MD) (k : Str) :
    valueFromMD md k = (lookupMD md k).map (List.intercalate [44]) := by
  unfold valueFromMD
  cases lookupMD md k <;> simp [joinComma_eq_intercalate]

/-- A matcher other than present_match never matches when the header is absent — whatever `invert` says. -/
theorem absent_header_never_matches (m : HeaderMatcher) (md : MD) (hk : isPresentKind m = false)
    (habs : lookupMD md (key m) = none) : m.match md = false := by
  cases m with
  | present => cases hk
  | _ => exact onValue_absent md _ _ habs

/-- `invert` flips the result only when the header is present: the inverted matcher answers
    "present ∧ ¬ (the plain matcher's answer)". -/
theorem invert_flips_only_when_present (m : HeaderMatcher) (md : MD) (hk : isPresentKind m = false) :
    (setInvert true m).match md = ((lookupMD md (key m)).isSome && !(setInvert false m).match md) := by
  cases m with
  | present => cases hk
  | range k a b _ => exact onValue_not md k _ _ fun v => by rw [rangeResult_inv]; simp
  | _ => exact onValue_not md _ _ _ fun v => by simp

/-- exact: present and (joined value = pattern) xor invert. -/
theorem header_exact_spec (k pat : Str) (inv : Bool) (md : MD) :
    (HeaderMatcher.exact k pat inv).match md = true ↔ HeaderSem md k inv (· = pat) :=
  onValue_sem md k inv (· == pat) _ fun v => by simp

/-- prefix: present and (pattern is a prefix of the joined value) xor invert. -/
theorem header_prefix_spec (k pat : Str) (inv : Bool) (md : MD) :
    (HeaderMatcher.prefix k pat inv).match md = true ↔ HeaderSem md k inv (pat <+: ·) :=
  onValue_sem md k inv (pat.isPrefixOf ·) _ fun _ => List.isPrefixOf_iff_prefix

/-- suffix: present and (pattern is a suffix of the joined value) xor invert. -/
theorem header_suffix_spec (k pat : Str) (inv : Bool) (md : MD) :
    (HeaderMatcher.suffix k pat inv).match md = true ↔ HeaderSem md k inv (pat <:+ ·) :=
  onValue_sem md k inv (pat.isSuffixOf ·) _ fun _ => List.isSuffixOf_iff_suffix

/-- contains: the pattern occurs as a contiguous substring of the joined value. -/
theorem header_contains_spec (k pat : Str) (inv : Bool) (md : MD) :
    (HeaderMatcher.contains k pat inv).match md = true ↔ HeaderSem md k inv (pat <:+: ·) :=
  onValue_sem md k inv (hasInfix pat ·) _ (hasInfix_iff pat)

/-- regex: the WHOLE joined value is in the language of the regex (`Re.matches`, see `regex_full_string`). -/
theorem header_regex_spec (k : Str) (re : Re) (inv : Bool) (md : MD) :
    (HeaderMatcher.regex k re inv).match md = true ↔ HeaderSem md k inv (re.matches · = true) :=
  onValue_sem md k inv re.matches _ fun _ => Iff.rfl

/-- range: the joined value is the base-10 notation of an integer n with start ≤ n < end (bounds are int64 in Go,
    which is what makes `ParseInt`'s range error unobservable). -/
theorem header_range_spec (k : Str) (start stop : Int) (inv : Bool) (md : MD)
    (hs : -9223372036854775808 ≤ start) (he : stop ≤ 9223372036854775807) :
    (HeaderMatcher.range k start stop inv).match md = true ↔
      HeaderSem md k inv (fun v => ∃ n : Int, Decimal v n ∧ start ≤ n ∧ n < stop) := by
  rw [range_match_eq_withInvert md k start stop inv hs he]
  exact withInvert_iff md k inv _ _ fun v => inRange_iff v start stop

/-- string_match: the string matcher's meaning (`SMSem`) on the joined value, xor invert. -/
theorem header_string_spec (k : Str) (kind : SMKind) (pat : Str) (ic inv : Bool) (md : MD) (hk : kind ≠ .regex) :
    (HeaderMatcher.string k (newSM kind pat ic) inv).match md = true ↔ HeaderSem md k inv (SMSem kind pat .eps ic) :=
  onValue_sem md k inv (newSM kind pat ic).match _ fun v => string_matcher_sem kind pat ic v

/-- present_match compares presence: the matcher answers whether "the key is in the header map" equals the
    configured expectation (invert flips it) — for EVERY header map, including a header present with an empty value. -/
theorem present_match_spec (md : MD) (k : Str) (p inv : Bool) :
    (newPresent k p inv).match md = Spec.present md k p inv := by
  -- folding `invert` into the expectation at construction is the `!=` of the specification
  have hwant : (if inv then !p else p) = (p != inv) := by cases p <;> cases inv <;> rfl
  rw [newPresent, HeaderMatcher.match, Spec.present, hwant, onValue_eq]
  cases lookupMD md k <;> rfl

example : (newPresent [120] true false).match [([120], [[]])] = true := by decide

/-- The spec's integer notation: optional sign, ≥ 1 ASCII digits, positional base-10 value. -/
theorem decimal_spec (v : Str) (n : Int) : Spec.decimal v = some n ↔ Decimal v n := decimal_iff v n

/-- byte equality up to ASCII case, and that both `ToLower`- and `ToUpper`-style folds decide it. -/
theorem caseEq_spec (x y : Nat) :
    (Spec.caseEqB x y = true ↔ CaseEq x y) ∧ (lowerB x = lowerB y ↔ CaseEq x y) ∧ (upperB x = upperB y ↔ CaseEq x y) := by
  refine ⟨caseEqB_iff x y, lower_eq_iff x y, ?_⟩
  rw [← caseEqB_iff, ← upper_beq]; simp

theorem eqFold_spec (a b : Str) : Spec.eqFold a b = true ↔ FoldEq a b := eqFold_iff a b
theorem prefixFold_spec (pat s : Str) : Spec.prefixFold pat s = true ↔ ∃ p r, s = p ++ r ∧ FoldEq p pat :=
  prefixFold_iff pat s
theorem suffixFold_spec (pat s : Str) : Spec.suffixFold pat s = true ↔ ∃ r p, s = r ++ p ∧ FoldEq p pat :=
  suffixFold_iff pat s
theorem infixFold_spec (pat s : Str) : Spec.infixFold pat s = true ↔ ∃ a p b, s = a ++ p ++ b ∧ FoldEq p pat :=
  infixFold_iff pat s

/-- The ported `StringMatcher` (pattern lower-cased at construction, input lower-cased at match) computes the
    executable specification the monitor uses, for every byte string. -/
theorem string_matcher_spec (kind : SMKind) (pat : Str) (ic : Bool) (input : Str) (hk : kind ≠ .regex) :
    (newSM kind pat ic).match input = Spec.sm kind pat .eps ic input :=
  string_matcher_eq_spec kind pat ic input

/-- Without ignore_case: equality, prefix, suffix, substring on the raw bytes. -/
theorem string_matcher_case_sensitive (pat input : Str) :
    ((newSM .exact pat false).match input = true ↔ input = pat) ∧
    ((newSM .prefix pat false).match input = true ↔ pat <+: input) ∧
    ((newSM .suffix pat false).match input = true ↔ pat <:+ input) ∧
    ((newSM .contains pat false).match input = true ↔ pat <:+: input) := by
  refine ⟨?_, ?_, ?_, ?_⟩
  · exact string_matcher_sem .exact pat false input
  · exact string_matcher_sem .prefix pat false input
  · exact string_matcher_sem .suffix pat false input
  · exact string_matcher_sem .contains pat false input

/-- With ignore_case the comparison is ASCII case-insensitive: the input (resp. a prefix, a suffix, a substring of
    it) is position-wise equal to the pattern up to the case of ASCII letters — and nothing else is folded. -/
theorem ignore_case_is_ascii_fold (pat input : Str) :
    ((newSM .exact pat true).match input = true ↔ FoldEq input pat) ∧
    ((newSM .prefix pat true).match input = true ↔ ∃ p r, input = p ++ r ∧ FoldEq p pat) ∧
    ((newSM .suffix pat true).match input = true ↔ ∃ r p, input = r ++ p ∧ FoldEq p pat) ∧
    ((newSM .contains pat true).match input = true ↔ ∃ a p b, input = a ++ p ++ b ∧ FoldEq p pat) := by
  refine ⟨?_, ?_, ?_, ?_⟩
  · exact string_matcher_sem .exact pat true input
  · exact string_matcher_sem .prefix pat true input
  · exact string_matcher_sem .suffix pat true input
  · exact string_matcher_sem .contains pat true input

/-- `StringMatcherFromProto`: rejects exactly an empty prefix/suffix/contains pattern and an invalid regex; what it
    accepts computes the specification (for a regex, ignore_case has no effect). -/
theorem from_proto_spec (kind : SMKind) (pat : Str) (re : Re) (ic : Bool) :
    (smFromProto kind pat re ic = none ↔
      ((kind = .prefix ∨ kind = .suffix ∨ kind = .contains) ∧ pat = []) ∨ (kind = .regex ∧ re.valid = false)) ∧
    (∀ sm, smFromProto kind pat re ic = some sm → ∀ input, sm.match input = Spec.sm kind pat re ic input) := by
  constructor
  · cases kind <;> simp [smFromProto]
  · intro sm h input
    cases kind <;>
      simp only [smFromProto, Option.ite_none_left_eq_some, Option.ite_none_right_eq_some, Option.some.injEq] at h
    case regex => obtain ⟨_, rfl⟩ := h; rfl
    case exact => subst h; exact string_matcher_eq_spec .exact pat ic input
    -- prefix, suffix, contains: the pattern is not empty, and the matcher is `newSM`
    all_goals obtain ⟨_, rfl⟩ := h; exact string_matcher_eq_spec _ pat ic input

/-- exact path: equal, or with case_insensitive equal up to ASCII case. -/
theorem path_exact_spec (p path : Str) (ci : Bool) :
    ((newPathExact p ci).match path = Spec.pathExact p ci path) ∧
    ((newPathExact p ci).match path = true ↔ if ci = true then FoldEq path p else path = p) := by
  have h : (newPathExact p ci).match path = Spec.pathExact p ci path := by
    -- the stored path stands on the left of `==`, the specification has it on the right
    cases ci
    · exact BEq.comm
    · exact BEq.comm.trans (map_beq_eq_eqFold upperB upper_beq path p)
  refine ⟨h, ?_⟩
  rw [h]
  cases ci <;> simp [Spec.pathExact, eqFold_iff]

/-- path prefix: the configured prefix is a prefix of the path, with case_insensitive up to ASCII case. -/
theorem path_prefix_spec (p path : Str) (ci : Bool) :
    ((newPathPrefix p ci).match path = Spec.pathPrefix p ci path) ∧
    ((newPathPrefix p ci).match path = true ↔
      if ci = true then ∃ q r, path = q ++ r ∧ FoldEq q p else p <+: path) := by
  have h : (newPathPrefix p ci).match path = Spec.pathPrefix p ci path := by
    cases ci
    · simp [newPathPrefix, PathMatcher.match, Spec.pathPrefix]
    · simp only [newPathPrefix, PathMatcher.match, Spec.pathPrefix, if_true, asciiUpper]
      exact map_isPrefixOf_eq_prefixFold upperB upper_beq p path
  refine ⟨h, ?_⟩
  rw [h]
  cases ci <;> simp [Spec.pathPrefix, prefixFold_iff]

/-- "regex (full-string)": the reference matcher used for every regex matcher (header, string, path) accepts a
    subject iff the WHOLE subject is a word of the regex's language `Lang` (the inductive textbook semantics:
    literal, `.` = any byte but newline, class range, concatenation, alternation, star) — not a substring search.
    In the implementation this is what `CompileSafeRegex`'s `^(?:…)$` wrapping buys; the correspondence run
    compares the two on every regex op. -/
theorem regex_full_string (r : Re) (s : Str) : r.matches s = true ↔ Lang r s := matches_iff s r

/-- regex path: the whole path is in the regex's language. -/
theorem path_regex_spec (re : Re) (path : Str) : (PathMatcher.regex re).match path = re.matches path := rfl

/-- The ported header matchers compute `Spec.withInvert` of the specified predicate (what the monitor evaluates on
    the implementation's answers). -/
theorem model_header_eq_spec (k pat : Str) (inv : Bool) (md : MD) :
    (HeaderMatcher.exact k pat inv).match md = Spec.withInvert md k inv (· == pat) ∧
    (HeaderMatcher.prefix k pat inv).match md = Spec.withInvert md k inv (pat.isPrefixOf ·) ∧
    (HeaderMatcher.suffix k pat inv).match md = Spec.withInvert md k inv (pat.isSuffixOf ·) ∧
    (HeaderMatcher.contains k pat inv).match md = Spec.withInvert md k inv (hasInfix pat ·) ∧
    (∀ re, (HeaderMatcher.regex k re inv).match md = Spec.withInvert md k inv re.matches) ∧
    (∀ start stop, -9223372036854775808 ≤ start → stop ≤ 9223372036854775807 →
      (HeaderMatcher.range k start stop inv).match md = Spec.withInvert md k inv (Spec.inRange · start stop)) ∧
    (∀ kind ic, kind ≠ .regex →
      (HeaderMatcher.string k (newSM kind pat ic) inv).match md = Spec.withInvert md k inv (Spec.sm kind pat .eps ic)) := by
  refine ⟨onValue_eq_withInvert md k inv (· == pat), onValue_eq_withInvert md k inv (pat.isPrefixOf ·),
    onValue_eq_withInvert md k inv (pat.isSuffixOf ·), onValue_eq_withInvert md k inv (hasInfix pat ·),
    fun re => onValue_eq_withInvert md k inv re.matches,
    fun start stop => range_match_eq_withInvert md k start stop inv, fun kind ic _ => ?_⟩
  rw [← funext (string_matcher_eq_spec kind pat ic)]
  exact onValue_eq_withInvert md k inv _

example : (newSM .exact [75, 101] true).match [107, 69] = true := by decide                 -- "Ke" ~ "kE"
example : (newSM .exact [64] true).match [96] = false := by decide                          -- '@' vs '`'
example : (newSM .exact [91] true).match [123] = false := by decide                         -- '[' vs '{'
example : (newSM .exact [107] true).match [226, 132, 170] = false := by decide              -- "k" vs U+212A: not ASCII-equal
example : (newSM .contains [66] true).match [97, 98, 99] = true := by decide
example : (HeaderMatcher.range [120] 5 6 false).match [([120], [[43, 53]])] = true := by decide   -- "+5" ∈ [5,6)
example : (HeaderMatcher.range [120] 5 6 false).match [([120], [[53], [53]])] = false := by decide -- "5,5"
example : (HeaderMatcher.exact [120] [97, 44, 98] false).match [([120], [[97], [98]])] = true := by decide
example : (HeaderMatcher.exact [120] [97] true).match [] = false := by decide
example : (newPresent [120] true true).match [] = true := by decide
example : (Re.seq (.char 97) (.star .dot)).matches [97, 98, 99] = true := by decide
example : (Re.char 97).matches [98, 97] = false := by decide                                -- full-string, not search

end GrpcProofs.C47
