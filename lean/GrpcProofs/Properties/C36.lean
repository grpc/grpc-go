/-
C36  Weighted round robin picks in proportion to weights.

Vocabulary. From GrpcModel/Model/WRRStride.lean, which ports scheduler.go / balancer.go:
  edfTry ws idx        one loop iteration of edfScheduler.nextIndex on sequence number idx
  edfNext fuel ws v    the whole call from counter value v (uint32, wraps at seqMod = 2^32)
  newScheduler ep      picker.newScheduler on endpoint weights ep (here over exact rationals)
  onLoadReport, weight endpointWeight.OnLoadReport, endpointWeight.weight
From GrpcProofs/Lemmas/WRRStride.lean, what the statements count:
  chosenCount ws i s L how many sequence numbers in [s, s+L) choose backend i
  chosenTotal ws s L   how many of them choose any backend;  sumFirst ws m = ws[0] + … + ws[m-1]
  chosenSeq ws v L     the backends chosen at the L sequence numbers after counter value v
  edfCalls fuel ws k v k consecutive calls of nextIndex from counter value v
From GrpcProofs/Lemmas/WRRScale.lean:
  Ev, runEv            an endpoint's history of load reports and weight queries; the state after it
-/
import GrpcProofs.Lemmas.WRRStride
import GrpcProofs.Lemmas.WRRScale
namespace GrpcProofs.C36
open GrpcModel.WRRStride GrpcModel.Generated
open GrpcProofs.Lemmas.WRRStride GrpcProofs.Lemmas.WRRScale

/- "Each pick terminates after at most n sequence numbers", in full: for every weight vector
containing the scaled maximum 65535 (which newScheduler guarantees, `scaled_has_max`) and EVERY
counter value v, `nextIndex` consumes at most n sequence numbers. That is FALSE for the code as it is
when the uint32 counter wraps inside the pick and n ∤ 2^32
(`pick_terminates_within_n_counterexample`, known finding F8b). Proved instead:
`pick_terminates_within_n_partial` (no wrap inside the next n numbers: at most n) and
`pick_terminates_within_2n` (every v: fewer than 2n). -/

/-- No wrap within the next n sequence numbers: the call returns after k ≤ n of them. -/
theorem pick_terminates_within_n_partial (ws : List Nat) (i v fuel : Nat)
    (hi : i < ws.length) (hmax : ws.getD i 0 = 65535)
    (hv : v + ws.length < seqMod) (hfuel : ws.length ≤ fuel) :
    ∃ j k, 1 ≤ k ∧ k ≤ ws.length ∧ edfNext fuel ws v = some (j, v + k) := by
  obtain ⟨d, hd, hres⟩ := exists_residue (v + 1) ws.length i hi
  have hidx : (v + (d + 1)) % seqMod = v + 1 + d := by
    rw [Nat.mod_eq_of_lt (by omega)]; omega
  have hsome : (edfTry ws ((v + (d + 1)) % seqMod)).isSome := by
    rw [hidx, edfTry_max ws _ (by rw [hres]; exact hmax)]; rfl
  obtain ⟨j, k, hk1, hk2, hnext⟩ := edfNext_first ws (d + 1) v fuel (by omega) (by omega) hsome
  refine ⟨j, k, hk1, by omega, ?_⟩
  rw [hnext, Nat.mod_eq_of_lt (by omega)]

/-- The literal "at most n" fails across the uint32 wrap: weights [1,1,65535], counter 2^32-2:
    the pick needs 4 > n = 3 sequence numbers (2^32-1, 0, 1, 2). -/
theorem pick_terminates_within_n_counterexample :
    ¬ (∀ (ws : List Nat) (i v : Nat), i < ws.length → ws.getD i 0 = 65535 → v < seqMod →
        ∃ j v', edfNext ws.length ws v = some (j, v')) := by
  intro h
  obtain ⟨j, v', hjv⟩ := h [1, 1, 65535] 2 4294967294 (by decide) (by decide) (by decide)
  have : edfNext 3 [1, 1, 65535] 4294967294 = none := by decide
  rw [show [1, 1, 65535].length = 3 from rfl, this] at hjv
  cases hjv

/-- Every counter value (wrap included): the call returns after k ≤ 2n-1 sequence numbers. -/
theorem pick_terminates_within_2n (ws : List Nat) (i v fuel : Nat)
    (hi : i < ws.length) (hmax : ws.getD i 0 = 65535) (hn : ws.length ≤ seqMod)
    (hv : v < seqMod) (hfuel : 2 * ws.length - 1 ≤ fuel) :
    ∃ j k, 1 ≤ k ∧ k ≤ 2 * ws.length - 1 ∧ edfNext fuel ws v = some (j, (v + k) % seqMod) := by
  by_cases hw : v + ws.length < seqMod
  · obtain ⟨j, k, hk1, hk2, hnext⟩ := pick_terminates_within_n_partial ws i v fuel hi hmax hw (by omega)
    exact ⟨j, k, hk1, by omega, by rw [hnext, Nat.mod_eq_of_lt (by omega)]⟩
  · -- the wrap: sequence number i itself (index i, generation 0) is reached after 2^32 - v + i steps
    have hk0 : (v + (seqMod - v + i)) % seqMod = i := by
      have : v + (seqMod - v + i) = i + seqMod := by omega
      rw [this, Nat.add_mod_right, Nat.mod_eq_of_lt (by omega)]
    have hsome : (edfTry ws ((v + (seqMod - v + i)) % seqMod)).isSome := by
      rw [hk0, edfTry_max ws i (by rw [Nat.mod_eq_of_lt hi]; exact hmax)]; rfl
    obtain ⟨j, k, hk1, hk2, hnext⟩ :=
      edfNext_first ws (seqMod - v + i) v fuel (by omega) (by omega) hsome
    exact ⟨j, k, hk1, by omega, hnext⟩

/-- What a call returns is the first sequence number after v (wrapping order) that chooses a
    backend, and that backend. -/
theorem next_is_first_chosen (ws : List Nat) (fuel v j v' : Nat) (h : edfNext fuel ws v = some (j, v')) :
    ∃ k, 1 ≤ k ∧ v' = (v + k) % seqMod ∧ edfTry ws ((v + k) % seqMod) = some j
      ∧ ∀ k', 1 ≤ k' → k' < k → edfTry ws ((v + k') % seqMod) = none :=
  have ⟨k, hv', hk⟩ := edfNext_sound ws fuel v j v' h
  ⟨k, hk.pos, hv', hk.hit, hk.before⟩

/-- The indices returned by k consecutive calls are exactly the backends chosen at the sequence
    numbers those calls consumed, in order (so counting picks = counting chosen numbers). -/
theorem calls_are_the_chosen_sequence_numbers (fuel : Nat) (ws : List Nat) (k v : Nat) (is : List Nat)
    (v' : Nat) (hv : v < seqMod) (h : edfCalls fuel ws k v = some (is, v')) :
    ∃ L, k ≤ L ∧ v' = (v + L) % seqMod ∧ is = chosenSeq ws v L ∧ is.length = k :=
  edfCalls_sound fuel ws k v is v' hv h

/-- In ANY window [s, s + 65535·n) of sequence numbers backend i is chosen exactly `ws[i]` times
    (every weight vector with entries ≤ 65535 = every `[]uint16`; every start s). -/
theorem exact_proportion (ws : List Nat) (i s : Nat) (hi : i < ws.length) (hw : ws.getD i 0 ≤ 65535) :
    chosenCount ws i s (65535 * ws.length) = ws.getD i 0 :=
  chosenCount_window ws i s hi hw

/-- Counter form. Full statement: for every counter value v the next 65535·n values of the uint32
    counter choose backend i exactly ws[i] times. Proved for windows that do not contain the wrap
    (v + 65535·n < 2^32); across the wrap the generation restarts at 0 and the count can be off
    (same root cause as F8b, observed on the real code by the monitor). -/
theorem exact_proportion_counter_partial (ws : List Nat) (i v : Nat) (hi : i < ws.length)
    (hw : ws.getD i 0 ≤ 65535) (hv : v + 65535 * ws.length < seqMod) :
    (chosenSeq ws v (65535 * ws.length)).count i = ws.getD i 0 := by
  rw [chosenSeq_eq_chosen ws v _ hv, chosen_count]
  exact chosenCount_window ws i (v + 1) hi hw

/-- The window contains exactly Σ ws picks in total, so backend i gets the share ws[i] / Σ ws. -/
theorem window_total (ws : List Nat) (s : Nat) (hn : 0 < ws.length)
    (hw : ∀ i, i < ws.length → ws.getD i 0 ≤ 65535) :
    chosenTotal ws s (65535 * ws.length) = sumFirst ws ws.length := by
  have hsum : ∀ m, sumFirst ws m = ∑ i ∈ Finset.range m, ws.getD i 0 := fun m => by
    induction m with
    | zero => rfl
    | succ m ih => rw [sumFirst, ih, Finset.sum_range_succ]
  -- the total is the length of the list of chosen backends, i.e. the sum over i of the occurrences of i
  rw [← chosen_length, ← sum_count ws.length _ (chosen_lt ws hn s _), hsum]
  exact Finset.sum_congr rfl fun i hi => (chosen_count ws i s _).trans
    (chosenCount_window ws i s (Finset.mem_range.mp hi) (hw i (Finset.mem_range.mp hi)))

/-- The model's `Nat` arithmetic is the code's uint64 arithmetic: nothing can wrap. -/
theorem no_uint64_overflow (ws : List Nat) (idx : Nat) (hidx : idx < seqMod)
    (hw : ∀ i, ws.getD i 0 ≤ 65535) :
    ws.getD (idx % ws.length) 0 * (idx / ws.length) + (idx % ws.length) * offset < 2 ^ 64 := by
  have h1 : idx / ws.length ≤ idx := Nat.div_le_self _ _
  have h2 : idx % ws.length ≤ idx := Nat.mod_le _ _
  have h3 := hw (idx % ws.length)
  have hS : seqMod = 4294967296 := rfl
  have h4 : ws.getD (idx % ws.length) 0 * (idx / ws.length) ≤ 65535 * 4294967296 :=
    Nat.mul_le_mul h3 (by omega)
  have h5 : (idx % ws.length) * offset ≤ 4294967296 * 32767 := by
    rw [show offset = 32767 from rfl]; exact Nat.mul_le_mul (by omega) (Nat.le_refl _)
  omega

/-- Plain round robin: without a wrap the k-th pick is (v+k) mod n, and any n consecutive picks
    hit every backend. -/
theorem rr_round_robin (n v : Nat) (hv : v + n < seqMod) :
    (∀ k, k < n → rrNext n (v + k) = ((v + k + 1) % n, v + k + 1)) ∧
    (∀ i, i < n → ∃ k, k < n ∧ (rrNext n (v + k)).1 = i) := by
  have hstep : ∀ k, k < n → rrNext n (v + k) = ((v + k + 1) % n, v + k + 1) := by
    intro k hk
    have : inc (v + k) = v + k + 1 := by unfold inc; exact Nat.mod_eq_of_lt (by omega)
    simp [rrNext, this]
  refine ⟨hstep, ?_⟩
  intro i hi
  obtain ⟨d, hd, hres⟩ := exists_residue (v + 1) n i hi
  refine ⟨d, hd, ?_⟩
  rw [hstep d hd]
  have : v + d + 1 = v + 1 + d := by omega
  simp only [this, hres]

/-- The EDF scheduler built from non-negative weights has one weight per endpoint and a backend
    whose scaled weight is exactly 65535 (the one with the largest weight). -/
theorem scaled_has_max (ep : List ℚ) (h0 : ∀ w ∈ ep, 0 ≤ w) (ws : List Nat)
    (h : newScheduler ep = some (.edf ws)) :
    ws.length = ep.length ∧ ∃ i, i < ws.length ∧ ws.getD i 0 = 65535 := by
  have hb := newScheduler_edf_pos ep h0 ws h
  rw [hb.weights]
  obtain ⟨i, hi, hget⟩ := List.getElem_of_mem hb.max_mem
  refine ⟨scaledWeights_length ep, i, by rw [scaledWeights_length]; exact hi, ?_⟩
  rw [scaledWeights_getD, List.getElem?_eq_getElem hi, hget]
  simp only [if_neg (ne_of_gt hb.max_pos), scaled_max ep hb.max_pos]
  rfl

/-- Every scaled weight fits the stride bound (≤ 65535). -/
theorem scaled_le_max (ep : List ℚ) (h0 : ∀ w ∈ ep, 0 ≤ w) (ws : List Nat)
    (h : newScheduler ep = some (.edf ws)) (i : Nat) : ws.getD i 0 ≤ 65535 := by
  have hb := newScheduler_edf_pos ep h0 ws h
  rw [hb.weights, scaledWeights_getD]
  cases hget : ep[i]? with
  | none => exact Nat.zero_le _
  | some w =>
    simp only
    split
    · exact meanW_le ep h0 hb.someUsable
    · exact scaled_le ep w hb.max_pos (maxW_ge ep w (List.mem_of_getElem? hget))

/-- A non-zero weight w scales to round(65535·w / max): within 1/2 of the exact proportion. -/
theorem scaled_weight_formula (ep : List ℚ) (h0 : ∀ w ∈ ep, 0 ≤ w) (ws : List Nat)
    (h : newScheduler ep = some (.edf ws)) (i : Nat) (w : ℚ) (hget : ep[i]? = some w) (hne : w ≠ 0) :
    (∀ u ∈ ep, u ≤ maxW ep) ∧ maxW ep ∈ ep ∧
    ((ws.getD i 0 : ℕ) : ℚ) ≤ 65535 * w / maxW ep + 1 / 2 ∧
    65535 * w / maxW ep - 1 / 2 < ((ws.getD i 0 : ℕ) : ℚ) := by
  have hb := newScheduler_edf_pos ep h0 ws h
  rw [hb.weights]
  exact ⟨maxW_ge ep, hb.max_mem, scaledWeights_bounds ep h0 hb.max_pos i w hget w (by rw [if_neg hne])⟩

/-- An endpoint without a usable weight (0) gets the rounded scaled mean of the non-zero weights. -/
theorem zero_weight_gets_mean (ep : List ℚ) (h0 : ∀ w ∈ ep, 0 ≤ w) (ws : List Nat)
    (h : newScheduler ep = some (.edf ws)) (i : Nat) (hget : ep[i]? = some 0) :
    let mean : ℚ := ep.sum / ((ep.countP (fun w => decide (w ≠ 0)) : ℕ) : ℚ)
    ((ws.getD i 0 : ℕ) : ℚ) ≤ 65535 * mean / maxW ep + 1 / 2 ∧
    65535 * mean / maxW ep - 1 / 2 < ((ws.getD i 0 : ℕ) : ℚ) := by
  have hb := newScheduler_edf_pos ep h0 ws h
  rw [hb.weights]
  intro mean
  exact scaledWeights_bounds ep h0 hb.max_pos i 0 hget mean (by rw [if_pos rfl]; rfl)

/-- Round robin is returned in exactly these cases: a single endpoint, at most one non-zero
    weight, or all (scaled) weights equal. -/
theorem rr_fallback_iff (ep : List ℚ) (k : Nat) :
    newScheduler ep = some (.rr k) ↔
      ep ≠ [] ∧ k = ep.length ∧
        (ep.length = 1 ∨ ep.countP (fun w => decide (w ≠ 0)) < 2 ∨ allEqual ep = true) := by
  have hcount : ep.countP (fun w => decide (w ≠ 0)) + numZero ep = ep.length := usable_add_numZero ep
  have : numZero ep ≥ ep.length - 1 ↔ ep.countP (fun w => decide (w ≠ 0)) < 2 := by omega
  rw [newScheduler_rr_iff, this]

/-- Fewer than two non-zero weights ⇒ plain round robin over all n endpoints. -/
theorem rr_when_fewer_than_two_nonzero (ep : List ℚ) (hne : ep ≠ [])
    (h : ep.countP (fun w => decide (w ≠ 0)) < 2) : newScheduler ep = some (.rr ep.length) :=
  (rr_fallback_iff ep ep.length).mpr ⟨hne, rfl, Or.inr (Or.inl h)⟩

/-- All usable weights equal ⇒ plain round robin (endpoints without a weight get the same mean). -/
theorem rr_when_all_equal (ep : List ℚ) (hne : ep ≠ []) (c : ℚ) (hc : 0 < c)
    (h : ∀ w ∈ ep, w = 0 ∨ w = c) : newScheduler ep = some (.rr ep.length) := by
  rw [newScheduler_rr_iff]
  refine ⟨hne, rfl, ?_⟩
  by_cases hz : numZero ep ≥ ep.length - 1
  · exact Or.inr (Or.inl hz)
  · exact Or.inr (Or.inr (allEqual_of_two_valued ep c hc h (by omega)))

/-- Whatever EDF scheduler newScheduler builds from non-negative weights, every pick from a counter
    value with no wrap inside the next n numbers ends within n sequence numbers. -/
theorem wrr_pick_terminates (ep : List ℚ) (h0 : ∀ w ∈ ep, 0 ≤ w) (ws : List Nat)
    (h : newScheduler ep = some (.edf ws)) (v fuel : Nat)
    (hv : v + ws.length < seqMod) (hfuel : ws.length ≤ fuel) :
    ∃ j k, 1 ≤ k ∧ k ≤ ep.length ∧ edfNext fuel ws v = some (j, v + k) := by
  obtain ⟨hlen, i, hi, hmax⟩ := scaled_has_max ep h0 ws h
  obtain ⟨j, k, h1, h2, h3⟩ := pick_terminates_within_n_partial ws i v fuel hi hmax hv hfuel
  exact ⟨j, k, h1, by omega, h3⟩

/-- … and every window of 65535·n sequence numbers chooses endpoint i exactly (scaled weight)
    times. -/
theorem wrr_exact_proportion (ep : List ℚ) (h0 : ∀ w ∈ ep, 0 ≤ w) (ws : List Nat)
    (h : newScheduler ep = some (.edf ws)) (i s : Nat) (hi : i < ep.length) :
    chosenCount ws i s (65535 * ep.length) = ws.getD i 0 := by
  obtain ⟨hlen, _⟩ := scaled_has_max ep h0 ws h
  rw [← hlen]
  exact chosenCount_window ws i s (by omega) (scaled_le_max ep h0 ws h i)

/-- A non-empty report stores qps / (utilization + eps/qps · penalty), utilization being the
    application utilization or, when that is 0, the CPU utilization. -/
theorem weight_formula (penalty : ℚ) (now : Int) (w : EW ℚ) (r : Report ℚ) (h : r.empty = false) :
    (onLoadReport penalty now w r).weightVal =
      r.rps / ((if r.appUtil = 0 then r.cpuUtil else r.appUtil) + r.eps / r.rps * penalty)
    ∧ (onLoadReport penalty now w r).lastUpdated = some now := by
  simp only [onLoadReport, h, Report.weight, Report.utilization, div_rat, add_rat, mul_rat, eq_rat, zero_rat]
  simp

/-- A report with utilization 0 (both fields) or qps 0 is ignored. -/
theorem report_ignored_when_empty {α : Type} [Arith α] (penalty : α) (now : Int) (w : EW α) (r : Report α)
    (h : r.empty = true) : onLoadReport penalty now w r = w := by
  simp [onLoadReport, h]

/-- Before the first (non-empty) load report the weight is 0, whatever else happened. -/
theorem weight_zero_before_first_report {α : Type} [Arith α] (penalty : α) (evs : List (Ev α))
    (h : ∀ e ∈ evs, e.nonEmptyReport = false) (now exp blackout : Int) :
    (weight now exp blackout (runEv penalty EW.init evs)).2 = Arith.zero :=
  by rw [weight_none (runEv_quiet penalty evs EW.init h).1]

/-- After the expiration period since the latest non-empty report the weight is 0. -/
theorem weight_zero_after_expiry {α : Type} [Arith α] (penalty : α) (pre post : List (Ev α)) (t : Int)
    (r : Report α) (hr : r.empty = false) (hpost : ∀ e ∈ post, e.nonEmptyReport = false)
    (now exp blackout : Int) (hexp : now - t ≥ exp) :
    (weight now exp blackout (runEv penalty EW.init (pre ++ [Ev.report t r] ++ post))).2 = Arith.zero :=
  (weight_zero_of_expired _ _ _ _ t (runEv_report penalty pre post t r hr hpost).1 hexp).1

/-- During the blackout period — less than `blackout` since every non-empty report so far — the
    weight is 0. -/
theorem weight_zero_in_blackout {α : Type} [Arith α] (penalty : α) (evs : List (Ev α)) (t0 : Int)
    (hall : ∀ t r, Ev.report t r ∈ evs → r.empty = false → t0 ≤ t)
    (now exp blackout : Int) (hb : blackout ≠ 0) (hnow : now - t0 < blackout) :
    (weight now exp blackout (runEv penalty EW.init evs)).2 = Arith.zero := by
  refine weight_zero_of_blackout _ _ _ _ hb fun ne hne => ?_
  rcases runEv_since penalty evs EW.init ne hne with h1 | ⟨r, hr, hre⟩
  · cases h1
  · have := hall ne r hr hre; omega

/-- Otherwise the weight is the one of the latest non-empty report: if that report (time t) is
    younger than the expiration period, and the blackout period is 0 or has elapsed since
    `nonEmptySince`, the result is exactly that report's formula; in any case it is that or 0. -/
theorem weight_is_latest_report_otherwise {α : Type} [Arith α] (penalty : α) (pre post : List (Ev α))
    (t : Int) (r : Report α) (hr : r.empty = false) (hpost : ∀ e ∈ post, e.nonEmptyReport = false)
    (now exp blackout : Int) :
    let st := runEv penalty EW.init (pre ++ [Ev.report t r] ++ post)
    ((weight now exp blackout st).2 = Arith.zero ∨ (weight now exp blackout st).2 = r.weight penalty) ∧
    (now - t < exp → (blackout = 0 ∨ ∃ ne, st.nonEmptySince = some ne ∧ blackout ≤ now - ne) →
      (weight now exp blackout st).2 = r.weight penalty) := by
  intro st
  obtain ⟨hlu, hwv⟩ := runEv_report penalty pre post t r hr hpost
  rw [← hwv]
  exact ⟨weight_zero_or_val _ _ _ st, weight_eq_val _ _ _ st t hlu⟩

/-- Once a query has seen the data expired, `nonEmptySince` is cleared, so the next non-empty
    report (time t') restarts the blackout period: a query less than `blackout` later gives 0. -/
theorem blackout_reapplied_after_expiry {α : Type} [Arith α] (penalty : α) (w : EW α) (lu : Int)
    (hlu : w.lastUpdated = some lu) (nowq exp blackout : Int) (hexp : nowq - lu ≥ exp)
    (t' : Int) (r : Report α) (hr : r.empty = false) (now : Int) (hb : blackout ≠ 0)
    (hnow : now - t' < blackout) :
    let w1 := (weight nowq exp blackout w).1
    w1.nonEmptySince = none ∧
    (onLoadReport penalty t' w1 r).nonEmptySince = some t' ∧
    (weight now exp blackout (onLoadReport penalty t' w1 r)).2 = Arith.zero := by
  intro w1
  have h1 : w1.nonEmptySince = none := (weight_zero_of_expired nowq exp blackout w lu hlu hexp).2
  have h2 : (onLoadReport penalty t' w1 r).nonEmptySince = some t' := by
    simp [onLoadReport, hr, h1]
  refine ⟨h1, h2, weight_zero_of_blackout _ _ _ _ hb fun ne hne => ?_⟩
  rw [h2] at hne
  cases hne; exact hnow

example : edfNext 4 [1, 1, 65535] 4294967294 = some (2, 2) := by decide
example : edfNext 3 [1, 1, 65535] 10 = some (2, 11) := by decide
example : edfTry [21845, 43690, 65535] 7 = some 1 := by decide
example : newScheduler ([1, 2, 3] : List ℚ) = some (.edf [21845, 43690, 65535]) := by
  have hm : maxW ([1, 2, 3] : List ℚ) = 3 := by
    simp [maxW, lt_rat, zero_rat]; norm_num
  have hnz : numZero ([1, 2, 3] : List ℚ) = 0 := by simp [numZero, eq_rat, zero_rat]
  have hmean : meanW ([1, 2, 3] : List ℚ) = 43690 := by
    have hc : usable ([1, 2, 3] : List ℚ) = 3 := by simp [usable]
    rw [meanW_eq, hm, hc, maxWeight_cast]; apply rnd_val <;> norm_num
  have s1 : scaled ([1, 2, 3] : List ℚ) 1 = 21845 := by
    rw [scaled_eq, hm, maxWeight_cast]; apply rnd_val <;> norm_num
  have s2 : scaled ([1, 2, 3] : List ℚ) 2 = 43690 := by
    rw [scaled_eq, hm, maxWeight_cast]; apply rnd_val <;> norm_num
  have s3 : scaled ([1, 2, 3] : List ℚ) 3 = 65535 := by
    rw [scaled_eq, hm, maxWeight_cast]; apply rnd_val <;> norm_num
  simp [newScheduler, hnz, allEqual, scaledWeights, hmean, s1, s2, s3, eq_rat, zero_rat]
example : newScheduler ([0, 0, 3] : List ℚ) = some (.rr 3) :=
  rr_when_fewer_than_two_nonzero _ (by simp) (by simp)
example : newScheduler ([5, 0, 5] : List ℚ) = some (.rr 3) :=
  rr_when_all_equal _ (by simp) 5 (by norm_num) (by simp)
example : newScheduler ([] : List ℚ) = none := rfl

end GrpcProofs.C36
