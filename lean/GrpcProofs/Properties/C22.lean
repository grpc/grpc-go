/-
C22  Deadlines and cancellation propagate to both ends.
The grpc-timeout encoding bound d ≤ d' is C07's theorem (imported and reused).

The model (lean/GrpcModel/Model/Deadline.lean) is one RPC goroutine moving through the five
blocking selects of the client path, for unary and streaming RPCs, under arbitrary environment
events and arbitrary select choices; `WF` is an invariant of every run (`wf_reachable`).
-/
import GrpcProofs.Lemmas.Deadline
import GrpcProofs.Properties.C07
namespace GrpcProofs.C22
open GrpcModel.Deadline GrpcModel.Generated GrpcProofs.Lemmas.Deadline

/-- Structural: each of the five select sets contains the context case — directly, or (write quota)
    through `s.done`, which the watcher goroutine closes on ctx.Done (`watcher_relays_ctx`). -/
theorem every_block_point_listens_to_ctx (p : Pos) :
    Wake.ctxDone ∈ selectSet p ∨ (p = .wquota ∧ Wake.streamDone ∈ selectSet p) := by
  cases p <;> decide

/-- The watcher of a created streaming RPC turns ctx.Done into `s.done` closed + status fixed. -/
theorem watcher_relays_ctx (s : St) (e : CtxErr) (h : WF s) (hs : s.streaming = true) (hcr : s.created = true)
    (hc : s.ctx = none) (hsd : s.sdone = false) :
    (fired s e).sdone = true ∧ (fired s e).finished = some (codeOfCtx e) := by
  rw [fired_streaming_created h hs hcr hc hsd]; simp

/-- `WF` holds in every state of every run, for both kinds of RPC, any initial picker / quota
    situation, any event sequence and any select choices. -/
theorem wf_reachable (streaming ready : Bool) (squota reqSz : Nat) (serverStreams : Bool) (pref : Nat → Bool) (es : List Ev) :
    WF (run pref 0 (St.init streaming ready squota reqSz serverStreams) es) :=
  wf_run pref es 0 (wf_init streaming ready squota reqSz serverStreams)

/-- C22 "the handler's context is cancelled when the client cancels", client half, and "regardless of
    where it is blocked" for the time the application is NOT inside a grpc call: for EVERY stream the
    application created through `ClientConn.NewStream` — whatever its StreamDesc (client-streaming,
    server-streaming, both, or neither) — and at EVERY point after creation (in application code
    between two calls, or parked in any of the selects), a cancel / expired deadline closes the
    transport stream in that very step: `s.done` is closed, RST_STREAM(CANCEL) is on the wire and the
    status is fixed to the context's code. (`cc.Invoke` needs no watcher: it is always inside a call.) -/
theorem cancel_anywhere_releases_stream (b : Bool) (s : St) (e : CtxErr) (h : WF s) (hs : s.streaming = true)
    (hcr : s.created = true) (hc : s.ctx = none) (hsd : s.sdone = false) :
    (step b s (.ctxFire e)).sdone = true ∧ (step b s (.ctxFire e)).rstSent = true
      ∧ (step b s (.ctxFire e)).finished = some (codeOfCtx e) := by
  -- the watcher releases the stream before the goroutine runs, and nothing it then does undoes that
  rw [step_ctxFire hc]
  have r : Released (codeOfCtx e) (fired s e) := by rw [fired_streaming_created h hs hcr hc hsd]; exact ⟨rfl, rfl, rfl⟩
  have r := resume_induct released_wake (fuelOf (fired s e)) r (b := b)
  exact ⟨r.sdone, r.rstSent, r.finished⟩

/-- … and the RST_STREAM cancels the handler's context (composition with `server_ctx_cancelled_on_rst`
    below is immediate); the next RecvMsg of the application then returns that code at once. -/
theorem released_stream_recv_returns_code (b : Bool) (s : St) (c : Nat) (hp : s.pc = .app) (hh : s.hdr = true)
    (hsd : s.sdone = true) (hb : s.buf = [.err c]) : (step b s .appRecv).pc = .returned c :=
  (drain_returns (fun _ => b) c 0 0 s hp nofun hh hsd hb).1

/-- The status code of a context error is CANCELLED (1) or DEADLINE_EXCEEDED (4). -/
theorem terminal_code (e : CtxErr) : codeOfCtx e = 1 ∨ codeOfCtx e = 4 := by
  cases e <;> simp [codeOfCtx, codeCanceled, codeDeadlineExceeded]

theorem terminal_code_deadline : codeOfCtx .deadlineExceeded = 4 := rfl
theorem terminal_code_cancel : codeOfCtx .canceled = 1 := rfl

/-- C22, first sentence. An RPC that is genuinely parked (context live, no select case ready:
    `wake = none`) at ANY blocking point other than write quota returns the context's status code in
    the very step in which the deadline passes / cancel is called — whatever the select choice. -/
theorem parked_rpc_returns_ctx_code (b b' : Bool) (s : St) (e : CtxErr) (p : Pos) (h : WF s)
    (hp : s.pc = .parked p) (hc : s.ctx = none) (hw : wake b s = none) (hne : p ≠ .wquota) :
    (step b' s (.ctxFire e)).pc = .returned (codeOfCtx e) := by
  rw [parked_ctxFire h hp hw]
  exact ctxExit_pc hne

/-- In particular in the MIDDLE of a message: the 5-byte message header has been consumed
    (`readMessageHeaderClient`) and the goroutine waits in `readClient` for the rest of the payload
    (`midMsg`). A unary RPC has no watcher goroutine, so this select is the only thing that listens. -/
theorem parked_mid_message_returns_ctx_code (b b' : Bool) (s : St) (e : CtxErr) (h : WF s)
    (hp : s.pc = .parked .recv) (_hm : s.midMsg = true) (hc : s.ctx = none) (hw : wake b s = none) :
    (step b' s (.ctxFire e)).pc = .returned (codeOfCtx e) :=
  parked_rpc_returns_ctx_code b b' s e .recv h hp hc hw (by decide)

/-- Write quota: only a streaming RPC can be parked there (a unary RPC sends one message against
    the initial 65536-byte quota). The watcher finishes the stream: SendMsg returns (io.EOF), the
    status is fixed to the context's code … -/
theorem parked_wquota_unblocked (b b' : Bool) (s : St) (e : CtxErr) (h : WF s)
    (hp : s.pc = .parked .wquota) (hc : s.ctx = none) (hw : wake b s = none) :
    s.streaming = true ∧ (step b' s (.ctxFire e)).pc = .app
      ∧ (step b' s (.ctxFire e)).finished = some (codeOfCtx e)
      ∧ (step b' s (.ctxFire e)).buf = s.buf ++ [.err (codeOfCtx e)] := by
  have ⟨_, hsd, hs⟩ := (h.parked hp hw).2
  rw [parked_ctxFire h hp hw, fired_streaming_created h hs (h.at_of hp).1 hc hsd]
  exact ⟨hs, rfl, rfl, rfl⟩

/-- … and the application's following RecvMsg calls drain the k messages that were already buffered
    and then return that code (the documented recv-buffer drain delay: k more calls, no waiting). -/
theorem finished_stream_returns_code (pref : Nat → Bool) (c k n : Nat) (s : St) (hp : s.pc = .app)
    (hs : s.serverStreams = true) (hh : s.hdr = true) (hsd : s.sdone = true)
    (hb : s.buf = List.replicate k Item.msg ++ [.err c]) :
    (run pref n s (List.replicate (k + 1) .appRecv)).pc = .returned c :=
  (drain_returns pref c k n s hp (fun _ => hs) hh hsd hb).1

/-- Bounded time: once the context is done the RPC goroutine is never blocked again — at every
    blocking point of every reachable state some select case is ready. -/
theorem ctx_done_never_blocks (b : Bool) (s : St) (e : CtxErr) (p : Pos) (h : WF s) (hc : s.ctx = some e)
    (hp : s.pc = .parked p) : ∃ s', wake b s = some s' :=
  Option.ne_none_iff_exists'.mp fun hw => nomatch hc.symm.trans (h.parked hp hw).1

/-- A unary RPC is never parked on write quota (so the missing ctx case there cannot hang it). -/
theorem unary_never_parked_on_wquota (b : Bool) (s : St) (h : WF s) (hs : s.streaming = false)
    (hp : s.pc = .parked .wquota) : ∃ s', wake b s = some s' :=
  Option.ne_none_iff_exists'.mp fun hw =>
    have ⟨_, _, hst⟩ := (h.parked hp hw).2
    nomatch hs.symm.trans hst

/-- C22, second sentence, first half. The client sends `grpc-timeout = EncodeDuration(deadline - now)`
    (0 < remaining ≤ MaxInt64); the server's handler context gets deadline
    `arrival + decodeTimeout(header)`. Since decode(encode d) ≥ d (C07 `decode_encode_bytes`) and the
    header cannot arrive before it was sent, the handler's deadline is never earlier than the
    client's — and less than one encoding unit later, measured from arrival. -/
theorem server_deadline_ge_client_remaining (now deadline arrival : Nat) (h0 : now < deadline)
    (hmax : deadline - now ≤ GrpcModel.Timeout.maxInt64) (harr : now ≤ arrival) :
    ∃ hdr sd, timeoutHeader now deadline = .ok hdr ∧ serverDeadline arrival hdr = some sd ∧ deadline ≤ sd
      ∧ sd < arrival + (deadline - now) + (GrpcModel.Timeout.encode (deadline - now)).2.ns := by
  obtain ⟨d', hd, h1, h2⟩ := GrpcProofs.C07.decode_encode_bytes (Int.ofNat (deadline - now))
    (Int.natCast_pos.mpr (by omega)) (Int.ofNat_le.mpr hmax)
  replace h1 : deadline - now ≤ d' := h1
  replace h2 : d' < deadline - now + (GrpcModel.Timeout.encode (deadline - now)).2.ns := h2
  refine ⟨GrpcModel.Timeout.encodeBytes (Int.ofNat (deadline - now)), arrival + d', ?_, ?_, ?_, ?_⟩
  · rw [timeoutHeader, if_neg (by omega)]
  · rw [serverDeadline, hd]; rfl
  · omega
  · omega

/-- A deadline that has already passed is not put on the wire: the RPC fails DEADLINE_EXCEEDED. -/
theorem expired_deadline_not_sent (now deadline : Nat) (h : deadline ≤ now) : timeoutHeader now deadline = .error 4 := by
  simp [timeoutHeader, h, codeDeadlineExceeded]

/-- RST_STREAM from the client (sent when the client cancels or its deadline passes) cancels the
    handler's context at once. -/
theorem server_ctx_cancelled_on_rst (s : Srv) : (sstep s .rst).err.isSome = true ∧ (s.err = none → (sstep s .rst).err = some .canceled) := by
  cases h : s.err <;> simp [sstep, h]

/-- The deadline cancels it: in every valid (urgent) timeline, once now > deadline the context is done;
    the expiry itself yields DeadlineExceeded. -/
theorem server_ctx_cancelled_by_deadline : ∀ (es : List SEv) (s : Srv) (dl : Nat), s.deadline = some dl →
    (s.err = none → s.now ≤ dl) → SValid s es = true →
    ((srun s es).err = none → (srun s es).now ≤ dl) ∧ (srun s es).deadline = some dl
  | [], s, dl, hd, h, _ => ⟨h, hd⟩
  | e :: es, s, dl, hd, h, hv => by
    simp only [SValid, Bool.and_eq_true] at hv
    -- one valid step keeps both facts: time cannot pass a live deadline, and every other event ends the context
    have ⟨hd', h'⟩ : (sstep s e).deadline = some dl ∧ ((sstep s e).err = none → (sstep s e).now ≤ dl) := by
      have hok := hv.1
      cases e <;> cases he : s.err <;> simp [sstep, SEv.ok, hd, he] at hok ⊢ <;> exact hok
    exact server_ctx_cancelled_by_deadline es (sstep s e) dl hd' h' hv.2

theorem server_expiry_is_deadline_exceeded (s : Srv) (h : s.err = none) : (sstep s .expire).err = some .deadlineExceeded := by
  simp [sstep, h]

/-- The first cause wins: a done context never changes its error. -/
theorem server_ctx_err_sticky (s : Srv) (e : CtxErr) (ev : SEv) (h : s.err = some e) : (sstep s ev).err = some e := by
  cases ev <;> simp [sstep, h]

-- a unary-shaped stream made with NewStream (neither ClientStreams nor ServerStreams), request sent, the
-- application not inside any call: cancel closes the stream and sends RST_STREAM
example : let s := run (fun _ => false) 0 (St.init true true 1 1 false) [.pickerReady, .appSend 10, .ctxFire .canceled]
    s.pc = .app ∧ s.sdone = true ∧ s.rstSent = true ∧ s.finished = some 1 := by decide
example : (run (fun _ => false) 0 (St.init true true 1 1 false) [.pickerReady, .appSend 10, .ctxFire .canceled, .appRecv]).pc
    = .returned 1 := by decide

-- a unary RPC with no READY subchannel parks in pick; cancel → CANCELLED
example : (run (fun _ => true) 0 (St.init false false 1) [.ctxFire .canceled]).pc = .returned 1 := by decide
-- stream quota 0: parks in NewStream; deadline → DEADLINE_EXCEEDED
example : (run (fun _ => false) 0 (St.init false false 0) [.pickerReady, .ctxFire .deadlineExceeded]).pc = .returned 4 := by decide
-- silent server: parks in waitOnHeader; then the normal path still works without a context event
example : (run (fun _ => false) 0 (St.init false true 1) [.pickerReady]).pc = .parked .header := by decide
example : (run (fun _ => false) 0 (St.init false true 1) [.pickerReady, .headers, .message, .trailers 0]).pc = .returned 0 := by decide
example : (run (fun _ => false) 0 (St.init false true 1) [.pickerReady, .headers, .ctxFire .canceled]).pc = .returned 1 := by decide
-- unary, header of the response message arrived, payload incomplete: parked mid-message; deadline
example : let s := run (fun _ => false) 0 (St.init false true 1) [.pickerReady, .headers, .partialMsg]
    s.pc = .parked .recv ∧ s.midMsg = true ∧ wake false s = none := by decide
example : (run (fun _ => false) 0 (St.init false true 1) [.pickerReady, .headers, .partialMsg, .ctxFire .deadlineExceeded]).pc
    = .returned 4 := by decide
-- streaming: 200000 bytes against the 65536 quota, second SendMsg parks on write quota; deadline
example : (run (fun _ => false) 0 (St.init true true 1) [.pickerReady, .appSend 200000, .appSend 1]).pc = .parked .wquota := by decide
example : (run (fun _ => false) 0 (St.init true true 1) [.pickerReady, .appSend 200000, .appSend 1, .ctxFire .deadlineExceeded, .appRecv]).pc
    = .returned 4 := by decide
-- 5 s is sent as "5000000u" and decodes exactly; "5S" arriving at instant 7 gives deadline 5 s + 7 ns
example : (match timeoutHeader 0 5000000000 with | .ok h => h == [53, 48, 48, 48, 48, 48, 48, 117] | .error _ => false) = true := by decide
example : serverDeadline 7 [53, 83] = some 5000000007 := by decide

end GrpcProofs.C22
