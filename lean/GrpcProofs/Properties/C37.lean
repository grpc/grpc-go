/-
C37  Ring hash builds bounded deterministic rings and walks them per A61.   (PARTIAL)

PARTIAL because balancer/ringhash/ring.go computes in float64 and most theorems below are about the
SAME definition (`GrpcModel.Ring.newRing`, generic over `RingArith`) instantiated with exact
rationals; the float instance is diffed bit-for-bit against the Go code and the predicates are
monitored on the real ring with no tolerance. What IS proved for every arithmetic, float64
included, is the upper size bound (`ring_size_le_max_any_arithmetic`): the fill loop also stops at
max_ring_size (its guard `uint64(len(items)) < maxRingSize`; without it float64 gives
max_ring_size + 1 entries, F14: weights [353 525 364 915 538 257 795 474], min 4, max 8 → 9). Still
monitored only (known finding F14b): the ±1 shift of one entry between neighbouring endpoints when a
float target lands just above an exact integer.

Vocabulary (GrpcModel/Model/Ring.lean; `Valid` and `nw` are in GrpcProofs/Lemmas/Ring.lean):
  Valid eps             weights ≥ 1, Σ weights < 2^32 (the uint32 weightSum does not wrap), eps ≠ []
  newRing hashOf eps min max   the ring items, sorted by hash (hashOf k j = xxhash of "<key_k>_<j>")
  ringCounts eps min max       entries per endpoint, endpoints in hashKey order
  scaleOf eps min max          `scale` of newRing;  nw sum e = weight / Σ weights
  ringPick items h             index returned by ring.pick;  walkHash / walkRandom: picker.Pick
-/
import GrpcProofs.Lemmas.Ring
import GrpcProofs.Lemmas.RingWalk
namespace GrpcProofs.C37
open GrpcModel.Ring GrpcModel.SortSearch
open GrpcProofs.Lemmas.Ring GrpcProofs.Lemmas.RingWalk GrpcProofs.Lemmas.SortSearch

/-- The ring depends only on the SET of endpoints (hash keys distinct), not on the order in which
    the map hands them to newRing. -/
theorem ring_order_independent (hashOf : Nat → Nat → Nat) (eps eps' : List Endpoint) (hp : eps.Perm eps')
    (hinj : ∀ a ∈ eps, ∀ b ∈ eps, a.hashKey = b.hashKey → a = b) (minSize maxSize : ℕ) :
    newRing (α := ℚ) hashOf eps minSize maxSize = newRing (α := ℚ) hashOf eps' minSize maxSize :=
  newRing_congr hashOf (sortByKey_perm_eq eps eps' hp hinj) minSize maxSize

/-- min_ring_size ≤ |ring| ≤ max_ring_size (for any number of endpoints). -/
theorem ring_size_bounds (hashOf : Nat → Nat → Nat) (eps : List Endpoint) (h : Valid eps)
    (minSize maxSize : ℕ) (hmm : minSize ≤ maxSize) :
    minSize ≤ (newRing (α := ℚ) hashOf eps minSize maxSize).length ∧
    (newRing (α := ℚ) hashOf eps minSize maxSize).length ≤ maxSize := by
  obtain ⟨hlo, hhi⟩ := scale_bounds eps minSize maxSize hmm (nw_pos eps h)
  rw [newRing_length hashOf eps h minSize maxSize hmm]
  constructor
  · have := Nat.le_ceil (scaleOf eps minSize maxSize : ℚ)
    have : (minSize : ℚ) ≤ (⌈(scaleOf eps minSize maxSize : ℚ)⌉₊ : ℚ) := le_trans hlo this
    exact_mod_cast this
  · exact Nat.ceil_le.mpr hhi

/-- The upper bound holds for EVERY arithmetic the generic port is instantiated with — exact
    rationals and IEEE float64 alike — and every input (no validity hypothesis): the fill loop
    `for currentHashes < targetHashes && uint64(len(items)) < maxRingSize` cannot exceed it. -/
theorem ring_size_le_max_any_arithmetic {α : Type} [RingArith α] (hashOf : Nat → Nat → Nat)
    (eps : List Endpoint) (minSize maxSize : ℕ) :
    (newRing (α := α) hashOf eps minSize maxSize).length ≤ maxSize :=
  newRing_length_le hashOf eps minSize maxSize

/-- With min_ring_size ≥ 1 (the config parser's default and lower bound) the ring is never empty,
    so `ring.pick` / `items[0]` cannot panic. -/
theorem ring_nonempty (hashOf : Nat → Nat → Nat) (eps : List Endpoint) (h : Valid eps)
    (minSize maxSize : ℕ) (hmm : minSize ≤ maxSize) (hmin : 1 ≤ minSize) :
    newRing (α := ℚ) hashOf eps minSize maxSize ≠ [] := by
  intro hc
  have := (ring_size_bounds hashOf eps h minSize maxSize hmm).1
  rw [hc] at this
  simp at this; omega

/-- Endpoint i (in hashKey order) gets a number of entries within 1 of scale · normalized weight. -/
theorem entries_proportional (eps : List Endpoint) (h : Valid eps) (minSize maxSize : ℕ)
    (hmm : minSize ≤ maxSize) (i : ℕ) (hi : i < eps.length) :
    let c : ℕ := (ringCounts (α := ℚ) eps minSize maxSize).getD i 0
    let x : ℚ := scaleOf eps minSize maxSize * nw (weightSum eps) ((sortByKey eps).getD i ⟨"", 0⟩)
    (ringCounts (α := ℚ) eps minSize maxSize).length = eps.length ∧ x - 1 < (c : ℚ) ∧ (c : ℚ) < x + 1 := by
  obtain ⟨h1, _, h3⟩ := ringCounts_spec eps h minSize maxSize hmm
  exact ⟨h1, h3 i hi⟩

/-- The ring is sorted by hash (what the binary search of ring.pick needs). -/
theorem ring_sorted {α : Type} [RingArith α] (hashOf : Nat → Nat → Nat) (eps : List Endpoint) (minSize maxSize : ℕ) :
    (newRing (α := α) hashOf eps minSize maxSize).Pairwise (fun a b => a.hash ≤ b.hash) :=
  sortByHash_sorted _

/-- The balancer's ring follows the CURRENT endpoints and bounds: after any sequence of
    resolver / LB-config updates (each with at least one endpoint) the ring it holds is the one
    newRing (`F`, any function of the endpoint set and the bounds) builds for the last update —
    whether that update changed the endpoints, only min_ring_size, only max_ring_size, or nothing. -/
theorem balancer_ring_follows_current_config (F : List Endpoint → ℕ → ℕ → List RingEntry)
    (hF : ∀ e1 e2 a b, sortByKey e1 = sortByKey e2 → F e1 a b = F e2 a b)
    (us : List (List Endpoint × ℕ × ℕ)) (hne : ∀ u ∈ us, u.1 ≠ [])
    (eps : List Endpoint) (he : eps ≠ []) (a b : ℕ) :
    let step := fun (s : BalState) (u : List Endpoint × ℕ × ℕ) => balUpdate s u.1 u.2.1 u.2.2 (F u.1 u.2.1 u.2.2)
    (step (us.foldl step {}) (eps, a, b)).ring = F eps a b := by
  intro step
  have hinv : BalInv F (us.foldl step {}) :=
    List.foldlRecOn (motive := BalInv F) us step (fun a b hc => by cases hc) fun s hs u hu =>
      (balUpdate_inv F hF s hs u.1 (hne u hu) u.2.1 u.2.2).2
  exact (balUpdate_inv F hF _ hinv eps he a b).1

/-- `sort.Search` (literal port) on a monotone predicate: first index where it holds, n if none. -/
theorem search_spec (n : Nat) (f : Nat → Bool) (hm : Mono f) :
    search n f ≤ n ∧ (∀ k, k < search n f → f k = false) ∧ (∀ k, search n f ≤ k → k < n → f k = true) :=
  Lemmas.SortSearch.search_spec n f hm

/-- If some entry has hash ≥ h, ring.pick returns the first such entry (all earlier ones are < h). -/
theorem pick_first_at_least (items : List RingEntry) (hs : items.Pairwise (fun a b => a.hash ≤ b.hash))
    (h : Nat) (hex : ∃ i, i < items.length ∧ (items.getD i ⟨0, 0, 0⟩).hash ≥ h) :
    ringPick items h < items.length ∧ (items.getD (ringPick items h) ⟨0, 0, 0⟩).hash ≥ h ∧
      ∀ i, i < ringPick items h → (items.getD i ⟨0, 0, 0⟩).hash < h :=
  (ringPick_spec items hs h).2 hex

/-- If every entry's hash is below h, ring.pick wraps around to entry 0. -/
theorem pick_wraps_to_first (items : List RingEntry) (hs : items.Pairwise (fun a b => a.hash ≤ b.hash))
    (h : Nat) (hall : ∀ i, i < items.length → (items.getD i ⟨0, 0, 0⟩).hash < h) : ringPick items h = 0 :=
  (ringPick_spec items hs h).1 hall

/-- ring.next is the next index clockwise. -/
theorem next_is_clockwise (n idx : Nat) (hidx : idx < n) :
    ringNext n idx < n ∧ (idx + 1 < n → ringNext n idx = idx + 1) ∧ (idx + 1 = n → ringNext n idx = 0) := by
  unfold ringNext
  refine ⟨Nat.mod_lt _ (by omega), fun h => Nat.mod_eq_of_lt h, fun h => by rw [h, Nat.mod_self]⟩

/-- Request hash: the pick is delegated to the first ring entry clockwise from ring.pick(h) whose
    endpoint is not in TRANSIENT_FAILURE (entries in TRANSIENT_FAILURE are skipped). -/
theorem walk_skips_transient_failure (st : Nat → CState) (n start : Nat) (hns : ∀ k, st k ≠ .shutdown)
    (j : Nat) (hj : j < n) (hst : st ((start + j) % n) ≠ .transientFailure)
    (hbefore : ∀ j', j' < j → st ((start + j') % n) = .transientFailure) :
    walkHash st n start n 0 = .delegate ((start + j) % n) := by
  rw [walkHash_eq, find?_first hj hst fun k hk h => h (hbefore k hk)]
  exact if_neg (hns _)

/-- Request hash, every endpoint in TRANSIENT_FAILURE: the first entry's picker (its failure). -/
theorem walk_all_failed_returns_first_entry (st : Nat → CState) (n start : Nat)
    (hall : ∀ j, j < n → st ((start + j) % n) = .transientFailure) :
    walkHash st n start n 0 = .delegate start := by
  rw [walkHash_eq, find?_none fun k hk h => h (hall k hk)]

/-- Random hash: if some endpoint on the ring is READY the pick goes to the first READY entry
    clockwise. -/
theorem random_walk_first_ready (st : Nat → CState) (n start : Nat) (hasConnecting : Bool)
    (j : Nat) (hj : j < n) (hst : st ((start + j) % n) = .ready)
    (hbefore : ∀ j', j' < j → st ((start + j') % n) ≠ .ready) :
    (walkRandom st n start n 0 hasConnecting []).1 = .delegate ((start + j) % n) := by
  rw [walkRandom_eq]
  simp only
  rw [find?_first hj hst hbefore]

/-- Random hash: at most one connection attempt (exitIdle) per pick, on an IDLE entry, and none at
    all when some endpoint is already CONNECTING. -/
theorem random_walk_at_most_one_connect (st : Nat → CState) (n start : Nat) (hasConnecting : Bool) :
    let ex := (walkRandom st n start n 0 hasConnecting []).2
    ex.length ≤ 1 ∧ (hasConnecting = true → ex = []) ∧
    (∀ k ∈ ex, st k = .idle) := by
  rw [walkRandom_eq]
  cases hasConnecting
  · cases h : firstIdle st n start 0 n with
    | none => simp
    | some k => simpa using firstIdle_some h
  · simp

/-- Random hash, no READY endpoint: the pick is queued (ErrNoSubConnAvailable) when a connection
    is in progress or was just requested; only when nothing is CONNECTING and no entry is IDLE
    (all in TRANSIENT_FAILURE) does it return the first entry's failure. -/
theorem random_walk_no_ready (st : Nat → CState) (n start : Nat) (hasConnecting : Bool)
    (hall : ∀ j, j < n → st ((start + j) % n) ≠ .ready) :
    let r := walkRandom st n start n 0 hasConnecting []
    (r.1 = .queue ∧ (hasConnecting = true ∨ r.2 ≠ [])) ∨
    (r.1 = .delegate start ∧ hasConnecting = false ∧ r.2 = [] ∧
      ∀ j, j < n → st ((start + j) % n) ≠ .idle) := by
  rw [walkRandom_eq]
  simp only
  rw [find?_none hall]
  cases hasConnecting
  · cases h : firstIdle st n start 0 n with
    | none => exact Or.inr ⟨rfl, rfl, rfl, firstIdle_none h hall⟩
    | some k => exact Or.inl ⟨rfl, Or.inr (List.cons_ne_nil _ _)⟩
  · exact Or.inl ⟨rfl, Or.inl rfl⟩

example : ringPick [⟨10, 0, 0⟩, ⟨20, 1, 0⟩, ⟨30, 0, 1⟩] 15 = 1 := by decide
example : ringPick [⟨10, 0, 0⟩, ⟨20, 1, 0⟩, ⟨30, 0, 1⟩] 31 = 0 := by decide
example : walkHash (fun k => if k = 2 then .idle else .transientFailure) 3 1 3 0 = .delegate 2 := by decide
example : walkRandom (fun k => if k = 0 then .ready else .idle) 3 1 3 0 false [] = (.delegate 0, [1]) := by decide
example : walkRandom (fun _ => .idle) 3 1 3 0 true [] = (.queue, []) := by decide
example : Valid [⟨"a", 3⟩, ⟨"b", 3⟩, ⟨"c", 4⟩] := ⟨by decide, by decide, by decide⟩

end GrpcProofs.C37
