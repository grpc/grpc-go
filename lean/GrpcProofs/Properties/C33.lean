/-
C33  Switching LB policies is graceful and isolates the old policy.
Model: GrpcModel/Model/GracefulSwitch.lean (full port of the mutex-protected state machine of
internal/balancer/gracefulswitch).
A reachable state is `run {} ops` for an arbitrary op list: switches (explicit and automatic), state
reports from ANY child ever built (current, pending, closed, superseded), SubConn traffic, resolver
errors, Close, in any order.
-/
import GrpcProofs.Lemmas.GracefulSwitch
namespace GrpcProofs.C33
open GrpcModel.GracefulSwitch GrpcProofs.Lemmas.GracefulSwitch
open GrpcModel.LbConnState (ConnState)

/-- The swap rule, exactly and in both directions: in every reachable state, when child `id` reports
    state `x`, what the channel and the children observe is what the statement prescribes
    (`specReport`): the pending policy becomes current — its state is pushed, the old policy is closed
    and its SubConns shut down — iff the pending reports anything but CONNECTING, or reports while the
    current is not READY, or the current reports anything but READY while a switch is pending;
    otherwise the current's report goes to the channel and anybody else's report goes nowhere. -/
theorem swap_rule (ops : List Op) (id : Nat) (x : ConnState) :
    (updateState (run {} ops) id x).2 = specReport (run {} ops) id x :=
  report_spec _ (inv_run {} inv_init ops) id x

/-- … and the roles afterwards: swapped ⇒ the old pending is current, nothing is pending, the old
    current is neither; not swapped ⇒ the same policies are current and pending. -/
theorem swap_effect (ops : List Op) (id : Nat) (x : ConnState) :
    (shouldSwap (run {} ops) id x = true →
      (updateState (run {} ops) id x).1.current.map (·.id) = (run {} ops).pending.map (·.id) ∧
      (updateState (run {} ops) id x).1.pending = none ∧
      ∀ c, (run {} ops).current = some c → curOrPend (updateState (run {} ops) id x).1 c.id = false) ∧
    (shouldSwap (run {} ops) id x = false →
      (updateState (run {} ops) id x).1.current.map (·.id) = (run {} ops).current.map (·.id) ∧
      (updateState (run {} ops) id x).1.pending.map (·.id) = (run {} ops).pending.map (·.id)) :=
  report_effect _ (inv_run {} inv_init ops) id x

/-- While the old policy is READY and a new one is pending: the channel holds the OLD policy's latest
    state (its picker), a CONNECTING report of the new policy changes nothing, and a further READY
    report of the old policy is forwarded to the channel. -/
theorem old_picker_used_while_old_ready_and_new_connecting (ops : List Op) (c p : BW)
    (hc : (run {} ops).current = some c) (hp : (run {} ops).pending = some p) (hr : c.last.state = .ready) :
    (run {} ops).pushed = some (c.id, c.last) ∧
    (updateState (run {} ops) p.id .connecting).2 = [] ∧
    (updateState (run {} ops) p.id .connecting).1.current.map (·.id) = some c.id ∧
    (updateState (run {} ops) p.id .connecting).1.pending.map (·.id) = some p.id ∧
    (updateState (run {} ops) c.id .ready).2 = [.push c.id ⟨.ready, (run {} ops).pkSerial + 1⟩] := by
  have hi := inv_run {} inv_init ops
  -- `swap_rule` and `swap_effect` at the two reports, neither of which swaps
  have hpc : isCur (run {} ops) p.id = false := isCur_of_pend hi hc hp
  have hcc : isCur (run {} ops) c.id = true := by simp [isCur, hc]
  have hs1 : shouldSwap (run {} ops) p.id .connecting = false := by simp [shouldSwap, hpc, hc, hr]
  have hs2 : shouldSwap (run {} ops) c.id .ready = false := by
    have : isPend (run {} ops) c.id = false := by simp [isPend, hp, (hi.distinct c p hc hp).symm]
    simp [shouldSwap, this]
  refine ⟨?_, ?_, ?_, ?_, ?_⟩
  · rcases hi.graceful c hc with h | h
    · rw [h] at hr; cases hr
    · exact h
  · rw [swap_rule]; simp [specReport, hs1, hpc]
  · rw [((swap_effect ops p.id .connecting).2 hs1).1, hc]; rfl
  · rw [((swap_effect ops p.id .connecting).2 hs1).2, hp]; rfl
  · rw [swap_rule]; simp [specReport, hs2, hcc]

/-- In every reachable state the channel has the latest state of the policy in use (a policy that
    never reported has none): the monitor's `gracefulOk`. -/
theorem channel_has_latest_state_of_policy_in_use (ops : List Op) :
    gracefulOk (run {} ops) (run {} ops).pushed = true := by
  have hi := inv_run {} inv_init ops
  unfold gracefulOk
  cases hc : (run {} ops).current with
  | none => rfl
  | some c => rcases hi.graceful c hc with h | h <;> simp [h]

/-- No state update from a policy that is not the current one reaches the channel: for every op in
    every reachable state, every state pushed to the channel while the op runs belongs to the policy
    that is current afterwards (the monitor's `pushesFromCurrent`). -/
theorem no_update_from_closed_or_superseded (ops : List Op) (op : Op) :
    pushesFromCurrent (step (run {} ops) op).1 (step (run {} ops) op).2.1 = true :=
  (pushesFromCurrent_iff _ _).mpr (stepOK_step _ (inv_run {} inv_init ops) op).push

/-- A closed or superseded policy is silent: its state reports, NewSubConn, UpdateAddresses and
    ResolveNow calls reach nobody and change no role. -/
theorem closed_or_superseded_policy_is_silent (ops : List Op) (id : Nat) (x : ConnState) (sc : Nat)
    (h : curOrPend (run {} ops) id = false) :
    (updateState (run {} ops) id x).2 = [] ∧
    (updateState (run {} ops) id x).1.current = (run {} ops).current ∧
    (updateState (run {} ops) id x).1.pending = (run {} ops).pending ∧
    (updateState (run {} ops) id x).1.pushed = (run {} ops).pushed ∧
    (newSubConn (run {} ops) id).2 = [.nscErr id] ∧
    (step (run {} ops) (.ua id sc)).2.1 = [] ∧ (step (run {} ops) (.rn id)).2.1 = [] := by
  have hi := inv_run {} inv_init ops
  have eff := (updateState_report _ hi id x).of_no_role h
  refine ⟨eff.evs, eff.current, eff.pending, eff.pushed, ?_, ?_, ?_⟩
  · simp [newSubConn, h]
  · simp [step, h]
  · simp only [step, latest_any_of_no_role h]; rfl

/-- SubConns created by a policy are shut down when it is closed: for every op in every reachable
    state, every policy that was current or pending before and is neither afterwards had Close called
    and every SubConn it created (and that was not reported SHUTDOWN) shut down during that op (the
    monitor's `retiredClosed`). -/
theorem subconns_of_closed_child_shut_down (ops : List Op) (op : Op) :
    retiredClosed (run {} ops) (step (run {} ops) op).1 (step (run {} ops) op).2.1 = true :=
  (retiredClosed_iff _ _ _).mpr (stepOK_step _ (inv_run {} inv_init ops) op).retired

/-- A NewSubConn call that is still inside the parent ClientConn (issued from the policy's own
    goroutine) when its policy is swapped out, replaced or closed leaves no SubConn behind: in every
    state, when the call returns for a policy that no longer has a role, the SubConn is shut down, the
    policy gets an error and no role records the SubConn; for a policy that still has a role exactly the
    registration happens (the monitor's `lateSubConnOk`). -/
theorem late_subconn_of_closed_policy_shut_down (s : St) (sc : Nat) :
    lateSubConnOk s sc (step s (.nsce sc)).2.1 = true ∧
    (∀ id, (s.inflight.find? (·.1 = sc)) = some (sc, id) → curOrPend s id = false →
      (step s (.nsce sc)).2.1 = [.sd sc, .nscErr id] ∧
      (step s (.nsce sc)).1.current = s.current ∧ (step s (.nsce sc)).1.pending = s.pending) := by
  simp only [step, lateSubConnOk, nscEnd]
  cases hf : s.inflight.find? (·.1 = sc) with
  | none => exact ⟨rfl, nofun⟩
  | some p =>
    obtain ⟨a, id⟩ := p
    have hc : curOrPend { s with inflight := s.inflight.filter (·.1 ≠ sc) } id = curOrPend s id := rfl
    simp only [hc]
    refine ⟨by cases curOrPend s id <;> simp, fun id' e hcp => ?_⟩
    cases e
    rw [if_neg (by simp [hcp])]
    exact ⟨rfl, rfl, rfl⟩

/-- Repeated switches: a pending policy that is replaced by a new switch is closed on the spot, with
    its SubConns, and no longer has a role. -/
theorem replaced_pending_is_closed (ops : List Op) (name : Nat) (sc : Script) (p : BW)
    (hp : (run {} ops).pending = some p) :
    Ev.closeChild p.id ∈ (switchTo (run {} ops) name sc).2.1 ∧
    (∀ x ∈ p.subconns, Ev.sd x ∈ (switchTo (run {} ops) name sc).2.1) ∧
    curOrPend (switchTo (run {} ops) name sc).1 p.id = false := by
  have hi := inv_run {} inv_init ops
  -- `p` has no role afterwards; that it was closed with its SubConns is then what every op guarantees
  suffices h3 : curOrPend (switchTo (run {} ops) name sc).1 p.id = false by
    obtain ⟨h1, h2⟩ := (stepOK_switchTo _ hi name sc).retired p (.inr hp) h3
    exact ⟨h1, h2, h3⟩
  obtain ⟨c, hc⟩ := Option.isSome_iff_exists.mp (hi.pendCur p hp)
  cases hcp : curOrPend (switchTo (run {} ops) name sc).1 p.id with
  | false => rfl
  | true =>
    -- the roles after a switch are the old current policy and the new one: `p` is neither
    rcases switchTo_roles _ hi name sc p.id hcp with h | h
    · rw [isCur_of_pend hi hc hp] at h; cases h
    · have := hi.pendLe p hp; omega

/-- A pending policy is always CONNECTING (as far as it has told) and never exists without a current. -/
theorem pending_is_connecting_and_has_a_current (ops : List Op) (p : BW) (hp : (run {} ops).pending = some p) :
    p.last.state = .connecting ∧ (run {} ops).current.isSome ∧
    ∀ c, (run {} ops).current = some c → c.id ≠ p.id :=
  let hi := inv_run {} inv_init ops
  ⟨hi.pendConn p hp, hi.pendCur p hp, fun c hc => hi.distinct c p hc hp⟩

/-- Close closes both policies with their SubConns, leaves no role, and the balancer stays closed:
    afterwards no policy ever has a role again and every switch is refused. -/
theorem close_closes_everything (ops more : List Op) (name : Nat) (sc : Script) :
    (step (run {} ops) .close).2.1 = closeBW (run {} ops).current ++ closeBW (run {} ops).pending ∧
    (run (step (run {} ops) .close).1 more).current = none ∧
    (run (step (run {} ops) .close).1 more).pending = none ∧
    (switchTo (run (step (run {} ops) .close).1 more) name sc).2 = ([], .closed) := by
  have hi := inv_run {} inv_init ops
  have hi2 := (stepOK_step _ hi .close).inv
  have hcl : (step (run {} ops) .close).1.closed = true := by simp [step]
  have hcl2 := run_closed _ hi2 more hcl
  have hi3 := inv_run _ hi2 more
  refine ⟨by simp [step], (hi3.closedNone hcl2).1, (hi3.closedNone hcl2).2, ?_⟩
  simp [switchTo, hcl2]

example : (run {} [.switchTo 0 (.st .ready), .switchTo 1 .nothing]).pending.map (·.id) = some 2 := by decide
example : (step (run {} [.switchTo 0 (.st .ready), .nsc 1, .switchTo 1 .nothing]) (.st 2 .connecting)).2.1 = [] := by decide
example : (step (run {} [.switchTo 0 (.st .ready), .nsc 1, .switchTo 1 .nothing]) (.st 2 .ready)).2.1
    = [.push 2 ⟨.ready, 2⟩, .closeChild 1, .sd 1] := by decide
example : (step (run {} [.switchTo 0 (.st .ready), .nsc 1, .switchTo 1 .nothing]) (.st 1 .tf)).2.1
    = [.push 2 ⟨.connecting, 0⟩, .closeChild 1, .sd 1] := by decide
example : (step (run {} [.switchTo 0 (.st .ready), .switchTo 1 .nothing, .st 2 .ready]) (.st 1 .ready)).2.1 = [] := by decide

end GrpcProofs.C33
