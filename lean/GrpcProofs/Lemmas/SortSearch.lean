/-
`sort.Search` correctness (binary search), shared by C37 (ring.pick) and C38 (randomWRR.Next).
-/
import GrpcModel.Model.SortSearch
namespace GrpcProofs.Lemmas.SortSearch
open GrpcModel.SortSearch

def Mono (f : Nat → Bool) : Prop := ∀ a b, a ≤ b → f a = true → f b = true

structure SplitAt (f : Nat → Bool) (n i : Nat) : Prop where
  le : i ≤ n
  below : ∀ k, k < i → f k = false
  above : ∀ k, i ≤ k → k < n → f k = true

/-- Monotonicity is only needed below `n`, the only place where `search n f` evaluates `f`. -/
theorem searchLoop_spec (f : Nat → Bool) (n : Nat) (hm : ∀ a b, a ≤ b → b < n → f a = true → f b = true)
    (fuel i j : Nat) (hij : i ≤ j) (hjn : j ≤ n) (hf : j - i ≤ fuel)
    (hlo : ∀ k, k < i → f k = false) (hhi : ∀ k, j ≤ k → k < n → f k = true) :
    SplitAt f n (searchLoop f fuel i j) := by
  fun_induction searchLoop f fuel i j with
  | case1 i j =>
    obtain rfl : i = j := by omega
    exact ⟨hjn, hlo, hhi⟩
  | case2 fuel i j hlt h hfh ih =>
    have hh : h = (i + j) / 2 := rfl
    rw [Bool.not_eq_true'] at hfh
    refine ih (by omega) hjn (by omega) (fun k hk => ?_) hhi
    cases hfk : f k with
    | false => rfl
    | true => rw [hm k h (by omega) (by omega) hfk] at hfh; cases hfh
  | case3 fuel i j hlt h hfh ih =>
    have hh : h = (i + j) / 2 := rfl
    rw [Bool.not_eq_true', Bool.not_eq_false] at hfh
    exact ih (by omega) (by omega) (by omega) hlo (fun k hk hkn => hm _ k hk hkn hfh)
  | case4 fuel i j hlt =>
    obtain rfl : i = j := by omega
    exact ⟨hjn, hlo, hhi⟩

theorem search_splitAt (n : Nat) (f : Nat → Bool) (hm : ∀ a b, a ≤ b → b < n → f a = true → f b = true) :
    SplitAt f n (search n f) :=
  searchLoop_spec f n hm n 0 n (Nat.zero_le _) (Nat.le_refl _) (by omega)
    (by intro k hk; omega) (by intro k h1 h2; omega)

theorem search_spec (n : Nat) (f : Nat → Bool) (hm : Mono f) :
    search n f ≤ n ∧ (∀ k, k < search n f → f k = false) ∧
    (∀ k, search n f ≤ k → k < n → f k = true) :=
  have h := search_splitAt n f fun a b hab _ => hm a b hab
  ⟨h.le, h.below, h.above⟩

theorem search_eq {n : Nat} {f : Nat → Bool} {i : Nat} (h : SplitAt f n i) : search n f = i := by
  have hm : ∀ a b, a ≤ b → b < n → f a = true → f b = true := by
    intro a b hab hb ha
    refine h.above b ?_ hb
    rcases Nat.lt_or_ge a i with h' | h'
    · rw [h.below a h'] at ha; cases ha
    · omega
  have hs := search_splitAt n f hm
  rcases Nat.lt_trichotomy (search n f) i with h' | h' | h'
  · have h1 := hs.above (search n f) (Nat.le_refl _) (by have := h.le; omega)
    rw [h.below _ h'] at h1; cases h1
  · exact h'
  · have h1 := h.above i (Nat.le_refl _) (by have := hs.le; omega)
    rw [hs.below i h'] at h1; cases h1

end GrpcProofs.Lemmas.SortSearch
