import GrpcModel.Model.WriteQuota
/-! C17, `writeQuota`.  Both clauses of `Inv` rest on there being one getter: only it lowers the quota, so what it saw
at `check` still holds when it subtracts (`subPos`); and it reaches `wait` only on quota `≤ 0`, after which the `Add`
that takes the quota from `≤ 0` to `> 0` owes the send (`pend`) until `sig` puts the token into the channel
(`waitSig`).  The ledger (`run_ledger`) needs no invariant. -/
namespace GrpcProofs.Lemmas.WriteQuota
open GrpcModel.WriteQuota

structure Inv (s : St) : Prop where
  /-- the getter is about to subtract only after it has seen quota > 0 -/
  subPos : ∀ sz, s.gpc = .sub sz → s.quota > 0
  /-- no lost wake-up: a getter in its `select` with quota free has a token in the channel or a send owed to it -/
  waitSig : ∀ sz, s.gpc = .wait sz → s.quota > 0 → s.token = true ∨ s.pend > 0

theorem inv_init (sz : Nat) : Inv (init sz) := by
  constructor <;> simp [init]

theorem step_inv (s : St) (o : Op) (h : Inv s) : Inv (step s o).1 := by
  -- one goal per branch of `step`, numbered in the order of its text: `get` 1-2; `gstep` at `idle` 3, `check` 4-5,
  -- `sub` 6, `wait` 7-9; `gdone` 10-12; `repl` 13-14; `sig` 15-16; `closeDone` 17
  fun_cases step s o
  -- `check`: the getter moves to `sub` only after seeing quota > 0, to `wait` only after seeing quota ≤ 0
  case case4 hq => exact ⟨fun _ _ => hq, nofun⟩
  case case5 hq => exact ⟨nofun, fun _ _ hq' => absurd hq' hq⟩
  -- an Add that crosses from ≤ 0 to > 0 leaves a send owed (`pend`)
  case case13 hc => exact ⟨fun _ _ => hc.2, fun _ _ _ => .inr (Nat.succ_pos _)⟩
  -- one that does not cross found quota > 0 already
  case case14 n _ hc =>
    exact ⟨fun sz hg => Int.lt_of_lt_of_le (h.subPos sz hg) (Int.le_add_of_nonneg_right (Int.natCast_nonneg n)),
      fun sz hg hq => h.waitSig sz hg (Decidable.byContradiction fun hn => hc ⟨Int.not_lt.1 hn, hq⟩)⟩
  -- the owed send is paid: `pend` may drop to 0 because `token` is now true
  case case15 => exact ⟨h.subPos, fun _ _ _ => .inl rfl⟩
  case case17 => exact ⟨h.subPos, h.waitSig⟩
  -- the getter's other moves end in `check` or `idle`, of which the invariant asks nothing
  case case1 | case6 | case7 | case8 | case10 => exact ⟨nofun, nofun⟩
  all_goals exact h

theorem run_inv (ops : List Op) (s : St) (h : Inv s) : Inv (run s ops).1 := by
  induction ops generalizing s with
  | nil => simpa [run]
  | cons o os ih => simpa [run] using ih _ (step_inv s o h)

theorem stuck_exhausted (s : St) (h : Inv s) (hs : stuck s = true) : s.quota ≤ 0 ∧ s.done = false := by
  cases hg : s.gpc <;> simp [stuck, hg] at hs
  case wait sz =>
    obtain ⟨⟨ht, hd⟩, hp⟩ := hs
    -- neither a token nor a send owed: `waitSig` leaves no room for free quota
    have := h.waitSig sz hg
    simp only [ht, hp, Bool.false_eq_true, Nat.lt_irrefl, or_self, imp_false] at this
    exact ⟨Int.not_lt.1 this, hd⟩

/-- The monitor's ledger and its view of `done` agree with the stream's. -/
def MC (s : St) (m : Mon) : Prop := m = ⟨s.quota, s.done⟩

theorem mc_init (sz : Nat) : MC (init sz) (Mon.init sz) := rfl

theorem step_mc (s : St) (m : Mon) (o : Op) (h : Inv s) (hm : MC s m) :
    MC (step s o).1 (Mon.step m o (step s o).2).1 ∧ ∀ c, (Mon.step m o (step s o).2).2 ≠ .viol c := by
  subst hm
  fun_cases step s o
  -- the monitor can object to two answers: `granted`, given by the `sub` step alone, where `subPos` has the quota
  -- positive; and `failed`, given only on the branches that have read `done = true`
  case case6 sz hg => simp [Mon.step, MC, h.subPos sz hg]
  case case8 _ _ _ hd | case10 _ _ hd => simp [Mon.step, MC, hd]
  case case13 _ nq _ | case14 _ nq _ => simp [Mon.step, MC, nq]
  all_goals simp [Mon.step, MC]

theorem verdicts_ok (ops : List Op) (s : St) (m : Mon) (h : Inv s) (hm : MC s m) :
    ∀ v ∈ verdicts s m ops, ∀ c, v ≠ .viol c := by
  induction ops generalizing s m with
  | nil => simp [verdicts]
  | cons o os ih =>
    obtain ⟨s1, s2⟩ := step_mc s m o h hm
    have hi := step_inv s o h
    intro v hv
    simp only [verdicts, List.mem_cons] at hv
    rcases hv with rfl | rfl | rfl | hv
    · exact s2
    · intro c
      rw [show (Mon.step m o (step s o).2).1 = _ from s1]
      simp only [Mon.quiescent]
      cases hst : stuck (step s o).1
      · simp
      · obtain ⟨e1, e2⟩ := stuck_exhausted _ hi hst
        simp [e2, Int.not_lt.2 e1]
    · intro c
      rw [show (Mon.step m o (step s o).2).1 = _ from s1]
      simp [Mon.ledger]
    · exact ih _ _ hi s1 v hv

theorem step_ledger (s : St) (o : Op) :
    (step s o).1.quota = s.quota - grantedSum [(o, (step s o).2)] + replSum [(o, (step s o).2)] := by
  -- quota moves at `sub` (by the size that `granted` reports) and at `repl` (by `n`), nowhere else
  fun_cases step s o
  case case13 _ nq _ | case14 _ nq _ => simp [grantedSum, replSum, nq]
  all_goals simp [grantedSum, replSum]

theorem grantedSum_cons (x : Op × Out) (t : List (Op × Out)) : grantedSum (x :: t) = grantedSum [x] + grantedSum t := by
  obtain ⟨o, out⟩ := x
  cases out <;> simp [grantedSum]

theorem replSum_cons (x : Op × Out) (t : List (Op × Out)) : replSum (x :: t) = replSum [x] + replSum t := by
  obtain ⟨o, out⟩ := x
  cases o <;> simp [replSum]

theorem run_ledger (ops : List Op) (s : St) :
    (run s ops).1.quota = s.quota - grantedSum (run s ops).2 + replSum (run s ops).2 := by
  induction ops generalizing s with
  | nil => simp [run, grantedSum, replSum]
  | cons o os ih =>
    have e0 := ih (step s o).1
    have e1 := step_ledger s o
    have e2 := grantedSum_cons (o, (step s o).2) (run (step s o).1 os).2
    have e3 := replSum_cons (o, (step s o).2) (run (step s o).1 os).2
    simp only [run]
    omega

end GrpcProofs.Lemmas.WriteQuota
