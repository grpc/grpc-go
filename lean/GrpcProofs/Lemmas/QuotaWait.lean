import GrpcModel.Model.QuotaWait
import GrpcProofs.Lemmas.Basic
/-! C17, stream-quota waiters.  `Inv.inFlight` is the property; it is kept for four reasons.  Every step that gives quota
back or takes a unit ends in `baton`, which puts a token in the channel if quota is left and `waiting > 0`, and `cnt`
makes `waiting > 0` whenever somebody waits (`Pop.waiting_pos`, `baton_inv`).  A SETTINGS that does not broadcast has
`d ≤ 0`, or `waiting = 0` and then nobody waits: it frees no quota for a parked waiter.  A broadcast moves to a
generation nobody is parked on (`old`).  A wake-up turns a parked waiter into one about to retry. -/
namespace GrpcProofs.Lemmas.QuotaWait
open GrpcModel.QuotaWait Basic

/-- The bookkeeping of the waiter list, which `baton` does not touch. -/
structure Pop (s : St) : Prop where
  /-- `waitingStreams` counts at least the waiters, so it is positive whenever somebody waits -/
  cnt : s.waiters.length ≤ s.waiting
  old : ∀ p ∈ s.waiters, ∀ g, p.2 = .parked g → g ≤ s.gen
  nodup : (s.waiters.map (·.1)).Nodup

structure Inv (s : St) : Prop extends Pop s where
  /-- no lost wake-up: quota free and somebody parked on the current channel ⇒ a token is in it or a woken waiter
      is about to retry (what `StreamQuota.NoLostWakeup.inFlight` says of the fuller model of the same waiters) -/
  inFlight : s.quota > 0 → (∃ p ∈ s.waiters, p.2 = .parked s.gen) → s.token = true ∨ ∃ p ∈ s.waiters, p.2 = .retry

theorem inv_init (n : Nat) : Inv (init n) where
  cnt := Nat.le_refl _
  old := nofun
  nodup := List.nodup_nil
  inFlight _ := fun ⟨_, hp, _⟩ => nomatch hp

theorem setW_length (l : List (Nat × WSt)) (w : Nat) (st : WSt) : (setW l w st).length = l.length := by
  simp [setW]

theorem setW_mem (l : List (Nat × WSt)) (w : Nat) (st : WSt) (p : Nat × WSt) (h : p ∈ setW l w st) :
    (p ∈ l ∧ p.1 ≠ w) ∨ p = (w, st) := by
  simp only [setW, List.mem_map] at h
  obtain ⟨q, hq, rfl⟩ := h
  by_cases hw : q.1 = w
  · simp [hw]
  · simp [hw, hq]

theorem setW_has (l : List (Nat × WSt)) (w : Nat) (st st' : WSt) (h : (w, st') ∈ l) : (w, st) ∈ setW l w st := by
  simp only [setW, List.mem_map]
  exact ⟨(w, st'), h, by simp⟩

theorem setW_keep (l : List (Nat × WSt)) (w : Nat) (st : WSt) (p : Nat × WSt) (h : p ∈ l) (hne : p.1 ≠ w) :
    p ∈ setW l w st := by
  simp only [setW, List.mem_map]
  exact ⟨p, h, by simp [hne]⟩

theorem setW_keys (l : List (Nat × WSt)) (w : Nat) (st : WSt) : (setW l w st).map (·.1) = l.map (·.1) :=
  keys_map fun p => by by_cases hp : p.1 = w <;> simp [hp]

theorem Pop.waiting_pos {s : St} (h : Pop s) {p : Nat × WSt} (hp : p ∈ s.waiters) : 0 < s.waiting :=
  Nat.lt_of_lt_of_le (List.length_pos_of_mem hp) h.cnt

theorem baton_inv {s : St} (h : Pop s) : Inv (baton s) := by
  unfold baton
  split
  · exact { h with inFlight := fun _ _ => .inl rfl }
  · next hb => exact { h with inFlight := fun hq ⟨p, hp, _⟩ => absurd ⟨hq, h.waiting_pos hp⟩ hb }

/-- Rewriting the entry of waiter `w`: `cnt` and `nodup` do not see it, `old` asks that the new entry is not parked
    on a future channel, `inFlight` is the caller's business. -/
theorem inv_setW {s : St} (h : Inv s) (w : Nat) (st : WSt) (tok : Bool) (hst : ∀ g, st = .parked g → g ≤ s.gen)
    (hsig : s.quota > 0 → tok = true ∨ ∃ p ∈ setW s.waiters w st, p.2 = .retry) :
    Inv { s with token := tok, waiters := setW s.waiters w st } where
  cnt := by simp only [setW_length]; exact h.cnt
  old p hp g hg := by
    rcases setW_mem _ _ _ _ hp with ⟨h1, _⟩ | rfl
    · exact h.old p h1 g hg
    · exact hst g hg
  nodup := by simp only [setW_keys]; exact h.nodup
  inFlight hq _ := hsig hq

theorem step_inv (s : St) (o : Op) (h : Inv s) : Inv (step s o).1 := by
  have cnt := h.cnt
  -- one goal per branch of `step`, numbered in the order of its text: `newStream` 1-3, `wake` 4-7, `retry` 8-10,
  -- `giveUp` 11-12, `closeStream` 13, `settings` 14-15
  fun_cases step s o
  -- `newStream w` with no quota: parks on the current channel
  case case2 w hnone hq =>
    exact {
      cnt := by simp; omega
      old := fun p hp g hg => by
        rcases List.mem_append.1 hp with hp | hp
        · exact h.old p hp g hg
        · cases List.mem_singleton.1 hp; cases hg; exact Nat.le_refl _
      nodup := by
        simp only [List.map_append, List.map_cons, List.map_nil]
        exact nodup_snoc h.nodup (by simpa using hnone)
      inFlight := fun hq' => absurd hq' (Int.not_lt.2 hq) }
  -- `newStream w` admitted; `closeStream`
  case case3 | case13 => exact baton_inv { h with }
  -- `wake w`: its channel was closed, or is the current one and holds a token
  case case4 w g hl _ | case5 w g hl _ _ =>
    exact inv_setW h w .retry _ (by simp) fun _ => .inr ⟨_, setW_has _ _ _ _ (lookup_mem hl), rfl⟩
  -- `retry w` with no quota: parks again
  case case8 w hl hq => exact inv_setW h w (.parked s.gen) s.token (by simp) fun hq' => absurd hq' (by omega)
  -- `retry w` admitted
  case case9 w hl hq =>
    exact baton_inv {
      cnt := by
        -- the admitted waiter leaves the list, so `waiting - 1` still counts the others
        have : (s.waiters.filter (·.1 ≠ w)).length < s.waiters.length :=
          List.length_filter_lt_length_iff_exists.2 ⟨_, lookup_mem hl, by simp⟩
        simp only; omega
      old := fun p hp => h.old p (List.mem_filter.1 hp).1
      nodup := nodup_keys_filter h.nodup _ }
  case case11 w g hl =>
    have hmem := lookup_mem hl
    exact {
      cnt := Nat.le_trans (List.length_filter_le ..) cnt
      old := fun p hp => h.old p (List.mem_filter.1 hp).1
      nodup := nodup_keys_filter h.nodup _
      inFlight := fun hq ⟨p, hp, hpg⟩ => by
        rcases h.inFlight hq ⟨p, (List.mem_filter.1 hp).1, hpg⟩ with ht | ⟨q, hq1, hq2⟩
        · exact .inl ht
        · -- the waiter that leaves was parked, so it is not the retrying one
          have hne : q.1 ≠ w := fun he => by
            have := eq_of_nodup_map h.nodup hq1 hmem he
            rw [this] at hq2; cases hq2
          exact .inr ⟨q, List.mem_filter.2 ⟨hq1, by simpa using hne⟩, hq2⟩ }
  -- `settings d` with a broadcast: nobody is parked on the new generation
  case case14 d _ _ =>
    exact { h with
      old := fun p hp g hg => Nat.le_succ_of_le (h.old p hp g hg)
      inFlight := fun _ ⟨p, hp, hpg⟩ => by have := h.old p hp (s.gen + 1) hpg; omega }
  case case15 d _ hd =>
    refine { h with inFlight := fun hq hex => ?_ }
    have hq' : s.quota + d > 0 := hq
    by_cases hd0 : d > 0
    · -- the limit was raised without a broadcast: `waiting = 0`, so nobody waits
      obtain ⟨p, hp, _⟩ := hex
      exact absurd ⟨hd0, h.waiting_pos hp⟩ hd
    · exact h.inFlight (by omega) hex
  -- the answers `none` and `blocked` leave the state as it is
  all_goals exact h

theorem run_inv (ops : List Op) (s : St) (h : Inv s) : Inv (run s ops).1 := by
  induction ops generalizing s with
  | nil => simpa [run]
  | cons o os ih => simpa [run] using ih _ (step_inv s o h)

theorem parked_of_not_canMove {s : St} {p : Nat × WSt} (h : ¬ canMove s p = true) :
    p.2 = .parked s.gen ∧ s.token = false := by
  unfold canMove at h
  split at h
  · exact absurd rfl h
  · next g hg =>
    rw [Bool.or_eq_true, not_or, bne_iff_ne, Decidable.not_not, Bool.not_eq_true] at h
    exact ⟨by rw [hg, h.1], h.2⟩

theorem stuck_no_quota (s : St) (h : Inv s) (hs : stuck s = true) : s.quota ≤ 0 := by
  simp only [stuck, Bool.and_eq_true, Bool.not_eq_true', List.any_eq_false] at hs
  obtain ⟨hne, hall⟩ := hs
  refine Int.not_lt.1 fun hq => ?_
  obtain ⟨p, hp⟩ := List.isEmpty_eq_false_iff_exists_mem.1 hne
  obtain ⟨hpark, htok⟩ := parked_of_not_canMove (hall p hp)
  -- were quota free, `inFlight` would promise this waiter a token, which is not there, or a retrying waiter, which can move
  rcases h.inFlight hq ⟨p, hp, hpark⟩ with ht | ⟨q, hq1, hq2⟩
  · rw [htok] at ht; cases ht
  · have := (parked_of_not_canMove (hall q hq1)).1
    rw [hq2] at this; cases this

def MC (s : St) (m : Mon) : Prop := m.quota = s.quota

theorem mc_init (n : Nat) : MC (init n) (Mon.init n) := rfl

theorem baton_quota (s : St) : (baton s).quota = s.quota := by unfold baton; split <;> rfl

theorem step_mc (s : St) (m : Mon) (o : Op) (hm : MC s m) :
    MC (step s o).1 (Mon.step m o (step s o).2).1 ∧ ∀ c, (Mon.step m o (step s o).2).2 ≠ .viol c := by
  obtain ⟨mq⟩ := m
  obtain rfl : mq = s.quota := hm
  -- the monitor's quota moves with the transport's: down at `created`, which `step` answers only on the two branches
  -- `¬ quota ≤ 0` (what the monitor's check 1 asks for), up at `closeStream`, by `d` at `settings d`
  fun_cases step s o
  case case3 _ _ hq | case9 _ _ hq => simp [Mon.step, MC, baton_quota, Int.not_le.1 hq]
  case case14 | case15 => exact ⟨rfl, by simp [Mon.step]⟩
  all_goals simp [Mon.step, MC, baton_quota]

theorem verdicts_ok (ops : List Op) (s : St) (m : Mon) (h : Inv s) (hm : MC s m) :
    ∀ v ∈ verdicts s m ops, ∀ c, v ≠ .viol c := by
  induction ops generalizing s m with
  | nil => simp [verdicts]
  | cons o os ih =>
    obtain ⟨s1, s2⟩ := step_mc s m o hm
    have hi := step_inv s o h
    intro v hv
    simp only [verdicts, List.mem_cons] at hv
    rcases hv with rfl | rfl | rfl | hv
    · exact s2
    · intro c
      simp only [Mon.quiescent]
      cases hst : stuck (step s o).1
      · simp
      · have := stuck_no_quota _ hi hst
        have hle : ¬ (Mon.step m o (step s o).2).1.quota > 0 := by rw [s1]; omega
        simp [hle]
    · intro c
      have e : (step s o).1.quota = (Mon.step m o (step s o).2).1.quota := s1.symm
      simp [Mon.ledger, e]
    · exact ih _ _ hi s1 v hv

end GrpcProofs.Lemmas.QuotaWait
