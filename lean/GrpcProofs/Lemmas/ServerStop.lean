import GrpcModel.Model.ServerStop
import GrpcProofs.Lemmas.Basic
/-! C25, Stop / GracefulStop.  Two invariants of `runOps`: `Bounded` (at most `cap` handlers per connection) and
`Closed` (after a stop call every connection is `Shut`).  What an operation does is described in three layers, each
proved once against the model: `Step` is work of a reader or of the client side, no stop call is involved; `OpStep` is an
operation up to its final `settleStop`, where a stop call may have set the phase; `Shape`, what `apply_shape` gives for
every operation, adds that final `settleStop`, which is the only place that marks a stop call as returned.  `Shape.inv`
and `Shape.returns` are the two readings of it. -/
namespace GrpcProofs.Lemmas.ServerStop
open GrpcModel.ServerStop Basic

/-- on every connection at most cap handlers run -/
def Bounded (s : St) : Prop := ∀ c, (runningOn s c).length ≤ s.cap

@[simp] theorem updConn_run (s : St) (c : Nat) (f : Conn → Conn) : (updConn s c f).run = s.run := rfl
@[simp] theorem updConn_cap (s : St) (c : Nat) (f : Conn → Conn) : (updConn s c f).cap = s.cap := rfl
@[simp] theorem updRpc_run (s : St) (r : Nat) (f : Rpc → Rpc) : (updRpc s r f).run = s.run := rfl
@[simp] theorem updRpc_cap (s : St) (r : Nat) (f : Rpc → Rpc) : (updRpc s r f).cap = s.cap := rfl
@[simp] theorem updConn_phase (s : St) (c : Nat) (f : Conn → Conn) : (updConn s c f).phase = s.phase := rfl
@[simp] theorem updRpc_phase (s : St) (r : Nat) (f : Rpc → Rpc) : (updRpc s r f).phase = s.phase := rfl
@[simp] theorem updRpc_conns (s : St) (r : Nat) (f : Rpc → Rpc) : (updRpc s r f).conns = s.conns := rfl
@[simp] theorem updConn_rpcs (s : St) (c : Nat) (f : Conn → Conn) : (updConn s c f).rpcs = s.rpcs := rfl

theorem runningOn_congr {s t : St} (h : t.run = s.run) (c : Nat) : runningOn t c = runningOn s c := by
  simp [runningOn, h]

theorem bounded_congr {s t : St} (hr : t.run = s.run) (hc : t.cap = s.cap) (h : Bounded s) : Bounded t := by
  intro c; rw [runningOn_congr hr c, hc]; exact h c

theorem bounded_updConn (s : St) (c : Nat) (f : Conn → Conn) (h : Bounded s) : Bounded (updConn s c f) :=
  bounded_congr rfl rfl h
theorem bounded_updRpc (s : St) (r : Nat) (f : Rpc → Rpc) (h : Bounded s) : Bounded (updRpc s r f) :=
  bounded_congr rfl rfl h

theorem enter_cap (s : St) (c r : Nat) : (enter s c r).cap = s.cap := rfl

theorem enter_bounded (s : St) (c r : Nat) (h : Bounded s) (hg : (runningOn s c).length < s.cap) :
    Bounded (enter s c r) := by
  intro c'
  simp only [enter, runningOn, updRpc_run, List.filter_append, List.length_append]
  have h1 := h c'
  simp only [runningOn] at h1 hg
  by_cases hc : c = c'
  · subst hc; simp; omega
  · simp [hc]; exact h1

theorem settleStop_eq (s : St) : ∃ (f : Conn → Conn) (r : Bool),
    (∀ x, f x = x ∨ f x = { x with srvAlive := false }) ∧
    settleStop s = { s with conns := s.conns.map f, returned := r } := by
  unfold settleStop
  split
  · exact ⟨id, s.returned, fun _ => .inl rfl, by rw [List.map_id]⟩
  · refine ⟨_, _, fun x => ?_, rfl⟩
    split
    · exact .inr rfl
    · exact .inl rfl

theorem settleStop_run (s : St) : (settleStop s).run = s.run := by
  obtain ⟨f, r, -, e⟩ := settleStop_eq s; rw [e]
theorem settleStop_cap (s : St) : (settleStop s).cap = s.cap := by
  obtain ⟨f, r, -, e⟩ := settleStop_eq s; rw [e]
theorem settleStop_phase (s : St) : (settleStop s).phase = s.phase := by
  obtain ⟨f, r, -, e⟩ := settleStop_eq s; rw [e]
theorem settleStop_rpcs (s : St) : (settleStop s).rpcs = s.rpcs := by
  obtain ⟨f, r, -, e⟩ := settleStop_eq s; rw [e]

theorem settleStop_conns {s : St} {x : Conn} (hx : x ∈ (settleStop s).conns) :
    ∃ y ∈ s.conns, x = y ∨ x = { y with srvAlive := false } := by
  obtain ⟨f, r, hf, e⟩ := settleStop_eq s
  rw [e] at hx
  obtain ⟨y, hy, rfl⟩ := List.mem_map.1 hx
  exact ⟨y, hy, hf y⟩

theorem settleStop_bounded (s : St) (h : Bounded s) : Bounded (settleStop s) :=
  bounded_congr (settleStop_run s) (settleStop_cap s) h

theorem init_bounded (cap : Nat) (w : Bool) : Bounded (init cap w) := by
  intro c; simp [init, runningOn]

/-- a connection on which the client can start no stream and has none waiting for quota -/
def Shut (x : Conn) : Prop := x.usable = false ∧ x.cliWaiting = []

/-- after Stop / GracefulStop was called no connection can start a stream and nobody waits for quota -/
def Closed (s : St) : Prop := s.phase ≠ .serving → ∀ x ∈ s.conns, Shut x

theorem getConn_mem {s : St} {c : Nat} {conn : Conn} (h : getConn s c = some conn) : conn ∈ s.conns :=
  List.mem_of_find?_eq_some h

theorem Closed.map {s t : St} {f : Conn → Conn} (hf : ∀ x, Shut x → Shut (f x)) (hc : t.conns = s.conns.map f)
    (hp : t.phase = s.phase) (h : Closed s) : Closed t := by
  intro hne x hx
  rw [hc] at hx
  obtain ⟨y, hy, rfl⟩ := List.mem_map.1 hx
  exact hf y (h (hp ▸ hne) y hy)

theorem settleStop_closed (s : St) (h : Closed s) : Closed (settleStop s) := by
  obtain ⟨f, r, hf, e⟩ := settleStop_eq s
  rw [e]
  exact h.map (fun x hx => by rcases hf x with e | e <;> rw [e] <;> exact hx) rfl rfl

theorem closed_of_serving (t : St) (ht : t.phase = .serving) : Closed t := fun hne => absurd ht hne

theorem init_closed (cap : Nat) (w : Bool) : Closed (init cap w) := closed_of_serving _ rfl

/-- the status the client of r has seen -/
def cliOf (s : St) (r : Nat) : Option Nat := (getRpc s r).bind (·.cli)

theorem getRpc_updRpc (s : St) (r : Nat) (f : Rpc → Rpc) (hid : ∀ y, (f y).id = y.id) (x : Rpc)
    (h : getRpc s r = some x) : getRpc (updRpc s r f) r = some (f x) := find_map_hit Rpc.id f hid h

theorem updRpc_cliOf (s : St) (r r' : Nat) (f : Rpc → Rpc) (hid : ∀ y, (f y).id = y.id)
    (hcli : ∀ y, (f y).cli = y.cli) : cliOf (updRpc s r f) r' = cliOf s r' := by
  simp only [cliOf, getRpc, updRpc, find_map_key Rpc.id _ _ _ _ hid]
  cases s.rpcs.find? (·.id = r') with
  | none => rfl
  | some x => simp only [Option.map_some, Option.bind_some]; split <;> simp [hcli]

theorem updConn_cliOf (s : St) (c r : Nat) (f : Conn → Conn) : cliOf (updConn s c f) r = cliOf s r := rfl

/-- work of a connection's reader or of the client side (`pump`, `send`, `wakeWaiter` and the updates they are made of):
    no stop call is involved, and no client learns a status -/
structure Step (s t : St) : Prop where
  cap : t.cap = s.cap
  phase : t.phase = s.phase
  returned : t.returned = s.returned
  bounded : Bounded s → Bounded t
  closed : Closed s → Closed t
  cliOf : ∀ r, cliOf t r = cliOf s r

theorem Step.refl (s : St) : Step s s := ⟨rfl, rfl, rfl, id, id, fun _ => rfl⟩

theorem Step.trans {s t u : St} (a : Step s t) (b : Step t u) : Step s u :=
  ⟨b.cap.trans a.cap, b.phase.trans a.phase, b.returned.trans a.returned, b.bounded ∘ a.bounded,
   b.closed ∘ a.closed, fun r => (b.cliOf r).trans (a.cliOf r)⟩

/-- `hf` is the identity for the record updates of the model that leave `usable` and `cliWaiting` alone. -/
theorem step_updConn (s : St) (c : Nat) (f : Conn → Conn)
    (hf : ∀ x, Shut x → Shut (f x) := by exact fun _ h => h) : Step s (updConn s c f) :=
  ⟨rfl, rfl, rfl, bounded_congr rfl rfl,
   Closed.map (fun x hx => iteInduction (motive := Shut) (fun _ => hf x hx) fun _ => hx) rfl rfl, fun _ => rfl⟩

theorem step_updRpc (s : St) (r : Nat) (f : Rpc → Rpc)
    (hf : ∀ y, (f y).id = y.id ∧ (f y).cli = y.cli := by exact fun _ => ⟨rfl, rfl⟩) : Step s (updRpc s r f) :=
  ⟨rfl, rfl, rfl, bounded_congr rfl rfl, id,
   fun r' => updRpc_cliOf s r r' f (fun y => (hf y).1) fun y => (hf y).2⟩

theorem step_enter (s : St) (c r : Nat) (hg : (runningOn s c).length < s.cap) : Step s (enter s c r) :=
  ⟨rfl, rfl, rfl, fun h => enter_bounded s c r h hg, id, (step_updRpc s r _).cliOf⟩

theorem pump_step (fuel : Nat) (s : St) (c : Nat) : Step s (pump fuel s c) := by
  -- the cases are the branches of `pump` in the order of its text
  fun_induction pump fuel s c with
  -- no fuel; no such connection; a stream is parked and no slot is free; nothing to read
  | case1 | case2 | case4 | case5 => exact .refl _
  -- the parked stream gets a slot
  | case3 fuel s c conn hg r hb hlt ih =>
    exact ((step_updConn s c _).trans (step_enter _ c _ hlt)).trans ih
  -- HEADERS after the final GOAWAY: skipped
  | case6 fuel s c conn hg hb r rest hf hd ih => exact (step_updConn s c _).trans ih
  -- HEADERS, a slot is free: the handler is entered
  | case7 fuel s c conn hg hb r rest hf hd s' hlt ih =>
    exact ((step_updConn s c _).trans (step_enter _ c _ hlt)).trans ih
  -- HEADERS, no slot: the reader parks
  | case8 fuel s c => exact (step_updConn s c _).trans (step_updConn _ c _)
  -- RST_STREAM
  | case9 fuel s c conn hg hb r rest hf s' ih =>
    exact ((step_updConn s c _).trans (step_updRpc _ _ _)).trans ih

theorem pumpConn_step (s : St) (c : Nat) : Step s (pumpConn s c) := by
  unfold pumpConn; split
  · exact pump_step _ s c
  · exact .refl s

theorem send_step (s : St) (c r : Nat) : Step s (send s c r) :=
  ((step_updRpc s r _).trans (step_updConn _ c _)).trans (pumpConn_step _ c)

/-- `wakeWaiter` shortens `cliWaiting`; that is no harm to `Closed`, which asks for it to be empty
    only after a stop call, and then there is nobody to wake. -/
theorem wakeWaiter_step (s : St) (c : Nat) : Step s (wakeWaiter s c) := by
  unfold wakeWaiter
  split
  · next conn hg =>
    split
    · next r rest hw =>
      split
      · have st := send_step (updConn s c fun x => { x with cliWaiting := rest }) c r
        refine ⟨st.cap, st.phase, st.returned, fun h => st.bounded (bounded_updConn s c _ h), fun h => ?_, st.cliOf⟩
        by_cases hp : s.phase = .serving
        · exact st.closed (closed_of_serving _ hp)
        · exact nomatch hw.symm.trans (h hp _ (getConn_mem hg)).2
      · exact .refl s
    · exact .refl s
  · exact .refl s

/-- the quiescence after a stream ended on connection `c` -/
theorem pumpConn_wakeWaiter_step (s : St) (c : Nat) : Step s (wakeWaiter (pumpConn s c) c) :=
  (pumpConn_step s c).trans (wakeWaiter_step _ c)

/-- what an operation does before its final `settleStop`; the stop calls set `phase`, Stop also
    resets `returned` -/
structure OpStep (s u : St) : Prop where
  cap : u.cap = s.cap
  bounded : Bounded s → Bounded u
  closed : Closed s → Closed u
  returned : u.returned = s.returned ∨ u.phase = .hard

theorem Step.op {s u : St} (a : Step s u) : OpStep s u := ⟨a.cap, a.bounded, a.closed, .inl a.returned⟩

theorem OpStep.step {s t u : St} (a : OpStep s t) (b : Step t u) : OpStep s u :=
  ⟨b.cap.trans a.cap, b.bounded ∘ a.bounded, b.closed ∘ a.closed,
   a.returned.imp (b.returned.trans ·) (b.phase.trans ·)⟩

theorem OpStep.returned_of_graceful {s u : St} (a : OpStep s u) (hp : u.phase = .graceful) : u.returned = s.returned :=
  a.returned.resolve_right fun hr => nomatch hp.symm.trans hr

theorem op_rpcs (s : St) (l : List Rpc) : OpStep s { s with rpcs := l } :=
  ⟨rfl, bounded_congr rfl rfl, id, .inl rfl⟩

theorem step_addConn (s : St) (x : Conn) (hx : s.phase ≠ .serving → Shut x) :
    Step s { s with conns := s.conns ++ [x] } := by
  refine ⟨rfl, rfl, rfl, bounded_congr rfl rfl, fun h hp v hv => ?_, fun _ => rfl⟩
  rcases List.mem_append.1 hv with hv | hv
  · exact h hp v hv
  · cases List.mem_singleton.1 hv; exact hx hp

/-- An operation as a whole: an `OpStep`, after which most operations run `settleStop`. -/
def Shape (s t : St) : Prop := OpStep s t ∨ ∃ u, t = settleStop u ∧ OpStep s u

theorem Shape.plain {s t : St} (h : OpStep s t) : Shape s t := .inl h
theorem Shape.settle {s u : St} (h : OpStep s u) : Shape s (settleStop u) := .inr ⟨u, rfl, h⟩

theorem start_cases (s : St) (c r : Nat) :
    (∃ l, start s c r = { s with rpcs := l } ∧
      ∀ x ∈ l, x ∈ s.rpcs ∨ (x.id = r ∧ x.sent = false ∧ x.cli = some codeUnavailable)) ∨
    ∃ conn l, getConn s c = some conn ∧ conn.usable = true ∧
      (start s c r = updConn { s with rpcs := l } c (fun x => { x with cliWaiting := x.cliWaiting ++ [r] }) ∨
       start s c r = send { s with rpcs := l } c r) := by
  -- the branches of `start` in the order of its text
  fun_cases start s c r
  -- no such connection; the RPC exists already
  case case1 | case2 => exact .inl ⟨_, rfl, fun _ => .inl⟩
  -- the connection is not usable
  case case3 conn hg hnew u hu =>
    refine .inl ⟨_, rfl, fun x hx => ?_⟩
    simp only [u, List.map_append, List.mem_append, List.mem_map, List.map_cons, List.map_nil, List.mem_singleton] at hx
    rcases hx with ⟨y, hy, rfl⟩ | rfl
    · have : y.id ≠ r := fun e => hnew (List.find?_isSome.2 ⟨y, hy, by simp [e]⟩)
      rw [if_neg this]; exact .inl hy
    · rw [if_pos trivial]; exact .inr ⟨rfl, rfl, rfl⟩
  -- no client quota; quota
  case case4 conn hg _ u hu _ => exact .inr ⟨conn, _, hg, by simpa using hu, .inl rfl⟩
  case case5 conn hg _ u hu _ => exact .inr ⟨conn, _, hg, by simpa using hu, .inr rfl⟩

theorem start_op (s : St) (c r : Nat) : OpStep s (start s c r) := by
  rcases start_cases s c r with ⟨l, e, -⟩ | ⟨conn, l, hg, hu, e | e⟩ <;> rw [e]
  · exact op_rpcs s l
  · -- the RPC waits for client quota on a usable connection: no stop call has been made
    refine ⟨rfl, bounded_congr rfl rfl, fun h => ?_, .inl rfl⟩
    by_cases hp : s.phase = .serving
    · exact closed_of_serving _ hp
    · exact nomatch hu.symm.trans (h hp _ (getConn_mem hg)).1
  · exact (op_rpcs s l).step (send_step _ c r)

theorem rawstart_cases (s : St) (c r : Nat) :
    ∃ l, rawstart s c r = { s with rpcs := l } ∨ rawstart s c r = settleStop (send { s with rpcs := l } c r) := by
  fun_cases rawstart s c r
  -- no such connection; the RPC exists or the peer is a grpc-go client; the connection has left `s.conns`
  case case1 | case2 | case3 => exact ⟨_, .inl rfl⟩
  case case4 => exact ⟨_, .inr rfl⟩

theorem rawstart_shape (s : St) (c r : Nat) : Shape s (rawstart s c r) := by
  obtain ⟨l, e | e⟩ := rawstart_cases s c r <;> rw [e]
  · exact .plain (op_rpcs s l)
  · exact .settle ((op_rpcs s l).step (send_step _ c r))

theorem cancel_shape (s : St) (r : Nat) : Shape s (cancel s r) := by
  unfold cancel
  split
  · exact .plain (Step.refl s).op
  · next x _ =>
    exact iteInduction (fun _ => .plain (Step.refl s).op) fun _ => iteInduction
      (fun _ => .settle (((op_rpcs s _).step (step_updConn _ _ _)).step (pumpConn_wakeWaiter_step _ _)))
      fun _ => .plain ((op_rpcs s _).step (step_updConn _ _ _ fun y hy => ⟨hy.1, congrArg (·.erase r) hy.2⟩))

theorem finish_shape (s : St) (r code : Nat) : Shape s (finish s r code) := by
  unfold finish
  split
  · exact .plain (Step.refl s).op
  · next x _ =>
    refine iteInduction (fun _ => .plain (Step.refl s).op) fun _ => .settle ?_
    -- the handler leaves `run`; whatever happens to the RPC records, the bound can only get easier
    have st (l : List Rpc) : OpStep s { s with rpcs := l, run := s.run.filter fun y => y.1 ≠ r } :=
      ⟨rfl, fun h c => Nat.le_trans (List.filter_sublist.filter _).length_le (h c), id, .inl rfl⟩
    split
    · exact ((st _).step (step_updConn _ _ _)).step (pumpConn_wakeWaiter_step _ _)
    · exact (st _).step (pumpConn_wakeWaiter_step _ _)

/-- both stop calls first make every connection unusable; `failWaiters` then empties the client queues -/
theorem failWaiters_shut {s : St} (h : ∀ x ∈ s.conns, x.usable = false) : ∀ v ∈ (failWaiters s).conns, Shut v := by
  intro v hv
  obtain ⟨x, hx, rfl⟩ := List.mem_map.1 hv
  exact ⟨h x hx, rfl⟩

theorem gstop_shape (s : St) : Shape s (gstop s) := by
  unfold gstop
  exact iteInduction (fun _ => .plain (Step.refl s).op) fun _ => .settle
    ⟨rfl, bounded_congr rfl rfl, fun _ _ => failWaiters_shut (List.forall_mem_map.2 fun _ _ => rfl), .inl rfl⟩

theorem stop_shape (s : St) : Shape s (stop s) := by
  unfold stop
  exact iteInduction (fun _ => .plain (Step.refl s).op) fun _ => .settle
    ⟨rfl, bounded_congr rfl rfl, fun _ _ => failWaiters_shut (List.forall_mem_map.2 fun _ _ => rfl), .inr rfl⟩

theorem apply_shape (s : St) (o : Op) : Shape s (apply s o) := by
  cases o with
  | dial c =>
    exact .plain (iteInduction (fun _ => (Step.refl s).op) fun _ => (step_addConn s _ fun hp => ⟨by simp [hp], rfl⟩).op)
  | rawdial c =>
    exact .plain (iteInduction (fun _ => (Step.refl s).op) fun _ => (step_addConn s _ fun _ => ⟨rfl, rfl⟩).op)
  | start c r => exact .plain (start_op s c r)
  | cancel r => exact cancel_shape s r
  | finish r code => exact finish_shape s r code
  | gstop => exact gstop_shape s
  | stop => exact stop_shape s
  | rawstart c r => exact rawstart_shape s c r

/-- what every operation keeps, from a server made with quota `n` -/
structure Inv (n : Nat) (s : St) : Prop where
  cap : s.cap = n
  bounded : Bounded s
  closed : Closed s

theorem Shape.inv {s t : St} {n : Nat} (h : Shape s t) (hs : Inv n s) : Inv n t := by
  rcases h with st | ⟨u, rfl, st⟩
  · exact ⟨st.cap.trans hs.cap, st.bounded hs.bounded, st.closed hs.closed⟩
  · exact ⟨((settleStop_cap u).trans st.cap).trans hs.cap, settleStop_bounded u (st.bounded hs.bounded),
      settleStop_closed u (st.closed hs.closed)⟩

theorem runOps_inv (cap : Nat) (w : Bool) (ops : List Op) : Inv cap (runOps (init cap w) ops) :=
  foldl_inv (fun s o => (apply_shape s o).inv) ops ⟨rfl, init_bounded cap w, init_closed cap w⟩

theorem settleStop_cliOf (s : St) (r' : Nat) : cliOf (settleStop s) r' = cliOf s r' := by
  unfold cliOf getRpc; rw [settleStop_rpcs]

theorem settleStop_returns (s : St) (hp : s.phase = .graceful) (h0 : s.returned = false)
    (h1 : (settleStop s).returned = true) :
    s.run = [] ∧ ∀ x ∈ s.conns, x.blocked = none := by
  unfold settleStop at h1
  rw [hp] at h1
  simp only [h0, Bool.false_or, Bool.and_eq_true, Bool.or_eq_true, Bool.not_eq_true',
    List.all_eq_true] at h1
  obtain ⟨_, h2⟩ := h1
  rcases h2 with h2 | h2
  · simp at h2
  · obtain ⟨hr, hb⟩ := h2
    refine ⟨by simpa using hr, ?_⟩
    intro x hx
    have := hb _ (List.mem_map.2 ⟨x, hx, rfl⟩)
    split at this <;> simpa using this

/-- an operation that makes a pending GracefulStop return leaves no handler running and no stream parked
    in a handler quota: `returned` is written last, by `settleStop` -/
theorem Shape.returns {s t : St} (h : Shape s t) (hp : t.phase = .graceful) (h0 : s.returned = false)
    (h1 : t.returned = true) : t.run = [] ∧ ∀ x ∈ t.conns, x.blocked = none := by
  rcases h with st | ⟨u, rfl, st⟩
  · rw [st.returned_of_graceful hp, h0] at h1; cases h1
  · rw [settleStop_phase] at hp
    have := settleStop_returns u hp ((st.returned_of_graceful hp).trans h0) h1
    refine ⟨by rw [settleStop_run]; exact this.1, fun x hx => ?_⟩
    obtain ⟨y, hy, hxy⟩ := settleStop_conns hx
    have hb := this.2 y hy
    rcases hxy with rfl | rfl <;> exact hb

/-- What Stop does to an RPC record: `failWaiters` may have failed it while it waited for client quota;
    then every sent stream's context is cancelled and a sent RPC without a result fails UNAVAILABLE. -/
theorem stop_rpcs (s : St) (hp : s.phase ≠ .hard) {x : Rpc} (hx : x ∈ (apply s .stop).rpcs) :
    ∃ z ∈ s.rpcs, ∃ y : Rpc, (y = z ∨ y = { z with cli := some codeUnavailable }) ∧
      x = { y with cli := if y.cli.isNone ∧ y.sent then some codeUnavailable else y.cli,
                   ctxCancelled := y.ctxCancelled || y.sent } := by
  simp only [apply, stop, hp, if_false, settleStop_rpcs] at hx
  simp only [failWaiters, List.mem_map] at hx
  obtain ⟨y, ⟨z, hz, rfl⟩, rfl⟩ := hx
  refine ⟨z, hz, _, ?_, rfl⟩
  split
  · exact .inr rfl
  · exact .inl rfl

theorem getConn_updConn (s : St) (c : Nat) (f : Conn → Conn) (hid : ∀ y, (f y).id = y.id) (conn : Conn)
    (h : getConn s c = some conn) : getConn (updConn s c f) c = some (f conn) := find_map_hit Conn.id f hid h


/-- On a connection whose final GOAWAY has been written the reader never dispatches a stream it reads:
    whatever runs afterwards ran before or is the one stream that was already parked in the quota. -/
theorem pump_draining (fuel : Nat) (s : St) (c : Nat) : ∀ conn : Conn, getConn s c = some conn →
    conn.draining = true → ∀ x ∈ (pump fuel s c).run, x ∈ s.run ∨ conn.blocked = some x.1 := by
  -- the cases as in `pump_step`
  fun_induction pump fuel s c with
  | case1 | case2 | case4 | case5 => exact fun _ _ _ x hx => .inl hx
  -- the parked stream is the one exception the statement allows
  | case3 fuel s c conn' hg' r hb hlt ih =>
    intro conn hg hd x hx
    cases hg'.symm.trans hg
    have hg1 : getConn (enter (updConn s c fun y => { y with blocked := none }) c r) c
        = some { conn' with blocked := none } := getConn_updConn s c _ (by intro; rfl) conn' hg'
    rcases ih _ hg1 hd x hx with h1 | h1
    · simp only [enter, updRpc_run, updConn_run, List.mem_append, List.mem_singleton] at h1
      rcases h1 with h1 | h1
      · exact .inl h1
      · right; rw [hb, h1]
    · cases h1
  | case6 fuel s c conn' hg' hb r rest hf _ ih =>
    intro conn hg hd x hx
    cases hg'.symm.trans hg
    rcases ih _ (getConn_updConn s c _ (by intro; rfl) conn' hg') hd x hx with h1 | h1
    · exact .inl h1
    · exact nomatch hb.symm.trans h1
  -- HEADERS are dispatched or parked on a connection that is not draining only
  | case7 fuel s c conn' hg' hb r rest hf hnd | case8 fuel s c conn' hg' hb r rest hf hnd =>
    intro conn hg hd
    cases hg'.symm.trans hg
    exact absurd hd hnd
  | case9 fuel s c conn' hg' hb r rest hf s' ih =>
    intro conn hg hd x hx
    cases hg'.symm.trans hg
    have hg1 : getConn (updRpc s' r fun y => { y with ctxCancelled := true }) c
        = some { conn' with fifo := rest, active := conn'.active.erase r } := getConn_updConn s c _ (by intro; rfl) conn' hg'
    rcases ih _ hg1 hd x hx with h1 | h1
    · exact .inl h1
    · exact nomatch hb.symm.trans h1

theorem send_draining (s : St) (c r : Nat) (conn : Conn) (hg : getConn s c = some conn)
    (hd : conn.draining = true) : ∀ x ∈ (send s c r).run, x ∈ s.run ∨ conn.blocked = some x.1 := by
  have hg1 := getConn_updConn (updRpc s r fun x => { x with sent := true }) c
    (fun x => { x with cliActive := x.cliActive + 1, fifo := x.fifo ++ [.arrive r] }) (fun _ => rfl) conn hg
  unfold send pumpConn
  simp only [hg1]
  exact fun x hx => pump_draining _ _ c _ hg1 hd x hx

end GrpcProofs.Lemmas.ServerStop
