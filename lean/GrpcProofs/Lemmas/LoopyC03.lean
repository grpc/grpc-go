import GrpcProofs.Lemmas.LoopyWf
/-! C03: the observable predicates `stateOk`, `tickOk`, `orderOk` hold on every step of the model. -/
namespace GrpcProofs.Loopy
open GrpcModel.Loopy GrpcModel.Loopy.C03

theorem svOf_id (s : St) (id : Nat) : (svOf s id).id = id := rfl

theorem find_svOf (s : St) {id : Nat} {keys : List Nat} (hk : id ∈ keys) :
    (keys.map (svOf s)).find? (·.id == id) = some (svOf s id) := by
  induction keys with
  | nil => simp at hk
  | cons a t ih =>
    simp only [List.map_cons, List.find?_cons, svOf_id]
    by_cases ha : a = id
    · subst ha; simp
    · have : (a == id) = false := by simpa using ha
      simp only [this]
      rcases List.mem_cons.mp hk with e | hm
      · exact absurd e.symm ha
      · exact ih hm

theorem streamOk_of_wf {s : St} (h : Wf s) {id : Nat} (hk : id ∈ s.keys) : streamOk (view s) (svOf s id) = true := by
  simp only [streamOk, view, svOf, Bool.and_eq_true, Bool.or_eq_true, bne_iff_ne, ne_eq, beq_iff_eq,
    List.contains_eq_mem, decide_eq_true_eq, List.length_eq_zero_iff]
  have he := h.emptyIff id hk
  have hhd := h.headData id hk
  refine ⟨⟨⟨⟨?onList, ?emptyIff⟩, ?waitQuota⟩, ?headData⟩, ?noLostWakeup⟩  -- the five clauses of `streamOk`, in its order
  · by_cases ha : (s.str id).state = .active
    · exact Or.inr (h.actAll id hk ha)
    · exact Or.inl ha
  · by_cases hs : (s.str id).state = .empty
    · simp [hs, he.mp hs]
    · have hne : (s.str id).items ≠ [] := fun e => hs (he.mpr e)
      have h1 : ((s.str id).state == SState.empty) = false := by simpa using hs
      have h2 : ((s.str id).items.length == 0) = false := by simpa using hne
      rw [h1, h2]
  · by_cases hw : (s.str id).state = .waiting
    · exact Or.inr (decide_eq_true (h.waitQuota id hk hw))
    · exact Or.inl hw
  · cases hit : (s.str id).items with
    | nil => exact Or.inl rfl
    | cons a t =>
      cases a with
      | data => exact Or.inr rfl
      | trailers r c => rw [hit] at hhd; exact absurd trivial hhd
  · by_cases hnil : (s.str id).items = []
    · exact Or.inl (Or.inl hnil)
    · by_cases hq : s.quota id ≤ 0
      · exact Or.inl (Or.inr (decide_eq_true hq))
      · exact Or.inr (h.active_of_quota hk hnil (Int.not_le.mp hq))

theorem stateOk_of_wf {s : St} (h : Wf s) : stateOk (view s) = true := by
  simp only [stateOk, Bool.and_eq_true, decide_eq_true_eq, List.all_eq_true]
  refine ⟨⟨h.actNodup, ?_⟩, ?_⟩
  · intro id hi
    have := h.actKeys id hi
    simp only [view, List.any_map, List.any_eq_true, Function.comp]
    exact ⟨id, this.1, by simp [svOf, this.2]⟩
  · intro x hx
    simp only [view, List.mem_map] at hx
    obtain ⟨id, hk, rfl⟩ := hx
    exact streamOk_of_wf h hk


def isData : Out → Prop
  | .data .. => True
  | _ => False

theorem anyData_false {os : List Out} (h : ∀ o ∈ os, ¬ isData o) : anyData os = false := by
  induction os with
  | nil => rfl
  | cons o t ih =>
    have ho := h o List.mem_cons_self
    have ht := ih (fun o' ho' => h o' (List.mem_cons_of_mem _ ho'))
    cases o <;> simp only [anyData, ht] <;> exact absurd trivial ho

theorem dataFor_nil {id : Nat} {os : List Out} (h : ∀ o ∈ os, ¬ isData o) : dataFor id os = [] := by
  induction os with
  | nil => rfl
  | cons o t ih =>
    have ho := h o List.mem_cons_self
    have ht := ih (fun o' ho' => h o' (List.mem_cons_of_mem _ ho'))
    cases o <;> simp only [dataFor, ht] <;> exact absurd trivial ho

theorem Inert.not_isData {o : Out} (h : Inert o) : ¬ isData o := by
  cases o with
  | data => exact fun _ => h
  | _ => exact id

theorem afterWrite_active {t : St} {id hb : Nat} {pre : List Out} {r : Res} {rest : List Nat} (hw : AfterWrite t id hb pre r)
    (ha : t.active = rest) (hnr : id ∉ rest) : r.st.active = rest ∨ r.st.active = rest ++ [id] := by
  cases hw with
  | drained | waiting => exact .inl ha
  | trailers => exact .inl ((removeStream_active_of_notMem (ha ▸ hnr)).trans ha)
  | again => exact .inr (by simp [ha])

/-- One DATA frame with as much of the item `data off hl d` as 16384 and the two quotas allow, and no other DATA. -/
def Wrote (quota : Int) (sendQuota id off hl d : Nat) (outs : List Out) : Prop :=
  ∃ es' extra, outs = [.cb .onEachWrite id, .data id off (min (min (min 16384 quota.toNat) sendQuota) (hl + d)) es'] ++ extra ∧
    ∀ o ∈ extra, ¬ isData o

/-- What a `processData` call writes for the stream at the head of the active list, `quota` being the stream's quota and `sendQuota`
the connection's: nothing if the stream is parked for want of stream quota; else `Wrote`. -/
def Served (quota : Int) (sendQuota id off hl d : Nat) (outs : List Out) : Prop :=
  if quota ≤ 0 ∧ ¬ (hl = 0 ∧ d = 0) then outs = [] else Wrote quota sendQuota id off hl d outs

/-- What one `processData` call that serves (or parks) the head `id` of the active list `id :: rest` leaves behind, the head
item being `data off hl d es` before `tl`: every other stream untouched, the rest of the list one place forward. -/
structure HeadServed (s : St) (id : Nat) (rest : List Nat) (r : Res) (off hl d : Nat) (es : Bool) (tl : List Item) : Prop where
  items : (s.str id).items = .data off hl d es :: tl
  /-- parked for want of stream quota and off the list; or one DATA frame, and the stream off the list or back at its tail -/
  outcome : (s.quota id ≤ 0 ∧ ¬ (hl = 0 ∧ d = 0)) ∧ r.outs = [] ∧ r.st.active = rest ∨
    ¬ (s.quota id ≤ 0 ∧ ¬ (hl = 0 ∧ d = 0)) ∧ Wrote (s.quota id) s.sendQuota id off hl d r.outs ∧
      (r.st.active = rest ∨ r.st.active = rest ++ [id])
  others : ∀ i, i ≠ id → r.st.str i = s.str i
  oiws : r.st.oiws = s.oiws

namespace HeadServed
variable {s : St} {id : Nat} {rest : List Nat} {r : Res} {off hl d : Nat} {es : Bool} {tl : List Item}

theorem served (h : HeadServed s id rest r off hl d es tl) : Served (s.quota id) s.sendQuota id off hl d r.outs := by
  obtain ⟨hp, ho, _⟩ | ⟨hp, hw, _⟩ := h.outcome
  · exact (if_pos hp).mpr ho
  · exact (if_neg hp).mpr hw

theorem active (h : HeadServed s id rest r off hl d es tl) : r.st.active = rest ∨ r.st.active = rest ++ [id] :=
  h.outcome.elim (fun h => .inl h.2.2) fun h => h.2.2

end HeadServed

theorem does_tick {s : St} {hb : Nat} {r : Res} (h : Wf s) (hd : Does s (.tick hb) r) :
    ((s.sendQuota = 0 ∨ s.active = []) ∧ r.outs = [] ∧ r.st.active = s.active) ∨
    ∃ id rest off hl d es tl, s.sendQuota ≠ 0 ∧ s.active = id :: rest ∧ HeadServed s id rest r off hl d es tl := by
  cases hd with
  | idle hi => exact .inl ⟨hi, rfl, rfl⟩
  | panic _ hact hit => exact (h.not_panic hact hit).elim
  | park hq hact hit hc =>
    exact .inr ⟨_, _, _, _, _, _, _, hq, hact,
      { items := hit
        outcome := .inl ⟨hc, rfl, rfl⟩
        others := fun i hi => setStr_str_ne _ _ hi
        oiws := rfl }⟩
  | write hs hw =>
    obtain ⟨extra, ho, hex⟩ := hw.outs
    exact .inr ⟨_, _, _, _, _, _, _, hs.conn, hs.active,
      { items := hs.items
        outcome := .inr ⟨hs.quota, ⟨_, extra, hs.size ▸ ho, fun o ho => (hex o ho).not_isData⟩,
          afterWrite_active hw rfl (h.head hs.active).notMem⟩
        others := fun i hi => (hw.frame.1 i hi).trans (wrote_str_ne hi)
        oiws := hw.frame.2 }⟩

theorem does_tick_idle {s : St} {hb : Nat} {r : Res} (hd : Does s (.tick hb) r) (hidle : r.ret = .tick true) :
    s.sendQuota = 0 ∨ s.active = [] := by
  cases hd with
  | idle h => exact h
  | panic | park => exact nomatch hidle
  | write _ hw => exact absurd hidle hw.ret_ne_idle

theorem view_active (s : St) : (view s).active = s.active := rfl

theorem steps_head {s : St} {hb : Nat} {r : Res} (hd : Steps s (.tick hb) r) (h : Wf s) (hc : s.closed = false)
    (hq : s.sendQuota ≠ 0) {id : Nat} {rest : List Nat} (hact : s.active = id :: rest) :
    ∃ off hl d es tl, HeadServed s id rest r off hl d es tl := by
  cases hd with
  | closed hc' => exact absurd hc' (by simp [hc])
  | outside _ ho => cases ho
  | does _ _ hd =>
    obtain ⟨hi, _⟩ | ⟨_, _, off, hl, d, es, tl, _, hact', hs⟩ := does_tick h hd
    · exact (hi.elim hq fun hi => nomatch hact ▸ hi).elim
    · obtain ⟨rfl, rfl⟩ := List.cons.inj (hact.symm.trans hact')
      exact ⟨off, hl, d, es, tl, { hs with }⟩  -- `HeadServed` does not read `closed`

theorem step_head {s : St} (h : Wf s) (hc : s.closed = false) (hq : s.sendQuota ≠ 0) {id : Nat} {rest : List Nat}
    (hact : s.active = id :: rest) (hb : Nat) : ∃ off hl d es tl, HeadServed s id rest (step s (.tick hb)) off hl d es tl :=
  steps_head (step_steps s (.tick hb)) h hc hq hact

/-- `tickOk` is `HeadServed` read through the view (and the row `idle`). -/
theorem steps_tickOk {s : St} {hb : Nat} {r : Res} (hd : Steps s (.tick hb) r) (h : Wf s) :
    tickOk (view s) (view r.st) r.outs = true := by
  unfold tickOk
  cases hd with
  | closed hc => exact if_pos hc
  | outside _ ho => cases ho
  | does hc _ hd =>
    rw [if_neg (show ¬ (view s).closed = true by simp [view, hc])]
    simp only [view_active, show (view s).sendQuota = s.sendQuota from rfl]
    obtain ⟨hi, ho, ha⟩ | ⟨id, rest, off, hl, d, es, tl, hq, hact, hs⟩ := does_tick h hd
    · rw [ho, ha]
      cases hact : s.active with
      | nil => simp [anyData]
      | cons id rest => simp [anyData, hi.resolve_right (by simp [hact])]
    · rw [hact]
      dsimp only
      rw [if_neg hq, show (view s).streams.find? (·.id == id) = some (svOf s id) from find_svOf s (h.head hact).keys]
      have hlen : (svOf s id).headLen = hl + d := by simp [svOf, hs.items]
      simp only [show (svOf s id).quota = s.quota id from rfl, hlen]
      obtain ⟨hp, ho, ha⟩ | ⟨hp, ⟨es', extra, ho, hex⟩, ha⟩ := hs.outcome
      · rw [if_pos ⟨hp.1, by omega⟩, ho, ha]
        simp [anyData]
      · rw [if_neg fun hh => hp ⟨hh.1, by omega⟩, ho]
        simp only [List.cons_append, List.nil_append, dataFor, if_true, dataFor_nil hex]
        rcases ha with e | e <;> simp [e]

theorem tickOk_step {s : St} (h : Wf s) (hb : Nat) :
    tickOk (view s) (view (step s (.tick hb)).st) (step s (.tick hb)).outs = true :=
  steps_tickOk (step_steps s (.tick hb)) h

theorem settings_active {s t : St} {order : List Nat} {ss : List (Nat × Nat)} (hd : Settings order s ss t) :
    ∃ e, t.active = s.active ++ e := by
  induction hd with
  | done => exact ⟨[], (List.append_nil _).symm⟩
  | other _ _ ih | lower _ _ ih => exact ih
  | raise _ _ ih =>
    obtain ⟨e, he⟩ := ih
    exact ⟨_, he.trans (List.append_assoc ..)⟩

/-- What a control item may do to the active list: append at its tail, or take one stream out. -/
def KeepsOrder (l l' : List Nat) : Prop := (∃ e, l' = l ++ e) ∨ ∃ id, l' = l.filter (· ≠ id)

theorem KeepsOrder.refl (l : List Nat) : KeepsOrder l l := .inl ⟨[], (List.append_nil l).symm⟩

theorem removeStream_keepsOrder (s : St) (id : Nat) : KeepsOrder s.active (removeStream s id).active := by
  unfold removeStream; split
  · exact .inr ⟨id, rfl⟩
  · exact .refl _

theorem does_keepsOrder {s : St} {o : Op} {r : Res} (hd : Does s o r) (hnt : ∀ hb, o ≠ .tick hb) :
    KeepsOrder s.active r.st.active := by
  cases hd with
  | creditWake | dataFirst => exact .inl ⟨[_], rfl⟩
  | settings hss => exact .inl (settings_active hss)
  | trailersNow | cleanup => exact removeStream_keepsOrder s _
  | idle | panic | park | write => exact absurd rfl (hnt _)
  | _ => exact .refl _

theorem filter_contains_append (l e : List Nat) : (l.filter ((l ++ e).contains ·)) = l := by
  apply List.filter_eq_self.mpr
  intro a ha; simp [ha]

theorem filter_contains_filter (l : List Nat) (p : Nat → Bool) : (l.filter ((l.filter p).contains ·)) = l.filter p := by
  apply List.filter_congr
  intro a ha; simp [ha]

theorem steps_keepsOrder {s : St} {o : Op} {r : Res} (hd : Steps s o r) (hnt : ∀ hb, o ≠ .tick hb) :
    KeepsOrder s.active r.st.active := by
  cases hd with
  | closed | outside => exact .refl _
  | does _ _ hd => exact (does_keepsOrder hd hnt :)

theorem orderOk_step {s : St} (o : Op) (hnt : ∀ hb, o ≠ .tick hb) : orderOk (view s) (view (step s o).st) = true := by
  unfold orderOk
  simp only [view_active]
  rcases steps_keepsOrder (step_steps s o) hnt with ⟨e, he⟩ | ⟨id, he⟩
  · rw [he, filter_contains_append]; simp
  · rw [he, filter_contains_filter]; simp

theorem vrunFrom_holds {s : St} (h : Wf s) (ops : List Op) : C03.holds (vrunFrom s ops) = true := by
  induction ops generalizing s with
  | nil => rfl
  | cons o os ih =>
    simp only [vrunFrom, holds, List.all_cons, Bool.and_eq_true]
    refine ⟨?_, ih (step_wf h o)⟩
    simp only [C03.mstep, stateOk_of_wf (step_wf h o), Bool.not_true, Bool.false_eq_true, if_false]
    cases o with
    | tick hb => simp [tickOk_step h hb]
    | _ => rw [orderOk_step _ (fun _ => Op.noConfusion)]; rfl

theorem tick_position {s : St} (h : Wf s) (hc : s.closed = false) (hq : s.sendQuota ≠ 0) {hd : Nat} {rest : List Nat}
    (hact : s.active = hd :: rest) {id : Nat} (hid : id ∈ rest) (hb : Nat) :
    id ∈ (step s (.tick hb)).st.active ∧ (step s (.tick hb)).st.active.idxOf id + 1 = s.active.idxOf id ∧
    (step s (.tick hb)).st.str id = s.str id ∧ (step s (.tick hb)).st.quota id = s.quota id := by
  have hnr := (h.head hact).notMem
  have hne : id ≠ hd := fun e => hnr (e ▸ hid)
  obtain ⟨off, hl, d, es, tl, hs⟩ := step_head h hc hq hact hb
  have hact' := hs.active
  have hidx : s.active.idxOf id = rest.idxOf id + 1 := by
    rw [hact, List.idxOf_cons]
    have : (hd == id) = false := by simpa using fun e => hne e.symm
    simp [this]
  refine ⟨?_, ?_, hs.others id hne, ?_⟩
  · rcases hact' with e | e <;> simp [e, hid]
  · rw [hidx]; rcases hact' with e | e
    · rw [e]
    · rw [e, List.idxOf_append, if_pos hid]
  · simp only [St.quota, hs.oiws, hs.others id hne]

theorem idxOf_of_mem {l : List Nat} {id : Nat} (hmem : id ∈ l) :
    ∃ hd rest, l = hd :: rest ∧ (hd = id ∧ l.idxOf id = 0 ∨ id ∈ rest ∧ l.idxOf id = rest.idxOf id + 1) := by
  cases l with
  | nil => cases hmem
  | cons hd rest =>
    refine ⟨hd, rest, rfl, ?_⟩
    rw [List.idxOf_cons]
    cases e : hd == id
    · exact .inr ⟨(List.mem_cons.mp hmem).resolve_left fun e' => by simp [e'] at e, rfl⟩
    · exact .inl ⟨eq_of_beq e, rfl⟩

def ticks (hbs : List Nat) : List Op := hbs.map Op.tick

/-- Bounded liveness: the stream at position `k` of the active list is served by the `(k+1)`-th `processData` call. `Served` lets it
be parked instead: a stream can be on the list without stream quota, for instance put there for its first item, which
`preprocessData` does whatever the quota, or after a SETTINGS change that lowered the window. -/
theorem served_within {s : St} (h : Wf s) (id : Nat) (k : Nat) (hbs : List Nat) (hlen : hbs.length = k + 1)
    (hmem : id ∈ s.active) (hk : s.active.idxOf id = k)
    (hlive : ∀ j, j ≤ k → (runFrom s (ticks (hbs.take j))).1.closed = false ∧ (runFrom s (ticks (hbs.take j))).1.sendQuota ≠ 0) :
    ∃ off hl d es tl, (s.str id).items = .data off hl d es :: tl ∧
      Served (s.quota id) (runFrom s (ticks (hbs.take k))).1.sendQuota id off hl d
        (step (runFrom s (ticks (hbs.take k))).1 (.tick (hbs.getD k 0))).outs := by
  induction k generalizing s hbs with
  | zero =>
    obtain ⟨hc, hq⟩ := hlive 0 (Nat.le_refl 0)
    simp only [List.take_zero, ticks, List.map_nil, runFrom] at hc hq ⊢
    obtain ⟨hd, rest, hact, ⟨rfl, _⟩ | ⟨_, e⟩⟩ := idxOf_of_mem hmem
    · obtain ⟨off, hl, d, es, tl, hs⟩ := step_head h hc hq hact (hbs.getD 0 0)
      exact ⟨off, hl, d, es, tl, hs.items, hs.served⟩
    · exact (Nat.succ_ne_zero _ (e.symm.trans hk)).elim
  | succ k ih =>
    cases hbs with
    | nil => simp at hlen
    | cons hb0 hbt =>
      obtain ⟨hc, hq⟩ := hlive 0 (Nat.zero_le _)
      simp only [List.take_zero, ticks, List.map_nil, runFrom] at hc hq
      obtain ⟨hd, rest, hact, ⟨_, e⟩ | ⟨hid, _⟩⟩ := idxOf_of_mem hmem
      · exact (Nat.succ_ne_zero _ (hk.symm.trans e)).elim
      · -- after the first tick the stream is at position `k`, with the record and quota it had: the induction hypothesis applies
        obtain ⟨hmem1, hidx1, hstr1, hquota1⟩ := tick_position h hc hq hact hid hb0
        have hk1 : (step s (.tick hb0)).st.active.idxOf id = k := by omega
        have hlive1 : ∀ j, j ≤ k → (runFrom (step s (.tick hb0)).st (ticks (hbt.take j))).1.closed = false ∧
            (runFrom (step s (.tick hb0)).st (ticks (hbt.take j))).1.sendQuota ≠ 0 := by
          intro j hj
          have := hlive (j + 1) (by omega)
          simpa [ticks, runFrom] using this
        obtain ⟨off, hl, d, es, tl, hitems, hres⟩ := ih (step_wf h (.tick hb0)) hbt (by simpa using hlen) hmem1 hk1 hlive1
        refine ⟨off, hl, d, es, tl, by rw [← hstr1]; exact hitems, ?_⟩
        simp only [List.take_succ_cons, ticks, List.map_cons, runFrom, List.getD_cons_succ]
        rw [hquota1] at hres
        exact hres

end GrpcProofs.Loopy
