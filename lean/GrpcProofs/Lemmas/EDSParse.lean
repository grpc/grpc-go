import GrpcModel.Model.EDSParse
import GrpcModel.Model.XdsInv
import GrpcProofs.Lemmas.Basic
import Mathlib.Data.List.Perm.Subperm
/-! The parsers of C45 (models: GrpcModel/Model/EDSParse.lean, GrpcModel/Model/XdsInv.lean), loop by loop: an `_ok` lemma says
    what an accepted loop or step has computed.  For `localitiesLoop`, `AccInv` ties the maps the loop keeps to the
    localities collected so far, and `inv_of_accInv` reads the acceptance predicate `Inv` off it, the priorities by the
    pigeonhole (`contiguous_of_check`). -/
namespace GrpcProofs.Lemmas.EDSParse
open GrpcModel.EDSParse

theorem mapGet_mapSet [DecidableEq κ] (m : List (κ × ν)) (k k' : κ) (v : ν) :
    mapGet (mapSet m k v) k' = if k' = k then some v else mapGet m k' := by
  induction m with
  | nil => simp [mapSet, mapGet, eq_comm]
  | cons a m ih =>
    obtain ⟨ka, va⟩ := a
    by_cases h1 : ka = k
    · subst h1
      by_cases h2 : ka = k'
      · simp [mapSet, mapGet, h2]
      · simp [mapSet, mapGet, h2, Ne.symm h2]
    · by_cases h2 : ka = k'
      · subst h2; simp [mapSet, mapGet, h1]
      · simp [mapSet, mapGet, h1, h2, ih]

theorem keys_mapSet [DecidableEq κ] (m : List (κ × ν)) (k : κ) (v : ν) :
    (mapSet m k v).map Prod.fst = if k ∈ m.map Prod.fst then m.map Prod.fst else m.map Prod.fst ++ [k] := by
  induction m with
  | nil => simp [mapSet]
  | cons a m ih =>
    obtain ⟨ka, va⟩ := a
    simp only [mapSet]
    by_cases h1 : ka = k
    · subst h1; simp
    · simp only [h1, if_false, List.map_cons, ih, List.mem_cons, Ne.symm h1, false_or]
      split <;> simp

theorem mem_keys_mapSet [DecidableEq κ] (m : List (κ × ν)) (k p : κ) (v : ν) :
    p ∈ (mapSet m k v).map Prod.fst ↔ p ∈ m.map Prod.fst ∨ p = k := by
  rw [keys_mapSet]
  split
  · exact ⟨Or.inl, fun h => h.elim id (fun e => e ▸ ‹_›)⟩
  · simp

theorem mapGet_isSome [DecidableEq κ] (m : List (κ × ν)) (k : κ) :
    (mapGet m k).isSome = true ↔ k ∈ m.map Prod.fst := by
  induction m with
  | nil => simp [mapGet]
  | cons a m ih =>
    obtain ⟨ka, va⟩ := a
    simp only [mapGet, List.map_cons, List.mem_cons]
    by_cases h : ka = k
    · subst h; simp
    · simp [h, Ne.symm h, ih]

theorem nodup_keys_mapSet [DecidableEq κ] (m : List (κ × ν)) (k : κ) (v : ν) (h : (m.map Prod.fst).Nodup) :
    ((mapSet m k v).map Prod.fst).Nodup := by
  rw [keys_mapSet]
  split
  · exact h
  · rename_i hn
    exact Basic.nodup_snoc h hn

theorem u64add_eq (a b : Nat) (ha : a ≤ maxUint32) (hb : b ≤ maxUint32) : u64add a b = a + b := by
  unfold u64add maxUint32 at *
  omega

theorem addAddrs_ok {uniq addrs uniq' : List String} (h : addAddrs uniq addrs = .ok uniq') :
    uniq' = uniq ++ addrs ∧ (uniq.Nodup → uniq'.Nodup) := by
  fun_induction addAddrs uniq addrs with
  | case1 => cases h; simp
  | case2 => cases h
  | case3 uniq a rest hn ih =>
    obtain ⟨e, hnd⟩ := ih h
    exact ⟨by simp [e], fun hu => hnd (Basic.nodup_snoc hu hn)⟩

/-- the endpoint clauses of the acceptance invariant, for the endpoints of one locality -/
structure epsOk (eps : List Endpoint) : Prop where
  sum : (eps.map (·.weight)).sum ≤ maxUint32
  pos : ∀ e ∈ eps, e.weight ≠ 0

theorem endpointWeight_ok (e : LbEndpoint) (hte : e.typed) (w : Nat) (h : endpointWeight e = .ok w) :
    w ≠ 0 ∧ w ≤ maxUint32 := by
  unfold endpointWeight at h
  cases hew : e.weight with
  | none => simp [hew] at h; subst h; simp [maxUint32]
  | some w' =>
    simp only [hew] at h
    split at h
    · cases h
    · cases h; exact ⟨‹_›, hte w hew⟩

theorem parseEndpointsAux_ok {env : Env} {es : List LbEndpoint} {acc : List Endpoint} {total : Nat} {uniq : List String}
    (hty : ∀ e ∈ es, e.typed) (ht : total ≤ maxUint32) (hnd : uniq.Nodup) {eps : List Endpoint} {uniq' : List String}
    (h : parseEndpointsAux env es acc total uniq = .ok (eps, uniq')) :
    ∃ new, eps = acc ++ new ∧ uniq' = uniq ++ new.flatMap (·.addresses) ∧ uniq'.Nodup ∧
      total + (new.map (·.weight)).sum ≤ maxUint32 ∧ ∀ e ∈ new, e.weight ≠ 0 := by
  -- the branches of the loop in the order of its text; those that refuse have nothing to show
  fun_induction parseEndpointsAux env es acc total uniq with
  | case1 =>
    cases h
    exact ⟨[], by simp, by simp, hnd, by simpa using ht, by simp⟩
  | case2 | case3 | case4 | case5 => cases h
  | case6 e rest acc total uniq weight hw total' hsum addrs uniq2 ha hmd ih =>
    obtain ⟨hw0, hwle⟩ := endpointWeight_ok e (hty e (by simp)) weight hw
    obtain ⟨e2, hnd2⟩ := addAddrs_ok ha
    simp only [total', u64add_eq _ _ ht hwle] at hsum ih h
    obtain ⟨new, heps, huniq, hnd', hsum, hw⟩ := ih (fun x hx => hty x (by simp [hx])) (by omega) (hnd2 hnd) h
    exact ⟨_ :: new, by simpa using heps, by simp [huniq, e2, addrs], hnd', by simp; omega, by simpa [hw0] using hw⟩

theorem parseEndpoints_ok {env : Env} {es : List LbEndpoint} {u0 : List String} (hty : ∀ e ∈ es, e.typed) (hnd : u0.Nodup)
    {eps : List Endpoint} {uniq' : List String} (h : parseEndpoints env es u0 = .ok (eps, uniq')) :
    epsOk eps ∧ uniq' = u0 ++ eps.flatMap (·.addresses) ∧ uniq'.Nodup := by
  obtain ⟨new, heps, huniq, hnd', hsum, hw⟩ := parseEndpointsAux_ok hty (by simp) hnd h
  rw [List.nil_append] at heps
  subst heps
  exact ⟨{ sum := by simpa using hsum, pos := hw }, huniq, hnd'⟩


def lidOf (l : Locality) : LidStr := (l.region, l.zone, l.subZone)

def atPrio (ls : List Locality) (p : Nat) : List Locality := ls.filter (fun l => l.priority = p)

theorem atPrio_append (ls : List Locality) (x : Locality) (p : Nat) :
    atPrio (ls ++ [x]) p = if p = x.priority then atPrio ls p ++ [x] else atPrio ls p := by
  unfold atPrio
  rw [List.filter_append]
  by_cases h : p = x.priority
  · subst h; simp [List.filter]
  · simp [List.filter, h, Ne.symm h]

/-- The loop invariant of `localitiesLoop`.  `keysP`, `keysMem`, `prios`, `sums` (and `uniq`) tie the maps the loop keeps
    (`priorities`, `sumOfWeights`, the address set) to the localities collected so far; the other fields are the clauses
    of the acceptance invariant. -/
structure AccInv (acc : Acc) : Prop where
  keysP : (acc.priorities.map Prod.fst).Nodup
  keysMem : ∀ p, p ∈ acc.priorities.map Prod.fst ↔ ∃ l ∈ acc.localities, l.priority = p
  prios : ∀ p, (mapGet acc.priorities p).getD [] = (atPrio acc.localities p).map lidOf
  sums : ∀ p, (mapGet acc.sumOfWeights p).getD 0 = ((atPrio acc.localities p).map (·.weight)).sum
  sumsLe : ∀ p, ((atPrio acc.localities p).map (·.weight)).sum ≤ maxUint32
  uniq : acc.uniq = acc.localities.flatMap (fun l => l.endpoints.flatMap (·.addresses))
  nodupAddr : acc.uniq.Nodup
  locOk : ∀ l ∈ acc.localities, l.weight ≠ 0 ∧ epsOk l.endpoints
  nodupLoc : (acc.localities.map (fun l => (l.region, l.zone, l.subZone, l.priority))).Nodup

theorem accInv_init : AccInv { priorities := [], sumOfWeights := [], uniq := [], localities := [] } := by
  constructor <;> simp [mapGet, atPrio]

theorem localityStep_ok (env : Env) (acc acc' : Acc) (l : LocalityLbEndpoints) (h : localityStep env acc l = .ok acc') :
    (l.weight = 0 ∧ acc' = acc) ∨
    (l.weight ≠ 0 ∧ u64add ((mapGet acc.sumOfWeights l.priority).getD 0) l.weight ≤ maxUint32 ∧
      (l.region, l.zone, l.subZone) ∉ (mapGet acc.priorities l.priority).getD [] ∧
      ∃ eps uniq, parseEndpoints env l.endpoints acc.uniq = .ok (eps, uniq) ∧
        acc' = { priorities := mapSet acc.priorities l.priority
                   ((mapGet acc.priorities l.priority).getD [] ++ [(l.region, l.zone, l.subZone)]),
                 sumOfWeights := mapSet acc.sumOfWeights l.priority
                   (u64add ((mapGet acc.sumOfWeights l.priority).getD 0) l.weight),
                 uniq := uniq,
                 localities := acc.localities ++ [{ region := l.region, zone := l.zone, subZone := l.subZone,
                                                    endpoints := eps, weight := l.weight, priority := l.priority }] }) := by
  revert h
  -- the branches of the step in the order of its text; those that refuse return no `.ok`
  fun_cases localityStep env acc l with
  | case1 | case3 | case4 | case5 | case6 => exact nofun
  | case2 _ hw => exact fun h => .inl ⟨hw, by cases h; rfl⟩
  | case7 _ hw sum sums hsum withPrio lid hlid prios eps uniq hp =>
    exact fun h => .inr ⟨hw, Nat.le_of_not_lt hsum, hlid, eps, uniq, hp, by cases h; rfl⟩

theorem localityStep_inv (env : Env) (acc acc' : Acc) (l : LocalityLbEndpoints) (hi : AccInv acc) (hty : l.typed)
    (h : localityStep env acc l = .ok acc') : AccInv acc' := by
  rcases localityStep_ok env acc acc' l h with ⟨_, rfl⟩ | ⟨h2, hle, hlid, eps, uniq2, hp, rfl⟩
  · exact hi
  · rw [hi.sums, u64add_eq _ _ (hi.sumsLe _) hty.1] at hle ⊢
    obtain ⟨he1, he2, he3⟩ := parseEndpoints_ok hty.2.2 hi.nodupAddr hp
    generalize hx : ({ region := l.region, zone := l.zone, subZone := l.subZone, endpoints := eps, weight := l.weight,
                       priority := l.priority } : Locality) = x
    have hxp : x.priority = l.priority := by subst hx; rfl
    have hxw : x.weight = l.weight := by subst hx; rfl
    have hxl : lidOf x = (l.region, l.zone, l.subZone) := by subst hx; rfl
    have hxe : x.endpoints = eps := by subst hx; rfl
    refine { keysP := nodup_keys_mapSet _ _ _ hi.keysP, keysMem := fun p => ?_, prios := fun p => ?_, sums := fun p => ?_,
             sumsLe := fun p => ?_, uniq := ?_, nodupAddr := he3, locOk := fun y hy => ?_, nodupLoc := ?_ }
    · rw [mem_keys_mapSet, hi.keysMem]
      simp only [List.mem_append, List.mem_singleton, or_and_right, exists_or, exists_eq_left, hxp]
      exact or_congr Iff.rfl eq_comm
    · simp only [mapGet_mapSet, atPrio_append, hxp]
      by_cases hpp : p = l.priority
      · subst hpp
        simp [hi.prios, hxl]
      · simp [hpp, hi.prios]
    · simp only [mapGet_mapSet, atPrio_append, hxp]
      by_cases hpp : p = l.priority
      · subst hpp
        simp [hxw]
      · simp [hpp, hi.sums]
    · simp only [atPrio_append, hxp]
      by_cases hpp : p = l.priority
      · subst hpp
        simp only [if_true, List.map_append, List.sum_append, List.map_cons, List.map_nil, List.sum_cons, List.sum_nil, hxw]
        omega
      · simp only [hpp, if_false]
        exact hi.sumsLe p
    · simp only [List.flatMap_append, List.flatMap_cons, List.flatMap_nil, List.append_nil, hxe]
      rw [he2, hi.uniq]
    · simp only [List.mem_append, List.mem_singleton] at hy
      rcases hy with hy | rfl
      · exact hi.locOk y hy
      · rw [hxw, hxe]; exact ⟨h2, he1⟩
    · simp only [List.map_append, List.map_cons, List.map_nil]
      refine Basic.nodup_snoc hi.nodupLoc fun ha => hlid ?_
      rw [hi.prios]
      simp only [List.mem_map] at ha ⊢
      obtain ⟨y, hy, hye⟩ := ha
      subst hx
      simp only [Prod.mk.injEq] at hye
      refine ⟨y, ?_, ?_⟩
      · simp [atPrio, hy, hye.2.2.2]
      · simp [lidOf, hye.1, hye.2.1, hye.2.2.1]

theorem localitiesLoop_inv {env : Env} {ls : List LocalityLbEndpoints} {acc acc' : Acc} (hi : AccInv acc)
    (hty : ∀ l ∈ ls, l.typed) (h : localitiesLoop env acc ls = .ok acc') : AccInv acc' := by
  -- no locality left; the step refuses; the step accepts
  fun_induction localitiesLoop env acc ls with
  | case1 => cases h; exact hi
  | case2 => cases h
  | case3 acc l rest acc1 hs ih =>
    exact ih (localityStep_inv env acc acc1 l hi (hty l (by simp)) hs) (fun x hx => hty x (by simp [hx])) h


theorem mem_distinct (l : List Nat) (x : Nat) : x ∈ distinct l ↔ x ∈ l := by
  induction l with
  | nil => simp [distinct]
  | cons a l ih =>
    simp only [distinct]
    split
    · rename_i h
      rw [ih, List.mem_cons]
      exact ⟨Or.inr, fun hx => hx.elim (fun e => e ▸ h) id⟩
    · simp [ih]

theorem nodup_distinct (l : List Nat) : (distinct l).Nodup := by
  induction l with
  | nil => simp [distinct]
  | cons a l ih =>
    simp only [distinct]
    split
    · exact ih
    · rename_i h
      exact List.nodup_cons.mpr ⟨fun hm => h ((mem_distinct l a).mp hm), ih⟩

/-- pigeonhole: a list of length n that contains 0 … n-1 contains nothing else -/
theorem lt_length_of_range_subset (keys : List Nat) (h : ∀ i, i < keys.length → i ∈ keys) :
    ∀ k ∈ keys, k < keys.length := by
  have hsub : List.range keys.length ⊆ keys := fun i hi => h i (List.mem_range.mp hi)
  have hsp := List.subperm_of_subset List.nodup_range hsub
  have hperm := hsp.perm_of_length_le (by simp)
  intro k hk
  exact List.mem_range.mp ((hperm.mem_iff).mpr hk)

theorem contiguous_of_check (prios : List (Nat × List LidStr)) (ps : List Nat)
    (hk : (prios.map Prod.fst).Nodup) (hps : ps.Nodup) (hm : ∀ p, p ∈ ps ↔ p ∈ prios.map Prod.fst)
    (hc : prioritiesContiguous prios = true) :
    (∀ p ∈ ps, p < ps.length) ∧ (∀ i, i < ps.length → i ∈ ps) := by
  have hlen : ps.length = prios.length := by
    have := ((List.perm_ext_iff_of_nodup hps hk).mpr hm).length_eq
    simpa using this
  unfold prioritiesContiguous at hc
  rw [List.all_eq_true] at hc
  have hall : ∀ i, i < (prios.map Prod.fst).length → i ∈ prios.map Prod.fst := by
    intro i hi
    have := hc i (List.mem_range.mpr (by simpa using hi))
    exact (mapGet_isSome prios i).mp this
  have hlt := lt_length_of_range_subset _ hall
  constructor
  · intro p hp
    have := hlt p ((hm p).mp hp)
    simp at this
    omega
  · intro i hi
    exact (hm i).mpr (hall i (by simp; omega))

theorem dropsLoop_ok {ds : List DropOverload} {cs : List OverloadDropConfig} (h : dropsLoop ds = .ok cs) :
    ∀ c ∈ cs, c.denominator = 100 ∨ c.denominator = 10000 ∨ c.denominator = 1000000 := by
  fun_induction dropsLoop ds generalizing cs with
  | case1 => cases h; simp
  | case2 | case3 => cases h
  | case4 d rest c hp cs' hr ih =>
    cases h
    intro x hx
    rcases List.mem_cons.mp hx with rfl | hx
    · unfold parseDropPolicy at hp
      split at hp <;> simp at hp <;> subst hp <;> simp
    · exact ih hr x hx

/-- the parser's check on its priority map, read on the localities it has collected -/
theorem AccInv.contiguous {acc : Acc} (hi : AccInv acc) (hc : prioritiesContiguous acc.priorities = true) :
    (∀ p ∈ distinct (acc.localities.map (·.priority)), p < (distinct (acc.localities.map (·.priority))).length) ∧
    (∀ i, i < (distinct (acc.localities.map (·.priority))).length → i ∈ distinct (acc.localities.map (·.priority))) := by
  refine contiguous_of_check acc.priorities _ hi.keysP (nodup_distinct _) (fun p => ?_) hc
  rw [mem_distinct, hi.keysMem]
  simp

theorem inv_of_accInv {acc : Acc} {drops : List OverloadDropConfig} (hi : AccInv acc)
    (hd : ∀ c ∈ drops, c.denominator = 100 ∨ c.denominator = 10000 ∨ c.denominator = 1000000)
    (hc : prioritiesContiguous acc.priorities = true) :
    GrpcModel.EDSParse.Inv { drops := drops, localities := acc.localities } = true := by
  obtain ⟨c1, c2⟩ := hi.contiguous hc
  simp only [GrpcModel.EDSParse.Inv, prioritiesOf, Bool.and_eq_true, List.all_eq_true, decide_eq_true_eq, Bool.or_eq_true, sumNat,
    and_assoc]
  -- the clauses of `Inv`, in its order
  refine ⟨?_, ?_, ?_, ?_, ?_, ?_, ?_, ?_⟩
  · intro p hp; exact decide_eq_true (c1 p hp)
  · intro i hi'
    simp only [List.contains_eq_mem, decide_eq_true_eq]
    exact c2 i (List.mem_range.mp hi')
  · rw [← hi.uniq]; exact hi.nodupAddr
  · exact hi.nodupLoc
  · intro p _
    exact decide_eq_true (hi.sumsLe p)
  · intro l hl
    exact (hi.locOk l hl).1
  · intro l hl
    exact ⟨decide_eq_true (hi.locOk l hl).2.sum, (hi.locOk l hl).2.pos⟩
  · intro c hc'
    rcases hd c hc' with h | h | h <;> simp [h]

theorem unmarshal_ok {env : Env} {m : ClusterLoadAssignment} {u : EndpointsUpdate} (h : unmarshal env m = .ok u) :
    ∃ drops acc, dropsLoop m.drops = .ok drops ∧
      localitiesLoop env { priorities := [], sumOfWeights := [], uniq := [], localities := [] } m.endpoints = .ok acc ∧
      prioritiesContiguous acc.priorities = true ∧ u = { drops := drops, localities := acc.localities } := by
  unfold unmarshal at h
  split at h
  · cases h
  unfold parseEDSRespProto at h
  split at h
  · cases h
  rename_i drops hd
  split at h
  · cases h
  rename_i acc hl
  split at h
  · rename_i hc
    cases h
    exact ⟨drops, acc, hd, hl, hc, rfl⟩
  · cases h


def outKey (l : Locality) : String × String × String × Nat × Nat := (l.region, l.zone, l.subZone, l.weight, l.priority)
def inKey (l : LocalityLbEndpoints) : String × String × String × Nat × Nat := (l.region, l.zone, l.subZone, l.weight, l.priority)

theorem localityStep_keys (env : Env) (acc acc' : Acc) (l : LocalityLbEndpoints) (h : localityStep env acc l = .ok acc') :
    acc'.localities.map outKey = acc.localities.map outKey ++ (if l.weight = 0 then [] else [inKey l]) := by
  rcases localityStep_ok env acc acc' l h with ⟨h2, rfl⟩ | ⟨h2, _, _, eps, uniq2, _, rfl⟩ <;> simp [h2, outKey, inKey]

theorem localitiesLoop_keys {env : Env} {ls : List LocalityLbEndpoints} {acc acc' : Acc}
    (h : localitiesLoop env acc ls = .ok acc') :
    acc'.localities.map outKey = acc.localities.map outKey ++ (ls.filter (fun l => l.weight ≠ 0)).map inKey := by
  fun_induction localitiesLoop env acc ls with
  | case1 => cases h; simp
  | case2 => cases h
  | case3 acc l rest acc1 hs ih =>
    rw [ih h, localityStep_keys env acc acc1 l hs]
    by_cases hw : l.weight = 0 <;> simp [List.filter, hw]

open GrpcModel.XdsInv in
theorem wcLoop_ok {ws : List Nat} {total : Nat} {acc : List Nat} (hty : ∀ w ∈ ws, w ≤ maxUint32)
    (ht : total ≤ maxUint32) {t' : Nat} {acc' : List Nat} (h : wcLoop ws total acc = .ok (t', acc')) :
    acc' = acc ++ ws.filter (· ≠ 0) ∧ t' = total + (ws.filter (· ≠ 0)).sum ∧ t' ≤ maxUint32 := by
  fun_induction wcLoop ws total acc with
  | case1 => cases h; simpa using ht
  -- a zero weight is skipped
  | case2 rest total acc ih => simpa [List.filter] using ih (fun x hx => hty x (List.mem_cons_of_mem _ hx)) ht h
  | case3 => cases h
  | case4 w rest total acc h0 total' hsum ih =>
    simp only [total', u64add_eq _ _ ht (hty w (by simp))] at hsum ih h
    obtain ⟨a, b, c⟩ := ih (fun x hx => hty x (List.mem_cons_of_mem _ hx)) (by omega) h
    exact ⟨by simp [a, List.filter, h0], by simp [b, List.filter, h0]; omega, c⟩

end GrpcProofs.Lemmas.EDSParse
