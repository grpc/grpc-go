/-
`valid` and `sanitize` of lean/GrpcModel/Prim/Utf8.lean against `WellFormed`, the Unicode Standard's Table 3-7.
-/
import GrpcProofs.Lemmas.Utf8
namespace GrpcProofs.Lemmas.Utf8
open GrpcModel.Utf8

theorem sanitizeAux_nil (f : Nat) : sanitizeAux f [] = [] := by cases f <;> rfl
theorem validAux_nil (f : Nat) : validAux f [] = true := by cases f <;> rfl

theorem length_drop_le {α : Type} (s : List α) (n f : Nat) (h1 : 1 ≤ n) (h : s.length ≤ f + 1) : (s.drop n).length ≤ f := by
  rw [List.length_drop]; omega

theorem sanitizeAux_fuel : ∀ (f1 f2 : Nat) (s : List UInt8), s.length ≤ f1 → s.length ≤ f2 →
    sanitizeAux f1 s = sanitizeAux f2 s
  | _, _, [], _, _ => by rw [sanitizeAux_nil, sanitizeAux_nil]
  | f1 + 1, f2 + 1, b :: t, h1, h2 => by
    have hs := (decodeRune_size (b :: t) (List.cons_ne_nil b t)).1
    simp only [sanitizeAux, List.isEmpty_cons, Bool.false_eq_true, if_false]
    rw [sanitizeAux_fuel f1 f2 _ (length_drop_le _ 1 f1 (Nat.le_refl 1) h1) (length_drop_le _ 1 f2 (Nat.le_refl 1) h2),
      sanitizeAux_fuel f1 f2 _ (length_drop_le _ _ f1 hs h1) (length_drop_le _ _ f2 hs h2)]

theorem validAux_fuel : ∀ (f1 f2 : Nat) (s : List UInt8), s.length ≤ f1 → s.length ≤ f2 →
    validAux f1 s = validAux f2 s
  | _, _, [], _, _ => by rw [validAux_nil, validAux_nil]
  | f1 + 1, f2 + 1, b :: t, h1, h2 => by
    have hs := (decodeRune_size (b :: t) (List.cons_ne_nil b t)).1
    simp only [validAux, List.isEmpty_cons, Bool.false_eq_true, if_false]
    rw [validAux_fuel f1 f2 _ (length_drop_le _ _ f1 hs h1) (length_drop_le _ _ f2 hs h2)]

theorem sanitize_nil : sanitize [] = [] := rfl
theorem valid_nil : valid [] = true := rfl

theorem sanitize_unfold (s : List UInt8) (hne : s ≠ []) :
    sanitize s = if isInvalid (decodeRune s) then replacement ++ sanitize (s.drop 1)
                 else s.take (decodeRune s).2 ++ sanitize (s.drop (decodeRune s).2) := by
  match s with
  | b :: t =>
    have hs := (decodeRune_size (b :: t) hne).1
    simp only [sanitize, List.length_cons, sanitizeAux, List.isEmpty_cons, Bool.false_eq_true, if_false]
    rw [sanitizeAux_fuel t.length _ _ (length_drop_le _ 1 _ (Nat.le_refl 1) (Nat.le_refl _)) (Nat.le_refl _),
      sanitizeAux_fuel t.length _ _ (length_drop_le _ _ _ hs (Nat.le_refl _)) (Nat.le_refl _)]

theorem valid_unfold (s : List UInt8) (hne : s ≠ []) :
    valid s = (!isInvalid (decodeRune s) && valid (s.drop (decodeRune s).2)) := by
  match s with
  | b :: t =>
    have hs := (decodeRune_size (b :: t) hne).1
    simp only [valid, List.length_cons, validAux, List.isEmpty_cons, Bool.false_eq_true, if_false]
    rw [validAux_fuel t.length _ _ (length_drop_le _ _ _ hs (Nat.le_refl _)) (Nat.le_refl _)]
    cases isInvalid (decodeRune (b :: t)) <;> rfl

/-- Induction along the decoder's walk: a non-empty string from its proper suffixes. -/
theorem suffix_induction {P : List UInt8 → Prop} (nil : P [])
    (step : ∀ s, s ≠ [] → (∀ n, 1 ≤ n → P (s.drop n)) → P s) (s : List UInt8) : P s := by
  induction hn : s.length using Nat.strongRecOn generalizing s with
  | _ n ih =>
    by_cases hne : s = []
    · exact hne ▸ nil
    · have := List.length_pos_iff.2 hne
      exact step s hne fun k hk => ih _ (by rw [← hn, List.length_drop]; omega) _ rfl

theorem scalar_replacement : Scalar replacement :=
  Scalar.rEE_EF 0xEF 0xBF 0xBD (by decide) (by decide) (by decide)

theorem valid_sanitize (s : List UInt8) : valid s = true → sanitize s = s := by
  induction s using suffix_induction with
  | nil => exact fun _ => rfl
  | step s hne ih =>
    intro h
    rw [valid_unfold s hne, Bool.and_eq_true, Bool.not_eq_true'] at h
    rw [sanitize_unfold s hne, h.1, if_neg Bool.false_ne_true, ih _ (decodeRune_size s hne).1 h.2,
      List.take_append_drop]

theorem wellFormed_sanitize (s : List UInt8) : WellFormed (sanitize s) := by
  induction s using suffix_induction with
  | nil => exact WellFormed.nil
  | step s hne ih =>
    rw [sanitize_unfold s hne]
    cases hv : isInvalid (decodeRune s) with
    | true => exact WellFormed.cons _ _ scalar_replacement (ih 1 (Nat.le_refl 1))
    | false =>
      exact WellFormed.cons _ _ (decodeRune_valid s hne hv).1 (ih _ (decodeRune_size s hne).1)

theorem valid_iff_wellFormed (s : List UInt8) : valid s = true ↔ WellFormed s := by
  constructor
  · exact fun h => valid_sanitize s h ▸ wellFormed_sanitize s
  · intro h
    induction h with
    | nil => rfl
    | cons pre t hp _ ih =>
      have hd := scalar_decode hp t
      rw [valid_unfold _ (by simp [scalar_ne_nil hp]), hd.2, hd.1, List.drop_left, ih]; rfl

end GrpcProofs.Lemmas.Utf8
