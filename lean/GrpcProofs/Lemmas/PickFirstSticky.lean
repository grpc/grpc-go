/-
Helper lemmas for C34: sticky TRANSIENT_FAILURE.  The ops of a `Quiet` continuation only look for a connection
(`step_seeking`), and that keeps the situation `InTF` (`Seeking.inTF`).
-/
import GrpcProofs.Lemmas.PickFirstReady
namespace GrpcProofs.Lemmas.PickFirstSticky
open GrpcModel.PickFirst GrpcProofs.Lemmas.PickFirst GrpcProofs.Lemmas.PickFirstReady
open GrpcModel.LbConnState (ConnState)

/-- "in TRANSIENT_FAILURE with a non-empty address list and no READY SubConn" — the situation after
    every address failed (whether or not a new first pass has been started by a resolver update) -/
structure InTF (s : St) : Prop where
  wf : WF s
  state : s.state = .tf
  addrs : s.addrs ≠ []
  noReady : NoReady s

def AllTF : List Ev → Prop := Pushes fun st _ => st = .tf

theorem requestLoop_firstPass (fuel : Nat) (s : St) (ev : List Ev) :
    (requestLoop fuel s ev).1.firstPass = s.firstPass ∨ (requestLoop fuel s ev).1.firstPass = false := by
  cases hv : isValid s
  · rw [requestLoop_invalid fuel ev hv]; exact .inl rfl
  · obtain ⟨m, _, t, a, _, en, e⟩ := requestLoop_shape fuel s ev hv
    rw [e, ← a.firstPass]; exact en.firstPass

theorem _root_.GrpcProofs.Lemmas.PickFirstReady.Seeking.inTF {s m : St} {ev : List Ev} (h : Seeking s m ev) (hi : InTF s) :
    InTF m ∧ AllTF ev := by
  have tf : ∀ {st p}, SeekPush s st p → st = .tf := fun hp => hp.state.elim id fun ⟨_, b⟩ => (b.elim (· hi.state) hi.addrs).elim
  refine ⟨⟨h.wf, ?_, h.addrs hi.addrs, h.noReady hi.noReady⟩, h.pushes.mono fun _ _ => tf⟩
  rcases h.last with ⟨e1, _⟩ | hp
  · exact e1 ▸ hi.state
  · exact tf hp

theorem inTF_step (s : St) (op : Op) (h : InTF s) (hok : opOk s op = true) (hex : ends s op = false) :
    AllTF (step s op).2.evs ∧ (isClose op = false → emptied op = false → InTF (step s op).1) := by
  by_cases hq : isClose op = false ∧ emptied op = false
  · have hr := (step_seeking h.wf hok h.noReady hex hq.1 hq.2).inTF h
    exact ⟨hr.2, fun _ _ => hr.1⟩
  · cases op with
    | close => exact ⟨.of_noPush (close_noPush s), nofun⟩
    | update hl raw =>
      -- empty list: only the resolver error (TRANSIENT_FAILURE) is reported
      have hm : raw.isEmpty = true := by simpa [isClose, emptied] using hq
      refine ⟨?_, fun _ he => by rw [emptied, hm] at he; cases he⟩
      simp only [step, updateCCS, hm, if_true, updateEmpty_eq]
      exact .append (.of_noPush (by simp)) (.single rfl)
    | _ => exact absurd ⟨rfl, rfl⟩ hq

def Quiet : St → List Op → Prop
  | _, [] => True
  | s, op :: t => opOk s op = true ∧ ends s op = false ∧ isClose op = false ∧ emptied op = false ∧ Quiet (step s op).1 t

theorem inTF_run (s : St) (ops : List Op) (h : InTF s) (hq : Quiet s ops) : InTF (run s ops) := by
  induction ops generalizing s with
  | nil => exact h
  | cons op t ih =>
    obtain ⟨h1, h2, h3, h4, h5⟩ := hq
    exact ih _ ((inTF_step s op h h1 h2).2 h3 h4) h5

end GrpcProofs.Lemmas.PickFirstSticky
