import GrpcModel.Model.Semaphore
/-! C25, `atomicSemaphore`.  One invariant over the states reachable from `newHandlerQuota cap`: the counter is
`cap − held − (1 if the acquirer is parked)`, and the wake-up tokens in flight (`s.s` releasers that must still send
plus `s.c` buffered in the channel) number one exactly when the acquirer is parked although a slot is free, else none.
`cap` is a parameter of the invariant: no rule reads or writes the field `St.cap`. -/
namespace GrpcProofs.Lemmas.Semaphore
open GrpcModel.Semaphore

def parkedN (a : APc) : Int := if a = .parked then 1 else 0

structure Inv (cap : Nat) (s : St) : Prop where
  cnt : s.n = (cap : Int) - s.h - parkedN s.apc
  le : s.h ≤ cap
  /-- a parked acquirer has exactly one wake-up coming if a slot is free, and none if all are held -/
  tokP : s.apc = .parked → s.s + s.c = if s.h < cap then 1 else 0
  /-- no wake-up exists while nobody is parked -/
  tokN : s.apc ≠ .parked → s.s + s.c = 0

theorem inv_init (cap : Nat) : Inv cap (init cap) := by
  constructor <;> simp [init, parkedN]

theorem parkedN_of_ne {a : APc} (h : a ≠ .parked) : parkedN a = 0 := if_neg h

theorem inv_step {cap : Nat} {s t : St} (r : Rule) (hi : Inv cap s) (hs : apply s r = some t) : Inv cap t := by
  have cnt := hi.cnt
  have le := hi.le
  cases r <;> simp only [apply, Option.ite_none_right_eq_some, Option.some.injEq] at hs
  case aCall =>
    obtain ⟨ha, rfl⟩ := hs
    have hn : s.apc ≠ .parked := by rw [ha]; decide
    exact { hi with
      cnt := by rw [parkedN_of_ne hn] at cnt; exact cnt
      tokP := nofun
      tokN := fun _ => hi.tokN hn }
  case aAdd =>
    obtain ⟨ha, hs⟩ := hs
    have hn : s.apc ≠ .parked := by rw [ha]; decide
    rw [parkedN_of_ne hn] at cnt
    have h0 := hi.tokN hn
    split at hs <;> cases hs
    -- the counter goes below 0: every slot is held, and no wake-up is due
    · exact { hi with
        cnt := show s.n - 1 = (cap : Int) - s.h - 1 by omega
        tokP := fun _ => by simp only; split <;> omega
        tokN := fun h => absurd rfl h }
    · exact {
        cnt := show s.n - 1 = (cap : Int) - ((s.h + 1 : Nat) : Int) - 0 by omega
        le := show s.h + 1 ≤ cap by omega
        tokP := nofun
        tokN := fun _ => h0 }
  case aRecv =>
    obtain ⟨⟨ha, hc⟩, rfl⟩ := hs
    have h1 := hi.tokP ha
    rw [ha] at cnt
    change s.n = (cap : Int) - s.h - 1 at cnt
    -- a token was there to be received, so a slot was free
    have hlt : s.h < cap := Decidable.byContradiction fun hx => by rw [if_neg hx] at h1; omega
    rw [if_pos hlt] at h1
    exact {
      cnt := show s.n = (cap : Int) - ((s.h + 1 : Nat) : Int) - 0 by omega
      le := hlt
      tokP := nofun
      tokN := fun _ => show s.s + (s.c - 1) = 0 by omega }
  case rCall =>
    obtain ⟨hf, rfl⟩ := hs
    exact { hi with }
  case rAdd =>
    obtain ⟨hf, rfl⟩ := hs
    by_cases hp : s.apc = .parked
    · have h1 := hi.tokP hp
      rw [hp] at cnt; change s.n = (cap : Int) - s.h - 1 at cnt
      refine {
        cnt := by rw [hp]; show s.n + 1 = (cap : Int) - ((s.h - 1 : Nat) : Int) - 1; omega
        le := show s.h - 1 ≤ cap by omega
        tokP := fun _ => ?_
        tokN := fun hne => absurd hp hne }
      -- a slot is free afterwards, so exactly one token must be in flight: if one was free before, it is the old
      -- token and `n + 1 > 0` adds none; if all were held, `n = -1` and this release must send
      simp only
      rw [if_pos (show s.h - 1 < cap by omega)]
      by_cases hx : s.h < cap
      · rw [if_pos hx] at h1; rw [if_neg (by omega)]; exact h1
      · rw [if_neg hx] at h1; rw [if_pos (by omega)]; omega
    · have h0 := hi.tokN hp
      rw [parkedN_of_ne hp] at cnt
      refine {
        cnt := by rw [parkedN_of_ne hp]; show s.n + 1 = (cap : Int) - ((s.h - 1 : Nat) : Int) - 0; omega
        le := show s.h - 1 ≤ cap by omega
        tokP := fun hq => absurd hq hp
        tokN := fun _ => ?_ }
      -- nobody is parked, so `n ≥ 0` and this release need not send
      simp only
      rw [if_neg (by omega)]; exact h0
  case rSend =>
    obtain ⟨hf, rfl⟩ := hs
    -- a token moves from a sender into the channel
    exact { hi with
      tokP := fun hp => by have := hi.tokP hp; simp only; omega
      tokN := fun hp => by have := hi.tokN hp; simp only; omega }

theorem reach_inv {cap : Nat} {s : St} (h : Reach cap s) : Inv cap s := by
  induction h with
  | init => exact inv_init cap
  | step r _ hs ih => exact inv_step r ih hs

end GrpcProofs.Lemmas.Semaphore
