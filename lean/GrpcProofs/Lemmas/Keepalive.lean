/-
Helper lemmas for C15: the inductive invariant of the keepalive timed automaton and what follows from it.
The invariant brackets `closeAt`, the instant at which the loop would close the transport: the upper side is the first
sentence of C15 (a dead peer is closed by …), the lower side the second (… and a healthy one never).
Each event's lemma is a `{ h with … }` that restates only the clauses the event can touch; `dorm` is among them wherever the
state changes at all, since `Dormant c s` names the state.
-/
import GrpcModel.Model.Keepalive
namespace GrpcProofs.Lemmas.Keepalive
open GrpcModel.Keepalive GrpcModel.Generated

theorem add_min_add_sub_min (n m t : Nat) : n + min m t + (t - min m t) = n + t := by omega

theorem sendAndSleep_first {c : Cfg} {s : KA} (ho : s.outstanding = false) :
    sendAndSleep c s =
      ({ s with outstanding := true, timeoutLeft := c.timeout - min c.time c.timeout,
                timerAt := s.now + min c.time c.timeout, dormant := false, pingAt := s.now }, [Out.ping s.now]) := by
  simp only [sendAndSleep, ho]; rfl

theorem sendAndSleep_again {c : Cfg} {s : KA} (ho : s.outstanding = true) :
    sendAndSleep c s =
      ({ s with timeoutLeft := s.timeoutLeft - min c.time s.timeoutLeft,
                timerAt := s.now + min c.time s.timeoutLeft, dormant := false }, []) := by
  simp only [sendAndSleep, ho]; rfl

theorem fire_cases {c : Cfg} {s : KA} (P : KA × List Out → Prop)
    (h1 : s.lastRead > s.prevNano →
      P ({ s with outstanding := false, timerAt := max s.now (s.lastRead + c.time), prevNano := s.lastRead }, []))
    (h2 : s.lastRead ≤ s.prevNano → s.outstanding = true → s.timeoutLeft = 0 → P ({ s with closed := true }, [Out.close s.now]))
    (h3 : s.lastRead ≤ s.prevNano → ¬ (s.outstanding = true ∧ s.timeoutLeft = 0) → s.streams = 0 → c.permit = false →
      P ({ s with outstanding := false, dormant := true }, []))
    (h4 : s.lastRead ≤ s.prevNano → ¬ (s.outstanding = true ∧ s.timeoutLeft = 0) → ¬ (s.streams = 0 ∧ c.permit = false) →
      P (sendAndSleep c s)) : P (fire c s) := by
  unfold fire
  split
  · next hr => exact h1 hr
  · next hr =>
    have hle := Nat.not_lt.1 hr
    -- the Boolean tests of the code, as the propositions of the case hypotheses
    have e1 : (s.outstanding && s.timeoutLeft == 0) = true ↔ s.outstanding = true ∧ s.timeoutLeft = 0 := by simp
    have e2 : (decide (s.streams < 1) && !c.permit) = true ↔ s.streams = 0 ∧ c.permit = false := by simp
    simp only [e1, e2]
    split
    · next hb => exact h2 hle hb.1 hb.2
    · next hb =>
      split
      · next hs => exact h3 hle hb hs.1 hs.2
      · next hs => exact h4 hle hb hs

theorem step_fire_eq {c : Cfg} {s : KA} (hc : s.closed = false) : step c s .fire = fire c s := by
  simp [step, stepG, hc]

theorem ok_fire {s : KA} : Ev.ok s .fire = true ↔ s.closed = false ∧ s.dormant = false ∧ s.now = s.timerAt := by
  simp [Ev.ok, and_assoc]

theorem ok_delay {s : KA} {d : Nat} :
    Ev.ok s (.delay d) = true ↔ (s.closed = false → s.dormant = false → s.now + d ≤ s.timerAt) := by
  cases hc : s.closed <;> cases hd : s.dormant <;> simp [Ev.ok, hc, hd]

/-- The instant at which the loop closes the transport unless it sees a frame first: when the timer fires, plus what is
    left of the ping's timeout, or a whole `Timeout` while the ping has yet to be sent. -/
def closeAt (c : Cfg) (s : KA) : Nat := s.timerAt + if s.outstanding then s.timeoutLeft else c.timeout

theorem closeAt_quiet {c : Cfg} {s : KA} (ho : s.outstanding = false) : closeAt c s = s.timerAt + c.timeout := by
  simp [closeAt, ho]

theorem closeAt_pinged {c : Cfg} {s : KA} (ho : s.outstanding = true) : closeAt c s = s.timerAt + s.timeoutLeft := by
  simp [closeAt, ho]

/-- Re-arming the timer at expiry does not move `closeAt`: sending the ping starts the `Timeout` that was still to come,
    and a later sleep is taken out of `timeoutLeft`. -/
theorem closeAt_send {c : Cfg} {s : KA} (hn : s.now = s.timerAt) : closeAt c (sendAndSleep c s).1 = closeAt c s := by
  cases ho : s.outstanding
  · simp only [sendAndSleep_first ho, closeAt, ho, hn]; exact add_min_add_sub_min ..
  · simp only [sendAndSleep_again ho, closeAt, ho, hn]; exact add_min_add_sub_min ..

/-- What holds of a loop parked in `kpDormancyCond.Wait()`. -/
structure Dormant (c : Cfg) (s : KA) : Prop where
  /-- it parked at an expiry, a silent `Time` after the read it last saw -/
  quiet : s.prevNano + c.time ≤ s.now
  noPing : s.outstanding = false
  /-- no stream, or the `initStream` that will wake the loop is on its way -/
  idle : s.streams = 0 ∨ 0 < s.pendingInit
  noPermit : c.permit = false

/-- The inductive invariant of the keepalive loop (client: any `permit`; the server loop is the case `permit = true`). -/
structure Inv (c : Cfg) (s : KA) : Prop where
  read_le : s.lastRead ≤ s.now
  app_le : s.appSince ≤ s.now
  /-- urgency: time does not pass a pending timer -/
  timer_ge : s.closed = false → s.dormant = false → s.now ≤ s.timerAt
  timer_le : s.dormant = false → s.timerAt ≤ s.now + c.time
  /-- the loop closes only a silent `Time + Timeout` after the read it last saw … -/
  close_ge : s.dormant = false → s.prevNano + c.time + c.timeout ≤ closeAt c s
  /-- … and no later than keepalive asked for (`slack` after a late wake) -/
  close_le : s.dormant = false → closeAt c s ≤ deadBound c s.lastRead s.appSince + slack c s
  /-- an outstanding ping was sent in the past -/
  sent : s.outstanding = true → closeAt c s ≤ s.now + c.timeout
  dorm : s.dormant = true → Dormant c s
  /-- a read the loop has not seen yet: the expiry that sees it re-arms for `lastRead + Time`, early enough for `close_le` -/
  timer_due : s.dormant = false → s.lastRead > s.prevNano → s.timerAt ≤ max (s.lastRead + c.time) s.appSince + slack c s
  /-- keepalive closes only after `Time + Timeout` of silence -/
  shut : s.closed = true → s.lastRead + c.time + c.timeout ≤ s.now
  late_np : s.lateWake = true → c.permit = false
  app0 : c.permit = true → s.appSince = 0

theorem inv_init (c : Cfg) : Inv c (KA.init c) := by
  constructor <;> simp [KA.init, slack, closeAt, deadBound]

section
variable {c : Cfg} {s : KA}

/-- Every event but `delay` is a no-op on a closed transport. -/
theorem unlessClosed {P : KA → Prop} (h : P s) {r : KA × List Out} (hr : s.closed = false → P r.1) :
    P (if s.closed then (s, []) else r).1 := by
  cases hc : s.closed
  · exact hr hc
  · exact h

theorem inv_delay (h : Inv c s) {d : Nat} (g : s.closed = false → s.dormant = false → s.now + d ≤ s.timerAt) :
    Inv c { s with now := s.now + d } :=
  have up {x : Nat} (hx : x ≤ s.now) : x ≤ s.now + d := Nat.le_trans hx (Nat.le_add_right _ _)
  { h with
    read_le := up h.read_le
    app_le := up h.app_le
    timer_ge := g
    timer_le := fun hd => Nat.le_trans (h.timer_le hd) (Nat.add_le_add_right (Nat.le_add_right _ _) _)
    sent := fun ho => Nat.le_trans (h.sent ho) (Nat.add_le_add_right (Nat.le_add_right _ _) _)
    dorm := fun hd => { h.dorm hd with quiet := up (h.dorm hd).quiet }
    shut := fun hc => up (h.shut hc) }

theorem Inv.closeAt_le (h : Inv c s) (hd : s.dormant = false) : closeAt c s ≤ s.now + c.time + c.timeout := by
  cases ho : s.outstanding
  · have := h.timer_le hd
    rw [closeAt_quiet ho]
    omega
  · have := h.sent ho
    omega

theorem inv_read (h : Inv c s) (hc : s.closed = false) : Inv c { s with lastRead := s.now, lateWake := false } :=
  { h with
    read_le := Nat.le_refl _
    close_le := fun hd => Nat.le_trans (h.closeAt_le hd) (Nat.add_le_add_right (Nat.le_max_left _ _) _)
    timer_due := fun hd _ => Nat.le_trans (h.timer_le hd) (Nat.le_max_left _ _)
    dorm := fun hd => { h.dorm hd with }
    shut := fun hc' => nomatch hc.symm.trans hc'
    late_np := nofun }

/-- `a` may become the new `appSince`: the ghost only moves forward, never past the present, and stays 0
    under PermitWithoutStream. -/
structure AppSinceOk (c : Cfg) (s : KA) (a : Nat) : Prop where
  ge : s.appSince ≤ a
  le_now : a ≤ s.now
  permit0 : c.permit = true → a = 0

theorem AppSinceOk.same (h : Inv c s) : AppSinceOk c s s.appSince := ⟨Nat.le_refl _, h.app_le, h.app0⟩

/-- The first stream of a loop without PermitWithoutStream makes keepalive applicable now. -/
theorem AppSinceOk.firstStream (h : Inv c s) :
    AppSinceOk c s (if s.streams = 0 && !c.permit then s.now else s.appSince) := by
  split
  · next hb => exact ⟨h.app_le, Nat.le_refl _, fun hp => by simp [hp] at hb⟩
  · exact .same h

/-- Of `streams` and `pendingInit` the invariant reads only what `dorm` says, and it is monotone in `appSince`. -/
theorem inv_streams (h : Inv c s) {st pi a : Nat} (ha : AppSinceOk c s a)
    (hd : s.dormant = true → st = 0 ∨ 0 < pi) :
    Inv c { s with streams := st, pendingInit := pi, appSince := a } :=
  have mono : max (s.lastRead + c.time) s.appSince ≤ max (s.lastRead + c.time) a :=
    Nat.max_le.2 ⟨Nat.le_max_left _ _, Nat.le_trans ha.ge (Nat.le_max_right _ _)⟩
  { h with
    app_le := ha.le_now
    app0 := ha.permit0
    dorm := fun hd' => { h.dorm hd' with idle := hd hd' }
    close_le := fun hd => Nat.le_trans (h.close_le hd) (Nat.add_le_add_right (Nat.add_le_add_right mono _) _)
    timer_due := fun hd hr => Nat.le_trans (h.timer_due hd hr) (Nat.add_le_add_right mono _) }

theorem inv_wake (h : Inv c s) (hd : s.dormant = true) (st pi : Nat) :
    Inv c (sendAndSleep c { s with streams := st, pendingInit := pi, lateWake := decide (s.lastRead > s.prevNano),
                                   appSince := if !c.permit then s.now else s.appSince }).1 := by
  have hp := (h.dorm hd).noPermit
  rw [sendAndSleep_first, hp]
  · -- the ping goes out now, so the loop would close at `now + Timeout`
    have e := add_min_add_sub_min s.now c.time c.timeout
    exact { h with
      app_le := Nat.le_refl _
      timer_ge := fun _ _ => Nat.le_add_right _ _
      timer_le := fun _ => Nat.add_le_add_left (Nat.min_le_left _ _) _
      close_ge := fun _ => Nat.le_trans (Nat.add_le_add_right (h.dorm hd).quiet _) (Nat.le_of_eq e.symm)
      close_le := fun _ => Nat.le_trans (Nat.le_of_eq e)
        (Nat.le_trans (Nat.add_le_add_right (Nat.le_max_right _ _) _) (Nat.le_add_right _ _))
      sent := fun _ => Nat.le_of_eq e
      dorm := nofun
      timer_due := fun _ hr => Nat.add_le_add (Nat.le_max_right _ _) (Nat.le_of_eq (if_pos (decide_eq_true hr)).symm)
      late_np := fun _ => hp
      app0 := fun hp' => nomatch hp.symm.trans hp' }
  · exact (h.dorm hd).noPing

theorem inv_fire (h : Inv c s) (hd : s.dormant = false) (hn : s.now = s.timerAt) :
    Inv c (fire c s).1 := by
  have nd {p : Prop} (hd' : s.dormant = true) : p := nomatch hd.symm.trans hd'
  -- at expiry a ping is sent now at the latest
  have hca : closeAt c s ≤ s.now + c.timeout := by
    cases ho : s.outstanding
    · rw [closeAt_quiet ho, hn]; exact Nat.le_refl _
    · exact h.sent ho
  have hge := h.close_ge hd
  apply fire_cases (P := fun r => Inv c r.1)
  · intro hr
    exact { h with
      timer_ge := fun _ _ => Nat.le_max_left _ _
      timer_le := fun _ => Nat.max_le.2 ⟨Nat.le_add_right _ _, Nat.add_le_add_right h.read_le _⟩
      close_ge := fun _ => Nat.add_le_add_right (Nat.le_max_right _ _) _
      close_le := fun _ => by
        show max s.now (s.lastRead + c.time) + c.timeout ≤ max (s.lastRead + c.time) s.appSince + c.timeout + slack c s
        have := h.timer_due hd hr
        omega
      sent := nofun
      dorm := nd
      timer_due := fun _ hr' => absurd hr' (Nat.lt_irrefl _) }
  · intro hle ho ht
    exact { h with
      timer_ge := nofun
      dorm := nd
      shut := fun _ => by
        show s.lastRead + c.time + c.timeout ≤ s.now
        rw [closeAt_pinged ho] at hge; omega }
  · intro hle hb hs hp
    exact { h with
      timer_ge := nofun
      timer_le := nofun
      close_ge := nofun
      close_le := nofun
      sent := nofun
      dorm := fun _ => { quiet := show s.prevNano + c.time ≤ s.now by omega, noPing := rfl, idle := .inl hs, noPermit := hp }
      timer_due := nofun }
  · intro hle hb _
    exact { h with
      timer_ge := fun _ _ => Nat.le_add_right _ _
      timer_le := fun _ => Nat.add_le_add_left (Nat.min_le_left _ _) _
      close_ge := fun _ => closeAt_send hn ▸ hge
      close_le := fun _ => closeAt_send hn ▸ h.close_le hd
      sent := fun _ => closeAt_send hn ▸ hca
      dorm := nofun
      timer_due := fun _ hr => absurd hr (Nat.not_lt.2 hle) }

theorem inv_step (h : Inv c s) (e : Ev) (hok : e.ok s = true) : Inv c (step c s e).1 := by
  cases e with
  | delay d => exact inv_delay h (ok_delay.1 hok)
  | fire =>
    obtain ⟨hc, hd, hn⟩ := ok_fire.1 hok
    rw [step_fire_eq hc]
    exact inv_fire h hd hn
  | read => exact unlessClosed h (inv_read h)
  | doneS =>
    exact unlessClosed h fun _ => inv_streams h (.same h) fun hd =>
      (h.dorm hd).idle.imp (fun z => by omega) id
  | regS => exact unlessClosed h fun _ => inv_streams h (.firstStream h) fun _ => .inr (Nat.succ_pos _)
  | openS =>
    refine unlessClosed h fun _ => ?_
    split
    · next hd => exact inv_wake h hd _ _
    · next hd => exact inv_streams h (.firstStream h) fun hd' => absurd hd' hd
  | initS =>
    refine unlessClosed h fun _ => ?_
    split
    · next hd => exact inv_wake h hd _ _
    · next hd => exact inv_streams h (.same h) fun hd' => absurd hd' hd

end

theorem run_nil (c : Cfg) (s : KA) : run c s [] = (s, []) := rfl

theorem run_cons (c : Cfg) (s : KA) (e : Ev) (es : List Ev) :
    run c s (e :: es) = ((run c (step c s e).1 es).1, (step c s e).2 ++ (run c (step c s e).1 es).2) := rfl

theorem runG_congr {f g : Cfg → KA → KA × List Out} {c : Cfg} (h : ∀ s, f c s = g c s) :
    ∀ (es : List Ev) (s : KA), runG f c s es = runG g c s es
  | [], _ => rfl
  | e :: es, s => by
    have h1 : stepG f c s e = stepG g c s e := by cases e <;> simp only [stepG, h]
    simp only [runG, h1, runG_congr h es]

theorem inv_run {c : Cfg} : ∀ (es : List Ev) {s : KA}, Inv c s → Valid c s es = true → Inv c (run c s es).1
  | [], _, h, _ => h
  | e :: es, s, h, hv => by
    simp only [Valid, Bool.and_eq_true] at hv
    rw [run_cons]
    exact inv_run es (inv_step h e hv.1) hv.2

theorem bound_of_inv {c : Cfg} {s : KA} (h : Inv c s) (hc : s.closed = false) (ha : s.applicable c = true)
    (hcu : s.pendingInit = 0) :
    s.now ≤ deadBound c s.lastRead s.appSince + slack c s := by
  -- applicable and caught up, so not dormant: a dormant loop has no permit, and no stream unless an `initStream` is pending
  have hd : s.dormant = false := by
    cases hd : s.dormant with
    | false => rfl
    | true =>
      have hs := (h.dorm hd).idle
      simp only [KA.applicable, (h.dorm hd).noPermit, Bool.false_or, decide_eq_true_eq] at ha
      omega
  -- time has not passed the timer, which fires before the loop would close
  exact Nat.le_trans (h.timer_ge hc hd) (Nat.le_trans (Nat.le_add_right _ _) (h.close_le hd))

/-- Invariant behind the exact bound: without reads during dormancy a wake-up is never late. -/
structure NoLate (s : KA) : Prop where
  onTime : s.lateWake = false
  /-- a parked loop has seen every read -/
  seen : s.dormant = true → s.lastRead ≤ s.prevNano

theorem noLate_send {t : KA} (h : t.lateWake = false) : NoLate (sendAndSleep c t).1 := ⟨h, nofun⟩

theorem noLate_step {c : Cfg} {s : KA} (e : Ev) (hok : e.ok s = true) (hk : NoLate s)
    (hr : e = Ev.read → s.dormant = false) : NoLate (step c s e).1 := by
  -- a dormant loop is woken with `lateWake := (lastRead > prevNano)`, which `NoLate` says is false
  have wake {t : KA × List Out} (hk' : NoLate t.1) :
      NoLate (if s.dormant then sendAndSleep c { t.1 with lateWake := decide (s.lastRead > s.prevNano),
                                                          appSince := if !c.permit then s.now else s.appSince } else t).1 := by
    split
    · next hd => exact noLate_send (decide_eq_false (Nat.not_lt.2 (hk.seen hd)))
    · exact hk'
  cases e with
  | delay d => exact { hk with }
  | read => exact unlessClosed hk fun _ => ⟨rfl, fun hd => nomatch (hr rfl).symm.trans hd⟩
  | doneS => exact unlessClosed hk fun _ => { hk with }
  | regS => exact unlessClosed hk fun _ => { hk with }
  | openS => exact unlessClosed hk fun _ => wake (t := (_, [])) { hk with }
  | initS => exact unlessClosed hk fun _ => wake (t := (_, [])) { hk with }
  | fire =>
    obtain ⟨hc, hd, -⟩ := ok_fire.1 hok
    rw [step_fire_eq hc]
    apply fire_cases (c := c) (s := s) (P := fun r => NoLate r.1)
    · intro _; exact ⟨hk.onTime, fun h => nomatch hd.symm.trans h⟩
    · intro _ _ _; exact { hk with }
    · intro hle _ _ _; exact ⟨hk.onTime, fun _ => hle⟩
    · intro _ _ _; exact noLate_send hk.onTime

theorem noLate_run {c : Cfg} : ∀ (es : List Ev) (s : KA), Valid c s es = true →
    (∀ (pre : List Ev) (post : List Ev), es = pre ++ Ev.read :: post → (run c s pre).1.dormant = false) →
    NoLate s → (run c s es).1.lateWake = false
  | [], _, _, _, hk => hk.onTime
  | e :: es, s, hv, hn, hk => by
    simp only [Valid, Bool.and_eq_true] at hv
    rw [run_cons]
    apply noLate_run es _ hv.2
    · intro pre post he
      have := hn (e :: pre) post (by simp [he])
      rw [run_cons] at this
      exact this
    · apply noLate_step e hv.1 hk
      intro he
      exact hn [] es (by simp [he])

/-- now / lastRead of the model follow the input clock as long as the transport is open. -/
def clockStep (k : Nat × Nat) : Ev → Nat × Nat
  | .delay d => (k.1 + d, k.2)
  | .read => (k.1, k.1)
  | _ => k

theorem clock_agree {c : Cfg} {s : KA} (e : Ev) (hc : s.closed = false) :
    ((step c s e).1.now, (step c s e).1.lastRead) = clockStep (s.now, s.lastRead) e := by
  -- only `delay` and `read` write `now` and `lastRead`; `sendAndSleep` and every branch of `fire` keep both
  cases e with
  | delay d => rfl
  | fire =>
    rw [step_fire_eq hc]
    exact fire_cases (P := fun r => (r.1.now, r.1.lastRead) = (s.now, s.lastRead))
      (fun _ => rfl) (fun _ _ _ => rfl) (fun _ _ _ _ => rfl) (fun _ _ _ => rfl)
  | read | doneS | regS => simp only [step, stepG, hc, Bool.false_eq_true, if_false]; rfl
  | openS | initS => simp only [step, stepG, hc, Bool.false_eq_true, if_false]; split <;> rfl

theorem fire_timer_ge {c : Cfg} {s : KA} :
    (fire c s).1.closed = false → (fire c s).1.dormant = false → (fire c s).1.now ≤ (fire c s).1.timerAt := by
  apply fire_cases (c := c) (s := s) (P := fun r => r.1.closed = false → r.1.dormant = false → r.1.now ≤ r.1.timerAt)
  · intro _ _ _; simp; omega
  · intro _ _ _ h; simp at h
  · intro _ _ _ _ _ h; simp at h
  · intro _ _ _ _ _; simp [sendAndSleep]

end GrpcProofs.Lemmas.Keepalive
