import GrpcModel.Model.AdsFan
import GrpcProofs.Lemmas.Basic
/-! Invariant of the ADS fan-out model (C42): the stream's flow-control counter is exactly the number of
`done`s of responses that watchers still hold. -/
namespace GrpcProofs.Lemmas.AdsFan
open GrpcModel.AdsFan

structure Inv (s : St) : Prop where
  count : s.outstanding = heldResp s.ws
  cur : s.cur.isSome = true ↔ 0 < s.outstanding
  deliv : s.delivered = s.completed + (if s.cur.isSome then 1 else 0)

theorem inv_init : Inv {} := ⟨rfl, by simp, rfl⟩

theorem Inv.frame {s s' : St} (h : Inv s) (hw : heldResp s'.ws = heldResp s.ws) (ho : s'.outstanding = s.outstanding)
    (hc : s'.cur = s.cur) (hd : s'.delivered = s.delivered) (hk : s'.completed = s.completed) : Inv s' :=
  ⟨by rw [ho, hw]; exact h.count, by rw [hc, ho]; exact h.cur, by rw [hd, hk, hc]; exact h.deliv⟩

theorem heldResp_append (a b : List Watcher) : heldResp (a ++ b) = heldResp a + heldResp b := by
  induction a with
  | nil => simp [heldResp]
  | cons w ws ih => simp [heldResp, ih]; omega

theorem notify_cons (w : Watcher) (ws : List Watcher) (v : Nat) (rs : List (Nat × String)) :
    notify (w :: ws) v rs =
      let r := notify ws v rs
      if rs.contains (w.auth, w.name) then
        if w.block then ({ w with pend := w.pend ++ [.resp v] } :: r.1, r.2.1 + 1, (w.id, v) :: r.2.2)
        else (w :: r.1, r.2.1, (w.id, v) :: r.2.2)
      else (w :: r.1, r.2.1, r.2.2) := rfl

theorem notify_held (ws : List Watcher) (v : Nat) (rs : List (Nat × String)) :
    heldResp (notify ws v rs).1 = heldResp ws + (notify ws v rs).2.1 := by
  induction ws with
  | nil => simp [notify, heldResp]
  | cons w ws ih =>
    rw [notify_cons]
    dsimp only
    split
    · split
      · simp [heldResp, ih, List.filter_append, List.filter_cons, isResp]; omega
      · simp [heldResp, ih]; omega
    · simp [heldResp, ih]; omega

theorem popTok_held (id : Nat) (ws ws' : List Watcher) (t : Tok) (h : popTok id ws = some (t, ws')) :
    heldResp ws = heldResp ws' + (if isResp t then 1 else 0) := by
  fun_induction popTok id ws generalizing ws' with
  | case1 => cases h
  | case2 => cases h
  | case3 w ws _ t0 r hp =>   -- the watcher is found and gives its oldest token
    cases h
    cases t <;> simp [heldResp, hp, List.filter_cons, isResp] <;> omega
  | case4 w ws _ ih =>
    obtain ⟨p, hq, hp⟩ := Option.map_eq_some_iff.1 h
    cases hp
    have := ih p.2 hq
    simp [heldResp, this]; omega

theorem inv_settle (fuel : Nat) (s : St) (h : Inv s) : Inv (settle fuel s) := by
  induction fuel generalizing s with
  | zero => simpa [settle]
  | succ n ih =>
    unfold settle
    split
    · exact h
    · rename_i hgo
      split
      · exact h
      · -- flow control is free, so nobody holds a `done`; the response read hands out `n` new ones
        rename_i v rs rest hin
        have hfree : s.cur.isSome = false := Bool.eq_false_iff.mpr fun hs => hgo (by rw [hs, Bool.or_true])
        have hout : s.outstanding = 0 := by simpa [hfree] using h.cur
        have hh := notify_held s.ws v rs
        have hz : heldResp s.ws = 0 := by rw [← h.count]; exact hout
        have hd := h.deliv
        rcases hnot : notify s.ws v rs with ⟨ws', n, lg⟩
        rw [hnot] at hh
        simp only [] at hh ⊢
        simp only [hfree, Bool.false_eq_true, if_false, Nat.add_zero] at hd
        split
        · -- nobody took one: the response is complete at once and the reader goes on
          rename_i hn
          exact ih _ { count := by simp [hout]; omega, cur := by simp [hfree, hout], deliv := by simp [hfree, hd] }
        · -- it becomes the current response, with `n` units outstanding
          rename_i hn
          exact { count := by simp; omega, cur := by simp; omega, deliv := by simp [hd] }

theorem inv_step (s : St) (op : Op) (h : Inv s) : Inv (step s op) := by
  cases op with
  | watch a n id b =>
    simp only [step]
    split
    · exact h
    · -- the new watcher holds at most a no-op `done`
      apply inv_settle
      refine h.frame ?_ rfl rfl rfl rfl
      cases lookup s.cache (a, n) <;> cases b <;> simp [heldResp_append, heldResp, isResp]
  | respond rs =>
    simp only [step]
    exact inv_settle _ _ (h.frame rfl rfl rfl rfl rfl)
  | done id =>
    simp only [step]
    cases hp : popTok id s.ws with
    | none => exact h.frame rfl rfl rfl rfl rfl
    | some p =>
      obtain ⟨t, ws⟩ := p
      have hh := popTok_held id s.ws ws t hp
      simp only []
      cases t with
      | cached v =>
        simp [isResp] at hh
        exact h.frame hh.symm rfl rfl rfl rfl
      | resp v =>
        -- a `done` of a response was held, so that response is the current one
        simp [isResp] at hh
        have hc := h.count
        have hsome : s.cur.isSome = true := h.cur.mpr (by omega)
        have hd := h.deliv
        simp only [hsome, if_true] at hd
        simp only []
        split
        · -- it was the last one: the response is complete and the reader goes on
          exact inv_settle _ _ { count := by simp; omega, cur := by simp, deliv := by simp [hd] }
        · exact { count := by simp; omega, cur := by simp [hsome]; omega, deliv := by simpa [hsome] using hd }

theorem inv_run (s : St) (ops : List Op) (h : Inv s) : Inv (run s ops) := Basic.foldl_inv inv_step ops h

end GrpcProofs.Lemmas.AdsFan
