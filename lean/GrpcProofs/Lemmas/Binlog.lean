import GrpcModel.Model.Binlog
import GrpcProofs.Lemmas.Basic
namespace GrpcProofs.Lemmas.Binlog
open GrpcModel.Binlog

theorem counted_iff {e : Entry} : counted e = true ↔ e.key ≠ traceBin := by
  simp [counted]

/-! `csize [e]` is what entry `e` takes from the limit: its length, or nothing for grpc-trace-bin.
    In these terms the loop is the plain greedy one, and its three cases become two. -/

theorem csize_cons (e : Entry) (es : List Entry) : csize (e :: es) = csize [e] + csize es := by
  simp [csize]

theorem truncIndex_cons (h : Nat) (e : Entry) (es : List Entry) :
    truncIndex h (e :: es) = if csize [e] ≤ h then truncIndex (h - csize [e]) es + 1 else 0 := by
  have hc : csize [e] = if e.key = traceBin then 0 else entryLen e := by simp [csize, counted]
  rw [truncIndex, hc]
  split
  · rfl
  · simp only [gt_iff_lt, ← Nat.not_le, ite_not]

theorem csize_append (a b : List Entry) : csize (a ++ b) = csize a + csize b := by
  induction a with
  | nil => simp [csize]
  | cons e a ih => rw [List.cons_append, csize_cons, csize_cons e a, ih, Nat.add_assoc]

theorem csize_take_truncIndex (h : Nat) (es : List Entry) : csize (es.take (truncIndex h es)) ≤ h := by
  induction es generalizing h with
  | nil => exact Nat.zero_le _
  | cons e es ih =>
    rw [truncIndex_cons]
    split
    · rw [List.take_succ_cons, csize_cons]
      have := ih (h - csize [e])
      omega
    · exact Nat.zero_le _

theorem le_truncIndex (h : Nat) (es : List Entry) (n : Nat) (hn : n ≤ es.length)
    (hc : csize (es.take n) ≤ h) : n ≤ truncIndex h es := by
  induction es generalizing h n with
  | nil => exact hn
  | cons e es ih =>
    cases n with
    | zero => exact Nat.zero_le _
    | succ n =>
      rw [List.take_succ_cons, csize_cons] at hc
      rw [truncIndex_cons, if_pos (by omega)]
      exact Nat.succ_le_succ (ih _ n (Nat.le_of_succ_le_succ hn) (by omega))

theorem take_truncIndex_filter (h : Nat) (es : List Entry) :
    (es.take (truncIndex h es)).filter counted
      = (es.filter counted).take (truncIndex h (es.filter counted)) := by
  induction es generalizing h with
  | nil => rfl
  | cons e es ih =>
    by_cases hc : counted e = true
    · rw [List.filter_cons_of_pos hc, truncIndex_cons, truncIndex_cons]
      split <;> simp [hc, ih]
    · have h0 : csize [e] = 0 := by simp [csize, hc]
      rw [List.filter_cons_of_neg hc, truncIndex_cons, h0]
      simp [hc, ih]

/-- the early return for `maxUInt` is the cut behind the last entry -/
theorem truncateMetadata_eq (h : Nat) (es : List Entry) :
    truncateMetadata h es =
      let n := if h = maxUInt then es.length else truncIndex h es
      let kept := es.take n ++ (es.drop n).filter (fun e => !(counted e))
      (kept, decide (kept.length < es.length)) := by
  unfold truncateMetadata
  split <;> simp

theorem truncateMetadata_flag (h : Nat) (es : List Entry) :
    (truncateMetadata h es).2 = decide ((truncateMetadata h es).1.length < es.length) := by
  rw [truncateMetadata_eq]

theorem truncateMetadata_sublist (h : Nat) (es : List Entry) : (truncateMetadata h es).1.Sublist es := by
  rw [truncateMetadata_eq]
  simp only []
  generalize (if h = maxUInt then es.length else truncIndex h es) = n
  simpa using (List.Sublist.refl (es.take n)).append (List.filter_sublist (l := es.drop n))

/-- What is logged is a sublist of the input, so it is shorter iff it differs. -/
theorem truncateMetadata_flag_iff (h : Nat) (es : List Entry) :
    (truncateMetadata h es).2 = true ↔ (truncateMetadata h es).1 ≠ es := by
  have hsub := truncateMetadata_sublist h es
  rw [truncateMetadata_flag, decide_eq_true_iff]
  exact ⟨fun hl he => by rw [he] at hl; exact Nat.lt_irrefl _ hl,
    fun hne => Nat.lt_of_le_of_ne hsub.length_le fun he => hne (hsub.eq_of_length he)⟩

/-- For `maxUInt` the cut is behind the last entry, and `hfit` says that everything fits. -/
theorem result_is_longest_fitting_prefix (h : Nat) (es : List Entry) (hfit : h = maxUInt → csize es ≤ h) :
    ∃ n, (truncateMetadata h es).1 = es.take n ++ (es.drop n).filter (fun e => !(counted e)) ∧
      csize (es.take n) ≤ h ∧ ∀ p, p <+: es → csize p ≤ h → p.length ≤ n := by
  rw [truncateMetadata_eq]
  refine ⟨_, rfl, ?_⟩
  split
  · next hm => exact ⟨by simpa using hfit hm, fun p hp _ => hp.length_le⟩
  · refine ⟨csize_take_truncIndex h es, fun p hp hc => ?_⟩
    rw [List.prefix_iff_eq_take.1 hp] at hc
    exact le_truncIndex h es p.length hp.length_le hc

theorem csize_filter_counted (l : List Entry) : csize (l.filter counted) = csize l := by
  induction l with
  | nil => rfl
  | cons e l ih => by_cases hc : counted e = true <;> simp [hc, csize, ih]

theorem filter_counted_append_filter_not (a b : List Entry) :
    (a ++ b.filter (fun e => !(counted e))).filter counted = a.filter counted := by
  simp [List.filter_filter]

theorem csize_append_filter_not (a b : List Entry) :
    csize (a ++ b.filter (fun e => !(counted e))) = csize a := by
  rw [← csize_filter_counted, filter_counted_append_filter_not, csize_filter_counted]

theorem drop_filter_take (n : Nat) (l : List Entry) :
    (l.filter counted).drop ((l.take n).filter counted).length = (l.drop n).filter counted := by
  conv => lhs; arg 2; rw [← List.take_append_drop n l]
  rw [List.filter_append, List.drop_left]

theorem keepFirst_take (n : Nat) (l : List Entry) :
    keepFirst ((l.take n).filter counted).length l
      = l.take n ++ (l.drop n).filter (fun e => !(counted e)) := by
  induction l generalizing n with
  | nil => simp [keepFirst]
  | cons e l ih =>
    have ih0 : keepFirst 0 l = l.filter (fun e => !(counted e)) := by simpa using ih 0
    cases n with
    | zero => by_cases hc : counted e = true <;> simp [keepFirst, hc, ih0]
    | succ n => by_cases hc : counted e = true <;> simp [keepFirst, hc, ih n]

theorem mem_keepFirst_of_not_counted (k : Nat) (l : List Entry) (e : Entry) (he : e ∈ l)
    (hc : counted e = false) : e ∈ keepFirst k l := by
  fun_induction keepFirst k l with
  | case1 => cases he
  | case2 x l hx ih =>  -- `x` is counted and dropped, so it is not `e`
    exact ih ((List.mem_cons.1 he).resolve_left fun h => by simp [← h, hc] at hx)
  | case3 _ _ _ _ ih | case4 _ _ _ _ ih =>  -- `x` is kept, as one of the first `k` counted or as not counted
    exact List.mem_cons.2 ((List.mem_cons.1 he).imp_right ih)

theorem _root_.GrpcModel.Binlog.Holds.countedPrefix {h : Nat} {inp out : List Entry} {flag : Bool}
    (H : Holds h inp out flag) : out.filter counted <+: inp.filter counted := H.1

theorem _root_.GrpcModel.Binlog.Holds.fits {h : Nat} {inp out : List Entry} {flag : Bool}
    (H : Holds h inp out flag) : csize out ≤ h := H.2.1

theorem _root_.GrpcModel.Binlog.Holds.nextTooBig {h : Nat} {inp out : List Entry} {flag : Bool}
    (H : Holds h inp out flag) : ∀ nxt rest,
      (inp.filter counted).drop (out.filter counted).length = nxt :: rest → h < csize out + entryLen nxt := H.2.2.1

theorem _root_.GrpcModel.Binlog.Holds.eq_keepFirst {h : Nat} {inp out : List Entry} {flag : Bool}
    (H : Holds h inp out flag) : out = keepFirst (out.filter counted).length inp := H.2.2.2.1

theorem _root_.GrpcModel.Binlog.Holds.flag_iff {h : Nat} {inp out : List Entry} {flag : Bool}
    (H : Holds h inp out flag) : flag = true ↔ out ≠ inp := H.2.2.2.2

theorem holds_longest {h : Nat} {inp out : List Entry} {flag : Bool} (H : Holds h inp out flag) :
    ∀ q, q <+: inp.filter counted → csize q ≤ h → q.length ≤ (out.filter counted).length := by
  obtain ⟨t, ht⟩ := H.countedPrefix
  have h3 := H.nextTooBig
  intro q hq hc
  apply Nat.le_of_not_lt
  intro hlt
  rw [← ht] at hq h3
  cases t with
  | nil => have := hq.length_le; simp at this; omega
  | cons nxt rest =>
    -- a longer `q` goes on with the next counted entry, which does not fit
    have hfit := h3 nxt rest List.drop_left
    have hnc : counted nxt = true := (List.mem_filter.1 (ht ▸ by simp : nxt ∈ inp.filter counted)).2
    obtain ⟨u, rfl⟩ : out.filter counted ++ [nxt] <+: q :=
      List.prefix_of_prefix_length_le ⟨rest, by simp⟩ hq (by simp; omega)
    rw [csize_append, csize_append, csize_filter_counted] at hc
    simp [csize, hnc] at hc
    omega

theorem holds_trace_bin_kept {h : Nat} {inp out : List Entry} {flag : Bool} (H : Holds h inp out flag) :
    ∀ e ∈ inp, e.key = traceBin → e ∈ out := by
  intro e he hk
  rw [H.eq_keepFirst]
  exact mem_keepFirst_of_not_counted _ _ _ he (by simp [counted, hk])

theorem next_not_fit {h n : Nat} {es : List Entry} (hA : csize (es.take n) ≤ h)
    (hmax : ∀ p, p <+: es → csize p ≤ h → p.length ≤ n) (hlt : n < es.length) :
    counted es[n] = true ∧ h < csize (es.take n) + entryLen es[n] := by
  have hB := mt (hmax (es.take (n + 1)) (List.take_prefix _ _))
  rw [List.length_take_of_le hlt, List.take_succ_eq_append_getElem hlt, csize_append] at hB
  cases hc : counted es[n] with
  | true =>
    simp only [csize, hc, if_true] at hB
    exact ⟨rfl, by omega⟩
  | false =>
    -- an uncounted entry adds nothing, so the longer prefix would fit as well
    simp only [csize, hc, Bool.false_eq_true, if_false] at hB
    omega

theorem holds_cut {h n : Nat} {es out : List Entry} {flag : Bool}
    (hout : out = es.take n ++ (es.drop n).filter (fun e => !(counted e))) (hflag : flag = true ↔ out ≠ es)
    (hA : csize (es.take n) ≤ h) (hmax : ∀ p, p <+: es → csize p ≤ h → p.length ≤ n) : Holds h es out flag := by
  subst hout
  have hf := filter_counted_append_filter_not (es.take n) (es.drop n)
  have hs := csize_append_filter_not (es.take n) (es.drop n)
  refine ⟨hf ▸ (List.take_prefix _ _).filter _, hs ▸ hA, fun nxt rest hd => ?_, by rw [hf, keepFirst_take], hflag⟩
  rw [hf, drop_filter_take] at hd
  have hlt : n < es.length := by
    apply Nat.lt_of_not_le
    intro hle
    rw [List.drop_of_length_le hle] at hd
    cases hd
  have hC := next_not_fit hA hmax hlt
  rw [List.drop_eq_getElem_cons hlt, List.filter_cons_of_pos hC.1] at hd
  rw [hs, ← (List.cons.inj hd).1]
  exact hC.2

theorem statement_holds (h : Nat) (es : List Entry) (hfit : h = maxUInt → csize es ≤ h) :
    Holds h es (truncateMetadata h es).1 (truncateMetadata h es).2 :=
  have ⟨_, hn, hA, hmax⟩ := result_is_longest_fitting_prefix h es hfit
  holds_cut hn (truncateMetadata_flag_iff h es) hA hmax

theorem nextFits_false_iff (h : Nat) (inp out : List Entry) :
    nextFits h inp out = false ↔
    ∀ nxt rest, (inp.filter counted).drop (out.filter counted).length = nxt :: rest → h < csize out + entryLen nxt := by
  unfold nextFits
  split <;> simp [*]

theorem prefixShapeVerdict_ne_ok (inp out : List Entry) (flag : Bool) : prefixShapeVerdict inp out flag ≠ .ok := by
  unfold prefixShapeVerdict
  split
  · nofun
  · split
    · split <;> nofun
    · nofun

theorem metaVerdict_ok_iff (h : Nat) (inp out : List Entry) (flag : Bool) :
    metaVerdict h inp out flag = .ok ↔ Holds h inp out flag := by
  have hflag : flag = (out != inp) ↔ (flag = true ↔ out ≠ inp) := by cases flag <;> simp
  unfold metaVerdict
  constructor
  · intro hv
    -- the first three guards answer a violation, so each must fail
    obtain ⟨h1, hv⟩ := Basic.of_ite_eq hv
    obtain ⟨h2, hv⟩ := Basic.of_ite_eq hv
    obtain ⟨h3, hv⟩ := Basic.of_ite_eq hv
    rw [Bool.not_eq_false, List.isPrefixOf_iff_prefix] at h1
    rw [Bool.not_eq_true, nextFits_false_iff] at h3
    -- `ok` can only come out of the branch where `out` is the expected list, and there the flag decides
    by_cases h4 : out = keepFirst (out.filter counted).length inp
    · rw [if_pos h4] at hv
      by_cases h5 : flag = (out != inp)
      · exact ⟨h1, Nat.le_of_not_lt h2, h3, h4, hflag.1 h5⟩
      · rw [if_neg h5] at hv; cases hv
    · rw [if_neg h4] at hv
      split at hv
      · exact absurd hv (prefixShapeVerdict_ne_ok _ _ _)
      · cases hv
  · intro H
    rw [if_neg (by simpa using H.countedPrefix), if_neg (Nat.not_lt.2 H.fits),
      if_neg (by rw [Bool.not_eq_true, nextFits_false_iff]; exact H.nextTooBig), if_pos H.eq_keepFirst,
      if_pos (hflag.2 H.flag_iff)]

theorem code_verdict (h : Nat) (es : List Entry) (hfit : h = maxUInt → csize es ≤ h) :
    metaVerdict h es (truncateMetadata h es).1 (truncateMetadata h es).2 = .ok :=
  (metaVerdict_ok_iff _ _ _ _).2 (statement_holds h es hfit)

theorem truncated_flag_iff_dropped (h : Nat) (es : List Entry) (hfit : h = maxUInt → csize es ≤ h) :
    ((truncateMetadata h es).2 = true ↔ (truncateMetadata h es).1 ≠ es) ∧
    ((truncateMetadata h es).2 = true ↔ (truncateMetadata h es).1.length < es.length) :=
  ⟨(statement_holds h es hfit).flag_iff, by rw [truncateMetadata_flag, decide_eq_true_iff]⟩

theorem exists_prefix_of_filter_prefix {α} (f : α → Bool) (es q : List α) (hq : q <+: es.filter f) :
    ∃ p, p <+: es ∧ p.filter f = q := by
  induction es generalizing q with
  | nil => exact ⟨[], List.nil_prefix, (List.prefix_nil.1 hq).symm⟩
  | cons e es ih =>
    by_cases hf : f e = true
    · rw [List.filter_cons_of_pos hf, List.prefix_cons_iff] at hq
      rcases hq with rfl | ⟨t, rfl, ht⟩
      · exact ⟨[], List.nil_prefix, rfl⟩
      · obtain ⟨p, hp, rfl⟩ := ih t ht
        exact ⟨e :: p, (List.cons_prefix_cons).2 ⟨rfl, hp⟩, List.filter_cons_of_pos hf⟩
    · rw [List.filter_cons_of_neg hf] at hq
      obtain ⟨p, hp, rfl⟩ := ih q hq
      exact ⟨e :: p, (List.cons_prefix_cons).2 ⟨rfl, hp⟩, List.filter_cons_of_neg hf⟩

theorem trace_bin_always_kept (h : Nat) (es : List Entry) (hfit : h = maxUInt → csize es ≤ h)
    (e : Entry) (he : e ∈ es) (hk : e.key = traceBin) : e ∈ (truncateMetadata h es).1 :=
  holds_trace_bin_kept (statement_holds h es hfit) e he hk

theorem take_eq_self_iff {α} (l : List α) (n : Nat) : l.take n = l ↔ l.length ≤ n :=
  ⟨fun h => by have := congrArg List.length h; simp at this; omega, List.take_of_length_le⟩

/-- `hlen`: a slice that exists is shorter than 2^64, so the early return for `maxUInt` cuts nothing either. -/
theorem truncateMessage_eq (m : Nat) (data : Bytes) (hlen : data.length ≤ maxUInt) :
    truncateMessage m data = (data.take m, decide (m < data.length)) := by
  unfold truncateMessage
  split
  · next hm => rw [List.take_of_length_le (hm ▸ hlen), decide_eq_false (by omega)]
  · split
    · next hge => rw [List.take_of_length_le hge, decide_eq_false (by omega)]
    · next hlt => rw [decide_eq_true (by omega)]

theorem message_le_limit (m : Nat) (data : Bytes) (hlen : data.length ≤ maxUInt) :
    (truncateMessage m data).1 = data.take m ∧ (truncateMessage m data).1.length ≤ m ∧
    ((truncateMessage m data).2 = true ↔ (truncateMessage m data).1 ≠ data) ∧
    ((truncateMessage m data).2 = true ↔ m < data.length) := by
  rw [truncateMessage_eq m data hlen]
  exact ⟨rfl, List.length_take_le _ _, by simp [take_eq_self_iff], decide_eq_true_iff⟩

def omitLits : List Bytes :=
  [asciiBytes "lb-token", asciiBytes ":path", asciiBytes ":authority", asciiBytes "content-encoding",
   asciiBytes "content-type", asciiBytes "user-agent", asciiBytes "te"]

theorem omitCases_eq : omitCases = omitLits ++ [traceBin] := rfl

/-- the one fact about the table that takes evaluating the literals -/
theorem traceBin_not_mem_omitLits : traceBin ∉ omitLits := by
  simp only [omitLits, traceBin, asciiBytes, String.reduceToList]
  decide

theorem metadataKeyOmit_spec (k : Bytes) :
    metadataKeyOmit k = true ↔ (k ∈ omitLits ∨ (grpcPrefix <+: k ∧ k ≠ traceBin)) := by
  rw [metadataKeyOmit, omitCases_eq]
  by_cases hk : k = traceBin
  · simp only [hk, ↓reduceIte, Bool.false_eq_true, traceBin_not_mem_omitLits, ne_eq, not_true_eq_false, and_false, or_self]
  · simp [hk]

theorem mustOmit_iff (k : Bytes) :
    mustOmit k = true ↔
      k ∈ [asciiBytes ":path", asciiBytes ":authority", asciiBytes "content-type", asciiBytes "user-agent",
           asciiBytes "te", asciiBytes "lb-token"] ∨ (grpcPrefix <+: k ∧ k ≠ traceBin) := by
  simp only [mustOmit, Bool.or_eq_true, Bool.and_eq_true, List.contains_iff_mem, List.isPrefixOf_iff_prefix, bne_iff_ne]

theorem mustOmit_imp_omit (k : Bytes) (h : mustOmit k = true) : metadataKeyOmit k = true :=
  (metadataKeyOmit_spec k).2 (((mustOmit_iff k).1 h).imp
    ((by simp [omitLits] : ∀ x ∈ _, x ∈ omitLits) k) id)

theorem mem_mdToMetadataProto (md : MD) (e : Entry) :
    e ∈ mdToMetadataProto md ↔ metadataKeyOmit e.key = false ∧ ∃ vs, (e.key, vs) ∈ md ∧ e.value ∈ vs := by
  unfold mdToMetadataProto
  simp only [List.mem_flatMap]
  constructor
  · rintro ⟨⟨k, vv⟩, hg, he⟩
    by_cases ho : metadataKeyOmit k = true
    · simp [ho] at he
    · simp [ho] at he
      obtain ⟨v, hv, rfl⟩ := he
      simp at ho
      exact ⟨ho, vv, hg, hv⟩
  · rintro ⟨ho, vs, hg, hv⟩
    refine ⟨(e.key, vs), hg, ?_⟩
    simp [ho]
    exact ⟨e.value, hv, rfl⟩

theorem omitted_never_appear (md : MD) (e : Entry) (he : e ∈ mdToMetadataProto md) :
    mustOmit e.key = false ∧
    e.key ∉ [asciiBytes ":path", asciiBytes ":authority", asciiBytes "content-type", asciiBytes "user-agent",
             asciiBytes "te", asciiBytes "lb-token"] ∧
    ¬ (grpcPrefix <+: e.key ∧ e.key ≠ traceBin) := by
  have ho := ((mem_mdToMetadataProto md e).1 he).1
  have hm : ¬ mustOmit e.key = true := fun h => by
    rw [mustOmit_imp_omit _ h] at ho
    cases ho
  exact ⟨Bool.eq_false_iff.2 hm, not_or.1 (mt (mustOmit_iff _).2 hm)⟩

end GrpcProofs.Lemmas.Binlog
