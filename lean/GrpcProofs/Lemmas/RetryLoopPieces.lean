/-
The functions of GrpcModel.RetryLoop taken apart (C18 / C23): an equation or a list of cases for the small ones,
an inductive relation with one constructor per branch for the loops and the operations (`FailRuns` for `failLoop`,
which `opNew` is too, `Runs` for `withRetry`, `OpRuns` for the application operations), and what each leaves untouched
(`Same`, `SameD`, `Frame`, `Core`).
-/
import GrpcModel.Model.RetryLoop
import GrpcProofs.Lemmas.Retry
namespace GrpcProofs.Lemmas.RetryLoop
open GrpcModel.Retry GrpcModel.RetryLoop GrpcProofs.Lemmas.Retry

theorem updCur_none (st : St) (f : Att → Att) (h : st.cur = none) : st.updCur f = st := by
  unfold St.updCur; unfold St.cur at h; rw [h]

theorem updCur_some (st : St) (f : Att → Att) (a : Att) (h : st.cur = some a) :
    st.updCur f = { st with atts := st.atts.dropLast ++ [f a] } := by
  unfold St.updCur; unfold St.cur at h; rw [h]

theorem updCur_cur (st : St) (f : Att → Att) (a : Att) (h : st.cur = some a) : (st.updCur f).cur = some (f a) := by
  rw [updCur_some st f a h]; simp [St.cur]

theorem cur_mem (st : St) (a : Att) (h : st.cur = some a) : a ∈ st.atts :=
  List.mem_of_getLast? h

theorem updCur_length (st : St) (f : Att → Att) : (st.updCur f).atts.length = st.atts.length := by
  cases h : st.cur with
  | none => rw [updCur_none st f h]
  | some a =>
    rw [updCur_some st f a h]
    have := List.length_pos_of_mem (cur_mem st a h)
    simp only [List.length_append, List.length_dropLast, List.length_singleton]
    omega

theorem mem_updCur (st : St) (f : Att → Att) (x : Att) (hx : x ∈ (st.updCur f).atts) :
    x ∈ st.atts.dropLast ∨ ∃ a, st.cur = some a ∧ x = f a := by
  cases h : st.cur with
  | none => rw [updCur_none st f h, List.getLast?_eq_none_iff.mp h] at hx; cases hx
  | some a =>
    rw [updCur_some st f a h] at hx
    exact (List.mem_append.mp hx).imp_right fun hx => ⟨a, rfl, List.mem_singleton.mp hx⟩

theorem updCur_last (st : St) (f : Att → Att) (x' : Att) (h : (st.updCur f).cur = some x') :
    ∃ x, st.cur = some x ∧ x' = f x := by
  cases hc : st.cur with
  | none => rw [updCur_none st f hc, hc] at h; cases h
  | some a => rw [updCur_cur st f a hc] at h; exact ⟨a, rfl, (Option.some.inj h).symm⟩

theorem updCur_dropLast (st : St) (f : Att → Att) : (st.updCur f).atts.dropLast = st.atts.dropLast := by
  cases h : st.cur with
  | none => rw [updCur_none st f h]
  | some a => rw [updCur_some st f a h]; simp

theorem curDead_false_iff (st : St) : st.curDead = false ↔ ∃ a, st.cur = some a ∧ a.dead = false := by
  unfold St.curDead
  cases st.cur with
  | none => simp
  | some a => simp

theorem curDead_true_iff (st : St) : st.curDead = true ↔ ∀ a, st.cur = some a → a.dead = true := by
  unfold St.curDead
  cases st.cur with
  | none => simp
  | some a => simp

/-- `l'` is `l` with its attempts changed one by one, each under `R` (what `updCur` and the server's reactions
    do): the three readings of it that the invariants of the attempt list use -/
structure Pointwise (R : Att → Att → Prop) (l l' : List Att) : Prop where
  mem : ∀ x' ∈ l', ∃ x ∈ l, R x x'
  older : ∀ x' ∈ l'.dropLast, ∃ x ∈ l.dropLast, R x x'
  last : ∀ x', l'.getLast? = some x' → ∃ x, l.getLast? = some x ∧ R x x'

theorem updCur_pointwise {R : Att → Att → Prop} (st : St) (f : Att → Att) (hrefl : ∀ a, R a a) (hf : ∀ a, R a (f a)) :
    Pointwise R st.atts (st.updCur f).atts := by
  refine ⟨fun x' hx => ?_, fun x' hx => ?_, fun x' hx => ?_⟩
  · rcases mem_updCur st f x' hx with hx | ⟨a, hc, rfl⟩
    · exact ⟨x', List.mem_of_mem_dropLast hx, hrefl x'⟩
    · exact ⟨a, cur_mem st a hc, hf a⟩
  · rw [updCur_dropLast] at hx; exact ⟨x', hx, hrefl x'⟩
  · obtain ⟨x, hc, rfl⟩ := updCur_last st f x' hx
    exact ⟨x, hc, hf x⟩

theorem map_pointwise {R : Att → Att → Prop} (l : List Att) (g : Att → Att) (hg : ∀ a, R a (g a)) :
    Pointwise R l (l.map g) := by
  refine ⟨fun x' hx => ?_, fun x' hx => ?_, fun x' hx => ?_⟩
  · obtain ⟨a, ha, rfl⟩ := List.mem_map.mp hx; exact ⟨a, ha, hg a⟩
  · rw [← List.map_dropLast] at hx
    obtain ⟨a, ha, rfl⟩ := List.mem_map.mp hx; exact ⟨a, ha, hg a⟩
  · rw [List.getLast?_map] at hx
    cases hc : l.getLast? with
    | none => rw [hc] at hx; cases hx
    | some a => rw [hc] at hx; injection hx with hx; subst hx; exact ⟨a, rfl, hg a⟩

/-- what a change confined to the attempts (`updCur`, `write`, `settle`, `op(a)`, `finishAttempt`) keeps -/
structure Same (st st' : St) : Prop where
  cs : st'.cs = st.cs
  replay : st'.replay = st.replay
  hist : st'.hist = st.hist
  cstr : st'.clientStreams = st.clientStreams
  started : st'.started = st.started
  seq : st'.seq = st.seq
  pol : st'.pol = st.pol
  dis : st'.disableRetry = st.disableRetry
  maxBuf : st'.maxBuf = st.maxBuf
  rsize : st'.replaySize = st.replaySize
  len : st'.atts.length = st.atts.length

theorem Same.refl (st : St) : Same st st := by constructor <;> rfl

theorem Same.trans {a b c : St} (h1 : Same a b) (h2 : Same b c) : Same a c := by
  cases h1; cases h2; constructor <;> exact Eq.trans ‹_› ‹_›

/-- everything but `cs` and the attempts' bookkeeping is kept by the decision step -/
structure SameD (st st' : St) : Prop where
  committed : st'.cs.committed = st.cs.committed
  replay : st'.replay = st.replay
  hist : st'.hist = st.hist
  cstr : st'.clientStreams = st.clientStreams
  started : st'.started = st.started
  seq : st'.seq = st.seq
  pol : st'.pol = st.pol
  dis : st'.disableRetry = st.disableRetry
  maxBuf : st'.maxBuf = st.maxBuf
  rsize : st'.replaySize = st.replaySize
  len : st'.atts.length = st.atts.length

/-- what no part of `withRetry` touches -/
structure Frame (st st' : St) : Prop where
  started : st'.started = st.started
  cstr : st'.clientStreams = st.clientStreams
  sstr : st'.serverStreams = st.serverStreams
  hist : st'.hist = st.hist
  seq : st'.seq = st.seq
  pol : st'.pol = st.pol
  dis : st'.disableRetry = st.disableRetry
  maxBuf : st'.maxBuf = st.maxBuf
  script : st'.script = st.script
  sentLast : st'.sentLast = st.sentLast

theorem Frame.refl (st : St) : Frame st st := by constructor <;> rfl

theorem Frame.trans {a b c : St} (h1 : Frame a b) (h2 : Frame b c) : Frame a c := by
  cases h1; cases h2; constructor <;> exact Eq.trans ‹_› ‹_›

/-- what `failLoop` never touches -/
structure Core (st st' : St) : Prop where
  atts : st'.atts = st.atts
  replay : st'.replay = st.replay
  hist : st'.hist = st.hist
  started : st'.started = st.started
  cstr : st'.clientStreams = st.clientStreams
  sstr : st'.serverStreams = st.serverStreams
  seq : st'.seq = st.seq
  rsize : st'.replaySize = st.replaySize
  maxBuf : st'.maxBuf = st.maxBuf
  pol : st'.pol = st.pol
  dis : st'.disableRetry = st.disableRetry
  script : st'.script = st.script
  sentLast : st'.sentLast = st.sentLast
  committed : st'.cs.committed = st.cs.committed
  finished : st'.cs.finished = st.cs.finished

theorem Core.refl (st : St) : Core st st := by constructor <;> rfl

theorem Core.trans {a b c : St} (h1 : Core a b) (h2 : Core b c) : Core a c := by
  cases h1; cases h2; constructor <;> exact Eq.trans ‹_› ‹_›

/-- a stream on which nothing has happened yet: as `St.init` leaves it, and as it stays while stream creations
    fail -/
structure Unstarted (st : St) : Prop where
  atts : st.atts = []
  replay : st.replay = []
  hist : st.hist = []
  rsize : st.replaySize = 0
  uncommitted : st.cs.committed = false
  unfinished : st.cs.finished = false

theorem init_unstarted (cstr sstr dis : Bool) (pol : Option Policy) (maxBuf : Int) (thr : Option Throttler)
    (script : List Beh) (ns : List (Option Nat)) : Unstarted (St.init cstr sstr dis pol maxBuf thr script ns) := by
  constructor <;> rfl

theorem updCur_same (st : St) (f : Att → Att) : Same st (st.updCur f) := by
  have hl := updCur_length st f
  cases h : st.cur with
  | none => rw [updCur_none st f h]; exact Same.refl st
  | some a =>
    rw [updCur_some st f a h] at hl ⊢
    exact { Same.refl st with len := hl }

theorem updCur_frame (st : St) (f : Att → Att) : Frame st (st.updCur f) := by
  cases h : st.cur with
  | none => rw [updCur_none st f h]; exact Frame.refl st
  | some a => rw [updCur_some st f a h]; constructor <;> rfl

theorem write_dead (st : St) (w : Wire) (h : st.curDead = true) : st.write w = (st, false, []) := by
  simp [St.write, h]

theorem write_alive (st : St) (w : Wire) (h : st.curDead = false) :
    (st.write w).1 = st.updCur (fun a => { a with log := a.log ++ [w] }) ∧ (st.write w).2.1 = true := by
  simp [St.write, h]

theorem write_updCur (st : St) (w : Wire) :
    (st.write w).1 = st.updCur fun a => if a.dead then a else { a with log := a.log ++ [w] } := by
  unfold St.write St.curDead St.updCur St.cur
  cases h : st.atts.getLast? with
  | none => rfl
  | some a =>
    cases hd : a.dead with
    | true => simp [hd, List.dropLast_append_getLast? a h]
    | false => simp [hd]

theorem write_same (st : St) (w : Wire) : Same st (st.write w).1 := write_updCur st w ▸ updCur_same st _

theorem write_frame (st : St) (w : Wire) : Frame st (st.write w).1 := write_updCur st w ▸ updCur_frame st _

theorem newAttempt_frame (st : St) : Frame st st.newAttempt.1 := by constructor <;> rfl

theorem settle_same (st : St) : Same st st.settle :=
  { Same.refl st with len := by simp [St.settle, react] }

theorem settle_pointwise {R : Att → Att → Prop} (st : St) (hrefl : ∀ a, R a a)
    (hans : ∀ a, R a { a with answered := true }) : Pointwise R st.atts st.settle.atts :=
  map_pointwise _ _ fun a => by split_ifs; exacts [hans a, hrefl a]

theorem buffer_cases (st : St) (sz : Int) (op : ROp) :
    st.cs.committed = true ∧ st.buffer sz op = st ∨
    st.cs.committed = false ∧
      (st.maxBuf < st.replaySize + sz ∧ st.buffer sz op = ({ st with replaySize := st.replaySize + sz } : St).commit ∨
       st.replaySize + sz ≤ st.maxBuf ∧
        st.buffer sz op = { st with replaySize := st.replaySize + sz, replay := st.replay ++ [op] }) := by
  simp only [St.buffer]
  split_ifs with hc hs
  · exact Or.inl ⟨hc, rfl⟩
  · exact Or.inr ⟨by simpa using hc, Or.inl ⟨hs, rfl⟩⟩
  · exact Or.inr ⟨by simpa using hc, Or.inr ⟨not_lt.mp hs, rfl⟩⟩

theorem buffer_atts (st : St) (sz : Int) (op : ROp) : (st.buffer sz op).atts = st.atts := by
  rcases buffer_cases st sz op with ⟨_, e⟩ | ⟨_, ⟨_, e⟩ | ⟨_, e⟩⟩ <;> rw [e]
  rfl

/-- a receiving op (`RecvMsg` / `Header`) has nothing of its own to put on the wire -/
def COp.receives : COp → Bool
  | .recv => true
  | .header => true
  | _ => false

theorem pendOf_receives (st : St) : ∀ op, COp.receives op = true → st.pendOf op = []
  | .recv, _ => rfl
  | .header, _ => rfl

theorem pendOf_congr (st st' : St) (op : COp) (h1 : st'.seq = st.seq) (h2 : st'.clientStreams = st.clientStreams) :
    st'.pendOf op = st.pendOf op := by
  cases op <;> simp [St.pendOf, h1, h2]

def writes (st : St) (ws : List Wire) : St := ws.foldl (fun s w => (s.write w).1) st

theorem writes_preserves (P : St → Prop) (hWrite : ∀ s w, P s → P (s.write w).1) (ws : List Wire) (st : St)
    (h : P st) : P (writes st ws) := by
  induction ws generalizing st with
  | nil => exact h
  | cons w ws ih => exact ih _ (hWrite st w h)

theorem writes_dead (st : St) (ws : List Wire) (hd : st.curDead = true) : writes st ws = st := by
  induction ws with
  | nil => rfl
  | cons w ws ih => rw [writes, List.foldl_cons, write_dead st w hd]; exact ih

theorem applyOp_sends (st : St) (op : COp) (hop : COp.receives op = false) :
    (st.applyOp op).1 = writes st (st.pendOf op) ∧
    ((st.applyOp op).2.1 = .nil ∨ (st.applyOp op).2.1 = .eof ∧ st.curDead = true) := by
  cases op with
  | recv => cases hop
  | header => cases hop
  | half => exact ⟨rfl, Or.inl rfl⟩
  | send size =>
    simp only [St.applyOp, St.pendOf]
    generalize (if size = 0 then 0 else st.seq) = q
    cases hd : st.curDead with
    | true =>
      rw [writes_dead st _ hd, write_dead st _ hd]
      exact ⟨rfl, Or.inr ⟨rfl, rfl⟩⟩
    | false =>
      rw [(write_alive st _ hd).2]
      cases st.clientStreams <;> exact ⟨rfl, Or.inl rfl⟩

theorem applyOp_receives (P : St × Raw × List Ev → Prop) (st : St) (op : COp) (hop : COp.receives op = true)
    (hBlocks : P (st.settle, .blocks, []))
    (hClosed : st.settle.curDead = true → ∀ raw, P (st.settle, raw, []))
    (hRead : st.settle.curDead = true →
      P ({ st.settle.updCur (fun a => { a with respRead := 1 }) with recvFirst := true }, .nilMsg 2, [])) :
    P (st.applyOp op) := by
  have hcd : ∀ a, st.settle.cur = some a → ¬(!a.dead) = true → st.settle.curDead = true := fun a hc hd => by
    simpa only [St.curDead, hc, Bool.not_eq_true', Bool.not_eq_false] using hd
  fun_cases St.applyOp st op
  -- `send` (1-3) and `half` (4) do not receive
  case case1 | case2 | case3 | case4 => cases hop
  -- no attempt, or one still alive (5, 6 under `recv`; 15, 16 under `header`)
  case case5 | case6 | case15 | case16 => exact hBlocks
  -- `recv` reads the one message of a `headers` response
  case case12 => exact hRead (hcd _ ‹_› ‹_›)
  -- every other branch found the attempt dead and returns the settled state with some answer
  all_goals exact hClosed (hcd _ ‹_› ‹_›) _

theorem applyOp_preserves (P : St → Prop) (hWrite : ∀ s w, P s → P (s.write w).1) (hSettle : ∀ s, P s → P s.settle)
    (hRead : ∀ s, P s → P { s.updCur (fun a => { a with respRead := 1 }) with recvFirst := true })
    {st : St} {op : COp} {st1 : St} {raw : Raw} {ev : List Ev} (e : st.applyOp op = (st1, raw, ev)) (h : P st) : P st1 := by
  rw [← show (st.applyOp op).1 = st1 by rw [e]]
  cases hop : COp.receives op with
  | true =>
    exact applyOp_receives (fun r => P r.1) st op hop (hSettle st h) (fun _ _ => hSettle st h)
      (fun _ => hRead _ (hSettle st h))
  | false => rw [(applyOp_sends st op hop).1]; exact writes_preserves P hWrite _ st h

theorem applyOp_same {st : St} {op : COp} {st1 : St} {raw : Raw} {ev : List Ev} (e : st.applyOp op = (st1, raw, ev)) :
    Same st st1 :=
  applyOp_preserves (Same st) (fun s w h => h.trans (write_same s w)) (fun s h => h.trans (settle_same s))
    (fun s h => h.trans ((updCur_same s _).trans (by constructor <;> rfl))) e (Same.refl st)

theorem applyOp_blocks_pend (st : St) (op : COp) (h : (st.applyOp op).2.1 = .blocks) : st.pendOf op = [] := by
  cases hop : COp.receives op with
  | true => exact pendOf_receives st op hop
  | false => rcases (applyOp_sends st op hop).2 with h' | ⟨h', _⟩ <;> rw [h'] at h <;> cases h

theorem classify_blocked (st : St) (raw : Raw) (h : st.classify raw = .blocked) : raw = .blocks := by
  cases raw <;> simp [St.classify] at h ⊢
  split_ifs at h

theorem classify_failure (st : St) (raw : Raw) (h : st.classify raw = .failure) : raw.isFail = true := by
  cases raw <;> simp [St.classify, Raw.isFail] at h ⊢

theorem afterDecision_committed (cs : CS) (d : Decision) : (afterDecision cs d).committed = cs.committed := by
  cases d <;> rfl

theorem afterDecision_finished (cs : CS) (d : Decision) : (afterDecision cs d).finished = cs.finished := by
  cases d <;> rfl

theorem Unstarted.core {st st' : St} (h : Unstarted st) (hc : Core st st') : Unstarted st' :=
  ⟨hc.atts.trans h.atts, hc.replay.trans h.replay, hc.hist.trans h.hist, hc.rsize.trans h.rsize,
   hc.committed.trans h.uncommitted, hc.finished.trans h.unfinished⟩

theorem finishAttempt_same (st : St) (code : Nat) : Same st (st.finishAttempt code) := updCur_same st _

/-- what `csAttempt.finish` makes (`a'`) of the attempt `a` it is called on: the pick's Done has run, once if it had
    run at most once before; a closed stream stays closed -/
structure Finished (a a' : Att) : Prop where
  log : a'.log = a.log
  prev : a'.prev = a.prev
  dead : a.dead = true → a'.dead = true
  pos : 0 < a'.finishCalls
  once : a.finishCalls ≤ 1 → a'.finishCalls = 1

theorem finishAttempt_eq (st : St) (code : Nat) :
    ∃ g, (∀ a, Finished a (g a)) ∧ st.finishAttempt code = st.updCur g := by
  refine ⟨_, fun a => ?_, rfl⟩
  split
  · next h => exact ⟨rfl, rfl, id, h, fun _ => by omega⟩
  · refine ⟨rfl, rfl, fun hd => ?_, Nat.one_pos, fun _ => rfl⟩
    -- an attempt already closed is not reset
    show ((if a.dead = true then a.reset else true) || _) = true
    rw [if_pos hd]; exact hd

theorem Same.toSameD {st st' : St} (h : Same st st') : SameD st st' :=
  { h with committed := congrArg CS.committed h.cs }

theorem SameD.trans {a b c : St} (h1 : SameD a b) (h2 : SameD b c) : SameD a c := by
  cases h1; cases h2; constructor <;> exact Eq.trans ‹_› ‹_›

theorem decideRetry_cases {st : St} {raw : Raw} {st3 : St} {d : Decision} (e : st.decideRetry raw = (st3, d)) :
    let st2 := st.finishAttempt raw.code
    st2.cur = none ∧ st3 = st2 ∧ d = .noRetry ∨
    ∃ a, st2.cur = some a ∧ st3 = { st2 with cs := (shouldRetry st2.disableRetry st2.pol st2.cs (attemptView a) 0).1 } ∧
      d = (shouldRetry st2.disableRetry st2.pol st2.cs (attemptView a) 0).2 := by
  simp only [St.decideRetry] at e
  split at e <;> obtain ⟨rfl, rfl⟩ := Prod.mk.inj e
  · next h => exact Or.inl ⟨h, rfl, rfl⟩
  · next a h => exact Or.inr ⟨a, h, rfl, rfl⟩

theorem decideRetry_sameD {st : St} {raw : Raw} {st3 : St} {d : Decision} (e : st.decideRetry raw = (st3, d)) :
    SameD st st3 := by
  have hs := (finishAttempt_same st raw.code).toSameD
  rcases decideRetry_cases e with ⟨_, rfl, _⟩ | ⟨a, _, rfl, _⟩
  · exact hs
  · exact hs.trans { Same.refl (st.finishAttempt raw.code) with committed := (sr_keeps _ _ _ (attemptView a) 0).committed }

theorem onSuccess_receives (st : St) (op : COp) (hop : COp.receives op = true) : st.onSuccess op = st.commit := by
  cases op <;> simp [COp.receives] at hop <;> rfl

theorem failStep_core (st : St) (d : Decision) (c : Nat) : Core st (st.failStep d c).1 :=
  have hf := sr_keeps st.disableRetry st.pol (afterDecision st.cs d) (noStreamView c) 0
  { Core.refl st with
    committed := hf.committed.trans (afterDecision_committed _ d)
    finished := hf.finished.trans (afterDecision_finished _ d) }

theorem wireOf_append (c : Bool) (r1 r2 : List ROp) : wireOf c (r1 ++ r2) = wireOf c r1 ++ wireOf c r2 := by
  induction r1 with
  | nil => rfl
  | cons o r ih => cases o <;> simp [wireOf, ih]

theorem wireOf_start (c : Bool) (r : List ROp) : wireOf c (.start :: r) = wireOf c r := rfl

theorem startsOnce_split (r : List ROp) (h : startsOnce r = true) : ∃ rest, r = .start :: rest ∧ rest.contains .start = false := by
  cases r with
  | nil => simp [startsOnce] at h
  | cons o r =>
    cases o with
    | start => exact ⟨r, rfl, by simpa [startsOnce] using h⟩
    | msg q z => simp [startsOnce] at h
    | half => simp [startsOnce] at h

theorem startsOnce_append (r : List ROp) (op : ROp) (h : startsOnce r = true) (hop : op ≠ .start) :
    startsOnce (r ++ [op]) = true := by
  obtain ⟨rest, rfl, hc⟩ := startsOnce_split r h
  simp only [startsOnce, Bool.not_eq_true', List.cons_append]
  simp only [List.contains_eq_mem, List.mem_append, List.mem_singleton, decide_eq_false_iff_not] at hc ⊢
  intro hm; rcases hm with hm | hm
  · exact hc hm
  · exact hop hm.symm

/-- `s` with `a`, its log extended by `ws`, as the current attempt: a replay onto a fresh live attempt only appends to
    its log (`writes_withLog`, `replayAll_spec`) -/
def withLog (s : St) (a : Att) (ws : List Wire) : St :=
  { s with atts := s.atts.dropLast ++ [{ a with log := a.log ++ ws }] }

theorem withLog_cur (s : St) (a : Att) (ws : List Wire) : (withLog s a ws).cur = some { a with log := a.log ++ ws } := by
  simp [withLog, St.cur]

theorem withLog_withLog (s : St) (a : Att) (w1 w2 : List Wire) :
    withLog (withLog s a w1) { a with log := a.log ++ w1 } w2 = withLog s a (w1 ++ w2) := by
  simp [withLog, List.append_assoc]

theorem write_withLog (s : St) (a : Att) (ws : List Wire) (w : Wire) (had : a.dead = false) :
    ((withLog s a ws).write w).1 = withLog s a (ws ++ [w]) := by
  have hc := withLog_cur s a ws
  have hd : (withLog s a ws).curDead = false := by
    rw [curDead_false_iff]; exact ⟨_, hc, by simpa [Att.dead] using had⟩
  rw [(write_alive _ w hd).1, updCur_some _ _ _ hc]
  simp [withLog, List.append_assoc]

theorem writes_withLog (s : St) (a : Att) (had : a.dead = false) (ws' ws : List Wire) :
    writes (withLog s a ws) ws' = withLog s a (ws ++ ws') := by
  induction ws' generalizing ws with
  | nil => simp [writes]
  | cons w ws' ih =>
    rw [writes, List.foldl_cons, write_withLog s a ws w had]
    exact (ih _).trans (by simp)

/-- `replayBufferLocked` op by op: `P l s` for the state `s` reached when the ops `l` of the buffer have been replayed -/
theorem replayAll_ind (P : List ROp → St → Prop) (st : St) (h0 : P [] st)
    (hNew : ∀ l s, P l s → P (l ++ [.start]) s.newAttempt.1)
    (hWire : ∀ l s op, op ≠ .start → P l s → P (l ++ [op]) (writes s (wireOf s.clientStreams [op]))) :
    P st.replay st.replayAll.1 := by
  unfold St.replayAll
  show P ([] ++ st.replay) _
  generalize ([] : List ROp) = l at h0 ⊢
  generalize ([] : List Ev) = evs
  induction st.replay generalizing st l evs with
  | nil => simpa using h0
  | cons o r ih =>
    rw [show l ++ o :: r = (l ++ [o]) ++ r by simp]
    simp only [List.foldl_cons]
    cases o with
    | start => exact ih _ _ (hNew l st h0) _
    | msg q z =>
      have := hWire l st (.msg q z) nofun h0
      simp only
      split <;> (rename_i hc; exact ih _ _ (by simpa [writes, wireOf, hc] using this) _)
    | half => exact ih _ _ (hWire l st .half nofun h0) _

theorem replayAll_preserves (P : St → Prop) (hNew : ∀ s, P s → P s.newAttempt.1) (hWrite : ∀ s w, P s → P (s.write w).1)
    (st : St) (h : P st) : P st.replayAll.1 :=
  replayAll_ind (fun _ => P) st h (fun _ => hNew) fun _ s _ _ hs => writes_preserves P hWrite _ s hs

/-- the attempt `St.newAttempt` appends -/
def freshAtt (st : St) : Att :=
  { beh := (st.script.drop st.atts.length).headD Beh.dflt, prev := st.cs.numRetries, log := [] }

theorem freshAtt_alive (st : St) : (freshAtt st).dead = false := by simp [freshAtt, Att.dead]

theorem replayAll_spec (st : St) (h : startsOnce st.replay = true) :
    st.replayAll.1 =
      { st with atts := st.atts ++ [{ freshAtt st with log := wireOf st.clientStreams st.replay }] } := by
  obtain ⟨rest, hr, hns⟩ := startsOnce_split st.replay h
  -- after the stream-creating op and ops `l'` that create none, the new attempt carries the wire image of `l'`
  have key := replayAll_ind (fun l s => (l = [] → s = st) ∧ ∀ l', l = .start :: l' → l'.contains .start = false →
      s = withLog { st with atts := st.atts ++ [freshAtt st] } (freshAtt st) (wireOf st.clientStreams l')) st
    ⟨fun _ => rfl, nofun⟩ ?new ?wire
  · rw [key.2 rest hr hns]; simp [withLog, freshAtt, hr, wireOf]
  case new =>
    intro l s ⟨h1, _⟩
    refine ⟨by simp, fun l' e hc => ?_⟩
    cases l with
    | nil =>
      obtain rfl : l' = [] := by simpa using e.symm
      rw [h1 rfl]; simp [St.newAttempt, withLog, freshAtt, wireOf]
    | cons o l0 =>
      obtain ⟨_, rfl⟩ := List.cons.inj e
      simp at hc
  case wire =>
    intro l s op hop ⟨_, h2⟩
    refine ⟨by simp, fun l' e hc => ?_⟩
    cases l with
    | nil => exact absurd (List.cons.inj e).1 hop
    | cons o l0 =>
      rw [List.cons_append] at e
      obtain ⟨rfl, rfl⟩ := List.cons.inj e
      have hc0 : l0.contains .start = false := by
        simp only [List.contains_eq_mem, List.mem_append, decide_eq_false_iff_not, not_or] at hc ⊢; exact hc.1
      rw [h2 l0 rfl hc0]
      exact (writes_withLog _ _ (freshAtt_alive st) _ _).trans (by rw [wireOf_append]; rfl)

theorem replayAll_keeps (st : St) :
    st.replayAll.1.cs = st.cs ∧ st.replayAll.1.replaySize = st.replaySize ∧ st.replayAll.1.replay = st.replay :=
  replayAll_preserves (fun s => s.cs = st.cs ∧ s.replaySize = st.replaySize ∧ s.replay = st.replay)
    (fun _ h => h)
    (fun s w h => ⟨(write_same s w).cs.trans h.1, (write_same s w).rsize.trans h.2.1, (write_same s w).replay.trans h.2.2⟩)
    st ⟨rfl, rfl, rfl⟩

theorem replayAll_replay (st : St) : st.replayAll.1.replay = st.replay := (replayAll_keeps st).2.2

theorem replayAll_frame (st : St) : Frame st st.replayAll.1 :=
  replayAll_preserves (Frame st) (fun s h => h.trans (newAttempt_frame s)) (fun s w h => h.trans (write_frame s w))
    st (Frame.refl st)

theorem startRetry_cs (st : St) (d : Decision) : (st.startRetry d).1.cs = afterDecision st.cs d :=
  (replayAll_keeps _).1

theorem startRetry_eq (st : St) (d : Decision) (h : startsOnce st.replay = true) :
    (st.startRetry d).1 =
      { st with cs := afterDecision st.cs d
                atts := st.atts ++ [{ freshAtt { st with cs := afterDecision st.cs d } with
                                      log := wireOf st.clientStreams st.replay }] } :=
  replayAll_spec { st with cs := afterDecision st.cs d } h

theorem startRetry_frame (st : St) (d : Decision) : Frame st (st.startRetry d).1 :=
  Frame.trans (b := { st with cs := afterDecision st.cs d }) (by constructor <;> rfl) (replayAll_frame _)

/-- the first attempt, then `bufferForRetryLocked(0, op)`, which under a negative limit commits at once -/
theorem opNewOk_eq (st : St) (h0 : Unstarted st) :
    st.opNewOk.1 =
      (if st.maxBuf < 0 then ({ st with atts := [freshAtt st], started := true } : St).commit
       else { st with atts := [freshAtt st], started := true, replay := [.start] }).settle := by
  simp [St.opNewOk, St.newAttempt, St.buffer, freshAtt, h0.uncommitted, h0.atts, h0.replay, h0.rsize]

/-- How `retryLocked`'s loop goes while stream creations fail: `FailRuns fuel st d s res d'` for `st.failLoop fuel d`
    ending in state `s`, having given up with the error `res` or not (`none`), with the decision `d'` still to be
    carried out. -/
inductive FailRuns : Nat → St → Decision → St → Option Res → Decision → Prop
  | scriptEnd {fuel} (st : St) (d : Decision) : st.nsScript = [] → FailRuns fuel st d st none d
  | created {fuel} (st : St) (d : Decision) (rest : List (Option Nat)) : st.nsScript = none :: rest →
      FailRuns fuel st d { st with nsScript := rest } none d
  | refused {fuel} (st : St) (d : Decision) (c : Nat) (rest : List (Option Nat)) : st.nsScript = some c :: rest →
      (st.failStep d c).2 = .noRetry → FailRuns fuel st d (st.failStep d c).1 (some (.err c)) (st.failStep d c).2
  | exhausted {fuel} (st : St) (d : Decision) (c : Nat) (rest : List (Option Nat)) : st.nsScript = some c :: rest →
      (st.failStep d c).2 = .exhausted →
      FailRuns fuel st d (st.failStep d c).1 (some (.errExhausted c)) (st.failStep d c).2
  | noFuel (st : St) (d : Decision) (c : Nat) (rest : List (Option Nat)) : st.nsScript = some c :: rest →
      (st.failStep d c).2 ≠ .noRetry → (st.failStep d c).2 ≠ .exhausted →
      FailRuns 0 st d (st.failStep d c).1 (some .outOfFuel) (st.failStep d c).2
  | next {s res d'} (fuel : Nat) (st : St) (d : Decision) (c : Nat) (rest : List (Option Nat)) :
      st.nsScript = some c :: rest → (st.failStep d c).2 ≠ .noRetry → (st.failStep d c).2 ≠ .exhausted →
      FailRuns fuel (st.failStep d c).1 (st.failStep d c).2 s res d' → FailRuns (fuel + 1) st d s res d'

theorem failLoop_runs (fuel : Nat) (st : St) (d : Decision) :
    FailRuns fuel st d (st.failLoop fuel d).1 (st.failLoop fuel d).2.1 (st.failLoop fuel d).2.2.1 := by
  fun_induction St.failLoop fuel st d with
  | case1 fuel st d h => exact .scriptEnd st d h
  | case2 fuel st d rest h => exact .created st d rest h
  | case3 fuel st d c rest h r hn => exact .refused st d c rest h hn
  | case4 fuel st d c rest h r hn => exact .exhausted st d c rest h hn
  | case5 st d c rest h r hn he => exact .noFuel st d c rest h hn he
  | case6 st d c rest h r fuel hn he x ih => exact .next fuel st d c rest h hn he ih

theorem FailRuns.core {fuel : Nat} {st s : St} {d d' : Decision} {res : Option Res} (h : FailRuns fuel st d s res d') :
    Core st s := by
  induction h with
  | scriptEnd => exact Core.refl _
  | created => constructor <;> rfl
  | refused st d c | exhausted st d c | noFuel st d c => exact failStep_core st d c
  | next _ st d c _ _ _ _ _ ih => exact (failStep_core st d c).trans ih

/-- `newClientStream`'s creation loop is `failLoop` with the pending decision already applied (none at first:
    `afterDecision cs .noRetry` is `cs`) -/
theorem opNew_failLoop {fuel : Nat} {st s : St} {d d' : Decision} {res : Option Res} (h : FailRuns fuel st d s res d') :
    let n := ({ st with cs := afterDecision st.cs d } : St).opNew fuel
    (res = none ∧ n.1 = ({ s with cs := afterDecision s.cs d' } : St).opNewOk.1 ∧ n.2.1 = .ok) ∨
    (res = some n.2.1 ∧ n.2.1 ≠ .ok ∧ (n.1 = s.commit ∨ n.1 = s)) := by
  induction h with
  | scriptEnd st d h => rw [St.opNew]; simp only [h]; exact Or.inl ⟨trivial, trivial, rfl⟩
  | created st d rest h => rw [St.opNew]; simp only [h]; exact Or.inl ⟨trivial, trivial, rfl⟩
  | refused st d c rest h hn | exhausted st d c rest h hn =>
    rw [St.opNew]
    simp only [St.failStep, h, List.tail_cons] at hn ⊢
    simp only [hn]
    exact Or.inr ⟨trivial, nofun, Or.inl trivial⟩
  | noFuel st d c rest h hn he =>
    rw [St.opNew]
    simp only [St.failStep, h, List.tail_cons] at hn he ⊢
    split
    · next hh => exact absurd hh hn
    · next hh => exact absurd hh he
    · exact Or.inr ⟨rfl, nofun, Or.inr rfl⟩
  | next fuel st d c rest h hn he _ ih =>
    rw [St.opNew]
    simp only [St.failStep, h, List.tail_cons] at hn he ih ⊢
    split
    · next hh => exact absurd hh hn
    · next hh => exact absurd hh he
    · exact ih

theorem nextAttempt_some (fuel : Nat) (st : St) (d : Decision) (r : Res) (h : (st.nextAttempt fuel d).2.1 = some r) :
    (st.failLoop fuel d).2.1 = some r ∧ (st.nextAttempt fuel d).1 = (st.failLoop fuel d).1 := by
  cases hf : (st.failLoop fuel d).2.1 with
  | none => simp [St.nextAttempt, hf] at h
  | some r' =>
    simp only [St.nextAttempt, hf] at h ⊢
    simp only [Option.some.injEq] at h
    exact ⟨congrArg some h, trivial⟩

theorem nextAttempt_none (fuel : Nat) (st : St) (d : Decision) (h : (st.nextAttempt fuel d).2.1 = none) :
    (st.failLoop fuel d).2.1 = none ∧
    (st.nextAttempt fuel d).1 = ((st.failLoop fuel d).1.startRetry (st.failLoop fuel d).2.2.1).1 := by
  cases hf : (st.failLoop fuel d).2.1 with
  | none => simp only [St.nextAttempt, hf]; exact ⟨trivial, trivial⟩
  | some r' => simp [St.nextAttempt, hf] at h

/-- `op(a)` failed on an uncommitted RPC (`st1`, `raw`), and `decideRetry` took the decision `d`, leaving `st3` -/
structure Failed (op : COp) (st st1 : St) (raw : Raw) (ev : List Ev) (st3 : St) (d : Decision) : Prop where
  app : st.applyOp op = (st1, raw, ev)
  uncommitted : ¬st.cs.committed = true
  failure : st1.classify raw = .failure
  dec : st1.decideRetry raw = (st3, d)

/-- How a call of `withRetry` goes: `Runs op fuel st s res` for `withRetry fuel st op` ending in state `s` with
    result `res`. -/
inductive Runs (op : COp) : Nat → St → St → Res → Prop
  | committed {fuel ev} (st st1 : St) (raw : Raw) : st.applyOp op = (st1, raw, ev) → st.cs.committed = true →
      Runs op fuel st st1 (rawToRes raw)
  | blocked {fuel ev} (st st1 : St) (raw : Raw) : st.applyOp op = (st1, raw, ev) → ¬st.cs.committed = true →
      st1.classify raw = .blocked → Runs op fuel st st1 .blocked
  | success {fuel ev} (st st1 : St) (raw : Raw) : st.applyOp op = (st1, raw, ev) → ¬st.cs.committed = true →
      st1.classify raw = .success → Runs op fuel st (st1.onSuccess op) (rawToRes raw)
  | noRetry {fuel ev} (st st1 : St) (raw : Raw) (st3 : St) : Failed op st st1 raw ev st3 .noRetry →
      Runs op fuel st st3.commit (rawToRes raw)
  | exhausted {fuel ev} (st st1 : St) (raw : Raw) (st3 : St) : Failed op st st1 raw ev st3 .exhausted →
      Runs op fuel st st3.commit (match raw with | .err c => .errExhausted c | _ => .exhaustedEof)
  | noFuel {ev} (st st1 : St) (raw : Raw) (st3 : St) (d : Decision) : Failed op st st1 raw ev st3 d →
      d ≠ .noRetry → d ≠ .exhausted → Runs op 0 st st3 .outOfFuel
  | gaveUp {ev s4 d4} (fuel : Nat) (st st1 : St) (raw : Raw) (st3 : St) (d : Decision) (r : Res) :
      Failed op st st1 raw ev st3 d → d ≠ .noRetry → d ≠ .exhausted → FailRuns fuel st3 d s4 (some r) d4 →
      Runs op (fuel + 1) st s4.commit r
  | again {ev s4 d4 s res} (fuel : Nat) (st st1 : St) (raw : Raw) (st3 : St) (d : Decision) :
      Failed op st st1 raw ev st3 d → d ≠ .noRetry → d ≠ .exhausted → FailRuns fuel st3 d s4 none d4 →
      Runs op fuel (s4.startRetry d4).1 s res → Runs op (fuel + 1) st s res

theorem withRetry_runs (fuel : Nat) (st : St) (op : COp) :
    Runs op fuel st (St.withRetry fuel st op).1 (St.withRetry fuel st op).2.1 := by
  fun_induction St.withRetry fuel st op with
  | case1 fuel st op st1 raw ev happ hc => exact .committed st st1 raw happ hc
  | case2 fuel st op st1 raw ev happ hc hcl => exact .blocked st st1 raw happ hc hcl
  | case3 fuel st op st1 raw ev happ hc hcl => exact .success st st1 raw happ hc hcl
  | case4 fuel st op st1 raw ev happ hc hcl st3 hdec => exact .noRetry st st1 raw st3 ⟨happ, hc, hcl, hdec⟩
  | case5 fuel st op st1 raw ev happ hc hcl st3 hdec => exact .exhausted st st1 raw st3 ⟨happ, hc, hcl, hdec⟩
  | case6 st op st1 raw ev happ hc hcl st3 d hn he hdec => exact .noFuel st st1 raw st3 d ⟨happ, hc, hcl, hdec⟩ hn he
  | case7 st op st1 raw ev happ hc hcl st3 d hn he fuel r hdec n hr =>
    obtain ⟨h1, h2⟩ := nextAttempt_some fuel st3 d r hr
    have hfl := failLoop_runs fuel st3 d
    rw [h1] at hfl
    simp only [show (st3.nextAttempt fuel d).2.1 = some r from hr]
    rw [h2]
    exact .gaveUp fuel st st1 raw st3 d r ⟨happ, hc, hcl, hdec⟩ hn he hfl
  | case8 st op st1 raw ev happ hc hcl st3 d hn he fuel hdec n hnone ih =>
    obtain ⟨h1, h2⟩ := nextAttempt_none fuel st3 d hnone
    have hfl := failLoop_runs fuel st3 d
    rw [h1] at hfl
    simp only [show (st3.nextAttempt fuel d).2.1 = none from hnone]
    refine .again fuel st st1 raw st3 d ⟨happ, hc, hcl, hdec⟩ hn he hfl ?_
    rw [← h2]; exact ih

theorem withRetry_committed (fuel : Nat) (st : St) (op : COp) (hc : st.cs.committed = true) :
    St.withRetry fuel st op = ((st.applyOp op).1, rawToRes (st.applyOp op).2.1, (st.applyOp op).2.2, []) := by
  rw [St.withRetry]; simp only [hc, if_true]

theorem finish_cases (st : St) (code : Nat) :
    (st.cs.finished = true ∧ st.finish code = st) ∨
    (st.cs.finished = false ∧ ∃ thr, st.finish code =
      { (({ st with cs := { st.cs with finished := true } } : St).commit.finishAttempt code) with
        cs := { (({ st with cs := { st.cs with finished := true } } : St).commit.finishAttempt code).cs with
                throttler := thr } }) := by
  simp only [St.finish]
  split_ifs with hf
  · exact Or.inl ⟨hf, rfl⟩
  · exact Or.inr ⟨by simpa using hf, _, rfl⟩
  · exact Or.inr ⟨by simpa using hf, _, rfl⟩

/-- how an application operation ends: `clientStream.finish` on an error or the end of the stream (or not at
    all), then the server reacts -/
inductive Ended (st : St) : St → Prop
  | settle : Ended st st.settle
  | finish (code : Nat) : Ended st (st.finish code).settle

theorem endSend_ended (st : St) (res : Res) : Ended st (st.endSend res) := by
  unfold St.endSend; split <;> constructor

theorem endRecv_ended (st : St) (res : Res) : Ended st (st.endRecv res) := by
  unfold St.endRecv; split <;> constructor

theorem endHeader_ended (st : St) (res : Res) : Ended st (st.endHeader res) := by
  unfold St.endHeader; split <;> constructor

/-- what SendMsg, CloseSend, RecvMsg and Header hand to `withRetry`: the state after the application's own
    bookkeeping (`seq`, `hist`, `sentLast`), and the op -/
inductive Begins : St → St → COp → Prop
  | send (st : St) (size : Nat) : Begins st (st.beginSend size) (.send size)
  | close (st : St) : Begins st st.beginClose .half
  | recv (st : St) : Begins st st .recv
  | header (st : St) : Begins st st .header

/-- How an application operation other than `new` goes: `OpRuns fuel st s res` for `st.step fuel op` ending in state
    `s` with result `res`.  It returns early (SendMsg after the last message, a second CloseSend, cancellation), or
    it is one call of `withRetry` between `Begins` and `Ended`, whose result the operation hands on or replaces by
    one that delivers nothing (CloseSend's nil even when the model's fuel ran out); or, RecvMsg of a
    non-server-streaming RPC after a message, it is two operations in a row. -/
inductive OpRuns (fuel : Nat) : St → St → Res → Prop
  | early {s res} (st : St) (seq : Nat) : Ended { st with seq := seq } s → res ≠ .outOfFuel → res.delivers = false →
      OpRuns fuel st s res
  | call {pre cop s res} (st : St) : Begins st pre cop → Ended (St.withRetry fuel pre cop).1 s →
      (res = (St.withRetry fuel pre cop).2.1 ∨ res ≠ .outOfFuel ∧ res.delivers = false) → OpRuns fuel st s res
  | twice {s1 s r2 res} (st : St) (n : Nat) : OpRuns fuel st s1 (.msg n) → OpRuns fuel s1 s r2 →
      (res = .outOfFuel → r2 = .outOfFuel) → OpRuns fuel st s res

/-- `clientStreamWrapper.SendMsg` only turns io.EOF into nil -/
theorem opSendW_opSend (fuel : Nat) (st : St) (size : Nat) :
    (st.opSendW fuel size).1 = (st.opSend fuel size).1 ∧
    ((st.opSendW fuel size).2.1 = .outOfFuel ↔ (st.opSend fuel size).2.1 = .outOfFuel) := by
  unfold St.opSendW
  split_ifs
  · exact ⟨rfl, Iff.rfl⟩
  · refine ⟨rfl, ?_⟩
    dsimp only
    split
    · next h => simp [h]
    · exact Iff.rfl

theorem opRecvW_cases (fuel : Nat) (st : St) :
    (st.opRecvW fuel).1 = (st.opRecv fuel).1 ∧ (st.opRecvW fuel).2.1 = (st.opRecv fuel).2.1 ∨
    ∃ n, (st.opRecv fuel).2.1 = .msg n ∧ (st.opRecvW fuel).1 = ((st.opRecv fuel).1.opRecv fuel).1 ∧
      ((st.opRecvW fuel).2.1 = .outOfFuel ↔ ((st.opRecv fuel).1.opRecv fuel).2.1 = .outOfFuel) := by
  simp only [St.opRecvW]
  split_ifs
  · exact Or.inl ⟨rfl, rfl⟩
  · cases hr : (st.opRecv fuel).2.1 with
    | msg n =>
      refine Or.inr ⟨n, rfl, rfl, ?_⟩
      dsimp only
      split
      · next h => simp [h]
      · next h => simp [h]
      · exact Iff.rfl
    | _ => exact Or.inl ⟨rfl, hr⟩

theorem opRecv_runs (fuel : Nat) (st : St) : OpRuns fuel st (st.opRecv fuel).1 (st.opRecv fuel).2.1 := by
  simp only [St.opRecv]; exact .call st (.recv st) (endRecv_ended _ _) (Or.inl rfl)

theorem step_runs (fuel : Nat) (st : St) (op : AppOp) (hop : op ≠ .new) :
    OpRuns fuel st (st.step fuel op).1 (st.step fuel op).2.1 := by
  cases op with
  | new => exact absurd rfl hop
  | cancel => exact .early st st.seq (.finish 1) nofun rfl
  | send size =>
    simp only [St.step, St.opSendW, St.opSend]
    split_ifs <;> dsimp only
    · exact .early st (st.seq + 1) (.finish 13) nofun rfl
    · exact .call st (.send st size) (endSend_ended _ _) (Or.inl rfl)
    · exact .early st (st.seq + 1) (.finish 13) nofun rfl
    · refine .call st (.send st size) (endSend_ended _ _) ?_
      split
      · exact Or.inr ⟨nofun, rfl⟩
      · exact Or.inl rfl
  | close =>
    simp only [St.step, St.opClose]
    split_ifs <;> dsimp only
    · exact .early st st.seq .settle nofun rfl
    · exact .call st (.close st) .settle (Or.inr ⟨nofun, rfl⟩)
  | recv =>
    simp only [St.step]
    rcases opRecvW_cases fuel st with ⟨e1, e2⟩ | ⟨n, hn, e1, e2⟩
    · rw [e1, e2]; exact opRecv_runs fuel st
    · rw [e1]; exact .twice st n (hn ▸ opRecv_runs fuel st) (opRecv_runs fuel _) e2.mp
  | header =>
    simp only [St.step, St.opHeader]
    refine .call st (.header st) (endHeader_ended _ _) ?_
    split
    · exact Or.inr ⟨nofun, rfl⟩
    · exact Or.inr ⟨nofun, rfl⟩
    · exact Or.inl rfl

end GrpcProofs.Lemmas.RetryLoop
