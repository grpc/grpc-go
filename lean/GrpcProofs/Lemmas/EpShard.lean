/-
For C35 (endpointsharding). What an op hands to the channel is `pushOf` of some children (`StepOk`), and `pushOf` is the
statement's `prec` and `expectedPickers` (`build_eq`). Fairness: while the index does not wrap, k picks walk k consecutive
integers modulo the length of the picker list (`pickSeq_nowrap`), and a child stands at exactly one position
(`child_count_one`), so its picks are the hits of one residue class: `EpShardCount.window_fair`.
-/
import GrpcModel.Model.EpShard
import GrpcProofs.Lemmas.EpShardCount
import GrpcProofs.Lemmas.Basic
namespace GrpcProofs.Lemmas.EpShard
open GrpcModel.EpShard GrpcModel.LbConnState GrpcProofs.Lemmas.EpShardCount

theorem pickersIn_pos (cs : List Child) (s : ConnState) :
    (pickersIn cs s).length ≥ 1 ↔ s ∈ cs.map (·.state) := by
  simp [pickersIn, Nat.succ_le_iff, List.length_pos_iff_exists_mem, eq_comm]

theorem filter_cstate (cs : List Child) (s : ConnState) :
    ((cs.map Child.cstate).filter (·.state = s)).map CState.del = pickersIn cs s := by
  simp only [pickersIn, List.filter_map, List.map_map]
  rfl

theorem expectedPickers_cstate (cs : List Child) (s : ConnState) :
    expectedPickers (cs.map Child.cstate) s = if s ∈ cs.map (·.state) then pickersIn cs s else [.err] := by
  simp only [expectedPickers, filter_cstate, ← pickersIn_pos, List.isEmpty_iff_length_eq_zero, ge_iff_le,
    Nat.one_le_iff_ne_zero, ite_not]

theorem build_eq (cs : List Child) :
    build cs = (prec (cs.map (·.state)), expectedPickers (cs.map Child.cstate) (prec (cs.map (·.state)))) := by
  simp only [build, prec, pickersIn_pos, expectedPickers_cstate]
  by_cases h1 : ConnState.ready ∈ cs.map (·.state)
  · simp only [h1, if_true]
  by_cases h2 : ConnState.connecting ∈ cs.map (·.state)
  · simp only [h1, h2, if_true, if_false]
  by_cases h3 : ConnState.idle ∈ cs.map (·.state)
  · simp only [h1, h2, h3, if_true, if_false]
  simp only [h1, h2, h3, if_false]
  split <;> rfl

theorem adopt_perm (o c : List Del) : (adopt o c).Perm c := by
  unfold adopt
  split
  · next h => exact List.isPerm_iff.mp h
  · exact List.Perm.refl _

theorem pickersOk_perm (p : Pushed) (h : pickersOk p = true) :
    p.pickers.Perm (expectedPickers p.childStates p.agg) := by
  simp only [pickersOk, Bool.and_eq_true] at h
  exact List.isPerm_iff.mp h.2

theorem expectedPickers_ne_nil (cs : List CState) (s : ConnState) : expectedPickers cs s ≠ [] := by
  simp only [expectedPickers]
  split
  · simp
  · next h => intro h0; rw [h0] at h; simp at h

theorem pickersOk_len_pos (p : Pushed) (h : pickersOk p = true) : 0 < p.pickers.length := by
  rw [(pickersOk_perm p h).length_eq]
  exact List.length_pos_iff.mpr (expectedPickers_ne_nil _ _)

theorem cstate_state (cs : List Child) : (cs.map Child.cstate).map (·.state) = cs.map (·.state) := by
  simp [List.map_map, Child.cstate, Function.comp_def]

theorem pickersOk_pushOf (cs : List Child) (r : Nat) (o : List Del) : pickersOk (pushOf cs r o) = true := by
  simp only [pickersOk, pushOf, build_eq, cstate_state, beq_self_eq_true, Bool.true_and, List.isPerm_iff]
  exact adopt_perm _ _

theorem pushOk_pushOf (cs : List Child) (r : Nat) (o : List Del) : pushOk (pushOf cs r o) = true := by
  simp only [pushOk, Bool.and_eq_true, pickersOk_pushOf, true_and, decide_eq_true_eq]
  have hp := pickersOk_len_pos _ (pickersOk_pushOf cs r o)
  simp only [pushOf] at hp ⊢
  simp only [BitVec.toNat_ofNat]
  exact Nat.lt_of_le_of_lt (Nat.mod_le _ _) (Nat.mod_lt _ hp)

theorem pickSeq_length (ps : List Del) (next : BitVec 32) (k : Nat) : (pickSeq ps next k).2.length = k := by
  induction k generalizing next with
  | zero => rfl
  | succ k ih => simp only [pickSeq, List.length_cons, ih]

theorem pickSeq_mem (ps : List Del) (hne : 0 < ps.length) (next : BitVec 32) (k : Nat) (d : Del)
    (h : d ∈ (pickSeq ps next k).2) : d ∈ ps := by
  induction k generalizing next with
  | zero => simp [pickSeq] at h
  | succ k ih =>
    simp only [pickSeq, List.mem_cons] at h
    rcases h with h | h
    · have hi : (next + 1).toNat % ps.length < ps.length := Nat.mod_lt _ hne
      rw [h, ← List.getElem_eq_getD (h := hi)]
      exact List.getElem_mem hi
    · exact ih _ h

theorem mem_expected_ok (p : Pushed) (d : Del) (h : d ∈ expectedPickers p.childStates p.agg) :
    delegateOk p d = true := by
  simp only [expectedPickers] at h
  split at h
  · next he =>
    have hd : d = .err := by simpa using h
    subst hd
    simp only [delegateOk, Bool.not_eq_true', List.any_eq_false, decide_eq_true_eq]
    intro c hc hs
    have : c ∈ p.childStates.filter (·.state = p.agg) := List.mem_filter.mpr ⟨hc, by simpa using hs⟩
    have he' : (p.childStates.filter (·.state = p.agg)) = [] := by simpa using he
    rw [he'] at this; simp at this
  · obtain ⟨c, hc, rfl⟩ := List.mem_map.mp h
    rw [List.mem_filter] at hc
    have hs : c.state = p.agg := by simpa using hc.2
    simp only [CState.del]
    split
    · next hp =>
      simp only [delegateOk, List.any_eq_true, decide_eq_true_eq]
      exact ⟨c, hc.1, rfl, rfl, hs, hp⟩
    · next hp =>
      simp only [delegateOk, List.any_eq_true, decide_eq_true_eq, Bool.not_eq_true']
      exact ⟨c, hc.1, hs, by simpa using hp⟩

theorem picks_delegate_ok (p : Pushed) (h : pickersOk p = true) (next : BitVec 32) (k : Nat) (d : Del)
    (hd : d ∈ (pickSeq p.pickers next k).2) : delegateOk p d = true :=
  mem_expected_ok p d ((pickersOk_perm p h).mem_iff.mp (pickSeq_mem _ (pickersOk_len_pos p h) next k d hd))

theorem pickSeq_nowrap (ps : List Del) (k : Nat) (next : BitVec 32) (h : next.toNat + k < 4294967296) :
    (pickSeq ps next k).2 = (List.range k).map (fun j => ps.getD ((next.toNat + 1 + j) % ps.length) .err) := by
  induction k generalizing next with
  | zero => rfl
  | succ k ih =>
    have h1 : (next + 1).toNat = next.toNat + 1 := by
      rw [BitVec.toNat_add]
      show (next.toNat + 1) % 2 ^ 32 = _
      simp only [Nat.reducePow]
      exact Nat.mod_eq_of_lt (by omega)
    have := ih (next + 1) (by rw [h1]; omega)
    simp only [pickSeq, this, List.range_succ_eq_map, List.map_cons, List.map_map, h1, Nat.add_zero]
    congr 1
    apply List.map_congr_left
    intro j _
    simp only [Function.comp, Nat.succ_eq_add_one]
    congr 2
    omega

theorem count_child_le (l : List CState) (id ep : Nat) :
    (l.map CState.del).count (.child id ep) ≤ (l.map (·.ep)).count ep := by
  induction l with
  | nil => simp
  | cons c t ih =>
    simp only [List.map_cons, List.count_cons, beq_iff_eq]
    by_cases h : c.del = .child id ep
    · have : c.ep = ep := by
        simp only [CState.del] at h
        split at h
        · injection h with _ h2
        · cases h
      simp only [h, this, if_true]; omega
    · simp only [h, if_false]; split <;> omega

/-- a pushed state holds the children in its aggregate state, each endpoint once (the position `next` is not read) -/
def PushedOk (p : Pushed) : Prop := pickersOk p = true ∧ (p.childStates.map (·.ep)).Nodup

theorem PushedOk.pickers {p : Pushed} (h : PushedOk p) : pickersOk p = true := h.1
theorem PushedOk.nodup {p : Pushed} (h : PushedOk p) : (p.childStates.map (·.ep)).Nodup := h.2

theorem child_count_one (p : Pushed) (h : PushedOk p) (id ep : Nat) (hm : Del.child id ep ∈ p.pickers) :
    p.pickers.count (.child id ep) = 1 := by
  have hperm := pickersOk_perm p h.pickers
  rw [hperm.count_eq]
  have hm' := hperm.mem_iff.mp hm
  have hpos : 0 < (expectedPickers p.childStates p.agg).count (.child id ep) := List.count_pos_iff.mpr hm'
  suffices (expectedPickers p.childStates p.agg).count (.child id ep) ≤ 1 by omega
  simp only [expectedPickers] at hm' ⊢
  split
  · simp
  · refine Nat.le_trans (count_child_le _ id ep) ?_
    have hsub : ((p.childStates.filter (·.state = p.agg)).map (·.ep)).Sublist (p.childStates.map (·.ep)) :=
      (List.filter_sublist).map _
    exact List.nodup_iff_count.mp (h.nodup.sublist hsub) ep

theorem idx_unique {α : Type} [BEq α] [LawfulBEq α] (ps : List α) (d : α) (h : ps.count d = 1) (i j : Nat)
    (hi : i < ps.length) (hj : j < ps.length) (ei : ps[i] = d) (ej : ps[j] = d) : i = j := by
  -- two positions i < j would count d once before j and once from j on
  suffices ∀ i j (hi : i < ps.length) (hj : j < ps.length), i < j → ps[i] = d → ps[j] = d → False by
    rcases Nat.lt_trichotomy i j with h' | h' | h'
    · exact (this i j hi hj h' ei ej).elim
    · exact h'
    · exact (this j i hj hi h' ej ei).elim
  intro i j hi hj hlt ei ej
  have h1 : 0 < (ps.take j).count d :=
    List.count_pos_iff.mpr (List.mem_take_iff_getElem.mpr ⟨i, by omega, ei⟩)
  have h2 : 0 < (ps.drop j).count d :=
    List.count_pos_iff.mpr (List.mem_drop_iff_getElem.mpr ⟨0, by omega, by simpa using ej⟩)
  rw [← List.take_append_drop j ps, List.count_append] at h
  omega

/-- `d` stands at one index `i` of `ps`, so (no wrap) its picks are the hits of the residue class `i` among `k`
    consecutive integers -/
theorem fair_of_count_one (ps : List Del) (d : Del) (h1 : ps.count d = 1) (next : BitVec 32) (k : Nat)
    (hw : next.toNat + k < 4294967296) :
    (pickSeq ps next k).2.count d = k / ps.length ∨
      ((pickSeq ps next k).2.count d = k / ps.length + 1 ∧ k % ps.length ≠ 0) := by
  have hm : d ∈ ps := List.count_pos_iff.mp (by omega)
  obtain ⟨i, hi, ei⟩ := List.mem_iff_getElem.mp hm
  have hn : 0 < ps.length := by omega
  have hc : (pickSeq ps next k).2.count d = window ps.length (next.toNat + 1) k i := by
    rw [pickSeq_nowrap ps k next hw, List.count_eq_countP, List.countP_map]
    unfold window
    apply List.countP_congr
    intro j _
    have hlt : (next.toNat + 1 + j) % ps.length < ps.length := Nat.mod_lt _ hn
    simp only [Function.comp, beq_iff_eq, decide_eq_true_eq, ← List.getElem_eq_getD (h := hlt)]
    constructor
    · intro e; exact idx_unique ps d h1 _ _ hlt hi e ei
    · intro e; subst e; exact ei
  rw [hc]
  exact window_fair ps.length (next.toNat + 1) k i hi

/-- Endpoints are distinct; the picker in use and the superseded ones are as they were pushed (`PushedOk`); and unless
    child updates are inhibited, what was pushed last is the aggregate of the children as they are now. -/
structure Inv (s : St) : Prop where
  eps : (s.endpoints.map (·.ep)).Nodup
  last : ∀ p, s.last = some p → PushedOk p
  olds : ∀ pw ∈ s.olds, PushedOk pw.1
  cur : s.inhibit = false → ∀ p, s.last = some p →
      p.agg = prec (s.endpoints.map (·.state)) ∧ p.childStates = s.endpoints.map Child.cstate

theorem cstate_eps (cs : List Child) : (cs.map Child.cstate).map (·.ep) = cs.map (·.ep) := by
  simp [List.map_map, Child.cstate, Function.comp_def]

theorem updateOne_newEps (old : List Child) (da : Bool) (a : UAcc) (e : Entry) :
    (updateOne old da a e).newEps = a.newEps ∨
    (a.newEps.any (·.ep = e.ep) = false ∧ ∃ c : Child, c.ep = e.ep ∧ (updateOne old da a e).newEps = a.newEps ++ [c]) := by
  unfold updateOne
  split
  · left; rfl
  · next hany =>
    right
    refine ⟨by simpa using hany, ?_⟩
    cases hf : old.find? (·.ep = e.ep) with
    | none =>
      cases hr : e.report with
      | none => exact ⟨_, rfl, rfl⟩
      | some st => exact ⟨_, rfl, rfl⟩
    | some c =>
      have hc : c.ep = e.ep := by simpa using List.find?_some hf
      cases hr : e.report with
      | none => exact ⟨c, hc, rfl⟩
      | some st => exact ⟨{ c with state := st, hasPicker := true }, hc, rfl⟩

theorem updateOne_nodup (old : List Child) (da : Bool) (a : UAcc) (e : Entry)
    (h : (a.newEps.map (·.ep)).Nodup) : ((updateOne old da a e).newEps.map (·.ep)).Nodup := by
  rcases updateOne_newEps old da a e with h1 | ⟨hany, c, hc, h1⟩
  · rw [h1]; exact h
  · rw [h1]
    refine Basic.nodup_map_snoc h fun c' hc' heq => ?_
    have := List.any_eq_false.mp hany c' hc'
    simp [heq, hc] at this

theorem setChild_eps (cs : List Child) (id : Nat) (st : ConnState) (pk : Bool) :
    (setChild cs id st pk).map (·.ep) = cs.map (·.ep) := by
  simp only [setChild, List.map_map]
  apply List.map_congr_left
  intro c _
  simp only [Function.comp]
  split <;> rfl

theorem closeAll_eps (cs : List Child) : (closeAll cs).1.map (·.ep) = cs.map (·.ep) := by
  simp [closeAll, List.map_map, Function.comp_def]

theorem inv_retire (s : St) (h : Inv s) : ∀ pw ∈ retire s, PushedOk pw.1 := by
  intro pw hm
  unfold retire at hm
  cases hl : s.last with
  | none => rw [hl] at hm; exact h.olds pw hm
  | some p =>
    rw [hl] at hm
    rcases List.mem_cons.mp hm with rfl | hm
    · exact h.last p hl
    · exact h.olds pw hm

/-- What one op does, as far as the proofs read it: it keeps `Inv`, and what it hands to the channel is `pushOf` of some
    children (whatever the state before). -/
structure StepOk (s : St) (o : List Del) (r : St × Out) : Prop where
  inv : Inv s → Inv r.1
  push : ∀ p, r.2.push = some p → ∃ cs n, p = pushOf cs n o

/-- an op that ends in `updateStateLocked` over the children `cs` -/
theorem stepOk_push {s : St} {r : St × Out} {cs : List Child} {n : Nat} {o : List Del} (he : r.1.endpoints = cs)
    (hl : r.1.last = some (pushOf cs n o)) (ho : r.1.olds = retire s) (hp : r.2.push = some (pushOf cs n o))
    (hn : Inv s → (cs.map (·.ep)).Nodup) : StepOk s o r := by
  refine ⟨fun h => { eps := he ▸ hn h, last := fun p hq => ?_, olds := ho ▸ inv_retire s h, cur := fun _ p hq => ?_ },
    fun _ h => ⟨cs, n, Option.some.inj (h.symm.trans hp)⟩⟩ <;> cases hl.symm.trans hq
  · exact ⟨pickersOk_pushOf cs n o, (cstate_eps cs).symm ▸ hn h⟩
  · rw [he]; exact ⟨congrArg Prod.fst (build_eq cs), rfl⟩

theorem stepOk_quiet {s : St} {o : List Del} {r : St × Out} (hp : r.2.push = none) (hi : Inv s → Inv r.1) : StepOk s o r :=
  ⟨hi, fun _ h => nomatch hp.symm.trans h⟩

theorem inv_init (b : Bool) : Inv (init b) :=
  { eps := List.nodup_nil, last := fun _ h => (nomatch h), olds := fun _ h => (nomatch h),
    cur := fun _ _ h => (nomatch h) }

theorem stepOk_doPick (s : St) (o : List Del) (start : Option Nat) (k : Nat) : StepOk s o (doPick s start k) := by
  unfold doPick
  cases hl : s.last with
  | none => exact stepOk_quiet rfl id
  | some p =>
    -- the picker in use changes its position only
    refine stepOk_quiet rfl fun h => { h with last := fun q hq => ?_, cur := fun hi q hq => ?_ } <;> cases hq
    · exact h.last p hl
    · exact h.cur hi p hl

theorem step_ok (s : St) (op : Op) (o : List Del) : StepOk s o (step s op o) := by
  cases op with
  | update r es =>
    exact stepOk_push rfl rfl rfl rfl fun _ => Basic.foldl_inv (P := fun a : UAcc => (a.newEps.map (·.ep)).Nodup)
      (updateOne_nodup s.endpoints s.disableAuto) (rotate es r) (by simp)
  | cs id st pk r =>
    simp only [step]
    have hn (h : Inv s) : ((setChild s.endpoints id st pk).map (·.ep)).Nodup := by rw [setChild_eps]; exact h.eps
    split
    · next hi => exact stepOk_quiet rfl fun h => { h with eps := hn h, cur := fun hi' => by simp [hi] at hi' }
    · exact stepOk_push rfl rfl rfl rfl hn
  | reserr r => exact stepOk_push rfl rfl rfl rfl Inv.eps
  | exitidle r => exact stepOk_push rfl rfl rfl rfl Inv.eps
  | close => exact stepOk_quiet rfl fun h => { h with eps := (closeAll_eps _).symm ▸ h.eps, cur := nofun }
  | pick k => exact stepOk_doPick s o none k
  | wrappick st k => exact stepOk_doPick s o (some st) k
  | pickold g k =>
    simp only [step, doPickOld]
    cases hg : s.olds[g]? with
    | none => exact stepOk_quiet rfl id
    | some pw =>
      refine stepOk_quiet rfl fun h => { h with olds := fun q hq => ?_ }
      rcases List.mem_or_eq_of_mem_set hq with hq | rfl
      · exact h.olds q hq
      · exact h.olds pw (List.mem_of_getElem? hg)

theorem inv_run (b : Bool) (ops : List (Op × List Del)) : Inv (run (init b) ops) := by
  suffices ∀ s, Inv s → Inv (run s ops) from this _ (inv_init b)
  induction ops with
  | nil => exact fun s h => h
  | cons x t ih => exact fun s h => ih _ ((step_ok s x.1 x.2).inv h)

theorem windowFair_of_pushedOk (p : Pushed) (h : PushedOk p)
    (next : BitVec 32) (k : Nat) (hw : next.toNat + k < 4294967296) :
    windowFair p (pickSeq p.pickers next k).2 = true := by
  simp only [windowFair, List.all_eq_true]
  intro d hd
  cases d with
  | child id ep =>
    simp only [pickSeq_length, fair, Bool.or_eq_true, Bool.and_eq_true, beq_iff_eq, bne_iff_ne]
    exact fair_of_count_one p.pickers _ (child_count_one p h id ep hd) next k hw
  | nilp => rfl
  | err => rfl

end GrpcProofs.Lemmas.EpShard
