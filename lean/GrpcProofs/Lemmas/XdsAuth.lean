import GrpcProofs.Lemmas.XdsAuth.Cbs
import GrpcProofs.Lemmas.XdsAuth.Ghost
import GrpcProofs.Lemmas.XdsAuth.Ledger
/-! The lemma modules for C43 / C44 (model: GrpcModel/Model/XdsAuth.lean, layer A), and the one fact about layer B (the
channels) that C43 uses. -/
namespace GrpcProofs.Lemmas.XdsAuth
open GrpcModel.XdsAuth GrpcModel.XdsAuth.Spec

theorem startTimers_keys (now : Nat) (typ : String) (subs : List (Key × WS)) :
    (startTimers now typ subs).map (·.1) = subs.map (·.1) :=
  Basic.keys_map fun p => by split <;> rfl

end GrpcProofs.Lemmas.XdsAuth
