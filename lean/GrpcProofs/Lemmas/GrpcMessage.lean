/-
The grpc-message codec of lean/GrpcModel/Model/GrpcMessage.lean: `decLoop` undoes `encLoop` up to Go's
`string([]rune(msg))`, the fast paths agree with the slow ones, the output is printable, and the
index-for-index decoder stays in bounds.
-/
import GrpcModel.Model.GrpcMessage
import GrpcProofs.Lemmas.Utf8
namespace GrpcProofs.Lemmas.GrpcMessage
open GrpcModel.GrpcMessage GrpcModel.Utf8 GrpcModel.Generated GrpcProofs.Lemmas.Utf8

theorem hexVal_hexUpper (n : Nat) (h : n < 16) : hexVal (hexUpper n) = some n := by
  have h' : ∀ n : Fin 16, hexVal (hexUpper n.val) = some n.val := by decide
  exact h' ⟨n, h⟩

theorem hexVal_lt {c : UInt8} {x : Nat} (h : hexVal c = some x) : x < 16 := by
  unfold hexVal at h
  split at h
  · cases h; omega
  split at h
  · cases h; omega
  split at h
  · cases h; omega
  · cases h

theorem parseUint16_8_pair (h l : UInt8) : parseUint16_8 [h, l] =
    match hexVal h, hexVal l with
    | some x, some y => some (x * 16 + y)
    | _, _ => none := by
  simp only [parseUint16_8, List.isEmpty_cons, List.foldl_cons, List.foldl_nil, Bool.false_eq_true, if_false]
  cases hx : hexVal h with
  | none => cases hexVal l <;> rfl
  | some x =>
    cases hy : hexVal l with
    | none => rfl
    | some y =>
      have := hexVal_lt hx; have := hexVal_lt hy
      simp only [Nat.zero_mul, Nat.zero_add]
      rw [if_pos (by omega)]

theorem parse_pct (b : UInt8) :
    parseUint16_8 [hexUpper (b.toNat / 16), hexUpper (b.toNat % 16)] = some b.toNat := by
  have hb := b.toNat_lt
  rw [parseUint16_8_pair, hexVal_hexUpper _ (show b.toNat / 16 < 16 by omega), hexVal_hexUpper _ (show b.toNat % 16 < 16 by omega)]
  exact congrArg some (by omega)

theorem pct_head (b : UInt8) : pct b = [37, hexUpper (b.toNat / 16), hexUpper (b.toNat % 16)] := rfl

theorem decLoop_pct (b : UInt8) (X : List UInt8) : decLoop (pct b ++ X) = b :: decLoop X := by
  simp only [pct_head, List.cons_append, List.nil_append, decLoop]
  rw [parse_pct]
  simp [percentByte, byte_toNat]

theorem decLoop_cons_of_ne_pct (c : UInt8) (X : List UInt8) (h : c.toNat ≠ percentByte) :
    decLoop (c :: X) = c :: decLoop X := by
  match X with
  | [] => simp [decLoop]
  | [d] => simp [decLoop]
  | d :: e :: r => simp [decLoop, h]

theorem isPlain_iff (b : UInt8) : isPlain b = true ↔ 32 ≤ b.toNat ∧ b.toNat ≤ 126 ∧ b.toNat ≠ 37 := by
  simp only [isPlain, Bool.and_eq_true, decide_eq_true_eq, bne_iff_ne, and_assoc]; rfl

theorem encByte_cases (size : Nat) (b : UInt8) :
    encByte size b = [b] ∧ isPlain b = true ∨ encByte size b = pct b := by
  unfold encByte
  split
  · exact Or.inr rfl
  · split
    · rename_i h; exact Or.inl ⟨rfl, h⟩
    · exact Or.inr rfl

theorem decLoop_encByte (size : Nat) (b : UInt8) (X : List UInt8) :
    decLoop (encByte size b ++ X) = b :: decLoop X := by
  rcases encByte_cases size b with ⟨e, h⟩ | e <;> rw [e]
  · exact decLoop_cons_of_ne_pct b X ((isPlain_iff b).1 h).2.2
  · exact decLoop_pct b X

theorem decLoop_flatMap (size : Nat) (l X : List UInt8) :
    decLoop (l.flatMap (encByte size) ++ X) = l ++ decLoop X := by
  induction l with
  | nil => rfl
  | cons b l ih => simp only [List.flatMap_cons, List.append_assoc, decLoop_encByte, ih, List.cons_append]

theorem decLoop_encLoop (fuel : Nat) (msg : List UInt8) :
    decLoop (encLoop fuel msg) = sanitizeAux fuel msg := by
  fun_induction encLoop fuel msg with
  | case1 => rfl
  | case2 fuel msg he => simp [sanitizeAux, he, decLoop]
  | case3 fuel msg he p ih =>  -- one rune `p` is encoded; `sanitizeAux` tests whether it is the error rune
    rw [encRune, decLoop_flatMap, ih, sanitizeAux, if_neg he]
    by_cases hv : isInvalid (decodeRune msg) = true
    · have := encode_invalid msg hv
      simp only [p, hv, if_true, this.1, this.2]
    · have hv' : isInvalid (decodeRune msg) = false := by simpa using hv
      simp only [p, hv', Bool.false_eq_true, if_false, encode_decode msg (by simpa using he) hv']

theorem encLoop_plain (fuel : Nat) (msg : List UInt8) (hf : msg.length ≤ fuel) (hp : msg.all isPlain = true) :
    encLoop fuel msg = msg := by
  induction fuel generalizing msg with
  | zero => simp at hf; subst hf; rfl
  | succ fuel ih =>
    match msg with
    | [] => rfl
    | b :: t =>
      simp only [List.all_cons, Bool.and_eq_true] at hp
      have ha : b.toNat < 0x80 := by have := (isPlain_iff b).1 hp.1; omega
      simp only [encLoop, List.isEmpty_cons, Bool.false_eq_true, if_false, decodeRune_ascii b t ha, List.drop_succ_cons,
        List.drop_zero]
      rw [ih t (by simpa using hf) hp.2, encRune, encodeRune_1 _ (by omega), byte_toNat]
      simp [encByte, hp.1]

theorem encode_eq_unchecked (msg : List UInt8) : encode msg = encodeUnchecked msg := by
  unfold encode encodeUnchecked
  by_cases he : msg.isEmpty
  · have : msg = [] := by simpa using he
    subst this; rfl
  · simp only [he, Bool.false_eq_true, if_false]
    split
    · rename_i hp; exact (encLoop_plain _ msg (Nat.le_refl _) hp).symm
    · rfl

theorem decLoop_noEscape (msg : List UInt8) (h : hasEscape msg = false) : decLoop msg = msg := by
  match msg with
  | [] => rfl
  | [c] => rfl
  | [c, d] => rfl
  | c :: h1 :: h2 :: rest =>
    simp only [hasEscape, Bool.or_eq_false_iff, beq_eq_false_iff_ne] at h
    simp only [decLoop, h.1, if_false]
    rw [decLoop_noEscape (h1 :: h2 :: rest) h.2]

theorem decode_eq_decLoop (msg : List UInt8) : decode msg = decLoop msg := by
  unfold decode
  by_cases he : msg.isEmpty
  · have : msg = [] := by simpa using he
    subst this; rfl
  · simp only [he, Bool.false_eq_true, if_false]
    split
    · rfl
    · rename_i h; exact (decLoop_noEscape msg (by simpa using h)).symm

theorem decode_encode (msg : List UInt8) : decode (encode msg) = sanitize msg := by
  rw [decode_eq_decLoop, encode_eq_unchecked]; exact decLoop_encLoop msg.length msg

theorem hexUpper_printable (n : Nat) (h : n < 16) : printable (hexUpper n) = true := by
  have h' : ∀ n : Fin 16, printable (hexUpper n.val) = true := by decide
  exact h' ⟨n, h⟩

theorem pct_printable (b : UInt8) : (pct b).all printable = true := by
  have hb := b.toNat_lt
  simp only [pct, List.all_cons, List.all_nil, Bool.and_true, Bool.and_eq_true]
  exact ⟨by decide, hexUpper_printable _ (by omega), hexUpper_printable _ (by omega)⟩

theorem encByte_printable (size : Nat) (b : UInt8) : (encByte size b).all printable = true := by
  rcases encByte_cases size b with ⟨e, h⟩ | e <;> rw [e]
  · have := (isPlain_iff b).1 h
    simp only [List.all_cons, List.all_nil, Bool.and_true, printable, Bool.and_eq_true, decide_eq_true_eq]
    omega
  · exact pct_printable b

theorem encRune_printable (r size : Nat) : (encRune r size).all printable = true := by
  unfold encRune
  simp only [List.all_flatMap]
  simp [encByte_printable]

theorem encLoop_printable (fuel : Nat) (msg : List UInt8) : (encLoop fuel msg).all printable = true := by
  fun_induction encLoop fuel msg with
  | case1 => rfl
  | case2 => rfl
  | case3 fuel msg he p ih => simp only [List.all_append, Bool.and_eq_true]; exact ⟨encRune_printable _ _, ih⟩

/-- The index loop's invariant: with `pre` read and `suf` to go it is at `i = pre.length`. -/
theorem decIdx_append (fuel : Nat) (pre suf sb : List UInt8) (hf : suf.length ≤ fuel) :
    decIdx (pre ++ suf) fuel pre.length sb = some (sb ++ decLoop suf) := by
  induction fuel generalizing pre suf sb with
  | zero =>
    have : suf = [] := List.eq_nil_of_length_eq_zero (by omega)
    subst this; simp [decIdx, decLoop]
  | succ fuel ih =>
    match suf with
    | [] => simp [decIdx, decLoop]
    | c :: rest =>
      have next : decIdx (pre ++ c :: rest) fuel (pre.length + 1) (sb ++ [c]) = some (sb ++ c :: decLoop rest) := by
        simpa using ih (pre ++ [c]) rest (sb ++ [c]) (by simpa using hf)
      have hc : (pre ++ c :: rest)[pre.length]? = some c := by simp
      unfold decIdx
      simp only [List.length_append, List.length_cons, hc]
      match rest with
      | [] => simp [next, decLoop]
      | [d] => simp [next, decLoop]
      | h1 :: h2 :: r =>
        have hs : slice? (pre ++ c :: h1 :: h2 :: r) (pre.length + 1) (pre.length + 3) = some [h1, h2] := by
          have := List.drop_left (l₁ := pre ++ [c]) (l₂ := h1 :: h2 :: r)
          simp [slice?] at this ⊢
        have jump (v : Nat) : decIdx (pre ++ c :: h1 :: h2 :: r) fuel (pre.length + 3) (sb ++ [byte v]) =
            some (sb ++ byte v :: decLoop r) := by
          simpa using ih (pre ++ [c, h1, h2]) r (sb ++ [byte v]) (by simp at hf; omega)
        by_cases hp : c.toNat = percentByte
        · cases hv : parseUint16_8 [h1, h2] <;> simp [hs, next, jump, decLoop, hp, hv]
        · simp [next, decLoop, hp]

theorem decodeUncheckedP_eq (msg : List UInt8) : decodeUncheckedP msg = some (decLoop msg) := by
  simpa [decodeUncheckedP] using decIdx_append (msg.length + 1) [] msg [] (Nat.le_succ _)

theorem decodeP_eq (msg : List UInt8) : decodeP msg = some (decode msg) := by
  unfold decodeP decode
  split
  · rfl
  · split
    · exact decodeUncheckedP_eq msg
    · rfl

end GrpcProofs.Lemmas.GrpcMessage
