import GrpcModel.Model.Idle
/-! The invariant of the idle manager. `Inv` reads only a small
part of a state (`View`); a rule of `apply` either leaves that part alone or is one of thirteen protocol moves on it
(`Move`, `apply_move`), and every move keeps the invariant (`InvV.move`). -/
namespace GrpcProofs.Lemmas.Idle
open GrpcModel.Idle

theorem M_pos : 0 < M := by decide

def inTry (s : St) : Prop :=
  s.t1 > 0 ∨ s.holder = .t2 ∨ s.holder = .t2u ∨ s.holder = .t3 ∨ s.holder = .t3cb ∨ s.holder = .t3u

def tryCount (s : St) : Nat :=
  s.t1 + (if s.holder = .t2 ∨ s.holder = .t2u ∨ s.holder = .t3 ∨ s.holder = .t3cb ∨ s.holder = .t3u then 1 else 0)

def exiting (s : St) : Bool := s.holder = .xrcb || s.holder = .xr2 || s.holder = .xccb || s.holder = .xc2

def entering (s : St) : Bool := s.holder = .t3cb

/-- `ledger`, `bound`: activeCallsCount is the number of goroutines that have added and not yet subtracted, minus
    MaxInt32 exactly while the offset is applied (`off`); fewer than MaxInt32 of them.
    `idleOff`, `offTry`, `tryOff`, `tryOne`: who owns the offset. It is applied iff the channel is idle or ONE timer
    callback is between its successful CAS and its undo / its `actuallyIdle = true` (`tryCount`: waiting at t1 or
    holding idleMu at t2…t3u); never both, never two.
    `exitIdle`, `alt`: `exiting` = inside cc.ExitIdleMode() or just back from it (offset not yet removed), `entering` =
    inside cc.EnterIdleMode(); exits and enters differ by 0 or 1, and which of the two is read off the state.
    `zOpen`, `safe`, `late`: while open, no RPC is past its Add's slow path (at a final store or in flight) while the
    channel is idle (`safe`) or a timer callback is already past its re-check of the counter (`late`). -/
structure Inv (s : St) : Prop where
  ledger  : s.cnt = s.counted - (if s.off then M else 0)
  bound   : s.counted < M
  idleOff : s.idle = true → s.off = true
  offTry  : s.off = true → s.idle = false → tryCount s = 1
  tryOff  : tryCount s ≥ 1 → s.off = true ∧ s.idle = false
  tryOne  : tryCount s ≤ 1
  exitIdle : exiting s = true → s.idle = true
  zOpen   : s.closed = false → s.z = 0
  safe    : s.closed = false → s.idle = true → s.b2f = 0 ∧ s.b2s = 0 ∧ s.inCall = 0 ∧ s.holder ≠ .xr3
  late    : s.closed = false → (s.holder = .t3 ∨ s.holder = .t3cb) → s.b2f = 0 ∧ s.b2s = 0 ∧ s.inCall = 0
  alt     : s.exits = s.enters + (if (s.idle = true ∧ exiting s = false) ∨ entering s = true then 0 else 1)

theorem inv_init : Inv init := by
  have hM := M_pos
  constructor <;> simp [init, St.counted, tryCount, exiting, entering] <;> omega

/-- All that `Inv` reads of a state. `started`: RPCs at their final store or in flight; `xr3`, `late`: the lock holder
    is at xr3, resp. past the timer callback's re-check of the counter (t3, t3cb). -/
structure View where
  cnt : Int
  counted : Int
  off : Bool
  idle : Bool
  closed : Bool
  tryCount : Nat
  exiting : Bool
  entering : Bool
  xr3 : Bool
  late : Bool
  z : Nat
  started : Nat
  exits : Nat
  enters : Nat

def view (s : St) : View where
  cnt := s.cnt
  counted := s.counted
  off := s.off
  idle := s.idle
  closed := s.closed
  tryCount := tryCount s
  exiting := exiting s
  entering := entering s
  xr3 := decide (s.holder = .xr3)
  late := decide (s.holder = .t3 ∨ s.holder = .t3cb)
  z := s.z
  started := s.b2f + s.b2s + s.inCall
  exits := s.exits
  enters := s.enters

/-- `Inv`, read on the view. -/
structure InvV (v : View) : Prop where
  ledger  : v.cnt = v.counted - (if v.off then M else 0)
  bound   : v.counted < M
  idleOff : v.idle = true → v.off = true
  offTry  : v.off = true → v.idle = false → v.tryCount = 1
  tryOff  : v.tryCount ≥ 1 → v.off = true ∧ v.idle = false
  tryOne  : v.tryCount ≤ 1
  exitIdle : v.exiting = true → v.idle = true
  zOpen   : v.closed = false → v.z = 0
  safe    : v.closed = false → v.idle = true → v.started = 0 ∧ v.xr3 = false
  late    : v.closed = false → v.late = true → v.started = 0
  alt     : v.exits = v.enters + (if (v.idle = true ∧ v.exiting = false) ∨ v.entering = true then 0 else 1)

theorem inv_view {s : St} : Inv s ↔ InvV (view s) := by
  constructor
  · intro h
    refine ⟨h.ledger, h.bound, h.idleOff, h.offTry, h.tryOff, h.tryOne, h.exitIdle, h.zOpen, fun hc hi => ?_,
      fun hc hl => ?_, h.alt⟩
    · have ⟨a, b, c, d⟩ := h.safe hc hi
      exact ⟨show _ + _ + _ = 0 by omega, decide_eq_false d⟩
    · have := h.late hc (of_decide_eq_true hl)
      show _ + _ + _ = 0
      omega
  · intro h
    refine ⟨h.ledger, h.bound, h.idleOff, h.offTry, h.tryOff, h.tryOne, h.exitIdle, h.zOpen, fun hc hi => ?_,
      fun hc hl => ?_, h.alt⟩
    · have ⟨(a : _ + _ + _ = 0), b⟩ := h.safe hc hi
      exact ⟨by omega, by omega, by omega, of_decide_eq_false b⟩
    · have a : _ + _ + _ = 0 := h.late hc (decide_eq_true hl)
      omega

/-- What one rule can do to the view (`apply_move`). A component that a rule recomputes from counters (a sum, with a
    goroutine moved from one summand to another) is a parameter with the equation that holds of it. -/
inductive Move (v : View) : View → Prop
  /-- timer bookkeeping, `b1`, lock moves between points `Inv` treats alike -/
  | refl : Move v v
  /-- a goroutine moves between two places that the view only sees summed -/
  | regroup (c : Int) (n k : Nat) (hc : c = v.counted) (hn : n = v.tryCount) (hk : k = v.started) :
      Move v { v with counted := c, tryCount := n, started := k }
  | close : Move v { v with closed := true }
  /-- Add(+1) on the slow path, Add(-1): counter and `counted` move together -/
  | count (d c : Int) (hc : c = v.counted + d) (hb : 0 < d → c < M) : Move v { v with cnt := v.cnt + d, counted := c }
  /-- Add(+1) with a positive result: the RPC goes straight to its final store -/
  | addFast (c : Int) (k : Nat) (hc : c = v.counted + 1) (h0 : 0 ≤ v.cnt) (hb : c < M)
      (hl : v.late = true → 1 ≤ v.tryCount) : Move v { v with cnt := v.cnt + 1, counted := c, started := k }
  /-- ExitIdleMode returns to OnCallBegin (manager closed, channel not idle, or from xr3) and unlocks -/
  | arrive (c : Int) (k : Nat) (hc : c = v.counted) (hp : v.closed = true ∨ v.idle = false ∨ v.xr3 = true)
      (hl : v.late = false) : Move v { v with counted := c, started := k, xr3 := false }
  /-- OnCallEnd's isClosed(): the RPC is no longer in flight; it is never subtracted (`z`) only when closed -/
  | leave (c : Int) (n z : Nat) (hc : c = v.counted) (hn : n ≤ v.started) (hz : v.closed = false → z = v.z) :
      Move v { v with counted := c, started := n, z := z }
  /-- the timer callback's CAS(0 → -M) -/
  | takeOffset (n : Nat) (hn : n = v.tryCount + 1) (hc : v.cnt = 0) :
      Move v { v with cnt := -M, off := true, tryCount := n }
  /-- the callback's re-check under the lock finds -M (t2 → t3), or it leaves t3 for the undo -/
  | late (b : Bool) (hb : b = true → v.cnt = -M ∧ (v.started : Int) ≤ v.counted) : Move v { v with late := b }
  /-- the callback gives the offset back and unlocks (t2u, t3u) -/
  | undo (n : Nat) (hn : n + 1 = v.tryCount) :
      Move v { v with cnt := v.cnt + M, off := false, tryCount := n, late := false }
  /-- cc.EnterIdleMode() is called (t3 → t3cb) -/
  | enterCb (ht : 1 ≤ v.tryCount) (he : v.entering = false) : Move v { v with entering := true, enters := v.enters + 1 }
  /-- cc.EnterIdleMode() returns; actuallyIdle = true; unlock -/
  | enterDone (n : Nat) (hn : n + 1 = v.tryCount) (hl : v.late = true) (hx : v.xr3 = false)
      (hen : v.entering = true) (hex : v.exiting = false) :
      Move v { v with idle := true, tryCount := n, entering := false, late := false }
  /-- cc.ExitIdleMode() is called, from an idle channel (xr1 → xrcb, xc1 → xccb) -/
  | exitCb (hi : v.idle = true) (hx : v.exiting = false) (he : v.entering = false) :
      Move v { v with exiting := true, exits := v.exits + 1 }
  /-- Add(+M); actuallyIdle = false, after cc.ExitIdleMode() (xr2 → xr3, xc2 → xc3) -/
  | exitAdd (b : Bool) (hx : v.exiting = true) (he : v.entering = false) :
      Move v { v with cnt := v.cnt + M, off := false, idle := false, exiting := false, xr3 := b }

/-- Under `off` the counter is `counted - M < 0` (`bound`); so a counter ≥ 0 says that nobody owns the offset: the
    channel is not idle and no timer callback is between its CAS and its undo. -/
theorem InvV.free {v : View} (h : InvV v) (hc : 0 ≤ v.cnt) : v.off = false ∧ v.idle = false ∧ ¬ 1 ≤ v.tryCount := by
  have l := h.ledger
  have b := h.bound
  have no : v.off = false := by
    cases ho : v.off
    · rfl
    · rw [ho, if_pos rfl] at l; omega
  exact ⟨no, Bool.eq_false_iff.2 fun hi => by simp [h.idleOff hi] at no, fun ht => by simp [(h.tryOff ht).1] at no⟩

/-- `{ h with … }` lists the clauses that read what the move writes. -/
theorem InvV.move {v w : View} (h : InvV v) (m : Move v w) : InvV w := by
  have hM := M_pos
  have l := h.ledger
  have b := h.bound
  have one := h.tryOne
  cases m with
  | refl => exact h
  | regroup c n k hc hn hk => subst hc hn hk; exact h
  -- `closed` occurs only as the premise `closed = false`
  | close => exact { h with zOpen := nofun, safe := nofun, late := nofun }
  | count d c hc hb => exact { h with ledger := by dsimp only; omega, bound := by dsimp only; omega }
  -- nobody owns the offset (`free`), so neither `safe` nor `late` has its premise
  | addFast c k hc h0 hb hl =>
    obtain ⟨_, ni, nt⟩ := h.free h0
    exact { h with ledger := by dsimp only; omega, bound := hb, safe := fun _ hi => by simp [ni] at hi,
                   late := fun _ hl' => absurd (hl hl') nt }
  -- `safe` has no premise: closed, or not idle, or the holder was at xr3, where `safe` itself says so
  | arrive c k hc hp hl =>
    subst hc
    refine { h with safe := fun hc hi => ?_, late := fun _ hl' => by simp [hl] at hl' }
    rcases hp with hp | hp | hp
    · cases hc.symm.trans hp
    · cases hi.symm.trans hp
    · cases (h.safe hc hi).2.symm.trans hp
  | leave c n z hc hn hz =>
    subst hc
    exact { h with zOpen := fun hc => (hz hc).trans (h.zOpen hc),
                   safe := fun hc hi => ⟨by have := (h.safe hc hi).1; dsimp only; omega, (h.safe hc hi).2⟩,
                   late := fun hc hl => by have := h.late hc hl; dsimp only; omega }
  -- the counter is 0, so nobody owns the offset and nobody is counted: this callback becomes the one owner
  | takeOffset n hn hc =>
    obtain ⟨no, ni, nt⟩ := h.free (by omega)
    rw [no, if_neg Bool.false_ne_true] at l
    exact { h with ledger := show -M = v.counted - M by omega, idleOff := fun _ => rfl,
                   offTry := fun _ _ => by dsimp only; omega, tryOff := fun _ => ⟨rfl, ni⟩, tryOne := by dsimp only; omega }
  -- a counter of -M means offset applied and nobody counted, in particular nobody started
  | late b hb =>
    refine { h with late := fun _ hl => ?_ }
    obtain ⟨hc, hs⟩ := hb hl
    show v.started = 0
    split at l <;> omega
  -- the one callback with `tryCount = 1` leaves: `off`, not idle (`tryOff`)
  | undo n hn =>
    obtain ⟨o, ni⟩ := h.tryOff (by omega)
    rw [o, if_pos rfl] at l
    exact { h with ledger := show v.cnt + M = v.counted - 0 by omega, idleOff := fun hi => by simp [ni] at hi,
                   offTry := nofun, tryOff := fun _ => by dsimp only at *; omega, tryOne := by dsimp only; omega,
                   late := nofun }
  -- not idle (`tryOff`), so `alt` said exits = enters + 1 and says it again under `entering`
  | enterCb ht he =>
    have a := h.alt
    simp only [(h.tryOff ht).2, he, Bool.false_eq_true, false_and, or_self, if_false] at a
    exact { h with alt := by simp [a] }
  -- the owner hands the offset to the idle channel; `late` at t3cb is what `safe` asks
  | enterDone n hn hl hx hen hex =>
    obtain ⟨o, ni⟩ := h.tryOff (by omega)
    have a := h.alt
    simp only [hen, or_true, if_true] at a
    exact { h with idleOff := fun _ => o, offTry := nofun, tryOff := fun _ => by dsimp only at *; omega,
                   tryOne := by dsimp only; omega, exitIdle := fun _ => rfl,
                   safe := fun hc _ => ⟨h.late hc hl, hx⟩, late := nofun, alt := by simp [a, hex] }
  | exitCb hi hx he =>
    have a := h.alt
    simp only [hi, hx, and_self, true_or, if_true] at a
    exact { h with exitIdle := fun _ => hi, alt := by simp [a, hi, he] }
  -- still idle (`exitIdle`), so `off` (`idleOff`) and no callback is trying (`tryOff`): offset and `idle` go together
  | exitAdd b hx he =>
    have hi := h.exitIdle hx
    have a := h.alt
    rw [h.idleOff hi, if_pos rfl] at l
    simp only [hi, hx, he, Bool.true_eq_false, Bool.false_eq_true, and_false, or_self, if_false] at a
    exact { h with ledger := show v.cnt + M = v.counted - 0 by omega, idleOff := nofun, offTry := nofun,
                   tryOff := fun ht => by simp [(h.tryOff ht).2] at hi, exitIdle := nofun, safe := nofun,
                   alt := by simp [a, he] }

/-- cc.ExitIdleMode() is called only from an idle channel and not from inside the exit callback. -/
theorem Move.exits {v w : View} (m : Move v w) (hx : w.exits = v.exits + 1) : v.idle = true ∧ v.exiting = false := by
  cases m
  case exitCb hi he _ => exact ⟨hi, he⟩
  all_goals exact absurd hx (Nat.ne_of_lt (Nat.lt_succ_self _))

/-- cc.EnterIdleMode() is called only by a timer callback in its try section, not from inside the enter callback. -/
theorem Move.enters {v w : View} (m : Move v w) (hx : w.enters = v.enters + 1) : 1 ≤ v.tryCount ∧ v.entering = false := by
  cases m
  case enterCb ht he => exact ⟨ht, he⟩
  all_goals exact absurd hx (Nat.ne_of_lt (Nat.lt_succ_self _))

theorem late_tryCount (s : St) : (view s).late = true → 1 ≤ (view s).tryCount := by
  intro hl
  have : s.holder = .t3 ∨ s.holder = .t3cb := of_decide_eq_true hl
  show 1 ≤ s.t1 + _
  rw [if_pos (by rcases this with h | h <;> simp [h])]
  omega

theorem apply_move {s t : St} {r : Rule} (st : apply s r = some t) : Move (view s) (view t) := by
  -- per rule: `g` is its guard, `t` becomes the updated record, and what `g` says of single fields
  -- (`holder = …`, `closed = …`) is written into the goal, which decides every test on the lock holder
  cases r <;> cases s <;> dsimp only [apply] at st <;>
    (try replace st := Option.ite_none_right_eq_some.1 st) <;> obtain ⟨g, ⟨⟩⟩ := st <;> (try simp only [g])
  case beginCheck | timerCheck | timerLoadBusy | timerLoadFree | timerActYes | timerActNo | timerStoreAct |
      timerLoadTime | casFail | exitCbDoneR | exitCbDoneC | connectLock | exitCheckClosedC | exitCheckNotIdleC |
      exitResetC | resetLock | resetDone | tryLoadLost => exact .refl
  case exitLockR => exact .regroup _ _ _ (by have := g.1; simp [view, St.counted]; omega) rfl rfl
  case endStoreTime => exact .regroup _ _ _ (by simp [view, St.counted]; omega) rfl rfl
  case tryLock => exact .regroup _ _ _ rfl (by have := g.1; simp [view, tryCount]; omega) rfl
  case beginStoreFast | beginStoreSlow =>
    exact .regroup _ _ _ (by simp [view, St.counted]; omega) rfl (by simp only [view]; omega)
  case close => exact .close
  case beginAddSlow =>
    have := g.2.2
    simp only [St.counted] at this
    exact .count 1 _ (by have := g.1; simp only [view, St.counted]; omega) (by simp only [St.counted]; omega)
  case endAdd => exact .count (-1) _ (by simp [view, St.counted]; omega) (by omega)
  case beginAddFast =>
    have := g.2.2
    simp only [St.counted] at this
    exact .addFast _ _ (by simp [view, St.counted]; omega) (by have := g.2.1; simp only [view]; omega)
      (by simp only [St.counted]; omega) (late_tryCount _)
  case exitCheckClosedR | exitCheckNotIdleR | exitResetR =>
    exact .arrive _ _ (by simp [view, St.counted]; omega) (by simp [view]) rfl
  case endCheckOpen | endCheckClosed =>
    exact .leave _ _ _ (by have := g.1; simp [view, St.counted]; omega) (by simp only [view]; omega) (by simp [view])
  case casOk => exact .takeOffset _ (by simp only [view, tryCount]; omega) rfl
  case tryLoadOk => exact .late true fun _ => ⟨rfl, by simp [view, St.counted]; omega⟩
  case tryActYes => exact .late false nofun
  case tryUndo2 | tryUndo3 => exact .undo _ rfl
  case tryEnter => exact .enterCb (Nat.le_add_left 1 _) rfl
  case tryEnterDone => exact .enterDone _ rfl rfl rfl rfl rfl
  case exitCheckIdleR | exitCheckIdleC => exact .exitCb rfl rfl rfl
  case exitAddR | exitAddC => exact .exitAdd _ rfl rfl

theorem step_inv {s t : St} (r : Rule) (h : Inv s) (st : apply s r = some t) : Inv t :=
  inv_view.2 ((inv_view.1 h).move (apply_move st))

end GrpcProofs.Lemmas.Idle
