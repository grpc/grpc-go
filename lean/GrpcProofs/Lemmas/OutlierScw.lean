/-
The sub-connection wrappers of C40.  A batch of ejection updates is one map of the wrappers (`cmdsMap`); `Linked` is the
consistency invariant between the endpoint map, the `sws` lists and the wrappers, whence a live wrapper that points to a
current endpoint is ejected iff that endpoint is.
-/
import GrpcProofs.Lemmas.Outlier
namespace GrpcProofs.Lemmas.Outlier
open GrpcModel.Outlier Basic

theorem Skel.refl (w : Scw) : Skel w w := ⟨rfl, rfl, rfl, rfl⟩

theorem Skel.trans {u v w : Scw} (h1 : Skel u v) (h2 : Skel v w) : Skel u w :=
  ⟨h2.serial.trans h1.serial, h2.addr.trans h1.addr, h2.ep.trans h1.ep, h2.dead.trans h1.dead⟩

/-- `handleEjection` / `handleUnejection` on the wrapper addressed by the update -/
def cmdMap (c : Cmd) (w : Scw) : Scw :=
  if w.serial = c.1 then
    (if c.2 then { w with ejected := true, last := if w.hl then some 3 else w.last }
     else { w with ejected := false, last := if w.hl then some w.latestHealth else w.last })
  else w

def cmdsMap (cmds : List Cmd) (w : Scw) : Scw := cmds.foldl (fun w c => cmdMap c w) w

theorem cmdMap_skel (c : Cmd) (w : Scw) : Skel w (cmdMap c w) := by
  unfold cmdMap
  split
  · split <;> exact ⟨rfl, rfl, rfl, rfl⟩
  · exact .refl w

theorem cmdMap_ejected (c : Cmd) (w : Scw) : (cmdMap c w).ejected = if c.1 = w.serial then c.2 else w.ejected := by
  unfold cmdMap
  by_cases h : w.serial = c.1
  · rw [if_pos h, if_pos h.symm]; split <;> simp_all
  · rw [if_neg h, if_neg (Ne.symm h)]

theorem applyCmd_map (scws : List Scw) (dl : List Dl) (c : Cmd) : (applyCmd (scws, dl) c).1 = scws.map (cmdMap c) := by
  simp only [applyCmd]
  split
  · next hf =>
    refine (map_eq_self fun w hw => if_neg fun hs => ?_).symm
    simpa [hs] using List.find?_eq_none.mp hf w hw
  · split <;> next h2 => exact List.map_congr_left fun w _ => by simp [cmdMap, h2]

theorem cmdsMap_skel (cmds : List Cmd) (w : Scw) : Skel w (cmdsMap cmds w) :=
  List.foldlRecOn cmds _ (.refl w) fun v hv c _ => hv.trans (cmdMap_skel c v)

theorem cmdsMap_append (a b : List Cmd) (w : Scw) : cmdsMap (a ++ b) w = cmdsMap b (cmdsMap a w) := List.foldl_append

theorem cmdsMap_ejected (cmds : List Cmd) (v : Bool) (hv : ∀ c ∈ cmds, c.2 = v) (w : Scw) :
    (cmdsMap cmds w).ejected = if w.serial ∈ cmds.map (·.1) then v else w.ejected := by
  induction cmds generalizing w with
  | nil => rfl
  | cons c cs ih =>
    show (cmdsMap cs (cmdMap c w)).ejected = _
    rw [ih (fun c' hc' => hv c' (List.mem_cons_of_mem _ hc')), (cmdMap_skel c w).serial, cmdMap_ejected, hv c List.mem_cons_self]
    by_cases h1 : c.1 = w.serial
    · simp [h1]
    · simp [h1, Ne.symm h1]

theorem cmdsMap_flatMap {α : Type} (l : List α) (sw : α → List Nat) (b : Bool) (w : Scw) :
    (cmdsMap (l.flatMap fun a => (sw a).map fun y => (y, b)) w).ejected = if w.serial ∈ l.flatMap sw then b else w.ejected := by
  rw [cmdsMap_ejected _ b]
  · simp only [List.map_flatMap, List.map_map, Function.comp_def, List.map_id']
  · intro c hc
    obtain ⟨_, _, hc⟩ := List.mem_flatMap.mp hc
    obtain ⟨_, _, rfl⟩ := List.mem_map.mp hc
    rfl

theorem applyCmds_map (scws : List Scw) (cmds : List Cmd) : (applyCmds scws cmds).1 = scws.map (cmdsMap cmds) := by
  unfold applyCmds
  generalize ([] : List Dl) = dl
  induction cmds generalizing scws dl with
  | nil => exact (List.map_id scws).symm
  | cons c cs ih => rw [List.foldl_cons, ← Prod.eta (applyCmd _ c), ih, applyCmd_map, List.map_map]; rfl

def AllOK (scws : List Scw) : Prop := ∀ w ∈ scws, ScwOK w

theorem AllOK.map {scws : List Scw} (h : AllOK scws) {f : Scw → Scw} (hf : ∀ w, ScwOK w → ScwOK (f w)) :
    AllOK (scws.map f) := by
  intro w hw
  obtain ⟨w0, hw0, rfl⟩ := List.mem_map.mp hw
  exact hf w0 (h w0 hw0)

theorem updScw_ok (scws : List Scw) (serial : Nat) (f : Scw → Scw) (h : AllOK scws) (hf : ∀ w, ScwOK w → ScwOK (f w)) :
    AllOK (updScw scws serial f) :=
  h.map fun w hw => by
    split
    · exact hf w hw
    · exact hw

theorem cmdsMap_ok (cmds : List Cmd) (w : Scw) (h : ScwOK w) : ScwOK (cmdsMap cmds w) := by
  refine List.foldlRecOn cmds _ h fun v hv c _ => ?_
  unfold cmdMap
  split
  · split
    · intro _ hl; exact .inr (if_pos hl)
    · exact nofun
  · exact hv

theorem applyCmds_ok (scws : List Scw) (cmds : List Cmd) (h : AllOK scws) : AllOK (applyCmds scws cmds).1 :=
  applyCmds_map scws cmds ▸ h.map (cmdsMap_ok cmds)

theorem Small.ok {s t : St} (hs : Small s t) (h : AllOK s.scws) : AllOK t.scws := by
  cases hs with
  | other hc =>
    have hs : t.scws = s.scws := congrArg Core.scws hc
    exact hs ▸ h
  | counts => exact h
  | scw serial f hf =>
    refine updScw_ok _ _ _ h fun w hw he hl => ?_
    have hej := (hf w).ejected
    rcases (hf w).quiet (hej ▸ he) with h0 | ⟨h1, h2⟩
    · exact .inl h0
    · exact h1 ▸ hw (hej ▸ he) (h2 ▸ hl)
  | new id =>
    intro w hw
    rcases List.mem_append.mp hw with hw | hw
    · exact h w hw
    · cases List.mem_singleton.mp hw; exact fun _ => nofun
  | shut => exact updScw_ok _ _ _ h fun w _ _ => nofun

theorem reach_ok {s : St} (h : Reach s) : AllOK s.scws := by
  refine reach_induction (P := fun s => AllOK s.scws) (fun _ hw => nomatch hw) (fun _ _ => Small.ok)
    (fun s c ids h => applyCmds_ok _ _ ((updateCore_spec s c ids).scws ▸ h))
    (fun s c hc oS oF d h => fire_eq hc oS oF d ▸ applyCmds_ok _ _ h) h

/-- the wrapper points to this endpointInfo object and is alive -/
def Attached (w : Scw) (e : Ep) : Prop := w.dead = false ∧ w.addr = e.id ∧ w.ep = some e.gen

theorem Attached.live {w : Scw} {e : Ep} (h : Attached w e) : w.dead = false := h.1
theorem Attached.addr {w : Scw} {e : Ep} (h : Attached w e) : w.addr = e.id := h.2.1
theorem Attached.ptr {w : Scw} {e : Ep} (h : Attached w e) : w.ep = some e.gen := h.2.2

/-- The endpoint map, the `sws` lists and the wrappers fit together.  Serials and generation numbers are below the
    counters they are drawn from, and no wrapper points to an endpoint object yet to be created (`ptr_lt`). -/
structure Linked (s : St) : Prop where
  listed : ∀ e ∈ s.eps, ∀ x ∈ e.sws, ∃ w ∈ s.scws, w.serial = x ∧ Attached w e
  attached : ∀ w ∈ s.scws, ∀ e ∈ s.eps, Attached w e → w.serial ∈ e.sws
  nodupSerials : (s.scws.map (·.serial)).Nodup
  serial_lt : ∀ w ∈ s.scws, w.serial < s.nextSerial
  gen_lt : ∀ e ∈ s.eps, e.gen < s.nextGen
  ptr_lt : ∀ w ∈ s.scws, ∀ g, w.ep = some g → g < s.nextGen
  ejected_eq : ∀ w ∈ s.scws, ∀ e ∈ s.eps, Attached w e → w.ejected = e.ejected

/-- `Linked` goes over to wrappers and endpoints mapped by `g` and `f` that may strike serials from `sws` lists and
    detach wrappers. -/
theorem Linked.map_shrink {s t : St} (h : Linked s) (g : Scw → Scw) (f : Ep → Ep)
    (hg : ∀ w, (g w).serial = w.serial ∧ (g w).ep = w.ep) (hf : ∀ e, (f e).gen = e.gen)
    (hsub : ∀ e x, x ∈ (f e).sws → x ∈ e.sws)
    (hatt : ∀ w ∈ s.scws, ∀ e ∈ s.eps, (Attached (g w) (f e) ↔ Attached w e ∧ w.serial ∈ (f e).sws))
    (hs : t.scws = s.scws.map g) (he : t.eps = s.eps.map f)
    (hns : t.nextSerial = s.nextSerial) (hng : t.nextGen = s.nextGen)
    (hE : ∀ w ∈ s.scws, ∀ e ∈ s.eps, Attached w e → Attached (g w) (f e) → (g w).ejected = (f e).ejected) : Linked t := by
  have mw : ∀ w' ∈ t.scws, ∃ w ∈ s.scws, g w = w' := fun w' hw' => List.mem_map.mp (hs ▸ hw')
  have me : ∀ e' ∈ t.eps, ∃ e ∈ s.eps, f e = e' := fun e' he' => List.mem_map.mp (he ▸ he')
  refine { listed := ?_, attached := ?_, nodupSerials := ?_, serial_lt := ?_, gen_lt := ?_,
           ptr_lt := ?_, ejected_eq := ?_ }
  · intro e' he' x hx
    obtain ⟨e, hem, rfl⟩ := me e' he'
    obtain ⟨w, hw, rfl, ha⟩ := h.listed e hem x (hsub e x hx)
    exact ⟨g w, hs ▸ List.mem_map_of_mem hw, (hg w).1, (hatt w hw e hem).mpr ⟨ha, hx⟩⟩
  · intro w' hw' e' he' ha
    obtain ⟨w, hw, rfl⟩ := mw w' hw'
    obtain ⟨e, hem, rfl⟩ := me e' he'
    exact (hg w).1 ▸ ((hatt w hw e hem).mp ha).2
  · rw [hs, List.map_map]
    simp only [Function.comp_def, (hg _).1]
    exact h.nodupSerials
  · intro w' hw'
    obtain ⟨w, hw, rfl⟩ := mw w' hw'
    rw [(hg w).1, hns]; exact h.serial_lt w hw
  · intro e' he'
    obtain ⟨e, hem, rfl⟩ := me e' he'
    rw [hf e, hng]; exact h.gen_lt e hem
  · intro w' hw' gg hgg
    obtain ⟨w, hw, rfl⟩ := mw w' hw'
    rw [hng]; exact h.ptr_lt w hw gg ((hg w).2 ▸ hgg)
  · intro w' hw' e' he' ha
    obtain ⟨w, hw, rfl⟩ := mw w' hw'
    obtain ⟨e, hem, rfl⟩ := me e' he'
    exact hE w hw e hem ((hatt w hw e hem).mp ha).1 ha

theorem Linked.map {s t : St} (h : Linked s) (g : Scw → Scw) (f : Ep → Ep)
    (hg : ∀ w, Skel w (g w)) (hf : ∀ e, EpSkel e (f e))
    (hs : t.scws = s.scws.map g) (he : t.eps = s.eps.map f)
    (hns : t.nextSerial = s.nextSerial) (hng : t.nextGen = s.nextGen)
    (hE : ∀ w ∈ s.scws, ∀ e ∈ s.eps, Attached w e → (g w).ejected = (f e).ejected) : Linked t := by
  refine Linked.map_shrink h g f (fun w => ⟨(hg w).serial, (hg w).ep⟩) (fun e => (hf e).gen)
    (fun e x hx => (hf e).sws ▸ hx) (fun w hw e hem => ?_) hs he hns hng fun w hw e hem ha _ => hE w hw e hem ha
  simp only [Attached, (hg w).dead, (hg w).addr, (hg w).ep, (hf e).id, (hf e).gen, (hf e).sws]
  exact ⟨fun ha => ⟨ha, h.attached w hw e hem ha⟩, And.left⟩

theorem serial_owner {s : St} (hn : (idsOf s.eps).Nodup) (h : Linked s) {w : Scw} (hw : w ∈ s.scws) {e1 e2 : Ep} (h1 : e1 ∈ s.eps) (h2 : e2 ∈ s.eps)
    (hx : w.serial ∈ e1.sws) (a2 : Attached w e2) : e1 = e2 := by
  obtain ⟨w', hw', hser, a1⟩ := h.listed e1 h1 w.serial hx
  cases eq_of_nodup_map h.nodupSerials hw' hw hser
  exact eq_of_nodup_map hn h1 h2 (a1.addr.symm.trans a2.addr)

theorem unejPass_cmds (c : Cfg) (now : Int) (eps : List Ep) : (unejPass c now eps).2.2 =
    (eps.filter fun e => (unejStep c now e).2).flatMap fun e => e.sws.map fun y => (y, false) := by
  simp only [unejPass, List.filter_map, List.flatMap_map, Function.comp_def, (unejStep_spec c now _).skel.sws]

theorem mem_swsOf {eps : List Ep} {j x : Nat} (hx : x ∈ swsOf eps j) : ∃ e ∈ eps, e.id = j ∧ x ∈ e.sws := by
  unfold swsOf at hx
  split at hx
  · next e hf => exact ⟨e, (findEp_some hf).1, (findEp_some hf).2, hx⟩
  · cases hx

theorem swsOf_of_findEp {eps : List Ep} {j : Nat} {e : Ep} (hf : findEp eps j = some e) : swsOf eps j = e.sws := by
  rw [swsOf, hf]

theorem linked_fire {s : St} {c : Cfg} (hc : s.cfg = some c) (hn : (idsOf s.eps).Nodup) (h : Linked s) (oS oF d : List Nat) : Linked (fire s oS oF d).1 := by
  obtain ⟨js, sp, heps⟩ := fire_eps hc oS oF d
  have hfe := fire_eq hc oS oF d
  have hsr := fun e => applyEj_sameRest s.now js (Ep.swap e)
  have hsk := fun e => (unejStep_spec c s.now (applyEj s.now js (Ep.swap e))).skel
  refine Linked.map h (cmdsMap _) _ (cmdsMap_skel _)
    (fun e => ⟨(hsk e).id.trans (hsr e).id, (hsk e).gen.trans (hsr e).gen, (hsk e).sws.trans (hsr e).sws⟩)
    ((congrArg St.scws hfe).trans (applyCmds_map _ _)) heps (by rw [hfe]) (by rw [hfe]) fun w hw e hem hatt => ?_
  have hx : w.serial ∈ e.sws := h.attached w hw e hem hatt
  -- whether the two batches address `w`, in terms of its endpoint `e`
  have m1 : w.serial ∈ js.flatMap (swsOf (swapped s)) ↔ e.id ∈ js := by
    constructor
    · intro hm
      obtain ⟨j, hj, hxj⟩ := List.mem_flatMap.mp hm
      obtain ⟨e', he', rfl, hxs⟩ := mem_swsOf hxj
      obtain ⟨e0, he0, rfl⟩ := List.mem_map.mp he'
      cases serial_owner hn h hw he0 hem hxs hatt
      exact hj
    · intro hj
      refine List.mem_flatMap.mpr ⟨e.id, hj, ?_⟩
      exact (swsOf_of_findEp (findEp_swapped hn hem)).symm ▸ hx
  have m2 : w.serial ∈ ((algsLoop c s oS oF d).eps.filter fun z => (unejStep c s.now z).2).flatMap (·.sws) ↔
      (unejStep c s.now (applyEj s.now js e.swap)).2 = true := by
    rw [sp.eps, startLoop, swapped, List.map_map]
    constructor
    · intro hm
      obtain ⟨z, hz, hxs⟩ := List.mem_flatMap.mp hm
      obtain ⟨hz, hflag⟩ := List.mem_filter.mp hz
      obtain ⟨e0, he0, rfl⟩ := List.mem_map.mp hz
      cases serial_owner hn h hw he0 hem ((hsr e0).sws ▸ hxs) hatt
      exact hflag
    · intro hflag
      exact List.mem_flatMap.mpr ⟨_, List.mem_filter.mpr ⟨List.mem_map_of_mem hem, hflag⟩, (hsr e).sws.symm ▸ hx⟩
  rw [sp.cmds, unejPass_cmds, List.nil_append, cmdsMap_append, cmdsMap_flatMap, (cmdsMap_skel _ w).serial,
    cmdsMap_flatMap, h.ejected_eq w hw e hem hatt, Ep.ejected, Ep.ejected, (unejStep_spec ..).ej, applyEj_ej]
  simp only [m1, m2]
  show _ = (if _ then none else if e.id ∈ js then some s.now else e.ej).isSome
  split
  · rfl
  · split <;> rfl

/-- The new wrapper gets the serial `s.nextSerial`, which is above every serial there is; it is appended to the `sws` of
    the entry with its address, to which (found by id, ids being distinct) it points and whose ejection state it takes. -/
theorem linked_newScw (s : St) (id : Nat) (hn : (idsOf s.eps).Nodup) (h : Linked s) : Linked (newScw s id) := by
  unfold newScw
  have hm : ∀ (e : Ep) (w : Scw),
      Attached w (if e.id = id then { e with sws := e.sws ++ [s.nextSerial] } else e) ↔ Attached w e :=
    fun e w => by split <;> exact Iff.rfl
  constructor
  case nodupSerials =>
    exact nodup_map_snoc h.nodupSerials fun w hw => Nat.ne_of_lt (h.serial_lt w hw)
  case serial_lt =>
    simp only [List.forall_mem_append, List.forall_mem_singleton]
    exact ⟨fun w hw => Nat.lt_succ_of_lt (h.serial_lt w hw), Nat.lt_succ_self _⟩
  case gen_lt =>
    simp only [List.forall_mem_map]
    intro e hem
    split <;> exact h.gen_lt e hem
  case ptr_lt =>
    simp only [List.forall_mem_append, List.forall_mem_singleton]
    refine ⟨h.ptr_lt, fun g hg => ?_⟩
    obtain ⟨e0, hf, rfl⟩ := Option.map_eq_some_iff.mp hg
    exact h.gen_lt e0 (findEp_some hf).1
  case listed =>
    simp only [List.forall_mem_map]
    intro e hem x hx
    suffices hx' : x ∈ e.sws ∨ (e.id = id ∧ x = s.nextSerial) by
      rcases hx' with hx' | ⟨hid, rfl⟩
      · obtain ⟨w, hw, hser, ha⟩ := h.listed e hem x hx'
        exact ⟨w, List.mem_append_left _ hw, hser, (hm e w).mpr ha⟩
      · refine ⟨_, List.mem_append_right _ (List.mem_singleton_self _), rfl, (hm e _).mpr ⟨rfl, hid.symm, ?_⟩⟩
        rw [← hid, findEp_of_mem hn hem]; rfl
    split at hx
    · next hid => exact (List.mem_append.mp hx).imp_right fun hx => ⟨hid, List.mem_singleton.mp hx⟩
    · exact .inl hx
  case attached =>
    simp only [List.forall_mem_append, List.forall_mem_singleton, List.forall_mem_map, hm]
    refine ⟨fun w hw e hem ha => ?_, fun e hem ha => ?_⟩
    · have := h.attached w hw e hem ha
      split
      · exact List.mem_append_left _ this
      · exact this
    · rw [if_pos ha.addr.symm]; exact List.mem_append_right _ (List.mem_singleton_self _)
  case ejected_eq =>
    simp only [List.forall_mem_append, List.forall_mem_singleton, List.forall_mem_map, hm]
    refine ⟨fun w hw e hem ha => (h.ejected_eq w hw e hem ha).trans (by split <;> rfl), fun e hem ha => ?_⟩
    have hid : id = e.id := ha.addr
    rw [hid, findEp_of_mem hn hem]
    split <;> rfl

theorem Small.linked {s t : St} (hs : Small s t) (hn : (idsOf s.eps).Nodup) (h : Linked s) : Linked t := by
  cases hs with
  | other hc =>
    exact Linked.map h id id .refl .refl ((congrArg Core.scws hc).trans (List.map_id _).symm)
      ((congrArg Core.eps hc).trans (List.map_id _).symm) (congrArg Core.nextSerial hc) (congrArg Core.nextGen hc)
      h.ejected_eq
  | counts f hf =>
    exact Linked.map h id f .refl (fun e => (hf e).2) (List.map_id _).symm rfl rfl rfl
      fun w hw e he ha => (h.ejected_eq w hw e he ha).trans (by rw [Ep.ejected, Ep.ejected, (hf e).1.ej])
  | scw serial f hf =>
    refine Linked.map h _ id (fun w => ?_) .refl rfl (List.map_id _).symm rfl rfl
      fun w hw e he ha => Eq.trans ?_ (h.ejected_eq w hw e he ha)
    · split
      · exact (hf w).skel
      · exact .refl w
    · split
      · exact (hf w).ejected
      · rfl
  | new id => exact linked_newScw s id hn h
  | shut w1 hw1 =>
    refine Linked.map_shrink h _ _ (fun w => by split <;> exact ⟨rfl, rfl⟩) (fun e => by split <;> rfl)
      (fun e x hx => ?_) (fun w hw e hem => ?_) rfl rfl rfl rfl fun w hw e hem ha ha' => ?_
    · split at hx
      · exact (List.mem_filter.mp hx).1
      · exact hx
    · -- the wrapper that is shut down is attached to nothing afterwards, and its serial is struck
      -- from the list of the endpoint it was attached to; nothing else changes
      by_cases hser : w.serial = w1.serial
      · cases eq_of_nodup_map h.nodupSerials hw hw1 hser
        refine ⟨fun ha => ?_, fun ⟨ha, hx⟩ => ?_⟩
        · rw [if_pos hser] at ha; cases ha.live
        · rw [if_pos ⟨ha.addr.symm, ha.ptr.symm⟩] at hx
          simpa [hser] using (List.mem_filter.mp hx).2
      · rw [if_neg hser]
        split
        · exact ⟨fun ha => ⟨ha, List.mem_filter.mpr ⟨h.attached w hw e hem ha, by simpa using hser⟩⟩, And.left⟩
        · exact ⟨fun ha => ⟨ha, h.attached w hw e hem ha⟩, And.left⟩
    · have hser : w.serial ≠ w1.serial := fun hser => by rw [if_pos hser] at ha'; cases ha'.live
      rw [if_neg hser, h.ejected_eq w hw e hem ha]
      split <;> rfl

/-- the add/remove loops: a new entry has no wrappers yet and none points to it, since its
    generation number is new -/
theorem linked_updEps (s : St) (h : Linked s) (ids : List Nat) :
    Linked { s with eps := updEps s ids, nextGen := (addEps ids s.eps s.nextGen).2 } := by
  have hle := (addEps_spec ids s.eps s.nextGen).le
  have old : ∀ w ∈ s.scws, ∀ u ∈ updEps s ids, Attached w u → u ∈ s.eps := by
    intro w hw u hu hatt
    rcases (updEps_mem s ids hu).2 with hin | hadd
    · exact hin
    · exact absurd (h.ptr_lt w hw u.gen hatt.ptr) (Nat.not_lt.mpr hadd.ge)
  refine { h with
    listed := fun u hu x hx => ?_
    attached := fun w hw u hu hatt => h.attached w hw u (old w hw u hu hatt) hatt
    gen_lt := fun u hu => ?_
    ptr_lt := fun w hw g hg => Nat.lt_of_lt_of_le (h.ptr_lt w hw g hg) hle
    ejected_eq := fun w hw u hu hatt => h.ejected_eq w hw u (old w hw u hu hatt) hatt }
  · rcases (updEps_mem s ids hu).2 with hin | hadd
    · exact h.listed u hin x hx
    · rw [hadd.sws] at hx; cases hx
  · rcases (updEps_mem s ids hu).2 with hin | hadd
    · exact Nat.lt_of_lt_of_le (h.gen_lt u hin) hle
    · exact hadd.lt

theorem linked_stage1 (s : St) (h : Linked s) (c : Cfg) (ids : List Nat) : Linked (stage1 s c ids) := by
  have hc := updateCore_spec s c ids
  obtain ⟨m, hmap, hm⟩ := hc.eps
  have ht := linked_updEps s h ids
  refine Linked.map ht (cmdsMap (updateCore s c ids).2) m (cmdsMap_skel _) (fun e => (hm e).skel)
    ((applyCmds_map _ _).trans (by rw [hc.scws])) hmap hc.nextSerial hc.nextGen fun w hw u hu hatt => ?_
  rw [hc.cmds, Ep.ejected, (hm u).ej]
  cases c.noop
  · exact ht.ejected_eq w hw u hu hatt
  · -- every wrapper of an ejected endpoint is addressed by an un-ejection update
    rw [if_pos rfl, if_pos rfl, cmdsMap_flatMap, ht.ejected_eq w hw u hu hatt, Ep.ejected]
    split
    · rfl
    · next hnot =>
      cases hue : u.ej.isSome
      · rfl
      · exact absurd (List.mem_flatMap.mpr ⟨u, List.mem_filter.mpr ⟨hu, hue⟩, ht.attached w hw u hu hatt⟩) hnot

theorem linked_init : Linked GrpcModel.Outlier.init :=
  { listed := fun _ h => (nomatch h), attached := fun _ h => (nomatch h), nodupSerials := List.nodup_nil,
    serial_lt := fun _ h => (nomatch h), gen_lt := fun _ h => (nomatch h), ptr_lt := fun _ h => (nomatch h),
    ejected_eq := fun _ h => (nomatch h) }

theorem reach_linked {s : St} (h : Reach s) : Linked s :=
  -- proved together with `Inv`, from which the steps take that ids are distinct
  (reach_induction (P := fun s => Inv s ∧ Linked s) ⟨inv_init, linked_init⟩
    (fun _ _ hs h => ⟨hs.inv h.1, hs.linked h.1.nodup h.2⟩)
    (fun s c ids h => ⟨inv_stage1 s c ids h.1, linked_stage1 s h.2 c ids⟩)
    (fun _ _ hc oS oF d h => ⟨inv_fire hc h.1 oS oF d, linked_fire hc h.1.nodup h.2 oS oF d⟩) h).2

end GrpcProofs.Lemmas.Outlier
