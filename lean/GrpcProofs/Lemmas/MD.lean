/-
For C28 (metadata API; model in GrpcModel/Model/MD.lean). At a key only the entries that match it count: a loop of
keyed writes read at `k` is the fold of the writes to `k` (`mgetD_foldl_mset`), a lookup may first drop the entries
it cannot hit (`mget_filter`), and a map without collisions has at most one match (`filter_eq_le_one`, for exact keys
under `WF` and for keys up to case under `NoFoldCollision`). The loops and readers of the API are instances. In the
reference machine a call is at most one `create`, `mutate` or `addCtx` (`step_cases`).
-/
import GrpcModel.Model.MD
import GrpcProofs.Lemmas.Basic
namespace GrpcProofs.Lemmas.MD
open GrpcModel.MD Basic

theorem lowerC_idem (n : Nat) : lowerC (lowerC n) = lowerC n := by
  unfold lowerC
  by_cases h : 65 ≤ n ∧ n ≤ 90
  · simp [h]; omega
  · simp [h]

theorem lower_idem (k : Key) : lower (lower k) = lower k := by
  simp [lower, lowerC_idem]

theorem mget_mset (md : MD) (k k' : Key) (v : List Val) :
    mget (mset md k v) k' = if k = k' then some v else mget md k' := by
  -- by the branches of `mset`: new key / `k` is the head's key / `k` comes later, if at all
  fun_induction mset md k v with
  | case1 => simp [mget]
  | case2 b t k v => by_cases h2 : k = k' <;> simp [mget, h2]
  | case3 a b t k v h ih =>
    simp only [mget]
    by_cases h2 : a = k'
    · subst h2; simp [Ne.symm h]
    · simp [h2, ih]

theorem mgetD_mset (md : MD) (k k' : Key) (v : List Val) :
    mgetD (mset md k v) k' = if k = k' then v else mgetD md k' := by
  unfold mgetD; rw [mget_mset]; split <;> rfl

theorem mget_filter (p : Key → Bool) (md : MD) (k : Key) :
    mget (md.filter fun e => p e.1) k = if p k then mget md k else none := by
  induction md with
  | nil => simp [mget]
  | cons e t ih =>
    obtain ⟨a, b⟩ := e
    -- kept or dropped, the head answers the lookup only if its key is `k`, and then `p k` says which
    by_cases hk : a = k
    · subst hk; by_cases ha : p a <;> simp [ha, mget, ih]
    · by_cases ha : p a <;> simp [ha, hk, mget, ih]

theorem mget_filter_of_pos (p : Key → Bool) (md : MD) {k : Key} (hk : p k) :
    mget (md.filter fun e => p e.1) k = mget md k := by
  rw [mget_filter, if_pos hk]

theorem mget_mdel (md : MD) (k k' : Key) :
    mget (mdel md k) k' = if k = k' then none else mget md k' := by
  unfold mdel
  rw [mget_filter (fun x => !(x == k))]
  by_cases h : k = k'
  · simp [h]
  · simp [h, Ne.symm h]

/-- The loop `for e in l { out[κ e] = u e out[κ e] }`, read at `k`: only the elements with `κ e = k` count. -/
theorem mgetD_foldl_mset {α : Type} (κ : α → Key) (u : α → List Val → List Val) (l : List α) (acc : MD)
    (k : Key) :
    mgetD (l.foldl (fun out e => mset out (κ e) (u e (mgetD out (κ e)))) acc) k
      = (l.filter fun e => κ e = k).foldl (fun v e => u e v) (mgetD acc k) := by
  induction l generalizing acc with
  | nil => rfl
  | cons e t ih =>
    rw [List.foldl_cons, ih, mgetD_mset]
    by_cases h : κ e = k
    · subst h; simp
    · simp [h]

theorem foldl_append_flatMap {α β : Type} (g : α → List β) (l : List α) (a : List β) :
    l.foldl (fun v e => v ++ g e) a = a ++ l.flatMap g := by
  induction l generalizing a with
  | nil => simp
  | cons e t ih => simp [ih]

theorem mgetD_foldl_addPair (kv : List (Key × Val)) (acc : MD) (k : Key) :
    mgetD (kv.foldl addPair acc) (lower k) = mgetD acc (lower k) ++ pairVals kv k := by
  rw [pairVals, List.map_eq_flatMap, ← foldl_append_flatMap]
  exact mgetD_foldl_mset (fun p => lower p.1) (fun p v => v ++ [p.2]) kv acc (lower k)

def keys (md : MD) : List Key := md.map (·.1)

theorem keys_mset (md : MD) (k : Key) (v : List Val) :
    ∀ x, x ∈ keys (mset md k v) ↔ x = k ∨ x ∈ keys md := by
  intro x
  fun_induction mset md k v with
  | case1 => simp [keys]
  | case2 => simp [keys]
  | case3 a b t k v h ih =>
    simp only [keys] at ih ⊢
    simp only [List.map_cons, List.mem_cons, ih]; exact or_left_comm

abbrev KeysLower (md : MD) : Prop := ∀ x ∈ keys md, lower x = x

theorem keys_lower_mset {md : MD} (h : KeysLower md) (k : Key) (v : List Val) :
    KeysLower (mset md (lower k) v) := fun x hx => by
  rcases (keys_mset _ _ _ x).1 hx with rfl | hx
  · exact lower_idem _
  · exact h x hx

theorem keys_lower_foldl_addPair (kv : List (Key × Val)) (acc : MD)
    (h : KeysLower acc) : KeysLower (kv.foldl addPair acc) :=
  foldl_inv (P := KeysLower) (fun _ p hb => keys_lower_mset hb p.1 _) kv h

theorem mget_none_of_not_key {md : MD} {k : Key} (h : k ∉ keys md) : mget md k = none := by
  -- the lookup sees only the entries with key `k`, and there are none
  have hnil : md.filter (fun e => decide (e.1 = k)) = [] :=
    List.filter_eq_nil_iff.2 fun e he => by
      simpa using fun hk : e.1 = k => h (hk ▸ List.mem_map_of_mem (f := (·.1)) he)
  rw [← mget_filter_of_pos (· = k) md (decide_eq_true rfl), hnil]; rfl

theorem mgetD_of_keys_lower {md : MD} (hk : KeysLower md) (k : Key) :
    mgetD md k = if lower k = k then mgetD md (lower k) else [] := by
  by_cases h : lower k = k
  · rw [if_pos h, h]
  · rw [if_neg h, mgetD, mget_none_of_not_key fun hin => h (hk k hin)]; rfl

theorem filter_eq_le_one {α β : Type} [DecidableEq β] {g : α → β} {l : List α}
    (h : l.Pairwise fun a b => g a ≠ g b) (c : β) :
    l.filter (fun a => g a = c) = [] ∨ ∃ a, g a = c ∧ l.filter (fun a => g a = c) = [a] := by
  rw [show l.filter (fun a => g a = c) = _ from filter_key_eq_find h c]
  cases hf : l.find? (g · == c) with
  | none => exact .inl rfl
  | some a => exact .inr ⟨a, (find_some hf).2, rfl⟩

theorem findFold_none {t : MD} {k : Key} (h : ∀ b ∈ t, lower k ≠ lower b.1) : findFold t k = none := by
  induction t with
  | nil => rfl
  | cons e t ih =>
    obtain ⟨a, b⟩ := e
    have h1 := h (a, b) (by simp)
    have h2 := ih (fun b hb => h b (List.mem_cons_of_mem _ hb))
    simp [findFold, h2, Ne.symm h1]

theorem findFold_filter (md : MD) (k : Key) :
    findFold (md.filter fun e => lower e.1 = lower k) k = findFold md k := by
  induction md with
  | nil => rfl
  | cons e t ih =>
    by_cases he : lower e.1 = lower k
    · rw [List.filter_cons_of_pos (by simpa using he)]; simp [findFold, he]
    · rw [List.filter_cons_of_neg (by simpa using he), ih]; simp [findFold, he]

/-- `FromIncomingContext` overwrites: at a lower-case key the last entry that folds to it wins, and a
    collision-free map has at most one. -/
theorem mgetD_fromIncoming (md : MD) (k : Key) (h : NoFoldCollision md) :
    mgetD (fromIncoming md) (lower k) = foldLookup md k := by
  rw [foldLookup, fromIncoming, mgetD_foldl_mset (fun e : Key × List Val => lower e.1) (fun e _ => e.2)]
  rcases filter_eq_le_one h (lower k) with h0 | ⟨e, _, h1⟩
  · rw [h0]; rfl
  · rw [h1]; simp

theorem foldLookup_lower (md : MD) (k : Key) : foldLookup md (lower k) = foldLookup md k := by
  simp [foldLookup, lower_idem]

theorem findFold_lower (md : MD) (k : Key) : findFold md (lower k) = findFold md k := by
  induction md with
  | nil => rfl
  | cons e t ih => obtain ⟨a, b⟩ := e; simp [findFold, lower_idem, ih]

/-- Both lookups of `exactOrFold` may be restricted to the entries folding to `k`; there is at most one. -/
theorem exactOrFold_eq_foldLookup (md : MD) (k : Key) (h : NoFoldCollision md) :
    exactOrFold md k = foldLookup md k := by
  unfold exactOrFold foldLookup
  rw [← mget_filter_of_pos (fun x => lower x = lower k) md (decide_eq_true rfl), ← findFold_filter]
  rcases filter_eq_le_one h (lower k) with h0 | ⟨e, he, h1⟩
  · rw [h0]; rfl
  · rw [h1]
    simp only [mget, findFold, he]
    split <;> simp_all

theorem valueFromIncoming_eq (md : MD) (k : Key) (h : NoFoldCollision md) :
    valueFromIncoming md k = foldLookup md k := by
  unfold valueFromIncoming; exact exactOrFold_eq_foldLookup md k h

theorem addedVals_lower (added : List (List (Key × Val))) (k : Key) :
    addedVals added (lower k) = addedVals added k := by
  simp [addedVals, lower_idem]

theorem valueFromOutgoing_eq (raw : RawMD) (k : Key) (h : NoFoldCollision (raw.md.getD [])) :
    valueFromOutgoing raw k = specOutgoing raw k := by
  unfold valueFromOutgoing specOutgoing
  simp only []
  rw [exactOrFold_eq_foldLookup _ _ h, foldLookup_lower, addedVals_lower]

/-- The `added` lists are replayed as one list of pairs. -/
theorem mgetD_fromOutgoing (raw : RawMD) (k : Key) (h : NoFoldCollision (raw.md.getD [])) :
    mgetD (fromOutgoing raw) (lower k) = specOutgoing raw k := by
  rw [fromOutgoing, ← List.foldl_flatten, mgetD_foldl_addPair, mgetD_fromIncoming _ _ h]
  rfl

theorem keys_lower_fromIncoming (md : MD) : KeysLower (fromIncoming md) :=
  foldl_inv (P := KeysLower) (fun _ e hb => keys_lower_mset hb e.1 e.2) md (fun _ hx => by cases hx)

theorem keys_lower_fromOutgoing (raw : RawMD) : KeysLower (fromOutgoing raw) :=
  foldl_inv (P := KeysLower) (fun b kv hb => keys_lower_foldl_addPair kv b hb) raw.added (keys_lower_fromIncoming _)

theorem mgetD_fromIncoming_any (md : MD) (k : Key) (h : NoFoldCollision md) :
    mgetD (fromIncoming md) k = if lower k = k then foldLookup md k else [] := by
  rw [mgetD_of_keys_lower (keys_lower_fromIncoming md), mgetD_fromIncoming md k h]

theorem mgetD_fromOutgoing_any (raw : RawMD) (k : Key) (h : NoFoldCollision (raw.md.getD [])) :
    mgetD (fromOutgoing raw) k = if lower k = k then specOutgoing raw k else [] := by
  rw [mgetD_of_keys_lower (keys_lower_fromOutgoing raw), mgetD_fromOutgoing raw k h]

theorem noFold_perm {md md' : MD} (hp : md'.Perm md) (h : NoFoldCollision md) : NoFoldCollision md' := by
  unfold NoFoldCollision at *
  exact (hp.pairwise_iff (fun hab => Ne.symm hab)).2 h

theorem foldLookup_perm {md md' : MD} (hp : md'.Perm md) (h : NoFoldCollision md) (k : Key) :
    foldLookup md' k = foldLookup md k := by
  unfold foldLookup
  have hpf := hp.filter (fun e => decide (lower e.1 = lower k))
  rcases filter_eq_le_one h (lower k) with h0 | ⟨e, _, h1⟩
  · rw [h0] at hpf ⊢; rw [List.perm_nil.1 hpf]
  · rw [h1] at hpf ⊢; rw [List.perm_singleton.1 hpf]

theorem get_set (md : MD) (k k' : Key) (vs : List Val) (hv : vs ≠ []) :
    mdGet (mdSet md k vs) k' = if lower k = lower k' then vs else mdGet md k' := by
  unfold mdGet mdSet
  have : vs.isEmpty = false := by cases vs <;> simp_all
  simp only [this, Bool.false_eq_true, if_false]
  exact mgetD_mset _ _ _ _

theorem get_append (md : MD) (k k' : Key) (vs : List Val) :
    mdGet (mdAppend md k vs) k' = if lower k = lower k' then mdGet md k' ++ vs else mdGet md k' := by
  unfold mdGet mdAppend
  cases vs with
  | nil => simp
  | cons a t =>
    simp only [List.isEmpty_cons, Bool.false_eq_true, if_false]
    rw [mgetD_mset]
    by_cases h : lower k = lower k' <;> simp [h]

theorem get_delete (md : MD) (k k' : Key) :
    mdGet (mdDelete md k) k' = if lower k = lower k' then [] else mdGet md k' := by
  unfold mdGet mdDelete mgetD
  rw [mget_mdel]
  by_cases h : lower k = lower k' <;> simp [h]

theorem get_pairs (kv : List (Key × Val)) (k : Key) : mdGet (mdPairs kv) k = pairVals kv k := by
  unfold mdGet mdPairs
  rw [mgetD_foldl_addPair]; simp [mgetD, mget]

/-- values stored under exactly `k` (a single entry for a well-formed map) -/
def exactVals (md : MD) (k : Key) : List Val := (md.filter fun e => e.1 = k).flatMap (·.2)

theorem mgetD_joinOne (md out : MD) (k : Key) :
    mgetD (joinOne out md) k = mgetD out k ++ exactVals md k := by
  rw [exactVals, ← foldl_append_flatMap]
  exact mgetD_foldl_mset (·.1) (fun e v => v ++ e.2) md out k

theorem mgetD_foldl_joinOne (mds : List MD) (out : MD) (k : Key) :
    mgetD (mds.foldl joinOne out) k = mgetD out k ++ mds.flatMap (exactVals · k) := by
  induction mds generalizing out with
  | nil => simp
  | cons md t ih => simp [ih, mgetD_joinOne]

/-- well-formed Go map: exact keys are unique -/
def WF (md : MD) : Prop := md.Pairwise fun a b => a.1 ≠ b.1

theorem exactVals_eq_mgetD {md : MD} (h : WF md) (k : Key) : exactVals md k = mgetD md k := by
  rw [exactVals, mgetD, ← mget_filter_of_pos (· = k) md (decide_eq_true rfl)]
  rcases filter_eq_le_one h k with h0 | ⟨e, he, h1⟩
  · rw [h0]; rfl
  · rw [h1]; simp [mget, he]

theorem mset_not_key {md : MD} {k : Key} (v : List Val) (h : k ∉ keys md) : mset md k v = md ++ [(k, v)] := by
  fun_induction mset md k v with
  | case1 => rfl
  | case2 => simp [keys] at h
  | case3 a b t k v hh ih =>
    rw [ih (by simp [keys] at h ⊢; exact h.2)]
    rfl

theorem foldl_mset_eq_append (md acc : MD) (h : WF (acc ++ md)) :
    md.foldl (fun out e => mset out e.1 e.2) acc = acc ++ md := by
  induction md generalizing acc with
  | nil => simp
  | cons e t ih =>
    simp only [List.foldl_cons]
    have hk : e.1 ∉ keys acc := by
      intro hin
      obtain ⟨_, _, hcross⟩ := List.pairwise_append.1 h
      obtain ⟨x, hx, hxe⟩ := List.mem_map.1 hin
      exact hcross x hx e (by simp) hxe
    rw [mset_not_key _ hk, ih]
    · simp
    · simpa using h

/-- The multimap a context's outgoing metadata denotes (none yet: empty). -/
def specOpt (raw : Option RawMD) (k : Key) : List Val := raw.elim [] (specOutgoing · k)

theorem pairVals_lowerKV (kv : List (Key × Val)) (k : Key) :
    pairVals (kv.map fun p => (lower p.1, p.2)) k = pairVals kv k := by
  simp [pairVals, List.filter_map, Function.comp_def, lower_idem]

theorem addedVals_append_one (added : List (List (Key × Val))) (kv : List (Key × Val)) (k : Key) :
    addedVals (added ++ [kv]) k = addedVals added k ++ pairVals kv k := by
  simp [addedVals, pairVals]

theorem specOpt_stepOut (raw : Option RawMD) (op : OutOp) :
    stepSpec (specOpt raw) op = specOpt (stepOut raw op) := by
  funext k
  cases op with
  | newOut md => simp [stepOut, stepSpec, specOpt, newOutgoing, specOutgoing, addedVals]
  | appendOut kv =>
    simp only [stepOut, stepSpec, specOpt, Option.elim, appendToOutgoing, specOutgoing]
    rw [addedVals_append_one, pairVals_lowerKV, ← List.append_assoc]
    cases raw <;> rfl

theorem histSpec_eq (ops : List OutOp) : histSpec ops = specOpt (runOut ops) :=
  List.foldl_hom (init := none) specOpt specOpt_stepOut

def rawNoFold (raw : Option RawMD) : Prop := raw.elim True (fun r => NoFoldCollision (r.md.getD []))

theorem rawNoFold_stepOut (raw : Option RawMD) (op : OutOp) (h : rawNoFold raw)
    (hop : ∀ md, op = .newOut md → NoFoldCollision md) : rawNoFold (stepOut raw op) := by
  cases op with
  | newOut md => simpa [stepOut, rawNoFold, newOutgoing] using hop md rfl
  | appendOut kv =>
    cases raw with
    | none => simp [stepOut, rawNoFold, appendToOutgoing, NoFoldCollision]
    | some r => simpa [stepOut, rawNoFold, appendToOutgoing] using h

theorem rawNoFold_runOut {ops : List OutOp} (hops : ∀ md, OutOp.newOut md ∈ ops → NoFoldCollision md) :
    rawNoFold (runOut ops) :=
  List.foldlRecOn ops stepOut trivial fun raw h op hop => rawNoFold_stepOut raw op h fun md e => hops md (e ▸ hop)

theorem runOut_eq_none {ops : List OutOp} (h : runOut ops = none) : ops = [] := by
  cases ops with
  | nil => rfl
  | cons op t =>
    have : (runOut (op :: t)).isSome :=
      foldl_inv (P := fun r : Option RawMD => r.isSome = true) (fun _ op _ => by cases op <;> rfl) t (by cases op <;> rfl)
    rw [h] at this; cases this

theorem mgetD_fromOutgoing_runOut {ops : List OutOp} {raw : RawMD} (hr : runOut ops = some raw)
    (h : NoFoldCollision (raw.md.getD [])) (k : Key) :
    mgetD (fromOutgoing raw) k = if lower k = k then histSpec ops k else [] := by
  rw [mgetD_fromOutgoing_any raw k h, histSpec_eq, hr]; rfl

def refs (x : Ctx) : List Nat := x.inc.toList ++ (x.out.bind (·.1)).toList

def RefsOK (st : St) : Prop := ∀ c x, (c, x) ∈ st.ctxs → ∀ i ∈ refs x, (getObj st i).isSome = true

def creates : Op → Option Nat
  | .lit d _ | .new d _ | .pairs d _ | .copy d _ | .join d _ | .fromin d _ | .fromout d _ => some d
  | _ => none

def mutates : Op → Option Nat
  | .set m _ _ | .append m _ _ | .delete m _ | .scribble m => some m
  | _ => none

theorem lookup_cons_ite {β : Type} (a j : Nat) (b : β) (t : List (Nat × β)) :
    List.lookup j ((a, b) :: t) = if a = j then some b else List.lookup j t := by
  rw [List.lookup_cons]
  by_cases h : a = j
  · rw [if_pos h, h, beq_self_eq_true]
  · rw [if_neg h, beq_false_of_ne (Ne.symm h)]

theorem lookup_putObjs (l : List (Nat × MD)) (i j : Nat) (md : MD) :
    (putObjs l i md).lookup j = if i = j then some md else l.lookup j := by
  fun_induction putObjs l i md with
  | case1 => rw [lookup_cons_ite]
  | case2 =>
    rw [lookup_cons_ite, lookup_cons_ite]
    split <;> rfl
  | case3 a b t i md ha ih =>
    rw [lookup_cons_ite, lookup_cons_ite, ih]
    by_cases hj : a = j
    · rw [if_pos hj, if_neg (hj ▸ Ne.symm ha), if_pos hj]
    · rw [if_neg hj, if_neg hj]

theorem getObj_putObj (st : St) (i j : Nat) (md : MD) :
    getObj (putObj st i md) j = if i = j then some md else getObj st j := by
  unfold getObj putObj; exact lookup_putObjs _ _ _ _

theorem ctxs_putObj (st : St) (i : Nat) (md : MD) : (putObj st i md).ctxs = st.ctxs := rfl

theorem rawOf_putObj {st : St} {x : Ctx} {i : Nat} (md : MD) (h : i ∉ refs x) :
    rawOf (putObj st i md) x = rawOf st x := by
  unfold rawOf
  cases ho : x.out with
  | none => rfl
  | some o =>
    obtain ⟨mid, added⟩ := o
    cases mid with
    | none => rfl
    | some j =>
      have : i ≠ j := by
        intro hij; apply h; subst hij; simp [refs, ho]
      simp [getObj_putObj, this]

theorem incOf_putObj {st : St} {x : Ctx} {i : Nat} (md : MD) (h : i ∉ refs x) :
    incOf (putObj st i md) x = incOf st x := by
  unfold incOf
  cases hi : x.inc with
  | none => rfl
  | some j =>
    have : i ≠ j := by
      intro hij; apply h; subst hij; simp [refs, hi]
    simp [getObj_putObj, this]

theorem create_spec {st st1 : St} {d : Nat} {md m : MD} (h : create st d md = (st1, .md m)) :
    getObj st d = none ∧ st1 = putObj st d m := by
  unfold create at h
  split at h
  · cases h
  · cases h; exact ⟨‹_›, rfl⟩

theorem mutate_fst (st : St) (m : Nat) (f : MD → MD) :
    (mutate st m f).1 = st ∨ ∃ md', (mutate st m f).1 = putObj st m md' := by
  unfold mutate
  cases getObj st m with
  | none => exact Or.inl rfl
  | some md => exact Or.inr ⟨f md, rfl⟩

theorem refs_of_getCtx {st : St} (h : RefsOK st) {p : Nat} {pc : Ctx} (hp : getCtx st p = some pc) :
    ∀ i ∈ refs pc, (getObj st i).isSome = true :=
  h p pc (lookup_mem hp)

/-- What a call does, by whether it creates an object.  The result is a variable `r`, so that `step` is unfolded in
    `hr` only and not once for every mention. -/
theorem step_cases {st : St} {op : Op} {r : St × Out} (hr : step st op = r) :
    match creates op with
    | some d => (∃ out, r = (st, out) ∧ ∀ m, out ≠ .md m) ∨ ∃ md, r = create st d md
    | none => (∃ out, r = (st, out)) ∨ (∃ m f, r = mutate st m f) ∨
        ∃ c x, r = addCtx st c x ∧ (RefsOK st → ∀ i ∈ refs x, (getObj st i).isSome = true) := by
  cases op <;> dsimp only [creates]
  case lit | new | pairs => exact .inr ⟨_, hr.symm⟩
  case set | append | delete | scribble => exact .inr (.inl ⟨_, _, hr.symm⟩)
  case bg => exact .inr (.inr ⟨_, _, hr.symm, fun _ => by simp [refs]⟩)
  all_goals dsimp only [step] at hr
  case copy | join =>
    split at hr
    · exact .inl ⟨_, hr.symm, nofun⟩
    · exact .inr ⟨_, hr.symm⟩
  case fromin | fromout =>
    split at hr
    · exact .inl ⟨_, hr.symm, nofun⟩
    · split at hr
      · exact .inl ⟨_, hr.symm, nofun⟩
      · exact .inr ⟨_, hr.symm⟩
  case get | len | dump | valin | valout => split at hr <;> exact .inl ⟨_, hr.symm⟩
  case newin c p m =>
    split at hr
    · next pc _ hp hm =>
      refine .inr (.inr ⟨_, _, hr.symm, fun h i hi => ?_⟩)
      rcases List.mem_append.1 hi with hi | hi
      · cases List.mem_singleton.1 hi
        exact hm ▸ rfl
      · exact refs_of_getCtx h hp i (List.mem_append_right _ hi)
    · exact .inl ⟨_, hr.symm⟩
  case newout c p m =>
    split at hr
    · next pc _ hp hm =>
      refine .inr (.inr ⟨_, _, hr.symm, fun h i hi => ?_⟩)
      rcases List.mem_append.1 hi with hi | hi
      · exact refs_of_getCtx h hp i (List.mem_append_left _ hi)
      · cases List.mem_singleton.1 hi
        exact hm ▸ rfl
    · exact .inl ⟨_, hr.symm⟩
  case appendout c p kv =>
    split at hr
    · next pc hp =>
      refine .inr (.inr ⟨_, _, hr.symm, fun h i hi => refs_of_getCtx h hp i ?_⟩)
      cases ho : pc.out <;> simpa [refs, ho] using hi
    · exact .inl ⟨_, hr.symm⟩

theorem step_creates {st st1 : St} {op : Op} {d : Nat} {m : MD} (hc : creates op = some d)
    (h : step st op = (st1, .md m)) : getObj st d = none ∧ st1 = putObj st d m := by
  have := step_cases h
  rw [hc] at this
  rcases this with ⟨out, e, ho⟩ | ⟨md, e⟩
  · cases e; exact (ho _ rfl).elim
  · exact create_spec e.symm

theorem step_mutates (st : St) {op : Op} {d : Nat} (hm : mutates op = some d) :
    (step st op).1 = st ∨ ∃ md', (step st op).1 = putObj st d md' := by
  cases op with
  | set _ _ _ | append _ _ _ | delete _ _ | scribble _ => cases hm; exact mutate_fst _ _ _
  | _ => cases hm

theorem copies_are_fresh (st : St) (hR : RefsOK st) (op mu : Op) (d : Nat) (st1 : St) (m : MD)
    (hc : creates op = some d) (h1 : step st op = (st1, .md m)) (hm : mutates mu = some d) :
    (step st1 mu).1.ctxs = st.ctxs ∧
    (∀ c x, (c, x) ∈ st.ctxs →
      rawOf (step st1 mu).1 x = rawOf st x ∧ incOf (step st1 mu).1 x = incOf st x) ∧
    (∀ j, j ≠ d → getObj (step st1 mu).1 j = getObj st j) := by
  obtain ⟨hnone, rfl⟩ := step_creates hc h1
  have hunref : ∀ c x, (c, x) ∈ st.ctxs → d ∉ refs x := by
    intro c x hx hin
    have := hR c x hx d hin
    rw [hnone] at this; cases this
  rcases step_mutates (putObj st d m) hm with h2 | ⟨md', h2⟩ <;> rw [h2]
  · refine ⟨rfl, fun c x hx => ⟨rawOf_putObj _ (hunref c x hx), incOf_putObj _ (hunref c x hx)⟩, fun j hj => ?_⟩
    simp [getObj_putObj, Ne.symm hj]
  · refine ⟨rfl, fun c x hx => ?_, fun j hj => ?_⟩
    · rw [rawOf_putObj _ (hunref c x hx), rawOf_putObj _ (hunref c x hx),
        incOf_putObj _ (hunref c x hx), incOf_putObj _ (hunref c x hx)]
      exact ⟨rfl, rfl⟩
    · simp [getObj_putObj, Ne.symm hj]

theorem refsOK_putObj {st : St} (h : RefsOK st) (i : Nat) (md : MD) : RefsOK (putObj st i md) := by
  intro c x hx j hj
  rw [getObj_putObj]
  by_cases hij : i = j
  · simp [hij]
  · simp only [hij, if_false]; exact h c x hx j hj

theorem refsOK_create {st : St} (h : RefsOK st) (d : Nat) (md : MD) : RefsOK (create st d md).1 := by
  unfold create
  cases getObj st d with
  | some _ => exact h
  | none => exact refsOK_putObj h d md

theorem refsOK_mutate {st : St} (h : RefsOK st) (m : Nat) (f : MD → MD) : RefsOK (mutate st m f).1 := by
  rcases mutate_fst st m f with h2 | ⟨md', h2⟩ <;> rw [h2]
  · exact h
  · exact refsOK_putObj h m md'

theorem refsOK_addCtx {st : St} (h : RefsOK st) (c : Nat) (x : Ctx)
    (hx : ∀ i ∈ refs x, (getObj st i).isSome = true) : RefsOK (addCtx st c x).1 := by
  unfold addCtx
  cases getCtx st c with
  | some _ => exact h
  | none =>
    intro c' x' hm j hj
    simp only [List.mem_append, List.mem_singleton, Prod.mk.injEq] at hm
    rcases hm with hm | ⟨_, rfl⟩
    · exact h c' x' hm j hj
    · exact hx j hj

theorem refsOK_step {st : St} (h : RefsOK st) (op : Op) : RefsOK (step st op).1 := by
  have := step_cases (rfl : step st op = _)
  split at this
  · rcases this with ⟨_, e, -⟩ | ⟨_, e⟩ <;> rw [e]
    · exact h
    · exact refsOK_create h _ _
  · rcases this with ⟨_, e⟩ | ⟨_, _, e⟩ | ⟨_, _, e, hx⟩ <;> rw [e]
    · exact h
    · exact refsOK_mutate h _ _
    · exact refsOK_addCtx h _ _ (hx h)

def runOps (ops : List Op) : St := ops.foldl (fun st op => (step st op).1) {}

end GrpcProofs.Lemmas.MD
