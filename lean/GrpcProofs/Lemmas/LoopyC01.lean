import GrpcProofs.Lemmas.Loopy
/-! Ledger invariant for C01: the writer's `sendQuota` / `oiws − bytesOutStanding` never exceed the peer's windows. -/
namespace GrpcProofs.Loopy
open GrpcModel.Loopy GrpcModel.Loopy.C01

/-- The writer's books are within the peer's ledger `p`: it believes it may send no more than the peer has granted, on the
connection (`≤`: after a wrap of `sendQuota` it believes less) and on every established stream (exactly). -/
structure LedCore (s : St) (p : Peer) : Prop where
  conn : (s.sendQuota : Int) ≤ p.conn
  iws : p.iws = s.oiws
  win : ∀ id ∈ s.keys, p.win id = some (s.quota id)
  act : ∀ id ∈ s.active, id ∈ s.keys

theorem send_inert (p : Peer) {o : Out} (h : Inert o) : p.send o = (p, none) := by
  cases o with
  | data => exact h.elim
  | headers id es frags =>
    rw [Peer.send, if_pos]
    exact List.all_eq_true.mpr fun x hx => decide_eq_true (h x hx)
  | _ => rfl

theorem sendAll_inert (p : Peer) {os : List Out} (h : ∀ o ∈ os, Inert o) : p.sendAll os = (p, none) := by
  induction os with
  | nil => rfl
  | cons o os ih =>
    rw [sendAll_fold.cons_ok _ (send_inert p (h o List.mem_cons_self))]
    exact ih fun o' ho' => h o' (List.mem_cons_of_mem _ ho')

variable {s t : St} {p q : Peer}

theorem LedCore.update (h : LedCore s p) (id : Nat) (hc : (t.sendQuota : Int) ≤ q.conn) (hi : q.iws = t.oiws)
    (ho : t.oiws = s.oiws)
    (hne : ∀ i ∈ t.keys, i ≠ id → i ∈ s.keys ∧ (t.str i).bytesOut = (s.str i).bytesOut ∧ q.win i = p.win i)
    (hid : id ∈ t.keys → q.win id = some (t.quota id)) (ha : ∀ i ∈ t.active, i ∈ t.keys) : LedCore t q := by
  refine ⟨hc, hi, fun i hk => ?_, ha⟩
  by_cases e : i = id
  · exact e ▸ hid (e ▸ hk)
  · obtain ⟨hks, hb, hw⟩ := hne i hk e
    rw [hw, h.win i hks, St.quota, St.quota, ho, hb]

theorem LedCore.mono (h : LedCore s p) (hq : t.sendQuota ≤ s.sendQuota) (ho : t.oiws = s.oiws)
    (hk : ∀ i ∈ t.keys, i ∈ s.keys ∧ (t.str i).bytesOut = (s.str i).bytesOut) (ha : ∀ i ∈ t.active, i ∈ t.keys) :
    LedCore t p :=
  ⟨by have := h.conn; omega, ho ▸ h.iws,
    fun i hi => by rw [h.win i (hk i hi).1, St.quota, St.quota, ho, (hk i hi).2], ha⟩

/-- `LedCore` reads neither `closed` nor `draining`: in a state that differs in these only, the fields of `h` are those asked for, and
`{ h with }` hands them over. -/
theorem led_closed_irrelevant {s : St} {p : Peer} (h : LedCore s p) (b : Bool) : LedCore { s with closed := b } p :=
  { h with }

theorem LedCore.setStr (h : LedCore s p) (id : Nat) (x : OutStream) (hb : x.bytesOut = (s.str id).bytesOut) :
    LedCore (s.setStr id x) p :=
  h.mono (Nat.le_refl _) rfl (fun i hi => ⟨hi, by by_cases e : i = id <;> simp [St.setStr, e, hb]⟩) h.act

theorem LedCore.act_snoc (h : LedCore s p) {id : Nat} (hk : id ∈ s.keys) : ∀ i ∈ s.active ++ [id], i ∈ s.keys :=
  fun i hi => (List.mem_append.mp hi).elim (h.act i) fun e => List.mem_singleton.mp e ▸ hk

theorem removeStream_led (h : LedCore s p) (id : Nat) : LedCore (removeStream s id) p := by
  rw [removeStream_eq (h.act id)]
  exact h.mono (Nat.le_refl _) rfl (fun i hi => ⟨(List.mem_filter.mp hi).1, rfl⟩)
    fun i hi => List.mem_filter.mpr ⟨h.act i (List.mem_filter.mp hi).1, (List.mem_filter.mp hi).2⟩

theorem mstep_of_inert {p1 : Peer} {o : Op} {outs : List Out} {Q : Peer → Prop}
    (hrecv : p.recv o outs = p1) (hin : ∀ x ∈ outs, Inert x) (hst : Q p1) : ∃ p', mstep p o outs = (p', none) ∧ Q p' :=
  ⟨p1, by rw [mstep, hrecv, sendAll_inert p1 hin], hst⟩

theorem LedCore.setting_win (h : LedCore s p) (v : Nat) {i : Nat} (hi : i ∈ s.keys) :
    (p.setting (4, v)).win i = some ((v : Int) - (s.str i).bytesOut) := by
  simp only [Peer.setting, if_true, h.win i hi, Option.map_some, St.quota, h.iws]
  congr 1; omega

theorem settings_led {order : List Nat} {ss : List (Nat × Nat)} (hd : Settings order s ss t) :
    ∀ {p}, LedCore s p → LedCore t (ss.foldl Peer.setting p) := by
  induction hd with
  | done => exact id
  | other hk _ ih => exact fun {p} h => ih (by rw [Peer.setting, if_neg hk]; exact h)
  | @lower _ v _ _ _ _ ih => exact fun h => ih ⟨h.conn, rfl, fun _ hi => h.setting_win v hi, h.act⟩
  | @raise _ v _ _ _ _ ih =>
    refine fun h => ih ⟨h.conn, rfl, fun i hi => (h.setting_win v hi).trans ?_, fun i hi => ?_⟩
    · dsimp only [St.quota]; split <;> rfl
    · exact (List.mem_append.mp hi).elim (h.act i) fun hi => (mem_wakeOrder.mp hi).1

theorem LedCore.newStream (h : LedCore s p) (id : Nat) :
    LedCore ({ s with keys := s.keys ++ [id] }.setStr id {}) (p.setWin id (some p.iws)) :=
  h.update id h.conn h.iws rfl
    (fun i hi e => ⟨by simpa [e] using hi, by rw [setStr_str_ne _ _ e], by simp [Peer.setWin, e]⟩)
    (fun _ => by simp [Peer.setWin, St.quota, h.iws]) fun i hi => List.mem_append_left _ (h.act i hi)

theorem LedCore.setActive {l : List Nat} (h : LedCore s p) (ha : ∀ i ∈ l, i ∈ s.keys) : LedCore { s with active := l } p :=
  { h with act := ha }

theorem afterWrite_led {id hb : Nat} {pre : List Out} {r : Res} (hw : AfterWrite s id hb pre r) (h : LedCore s p) (hk : id ∈ s.keys) :
    LedCore r.st p := by
  cases hw with
  | drained | waiting => exact LedCore.setStr h id _ rfl
  | trailers => exact removeStream_led h id
  | again => exact LedCore.setActive h (h.act_snoc hk)

theorem send_data {id n : Nat} {w : Int} (off : Nat) (es : Bool) (hw : p.win id = some w) (h1 : n ≤ 16384)
    (h2 : (n : Int) ≤ p.conn) (h3 : 0 < n → (n : Int) ≤ w) :
    ∃ p2, p.send (.data id off n es) = (p2, none) ∧ p2.conn = p.conn - n ∧ p2.iws = p.iws ∧
      p2.win id = some (w - n) ∧ ∀ i, i ≠ id → p2.win i = p.win i := by
  rw [Peer.send, if_neg (by omega)]
  by_cases h0 : n = 0
  · rw [if_pos h0]
    exact ⟨p, rfl, by simp [h0], rfl, by simp [hw, h0], fun _ _ => rfl⟩
  · rw [if_neg h0]
    simp only [hw]
    rw [if_neg (by omega), if_neg (by have := h3 (by omega); omega)]
    exact ⟨_, rfl, rfl, rfl, by simp [Peer.setWin], fun i hi => by simp [Peer.setWin, hi]⟩

theorem wrote_led {id : Nat} {rest : List Nat} {off hl d : Nat} {es : Bool} {tl : List Item} {hSize dSize : Nat} (h : LedCore s p)
    (hs : Serves s id rest off hl d es tl hSize dSize) :
    ∃ p2, p.send (.data id off (hSize + dSize) (es && (hl + d - hSize - dSize == 0))) = (p2, none) ∧
      LedCore (wrote { s with active := rest } id off hl d es tl hSize dSize) p2 := by
  have hk : id ∈ s.keys := h.act _ (hs.active ▸ List.mem_cons_self)
  have hconn := h.conn
  obtain ⟨b1, b2, b3⟩ : hSize + dSize ≤ 16384 ∧ hSize + dSize ≤ s.sendQuota ∧
      (0 < hSize + dSize → ((hSize + dSize : Nat) : Int) ≤ s.quota id) := by
    have := hs.size
    have := hs.quota
    omega
  obtain ⟨p2, hsend, hc2, hi, hwid, hwne⟩ := send_data off (es && (hl + d - hSize - dSize == 0)) (h.win id hk) b1 (by omega) b3
  exact ⟨p2, hsend, h.update id (by rw [hc2]; dsimp only [wrote, St.setStr]; omega) (hi ▸ h.iws) rfl
    (fun i hi e => ⟨hi, by rw [wrote_str_ne e], hwne i e⟩)
    (fun _ => by rw [hwid]; simp only [wrote, St.quota, setStr_str_same, setStr_oiws]; congr 1; omega)
    fun i hi => h.act i (hs.active ▸ List.mem_cons_of_mem _ hi)⟩

theorem does_led {o : Op} {r : Res} (h : LedCore s p) (hd : Does s o r) :
    ∃ p', mstep p o r.outs = (p', none) ∧ LedCore r.st p' := by
  -- a WINDOW_UPDATE for an established stream, whatever becomes of the stream's state
  have credit : ∀ {id inc : Nat} (x : OutStream), id ∈ s.keys → x.bytesOut = (s.str id).bytesOut - inc → ∀ l, (∀ i ∈ l, i ∈ s.keys) →
      LedCore { s.setStr id x with active := l } (p.setWin id ((p.win id).map (· + (inc : Int)))) := fun {id inc} x hk hx l hl =>
    h.update id h.conn h.iws rfl
      (fun i hi e => ⟨hi, by rw [setStr_str_ne _ _ e], by simp [Peer.setWin, e]⟩)
      (fun _ => by simp [Peer.setWin, h.win id hk, St.quota, hx]; omega) hl
  have pop : ∀ {id rest}, s.active = id :: rest → LedCore { s with active := rest } p := fun hact =>
    LedCore.setActive h fun i hi => h.act i (hact ▸ List.mem_cons_of_mem _ hi)
  cases hd with
  | @creditConn inc =>
    refine mstep_of_inert (p1 := { p with conn := p.conn + inc }) rfl outs_nil ⟨?_, h.iws, h.win, h.act⟩
    have := h.conn
    have := Nat.mod_le (s.sendQuota + inc) (2 ^ 32)
    dsimp only
    omega
  | creditWake h0 hk => exact mstep_of_inert (by rw [Peer.recv, if_neg h0]) outs_nil (credit _ hk rfl _ (h.act_snoc hk))
  | credit h0 hk => exact mstep_of_inert (by rw [Peer.recv, if_neg h0]) outs_nil (credit _ hk rfl _ h.act)
  | @creditAbsent id inc h0 hk =>
    exact mstep_of_inert (p1 := p.setWin id ((p.win id).map (· + (inc : Int)))) (by rw [Peer.recv, if_neg h0]) outs_nil
      (h.update id h.conn h.iws rfl (fun i hi e => ⟨hi, rfl, by simp [Peer.setWin, e]⟩) (fun hi => absurd hi hk) h.act)
  | outWinUpdate | outSettings | ping | clientOrphaned | clientInitErr | clientDup | goAway =>
    exact mstep_of_inert rfl (outs_cons trivial outs_nil) { h with }
  | settings hss => exact mstep_of_inert rfl (outs_cons trivial outs_nil) (settings_led hss h)
  | registerDup => exact mstep_of_inert (by simp [Peer.recv]) (outs_cons trivial outs_nil) h
  | register => exact mstep_of_inert (by simp [Peer.recv]) outs_nil (LedCore.newStream h _)
  | @clientOpen id hb =>
    exact mstep_of_inert (if_pos (hasHeaders_writeHeader id false hb true [.cb .initStream id]))
      (outs_cons trivial (inert_writeHeader _ _ _ _)) (LedCore.newStream h id)
  | response => exact mstep_of_inert rfl (inert_writeHeader _ _ _ _) h
  | trailersQueued | dataQueued => exact mstep_of_inert rfl outs_nil (LedCore.setStr h _ _ rfl)
  | trailersNow =>
    exact mstep_of_inert rfl (outs_append (inert_writeHeader _ _ _ _) (inert_cleanup _ _ _)) (removeStream_led h _)
  | dataFirst hk => exact mstep_of_inert rfl outs_nil (LedCore.setActive (LedCore.setStr h _ _ rfl) (h.act_snoc hk))
  | cleanup => exact mstep_of_inert rfl (inert_cleanup _ _ _) (removeStream_led h _)
  | abort => exact mstep_of_inert rfl (outs_append (inert_writeHeader _ _ _ _) (inert_rst _ 0 _)) h
  | panic _ hact => exact mstep_of_inert rfl (outs_cons trivial outs_nil) (pop hact)
  | park _ hact => exact mstep_of_inert rfl outs_nil (LedCore.setStr (pop hact) _ _ rfl)
  | write hs hw =>
    obtain ⟨p2, hsend, h2⟩ := wrote_led h hs
    obtain ⟨extra, ho, hin⟩ := hw.outs
    refine ⟨p2, ?_, afterWrite_led hw h2 (h.act _ (hs.active ▸ List.mem_cons_self))⟩
    rw [mstep, ho, show p.recv (.tick _) _ = p from rfl,
      sendAll_fold.append _ ((sendAll_fold.cons_ok _ rfl).trans (sendAll_fold.cons_ok _ hsend)), sendAll_inert p2 hin]
  | _ => exact mstep_of_inert rfl outs_nil { h with }

/-- The invariant of a run against the C01 ledger: `LedCore`, until `run()` has returned; after that nothing is written and nothing claimed. -/
def Led (s : St) (p : Peer) : Prop := s.closed = true ∨ LedCore s p

theorem steps_led {o : Op} {r : Res} (hd : Steps s o r) (h : Led s p) : ∃ p', mstep p o r.outs = (p', none) ∧ Led r.st p' := by
  cases hd with
  | closed hc => exact mstep_of_inert rfl outs_nil (.inl hc)
  | outside _ ho =>
    refine mstep_of_inert ?_ (outs_cons trivial outs_nil) h
    -- the peer's ledger takes no notice of an item answered with `.unmodelled`
    cases o with
    | winUpdate | settings => cases ho
    | register id => simp [Peer.recv]
    | clientHeaders id hb ie => simp [Peer.recv, hasHeaders]
    | _ => rfl
  | does hc _ hd =>
    obtain ⟨p', hm, hl⟩ := does_led (h.resolve_left (by simp [hc])) hd
    exact ⟨p', hm, .inr (led_closed_irrelevant hl _)⟩

theorem led_init (side : Side) : Led (init side) Peer.init := by
  refine Or.inr ⟨?_, ?_, ?_, ?_⟩ <;> simp [init, Peer.init, defaultWindow_eq]

theorem runFrom_led {s : St} {p : Peer} (h : Led s p) (ops : List Op) :
    (runMon p (runFrom s ops).2).2 = none ∧ Led (runFrom s ops).1 (runMon p (runFrom s ops).2).1 := by
  induction ops generalizing s p with
  | nil => exact ⟨rfl, h⟩
  | cons o os ih =>
    obtain ⟨p', hm, hl⟩ := steps_led (step_steps s o) h
    simp only [runFrom, runMon, hm]
    exact ih hl


/-- Frame-size clause of C01. -/
def FrameOK : Out → Prop
  | .data _ _ size _ => size ≤ 16384
  | .headers _ _ frags => ∀ x ∈ frags, x ≤ 16384
  | _ => True

/-- Window clause of C01 for one frame, given the peer's ledger just before it. -/
def FitsWindows (p : Peer) : Out → Prop
  | .data id _ size _ => size = 0 ∨ ((size : Int) ≤ p.conn ∧ ∃ w, p.win id = some w ∧ (size : Int) ≤ w)
  | _ => True

theorem send_ok {p p1 : Peer} {o : Out} (h : p.send o = (p1, none)) : FrameOK o ∧ FitsWindows p o := by
  cases o with
  | data id off size es =>
    simp only [Peer.send] at h
    -- the monitors are chains of `if violated then (_, some reason) else …`: an accepted step has passed every test
    obtain ⟨h1, h⟩ := Lemmas.Basic.of_ite_eq h
    split at h
    · rename_i h0; exact ⟨Nat.not_lt.mp h1, .inl h0⟩
    split at h
    · cases h
    rename_i w hw
    obtain ⟨h2, h⟩ := Lemmas.Basic.of_ite_eq h
    obtain ⟨h3, _⟩ := Lemmas.Basic.of_ite_eq h
    exact ⟨Nat.not_lt.mp h1, .inr ⟨Int.not_lt.mp h2, w, hw, Int.not_lt.mp h3⟩⟩
  | headers id es frags =>
    simp only [Peer.send] at h
    split at h
    · rename_i ha
      exact ⟨fun x hx => of_decide_eq_true (List.all_eq_true.mp ha x hx), trivial⟩
    · cases h
  | _ => exact ⟨trivial, trivial⟩

theorem send_conn_nonneg {p p1 : Peer} {o : Out} {e : Option String} (h : p.send o = (p1, e)) (h0 : 0 ≤ p.conn) : 0 ≤ p1.conn := by
  have same : ∀ {r : Peer × Option String}, r = (p1, e) → r.1 = p → 0 ≤ p1.conn := fun hr hp => by
    cases hr; cases hp; exact h0
  cases o with
  | data id off size es =>
    simp only [Peer.send] at h
    -- five ways not to charge the frame (too large, empty, no window, over either window): the ledger stays as it was
    iterate 5 (split at h; · exact same h rfl)
    cases h; simp only [Peer.setWin]; omega
  | headers id es frags =>
    simp only [Peer.send] at h
    split at h <;> exact same h rfl
  | _ => exact same h rfl

theorem sendAll_conn_nonneg {p : Peer} {os : List Out} (h0 : 0 ≤ p.conn) : 0 ≤ (p.sendAll os).1.conn :=
  sendAll_fold.inv (P := fun p => 0 ≤ p.conn) (fun _ _ => send_conn_nonneg rfl) os h0

theorem setting_conn (p : Peer) (kv : Nat × Nat) : (p.setting kv).conn = p.conn := by
  unfold Peer.setting; split <;> rfl

theorem recv_conn_nonneg {p : Peer} (op : Op) (outs : List Out) (h0 : 0 ≤ p.conn) : 0 ≤ (p.recv op outs).conn := by
  cases op with
  | winUpdate id inc =>
    rw [Peer.recv]
    split
    · dsimp only; omega
    · exact h0
  | settings ss order =>
    exact Lemmas.Basic.foldl_inv (P := fun q : Peer => 0 ≤ q.conn) (fun q kv h => (setting_conn q kv).symm ▸ h) ss h0
  | register id => rw [Peer.recv]; split <;> exact h0
  | clientHeaders id hb ie => rw [Peer.recv]; split <;> exact h0
  | _ => exact h0

theorem runMon_conn_nonneg {p : Peer} (tr : List (Op × List Out)) (h0 : 0 ≤ p.conn) : 0 ≤ (runMon p tr).1.conn :=
  runMon_fold.inv (P := fun p => 0 ≤ p.conn) (fun _ x h => sendAll_conn_nonneg (recv_conn_nonneg x.1 x.2 h)) tr h0

theorem runMon_ok_frame {p : Peer} {pre post : List (Op × List Out)} {op : Op} {a b : List Out} {o : Out}
    (h : (runMon p (pre ++ (op, a ++ o :: b) :: post)).2 = none) :
    ∃ pa, ((runMon p pre).1.recv op (a ++ o :: b)).sendAll a = (pa, none) ∧ FrameOK o ∧ FitsWindows pa o := by
  obtain ⟨p1, h1, h2⟩ := runMon_fold.of_append (Prod.ext rfl h : runMon p _ = (_, none))
  obtain ⟨_, hm, _⟩ := runMon_fold.of_cons h2
  obtain ⟨pa, ha, hb⟩ := sendAll_fold.of_append (hm : ((p1.recv op _).sendAll _) = _)
  obtain ⟨_, hs, _⟩ := sendAll_fold.of_cons hb
  exact ⟨pa, by rw [h1]; exact ha, send_ok hs⟩

theorem trace_frame_ok (side : Side) (ops : List Op) {pre post : List (Op × List Out)} {op : Op} {a b : List Out} {o : Out}
    (htr : trace side ops = pre ++ (op, a ++ o :: b) :: post) :
    ∃ pa, ((runMon Peer.init pre).1.recv op (a ++ o :: b)).sendAll a = (pa, none) ∧ FrameOK o ∧ FitsWindows pa o :=
  runMon_ok_frame (htr ▸ (runFrom_led (led_init side) ops).1 : (runMon Peer.init (pre ++ (op, a ++ o :: b) :: post)).2 = none)

theorem frameOK_of_mem_trace (side : Side) (ops : List Op) {op : Op} {outs : List Out} {o : Out} (h1 : (op, outs) ∈ trace side ops)
    (h2 : o ∈ outs) : FrameOK o := by
  obtain ⟨pre, post, htr⟩ := List.append_of_mem h1
  obtain ⟨a, b, rfl⟩ := List.append_of_mem h2
  obtain ⟨_, _, hf, _⟩ := trace_frame_ok side ops htr
  exact hf

end GrpcProofs.Loopy
