/-
Helper lemmas for C35 (ConnectivityStateEvaluator part): the four uint64 counters track the
multiset of child states along every legal history.
-/
import GrpcModel.Model.LbConnState
import GrpcProofs.Lemmas.Basic
namespace GrpcProofs.Lemmas.LbConnState
open GrpcModel.LbConnState

/-- the evaluator's counter for a state (it keeps none for SHUTDOWN) -/
def counter (c : CSE) : ConnState → BitVec 64
  | .ready => c.numReady | .connecting => c.numConnecting | .tf => c.numTransientFailure
  | .idle => c.numIdle | .shutdown => 0

/-- each counter is the number of children in its state, modulo 2^64 -/
def Counts (c : CSE) (l : List ConnState) : Prop := ∀ s, s ≠ .shutdown → counter c s = BitVec.ofNat 64 (l.count s)

/-- the evaluator `c` after a legal history that left the children in the states `l` -/
structure Tracks (c : CSE) (l : List ConnState) : Prop where
  counts : Counts c l
  noShutdown : .shutdown ∉ l

theorem counter_bump (c : CSE) (s s' : ConnState) (v : BitVec 64) :
    counter (c.bump s v) s' = if s = s' ∧ s ≠ .shutdown then counter c s' + v else counter c s' := by
  cases s <;> cases s' <;> rfl

/-- `RecordTransition(old, new)` on one counter; the decrement stands on the left, as in the count equations below. -/
theorem counter_recordTransition (c : CSE) (old new s : ConnState) (hs : s ≠ .shutdown) :
    counter (c.recordTransition old new).1 s + BitVec.ofNat 64 (if old = s then 1 else 0)
      = counter c s + BitVec.ofNat 64 (if new = s then 1 else 0) := by
  have e : ∀ x : BitVec 64, x + updateVal 0 + 1#64 = x := fun x => by
    rw [BitVec.add_assoc, show updateVal 0 + 1#64 = 0#64 by decide, BitVec.add_zero]
  have e1 : updateVal 1 = 1#64 := by decide
  simp only [CSE.recordTransition, counter_bump, e1]
  by_cases h1 : old = s <;> by_cases h2 : new = s <;> simp [h1, h2, hs, e]

/-- `shutdown` stands for no child.  `BitVec.ofNat` is additive, so the count equation of the lists is the
    equation of the counters. -/
theorem counts_recordTransition {c : CSE} {l l' : List ConnState} (hc : Counts c l) (old new : ConnState)
    (h : ∀ s, s ≠ .shutdown → l'.count s + (if old = s then 1 else 0) = l.count s + (if new = s then 1 else 0)) :
    Counts (c.recordTransition old new).1 l' := by
  intro s hs
  have := counter_recordTransition c old new s hs
  rw [hc s hs, ← BitVec.ofNat_add, ← h s hs, BitVec.ofNat_add] at this
  exact (BitVec.add_left_inj _).mp this

theorem counts_init : Counts {} [] := by
  intro s _; cases s <;> rfl

theorem Counts.fields {c : CSE} {l : List ConnState} (h : Counts c l) :
    c.numReady = BitVec.ofNat 64 (l.count .ready) ∧ c.numConnecting = BitVec.ofNat 64 (l.count .connecting) ∧
    c.numTransientFailure = BitVec.ofNat 64 (l.count .tf) ∧ c.numIdle = BitVec.ofNat 64 (l.count .idle) :=
  ⟨h .ready (by decide), h .connecting (by decide), h .tf (by decide), h .idle (by decide)⟩

/-! A parent with children `l`, of which it counts the state `f`, adds a child, changes one, removes one
    (`track` with `f = id`, weighted_target's aggregator with `f = (·.agg)`). -/
section parent
variable {α : Type} {f : α → ConnState} {c : CSE} {l : List α}

theorem count_split {i : Nat} (hi : i < l.length) (s : ConnState) :
    (l.map f).count s = ((l.take i ++ l.drop (i + 1)).map f).count s + if f l[i] = s then 1 else 0 := by
  conv => lhs; rw [← List.take_append_drop i l, ← List.getElem_cons_drop hi]
  simp only [List.map_append, List.map_cons, List.count_append, List.count_cons, beq_iff_eq]
  omega

variable (hc : Counts c (l.map f))
include hc

theorem counts_add (a : α) {l' : List α} (hp : l'.Perm (a :: l)) :
    Counts (c.recordTransition .shutdown (f a)).1 (l'.map f) :=
  counts_recordTransition hc _ _ fun s hs => by simp [(hp.map f).count_eq, List.count_cons, Ne.symm hs]

theorem counts_set {i : Nat} (hi : i < l.length) (a : α) :
    Counts (c.recordTransition (f l[i]) (f a)).1 ((l.set i a).map f) :=
  counts_recordTransition hc _ _ fun s _ => by
    rw [count_split hi, List.set_eq_take_append_cons_drop, if_pos hi]
    simp only [List.map_append, List.map_cons, List.count_append, List.count_cons, beq_iff_eq]
    omega

theorem counts_eraseIdx {i : Nat} (hi : i < l.length) :
    Counts (c.recordTransition (f l[i]) .shutdown).1 ((l.eraseIdx i).map f) :=
  counts_recordTransition hc _ _ fun s hs => by
    rw [if_neg (Ne.symm hs), Nat.add_zero, count_split hi, List.eraseIdx_eq_take_drop_succ]

end parent

theorem tracks_init : Tracks {} [] := ⟨counts_init, by simp⟩

theorem tracks_step (c : CSE) (l : List ConnState) (h : Tracks c l) (e : Ev) :
    Tracks (track (c, l) e).1 (track (c, l) e).2 := by
  obtain ⟨hc, hn⟩ := h
  have hc' : Counts c (l.map id) := by simpa using hc
  fun_cases track (c, l) e
  -- the steps that are not skipped: a new child (2), a child that changes state (4), a child removed (6)
  case case2 s hs =>
    refine ⟨by simpa using counts_add hc' s (.refl _), ?_⟩
    simp only [List.mem_cons, not_or]; exact ⟨fun h => hs h.symm, hn⟩
  case case4 i s old hold hs =>
    obtain ⟨hi, rfl⟩ := List.getElem?_eq_some_iff.mp hold
    refine ⟨by simpa using counts_set hc' hi s, fun hm => ?_⟩
    rcases List.mem_or_eq_of_mem_set hm with h | h
    · exact hn h
    · exact hs h.symm
  case case6 i old hold =>
    obtain ⟨hi, rfl⟩ := List.getElem?_eq_some_iff.mp hold
    exact ⟨by simpa using counts_eraseIdx hc' hi, fun hm => hn (List.mem_of_mem_eraseIdx hm)⟩
  all_goals exact ⟨hc, hn⟩

theorem tracks_run (evs : List Ev) : Tracks (runTrack evs).1 (runTrack evs).2 :=
  Basic.foldl_inv (P := fun p : CSE × List ConnState => Tracks p.1 p.2) (fun p e h => tracks_step p.1 p.2 h e) evs tracks_init

theorem ofNat_count_pos_iff_mem (l : List ConnState) (s : ConnState) (hl : l.length < 2 ^ 64) :
    BitVec.ofNat 64 (l.count s) > 0 ↔ s ∈ l := by
  have h1 : l.count s < 2 ^ 64 := Nat.lt_of_le_of_lt List.count_le_length hl
  rw [← List.count_pos_iff]
  simp only [GT.gt, BitVec.lt_def, BitVec.toNat_ofNat, Nat.mod_eq_of_lt h1]
  simp

theorem current_of_counts (c : CSE) (l : List ConnState) (hc : Counts c l) (hl : l.length < 2 ^ 64) :
    c.currentState = prec l := by
  obtain ⟨hr, hcn, _, hi⟩ := hc.fields
  simp only [CSE.currentState, prec, hr, hcn, hi, ofNat_count_pos_iff_mem l _ hl]

end GrpcProofs.Lemmas.LbConnState
