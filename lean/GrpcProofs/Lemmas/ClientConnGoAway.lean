import GrpcProofs.Lemmas.ClientConnStep
/-! `handleGoAway` for C14: which streams `goAwayKill` touches and how; `handleGoAway` as one equation with its tests as
propositions (`handleGoAway_def`, in the namespace of C14's statements); what the reader's iteration for an accepted GOAWAY
does to a stream record and to `goAwayClosed`. -/
namespace GrpcProofs.Lemmas.ClientConn
open GrpcModel.ClientConn

theorem markVictims_get (s : State) (id up i : Nat) :
    (s.markVictims id up).streams[i]? = (s.streams[i]?).map (fun x => if isVictim id up x then markF x else x) := by
  simp [State.markVictims]

@[simp] theorem markVictims_len (s : State) (id up : Nat) : (s.markVictims id up).streams.length = s.streams.length := by
  simp [State.markVictims]

theorem isVictim_markF (id up : Nat) (x : Strm) : isVictim id up (markF x) = isVictim id up x := rfl

@[simp] theorem goAwayFirst_streams (s : State) (c : Nat) (d : Bytes) : (s.goAwayFirst c d).streams = s.streams := by
  obtain ⟨_, _, h⟩ := goAwayFirst_eq s c d; rw [h]
@[simp] theorem goAwayFirst_prev (s : State) (c : Nat) (d : Bytes) : (s.goAwayFirst c d).prevGoAwayID = s.prevGoAwayID := by
  obtain ⟨_, _, h⟩ := goAwayFirst_eq s c d; rw [h]

theorem goAwayFirst_ga (s : State) (c : Nat) (d : Bytes) : (s.goAwayFirst c d).goAwayClosed = true := by
  obtain ⟨_, _, h⟩ := goAwayFirst_eq s c d; rw [h]

@[simp] theorem activeCount_congr {s t : State} (h : t.streams = s.streams) : t.activeCount = s.activeCount := by
  simp [State.activeCount, h]

theorem goAwayKill_get (s : State) (id up i : Nat) (x : Strm) (hx : s.streams[i]? = some x) :
    (s.goAwayKill id up).1.streams[i]? =
      some (if s.activeCount ≠ 0 ∧ isVictim id up x = true then closeF (some cUnavailable) cUnavailable (markF x) else x) := by
  rw [goAwayKill_eq]
  split
  · simp [*]
  · rw [closeWhere_get, markVictims_get, if_pos (Basic.lt_of_getElem? hx)]
    by_cases hv : isVictim id up x = true <;> simp [*, isVictim_markF]

theorem goAwayKill_err (s : State) (id up : Nat) : (s.goAwayKill id up).2 = (s.activeCount == 0) := by
  rw [goAwayKill_eq]; split <;> simp [*]

theorem goAwayKill_ga (s : State) (id up : Nat) : (s.goAwayKill id up).1.goAwayClosed = s.goAwayClosed := by
  rw [goAwayKill_eq]
  split
  · rfl
  · obtain ⟨_, _, _, _, h⟩ := closeWhere_eq (isVictim id up) (({ s with prevGoAwayID := id } : State).markVictims id up)
      s.streams.length
    rw [h]; rfl

theorem activeCount_pos {s : State} {i : Nat} {x : Strm} (hx : s.streams[i]? = some x) (ha : x.inActive = true) :
    s.activeCount ≠ 0 := by
  unfold State.activeCount
  have hm : x ∈ s.streams := List.mem_of_getElem? hx
  have : x ∈ s.streams.filter (·.inActive) := List.mem_filter.mpr ⟨hm, ha⟩
  intro h0
  have := List.eq_nil_of_length_eq_zero h0
  simp_all

/-- the reader loop's iteration for a GOAWAY frame: whether it returns on `handleGoAway`'s error is configuration -/
theorem onFrame_goAway {s : State} (n c : Nat) (d : Bytes) (h : s.readerDone = false) :
    s.onFrame (.goAway n c d) =
      if s.errCloses && (s.handleGoAway n c d).2 then (s.handleGoAway n c d).1.readerExit else (s.handleGoAway n c d).1 := by
  simp only [State.onFrame, h, Bool.false_eq_true, if_false]

end GrpcProofs.Lemmas.ClientConn

namespace GrpcProofs.C14
open GrpcModel.ClientConn GrpcProofs.Lemmas.ClientConn

/-- The reader goroutine is alive, the transport is not closing, and `handleGoAway` does not reject the
frame (non-zero even id; id above the previous GOAWAY's). -/
def Accepted (s : State) (n : Nat) : Prop :=
  s.readerDone = false ∧ s.tstate ≠ .closing ∧ ¬(n > 0 ∧ n % 2 = 0) ∧ ¬(s.goAwayClosed = true ∧ n > s.prevGoAwayID)

/-- `upperLimit` of `handleGoAway` -/
def upper (s : State) : Nat := if s.prevGoAwayID = 0 then maxU32 else s.prevGoAwayID

theorem Accepted.alive {s : State} {n : Nat} (h : Accepted s n) : s.readerDone = false := h.1

/-- `handleGoAway` with its tests as propositions: the transport is closing; the frame is rejected (a non-zero even id; an id
above the previous GOAWAY's); a later GOAWAY; the first one. -/
theorem handleGoAway_def (s : State) (n c : Nat) (d : Bytes) :
    s.handleGoAway n c d =
      if s.tstate = .closing then (s, false)
      else if n > 0 ∧ n % 2 = 0 then ({ s with goAwayErrs := s.goAwayErrs + 1 }, true)
      else if s.goAwayClosed = true ∧ n > s.prevGoAwayID then ({ s with goAwayErrs := s.goAwayErrs + 1 }, true)
      else if s.goAwayClosed = true then s.goAwayKill n (upper s)
      else (((s.goAwayFirst c d).goAwayKill n (upper s)).1.put .inGoAway, ((s.goAwayFirst c d).goAwayKill n (upper s)).2) := by
  unfold State.handleGoAway
  simp only [Bool.and_eq_true, decide_eq_true_eq]
  rfl

theorem handleGoAway_rejected {s : State} {n : Nat} (c : Nat) (d : Bytes) (h2 : s.tstate ≠ .closing)
    (h : (n > 0 ∧ n % 2 = 0) ∨ (s.goAwayClosed = true ∧ n > s.prevGoAwayID)) :
    s.handleGoAway n c d = ({ s with goAwayErrs := s.goAwayErrs + 1 }, true) := by
  rw [handleGoAway_def, if_neg h2]
  rcases h with h | h
  · rw [if_pos h]
  · -- both tests answer with the same pair
    rw [if_pos h, ite_self]

theorem handleGoAway_eq {s : State} {n : Nat} (c : Nat) (d : Bytes) (h : Accepted s n) :
    s.handleGoAway n c d =
      if s.goAwayClosed = true then s.goAwayKill n (upper s)
      else (((s.goAwayFirst c d).goAwayKill n (upper s)).1.put .inGoAway, ((s.goAwayFirst c d).goAwayKill n (upper s)).2) := by
  obtain ⟨-, h2, h3, h4⟩ := h
  rw [handleGoAway_def, if_neg h2, if_neg h3, if_neg h4]

theorem handleGoAway_get {s : State} {n : Nat} (c : Nat) (d : Bytes) (h : Accepted s n) {i : Nat} {x : Strm}
    (hx : s.streams[i]? = some x) :
    (s.handleGoAway n c d).1.streams[i]? =
      some (if s.activeCount ≠ 0 ∧ isVictim n (upper s) x = true then closeF (some cUnavailable) cUnavailable (markF x) else x)
    ∧ (s.handleGoAway n c d).2 = (s.activeCount == 0) := by
  rw [handleGoAway_eq c d h]
  split
  · exact ⟨goAwayKill_get _ _ _ _ _ hx, goAwayKill_err ..⟩
  · have hs := goAwayFirst_streams s c d
    have hg := goAwayKill_get (s.goAwayFirst c d) n (upper s) i x (by rw [hs]; exact hx)
    rw [activeCount_congr hs] at hg
    rw [put_eq, goAwayKill_err, activeCount_congr hs]
    exact ⟨hg, rfl⟩

theorem handleGoAway_ga {s : State} {n : Nat} (c : Nat) (d : Bytes) (h : Accepted s n) :
    (s.handleGoAway n c d).1.goAwayClosed = true := by
  rw [handleGoAway_eq c d h]
  split
  · rename_i hg; exact (goAwayKill_ga s n (upper s)).trans hg
  · rw [put_eq]; exact (goAwayKill_ga (s.goAwayFirst c d) n (upper s)).trans (goAwayFirst_ga s c d)

/-- the second alternative: no stream was active (the connection error "received goaway and there are no active streams") and
the reader returns on that error, into `Close`'s snapshot -/
theorem onFrame_goAway_get {s : State} {n : Nat} (c : Nat) (d : Bytes) (h : Accepted s n) {i : Nat} {x : Strm}
    (hx : s.streams[i]? = some x) :
    ∃ y, (s.onFrame (.goAway n c d)).streams[i]? = some y ∧
      (y = (if s.activeCount ≠ 0 ∧ isVictim n (upper s) x = true then closeF (some cUnavailable) cUnavailable (markF x) else x) ∨
        s.activeCount = 0 ∧ y = snapF x) := by
  obtain ⟨hg, he⟩ := handleGoAway_get c d h hx
  rw [onFrame_goAway n c d h.alive, he]
  split
  · rename_i hc
    have h0 : s.activeCount = 0 := eq_of_beq (Bool.and_eq_true _ _ ▸ hc).2
    obtain ⟨y, hy, hyx⟩ := readerExit_get hg
    exact ⟨y, hy, hyx.imp_right fun e => ⟨h0, by rw [e, if_neg fun hn => hn.1 h0]⟩⟩
  · exact ⟨_, hg, .inl rfl⟩

theorem onFrame_goAway_ga {s : State} {n : Nat} (c : Nat) (d : Bytes) (h : Accepted s n) :
    (s.onFrame (.goAway n c d)).goAwayClosed = true := by
  have hs := handleGoAway_ga c d h
  rw [onFrame_goAway n c d h.alive]
  split
  · exact (Good.refl _).readerExit.mono.ga hs
  · exact hs

end GrpcProofs.C14
