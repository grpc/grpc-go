/-
Helper lemmas for C38 (EDF selector, internal/wrr/edf.go) over exact rationals.
-/
import GrpcModel.Model.EDF
import GrpcProofs.Lemmas.WRRScale
import Mathlib.Algebra.Order.BigOperators.Group.Finset
import Mathlib.Algebra.BigOperators.Ring.Finset
namespace GrpcProofs.Lemmas.EDF
open GrpcModel.EDF GrpcModel.WRRStride GrpcProofs.Lemmas.WRRScale

theorem argminFrom_spec (L : List (Entry ℚ)) :
    ∀ (es : List (Entry ℚ)) (k best : Nat) (bd : ℚ),
      L.drop k = es → best < k → k ≤ L.length →
      (L.getD best ⟨0, 0⟩).deadline = bd →
      (∀ j, j < k → bd ≤ (L.getD j ⟨0, 0⟩).deadline) →
      argminFrom es k best bd < L.length ∧
      ∀ j, j < L.length → (L.getD (argminFrom es k best bd) ⟨0, 0⟩).deadline ≤ (L.getD j ⟨0, 0⟩).deadline := by
  intro es
  induction es with
  | nil =>
    intro k best bd hdrop hbest hk hbd hmin
    have hk' : L.length ≤ k := List.drop_eq_nil_iff.mp hdrop
    simp only [argminFrom]
    exact ⟨by omega, fun j hj => hbd ▸ hmin j (by omega)⟩
  | cons e es ih =>
    intro k best bd hdrop hbest hk hbd hmin
    have hklt : k < L.length := by
      by_contra hc
      rw [List.drop_eq_nil_of_le (by omega)] at hdrop; cases hdrop
    rw [List.drop_eq_getElem_cons hklt] at hdrop
    obtain ⟨rfl, hdrop'⟩ := List.cons.inj hdrop
    have hek : L.getD k ⟨0, 0⟩ = L[k] := by simp [hklt]
    have hstep : ∀ b : ℚ, b ≤ L[k].deadline → (∀ j, j < k → b ≤ (L.getD j ⟨0, 0⟩).deadline) →
        ∀ j, j < k + 1 → b ≤ (L.getD j ⟨0, 0⟩).deadline := by
      intro b hb hlt j hj
      rcases Nat.lt_or_ge j k with h | h
      · exact hlt j h
      · obtain rfl : j = k := by omega
        rw [hek]; exact hb
    simp only [argminFrom, lt_rat]
    by_cases hlt : L[k].deadline < bd
    · simp only [hlt, decide_true, if_true]
      exact ih (k + 1) k _ hdrop' (by omega) (by omega) (by rw [hek])
        (hstep _ (le_refl _) fun j hj => le_trans (le_of_lt hlt) (hmin j hj))
    · simp only [hlt, decide_false, Bool.false_eq_true, if_false]
      exact ih (k + 1) best bd hdrop' (by omega) (by omega) hbd (hstep _ (not_lt.mp hlt) hmin)

theorem argmin_spec (L : List (Entry ℚ)) (hne : L ≠ []) :
    ∃ i, argmin L = some i ∧ i < L.length ∧
      ∀ j, j < L.length → (L.getD i ⟨0, 0⟩).deadline ≤ (L.getD j ⟨0, 0⟩).deadline := by
  cases L with
  | nil => exact absurd rfl hne
  | cons e es =>
    refine ⟨_, rfl, argminFrom_spec (e :: es) es 1 0 e.deadline rfl (by omega) (by simp) rfl ?_⟩
    intro j hj
    obtain rfl : j = 0 := by omega
    rfl

/-- Counts `c` of `n` items are in proportion to their weights `w` up to one pick:
    c_i / w_i ≤ (c_j + 1) / w_j for all i, j (cross-multiplied). -/
def Fair (n : Nat) (w c : Nat → Nat) : Prop :=
  ∀ i j, i < n → j < n → c i * w j ≤ (c j + 1) * w i

/-- Earliest deadline first keeps the counts fair: picking an item whose next deadline
    (c_i + 1) / w_i is least leaves it at most one pick ahead of every other. -/
theorem Fair.pick {n : Nat} {w c : Nat → Nat} (h : Fair n w c) {i : Nat} (hi : i < n)
    (hmin : ∀ j, j < n → (c i + 1) * w j ≤ (c j + 1) * w i) :
    Fair n w fun j => c j + if i = j then 1 else 0 := by
  intro a b ha hb
  simp only
  by_cases hai : i = a <;> by_cases hbi : i = b
  · rw [← hai, ← hbi]
    exact Nat.mul_le_mul_right _ (Nat.le_succ _)
  · rw [← hai, if_pos rfl, if_neg hbi]
    exact hmin b hb
  · rw [← hbi, if_neg hai, if_pos rfl]
    exact le_trans (h a i ha hi) (Nat.mul_le_mul_right _ (Nat.le_succ _))
  · rw [if_neg hai, if_neg hbi]
    exact h a b ha hb

theorem cycle_exact (n : Nat) (w c : Nat → Nat) (m : Nat) (hpos : ∀ i, i < n → 0 < w i)
    (hprop : Fair n w c)
    (hsum : ∑ i ∈ Finset.range n, c i = m * ∑ i ∈ Finset.range n, w i) :
    ∀ i, i < n → c i = m * w i := by
  rw [Finset.mul_sum] at hsum
  intro i hi
  -- either every item is at or behind its share m·w, or every item is at or ahead of it;
  -- with equal totals both mean equality everywhere
  by_cases hex : ∃ i, i < n ∧ c i < m * w i
  · obtain ⟨i₀, hi₀, hlt⟩ := hex
    have hall : ∀ j ∈ Finset.range n, c j ≤ m * w j := by
      intro j hj
      refine Nat.le_of_mul_le_mul_right ?_ (hpos i₀ hi₀)
      calc c j * w i₀ ≤ (c i₀ + 1) * w j := hprop j i₀ (Finset.mem_range.mp hj) hi₀
        _ ≤ m * w i₀ * w j := Nat.mul_le_mul_right _ hlt
        _ = m * w j * w i₀ := Nat.mul_right_comm _ _ _
    exact (Finset.sum_eq_sum_iff_of_le hall).mp hsum i (Finset.mem_range.mpr hi)
  · have hall : ∀ j ∈ Finset.range n, m * w j ≤ c j := fun j hj =>
      Nat.le_of_not_lt fun h => hex ⟨j, Finset.mem_range.mp hj, h⟩
    exact ((Finset.sum_eq_sum_iff_of_le hall).mp hsum.symm i (Finset.mem_range.mpr hi)).symm

/-- the state after the picks `is`: every entry's deadline is (count + 1) / weight, and the counts
    are fair -/
structure Inv (ws : List Nat) (s : EDFState ℚ) (is : List Nat) : Prop where
  len : s.items.length = ws.length
  entry : ∀ i, i < ws.length →
    (s.items.getD i ⟨0, 0⟩).weight = ws.getD i 0 ∧
    (s.items.getD i ⟨0, 0⟩).deadline = ((is.count i : ℕ) + 1 : ℚ) / (ws.getD i 0 : ℚ)
  range : ∀ i ∈ is, i < ws.length
  fair : Fair ws.length (ws.getD · 0) (is.count ·)

theorem period_rat (w : Nat) : (period w : ℚ) = 1 / (w : ℚ) := by
  unfold period; rw [div_rat, ofNat_rat, ofNat_rat]; norm_num

theorem ofWeights_state (ws : List Nat) :
    (EDFState.ofWeights ws : EDFState ℚ).currentTime = 0 ∧
    (EDFState.ofWeights ws : EDFState ℚ).items = ws.map (fun w => ⟨1 / (w : ℚ), w⟩) := by
  induction ws using List.reverseRecOn with
  | nil => exact ⟨rfl, rfl⟩
  | append_singleton ws w ih =>
    rw [show (EDFState.ofWeights (ws ++ [w]) : EDFState ℚ) = (EDFState.ofWeights ws).add w by
      simp [EDFState.ofWeights, List.foldl_append]]
    refine ⟨by simp [EDFState.add, ih.1], ?_⟩
    simp only [EDFState.add, ih.1, ih.2, add_rat, period_rat, List.map_append, List.map_cons, List.map_nil]
    simp

theorem inv_init (ws : List Nat) : Inv ws (EDFState.ofWeights ws) [] := by
  obtain ⟨_, hitems⟩ := ofWeights_state ws
  refine { len := by rw [hitems]; simp, entry := ?_, range := (by intro i hi; cases hi), fair := ?_ }
  · intro i hi
    rw [hitems]
    simp [hi]
  · intro i j _ hj
    simp

theorem getD_set {α : Type} (L : List α) (i j : Nat) (e d : α) (hi : i < L.length) :
    (L.set i e).getD j d = if j = i then e else L.getD j d := by
  by_cases h : j = i
  · subst h; simp [hi]
  · have h' : ¬ i = j := fun e => h e.symm
    simp [h, h']

theorem getD_pos (ws : List Nat) (hpos : ∀ w ∈ ws, 0 < w) (j : Nat) (hj : j < ws.length) :
    0 < ws.getD j 0 :=
  hpos _ (by simp [hj])

theorem inv_next (ws : List Nat) (hpos : ∀ w ∈ ws, 0 < w) (hne : ws ≠ []) (s : EDFState ℚ) (is : List Nat)
    (h : Inv ws s is) : ∃ i s', s.next = (s', some i) ∧ Inv ws s' (is ++ [i]) := by
  have hLne : s.items ≠ [] := fun hc =>
    hne (List.length_eq_zero_iff.mp (by rw [← h.len, hc]; rfl))
  obtain ⟨i, hi, hilt, hmin⟩ := argmin_spec s.items hLne
  have hilt' : i < ws.length := h.len ▸ hilt
  have hwpos : ∀ j, j < ws.length → (0 : ℚ) < (ws.getD j 0 : ℚ) := fun j hj => by
    exact_mod_cast getD_pos ws hpos j hj
  have hget : s.items[i]? = some (s.items.getD i ⟨0, 0⟩) := by
    simp [hilt]
  obtain ⟨hew, hed⟩ := h.entry i hilt'
  generalize s.items.getD i ⟨0, 0⟩ = e at hget hew hed hmin
  have hnext : s.next = (⟨s.items.set i ⟨e.deadline + 1 / (e.weight : ℚ), e.weight⟩, e.deadline⟩, some i) := by
    unfold EDFState.next
    rw [hi]
    simp only [hget, add_rat, period_rat]
  refine ⟨i, _, hnext, ?_⟩
  -- i has the least deadline: cross-multiplied, (c_i + 1)·w_j ≤ (c_j + 1)·w_i
  have hdl : ∀ j, j < ws.length →
      (is.count i + 1) * ws.getD j 0 ≤ (is.count j + 1) * ws.getD i 0 := by
    intro j hj
    have := hmin j (by rw [h.len]; exact hj)
    rw [hed, (h.entry j hj).2, div_le_div_iff₀ (hwpos i hilt') (hwpos j hj)] at this
    exact_mod_cast this
  refine { len := by simp [h.len], entry := ?_, range := ?_, fair := ?_ }
  · intro j hj
    simp only
    rw [getD_set _ _ _ _ _ hilt, List.count_append, List.count_singleton']
    by_cases hji : j = i
    · subst hji
      simp only [if_true]
      refine ⟨hew, ?_⟩
      rw [hed, hew, ← add_div]
      push_cast; rfl
    · have hij : ¬ i = j := fun e => hji e.symm
      simp only [hji, hij, if_false, Nat.add_zero]
      exact h.entry j hj
  · intro j hj
    rcases List.mem_append.mp hj with h1 | h1
    · exact h.range j h1
    · rw [List.mem_singleton.mp h1]; exact hilt'
  · simpa only [List.count_append, List.count_singleton'] using h.fair.pick hilt' hdl

theorem inv_run (ws : List Nat) (hpos : ∀ w ∈ ws, 0 < w) (hne : ws ≠ []) (k : Nat) :
    Inv ws ((EDFState.ofWeights ws : EDFState ℚ).run k).1 ((EDFState.ofWeights ws : EDFState ℚ).run k).2 ∧
    ((EDFState.ofWeights ws : EDFState ℚ).run k).2.length = k := by
  induction k with
  | zero => exact ⟨inv_init ws, rfl⟩
  | succ k ih =>
    obtain ⟨i, s', hn, hinv⟩ := inv_next ws hpos hne _ _ ih.1
    simp only [EDFState.run, hn]
    exact ⟨hinv, by simp [ih.2]⟩

theorem sum_getD (ws : List Nat) : ∑ i ∈ Finset.range ws.length, ws.getD i 0 = ws.sum := by
  induction ws using List.reverseRecOn with
  | nil => simp
  | append_singleton ws w ih =>
    simp only [List.length_append, List.length_singleton, Finset.sum_range_succ, List.sum_append,
      List.sum_singleton]
    have : ∀ i ∈ Finset.range ws.length, (ws ++ [w]).getD i 0 = ws.getD i 0 := by
      intro i hi
      have := Finset.mem_range.mp hi
      simp [List.getElem?_append_left this]
    rw [Finset.sum_congr rfl this, ih]
    simp

end GrpcProofs.Lemmas.EDF
