import GrpcModel.Model.LoadStore
import GrpcProofs.Lemmas.Basic
/-! The rules of `act` as a relation (`Act`), and the invariants of `run` that C50 reads off, each next to the
    lemma saying what one rule does to it. -/
namespace GrpcProofs.Lemmas.LoadStore
open GrpcModel.LoadStore

@[simp] theorem sumBy_nil (f : α → Nat) : sumBy f [] = 0 := rfl
@[simp] theorem sumBy_cons (f : α → Nat) (a : α) (l : List α) : sumBy f (a :: l) = f a + sumBy f l := by
  simp [sumBy]
@[simp] theorem sumBy_append (f : α → Nat) (l₁ l₂ : List α) : sumBy f (l₁ ++ l₂) = sumBy f l₁ + sumBy f l₂ := by
  simp [sumBy]

theorem sumBy_eq_zero (f : α → Nat) (l : List α) (h : ∀ a ∈ l, f a = 0) : sumBy f l = 0 :=
  List.sum_eq_zero_iff_forall_eq_nat.2 (List.forall_mem_map.2 h)

theorem sumBy_congr (f g : α → Nat) (l : List α) (h : ∀ a ∈ l, f a = g a) : sumBy f l = sumBy g l :=
  congrArg List.sum (List.map_congr_left h)

theorem findT_some {ts : List Thread} {tid : Nat} {t : Thread} (h : findT ts tid = some t) : t ∈ ts ∧ t.tid = tid := by
  unfold findT at h
  have h1 := List.mem_of_find?_eq_some h
  have h2 := List.find?_some h
  exact ⟨h1, by simpa using h2⟩

theorem findT_cons (a : Thread) (ts : List Thread) (tid : Nat) :
    findT (a :: ts) tid = if a.tid = tid then some a else findT ts tid := by
  simp only [findT, List.find?_cons]
  split <;> simp_all

theorem replaceT_cons (a : Thread) (ts : List Thread) (t' : Thread) :
    replaceT (a :: ts) t' = if a.tid = t'.tid then t' :: ts else a :: replaceT ts t' := by
  by_cases h : a.tid = t'.tid <;> simp [replaceT, h]

theorem sumBy_replaceT (f : Thread → Nat) {ts : List Thread} {t t' : Thread} {tid : Nat}
    (h : findT ts tid = some t) (ht : t'.tid = tid) : sumBy f (replaceT ts t') + f t = sumBy f ts + f t' := by
  subst ht
  induction ts with
  | nil => cases h
  | cons a ts ih =>
    rw [findT_cons] at h
    rw [replaceT_cons]
    split at h
    · cases h
      rw [if_pos ‹_›, sumBy_cons, sumBy_cons]
      omega
    · have := ih h
      rw [if_neg ‹_›, sumBy_cons, sumBy_cons]
      omega

theorem mem_replaceT {ts : List Thread} {t' x : Thread} (h : x ∈ replaceT ts t') : x = t' ∨ x ∈ ts := by
  induction ts with
  | nil => cases h
  | cons a ts ih =>
    rw [replaceT_cons] at h
    split at h <;> rcases List.mem_cons.1 h with rfl | h
    · exact .inl rfl
    · exact .inr (List.mem_cons_of_mem _ h)
    · exact .inr List.mem_cons_self
    · exact (ih h).imp_right (List.mem_cons_of_mem _)

theorem forall_replaceT {P : Thread → Prop} {ts : List Thread} {t' : Thread} (h : ∀ x ∈ ts, P x) (h' : P t') :
    ∀ x ∈ replaceT ts t', P x :=
  fun x hx => (mem_replaceT hx).elim (· ▸ h') (h x)

theorem forall_snoc {P : α → Prop} {l : List α} {a : α} (h : ∀ x ∈ l, P x) (h' : P a) : ∀ x ∈ l ++ [a], P x :=
  fun x hx => (List.mem_append.1 hx).elim (h x) (fun hx => List.mem_singleton.1 hx ▸ h')

theorem findT_replaceT_self {ts : List Thread} {t t' : Thread} (h : findT ts t'.tid = some t) :
    findT (replaceT ts t') t'.tid = some t' := by
  induction ts with
  | nil => cases h
  | cons a ts ih =>
    rw [findT_cons] at h
    rw [replaceT_cons]
    split <;> simp_all [findT_cons]

theorem findT_replaceT_other {ts : List Thread} {t' : Thread} {tid : Nat} (hne : tid ≠ t'.tid) :
    findT (replaceT ts t') tid = findT ts tid := by
  induction ts with
  | nil => rfl
  | cons a ts ih =>
    rw [replaceT_cons]
    split <;> simp_all [findT_cons, eq_comm]

theorem findT_append_new {ts : List Thread} {t : Thread} {tid : Nat} (h : findT ts t.tid = none) :
    findT (ts ++ [t]) tid = if tid = t.tid then some t else findT ts tid := by
  unfold findT at *
  rw [List.find?_append]
  by_cases ht : tid = t.tid
  · subst ht
    simp [h]
  · have h1 : ¬ t.tid = tid := fun h => ht h.symm
    simp [ht, h1]

/-- case analysis of `h : act sh t ch = some (sh', t', r)`: one goal per enabled rule instance,
    with sh', t', r substituted -/
macro "act_cases" h:ident : tactic => `(tactic| (
  unfold act at $h:ident
  split at $h:ident
  all_goals (try dsimp only at $h:ident)
  all_goals (try split at $h:ident)
  all_goals (try split at $h:ident)
  all_goals (simp only [Option.some.injEq, Prod.mk.injEq, reduceCtorEq] at $h:ident)
  all_goals (obtain ⟨h1, h2, h3⟩ := $h:ident; subst h1; subst h2; subst h3)))

/-- The rules of `act` as a relation between what a rule reads and writes: the shared state, the
    thread's program point and the report it is building (`tid` is only read, by `sTime`).  One
    constructor per rule and guard outcome; the Range bookkeeping (`vis`, `need`, …), which no
    invariant below reads, is left out. -/
inductive Act (sh : Shared) (tid : Nat) (rep : Report) : Pc → Shared → Pc → Report → Option Report → Prop
  | startE : Act sh tid rep (.startE l) { sh with locs := insertNew sh.locs l } (.startA l) rep none
  | startA : Act sh tid rep (.startA l) (sh.add1 (.inprog l)) (.startB l) rep none
  | startB : Act sh tid rep (.startB l) (sh.add1 (.issued l)) .done rep none
  | finE (hl : l ∈ sh.locs) : Act sh tid rep (.finE l ok) sh (.finA l ok) rep none
  | finEmiss (hl : l ∉ sh.locs) :
    Act sh tid rep (.finE l ok)
      { sh with abandoned := upd sh.abandoned (if ok then .succ l else .err l)
                               (sh.abandoned (if ok then .succ l else .err l) + 1) } .done rep none
  | finA :
    Act sh tid rep (.finA l ok)
      { sh with mem := upd sh.mem (.inprog l) (decU (sh.mem (.inprog l))),
                decs := updN sh.decs l (sh.decs l + 1) } (.finB l ok) rep none
  | finB : Act sh tid rep (.finB l ok) (sh.add1 (if ok then .succ l else .err l)) .done rep none
  | dropE : Act sh tid rep (.dropE c) { sh with cats := insertNew sh.cats c } (.dropA c) rep none
  | dropA :
    Act sh tid rep (.dropA c) { sh.add1 (.drop c) with dropsApplied := sh.dropsApplied + 1 } .done rep none
  | loadE (hl : l ∈ sh.locs) :
    Act sh tid rep (.loadE l n v) { sh with names := insertNew sh.names (l, n) } (.loadA l n v) rep none
  | loadEmiss (hl : l ∉ sh.locs) :
    Act sh tid rep (.loadE l n v)
      { sh with abandoned := upd (upd sh.abandoned (.ldCount l n) (sh.abandoned (.ldCount l n) + 1))
                               (.ldSum l n) (sh.abandoned (.ldSum l n) + v) } .done rep none
  | loadA :
    Act sh tid rep (.loadA l n v)
      { sh with mem := upd (upd sh.mem (.ldSum l n) (sh.mem (.ldSum l n) + v))
                         (.ldCount l n) (addU (sh.mem (.ldCount l n))),
                applied := upd (upd sh.applied (.ldSum l n) (sh.applied (.ldSum l n) + v))
                             (.ldCount l n) (sh.applied (.ldCount l n) + 1) } .done rep none
  | sDropsNext (hc : c ∈ sh.cats) : Act sh tid rep .sDrops sh (.sDrop c) rep none
  | sDropsEnd : Act sh tid rep .sDrops sh .sLocs rep none
  | sDrop :
    Act sh tid rep (.sDrop c) (sh.clear (.drop c)) .sDrops
      (if sh.mem (.drop c) = 0 then rep else
        { rep with total := (rep.total + sh.mem (.drop c)) % u64,
                   drops := if c ≠ 0 then rep.drops ++ [(c, sh.mem (.drop c))] else rep.drops }) none
  | sLocsNext (hl : l ∈ sh.locs) : Act sh tid rep .sLocs sh (.lSucc l) rep none
  | sLocsEnd : Act sh tid rep .sLocs sh .sTime rep none
  | lSucc : Act sh tid rep (.lSucc l) (sh.clear (.succ l)) (.lInp l (sh.mem (.succ l))) rep none
  | lInp : Act sh tid rep (.lInp l s) sh (.lErr l s (sh.mem (.inprog l))) rep none
  | lErr : Act sh tid rep (.lErr l s i) (sh.clear (.err l)) (.lIss l s i (sh.mem (.err l))) rep none
  | lIssIdle {l s i e} (hz : s = 0 ∧ i = 0 ∧ e = 0 ∧ sh.mem (.issued l) = 0) :
    Act sh tid rep (.lIss l s i e) (sh.clear (.issued l)) .sLocs rep none
  | lIss {l s i e} (hz : ¬(s = 0 ∧ i = 0 ∧ e = 0 ∧ sh.mem (.issued l) = 0)) :
    Act sh tid rep (.lIss l s i e) (sh.clear (.issued l))
      (.lLoads { loc := l, succ := s, err := e, inprog := i, issued := sh.mem (.issued l), loads := [] }) rep none
  | lLoadsNext (hn : (lr.loc, n) ∈ sh.names) : Act sh tid rep (.lLoads lr) sh (.lLoad lr n) rep none
  | lLoadsEnd : Act sh tid rep (.lLoads lr) sh .sLocs { rep with locs := rep.locs ++ [lr] } none
  | lLoad :
    Act sh tid rep (.lLoad lr n) ((sh.clear (.ldCount lr.loc n)).clear (.ldSum lr.loc n))
      (.lLoads (if sh.mem (.ldCount lr.loc n) = 0 then lr else
        { lr with loads := lr.loads ++ [(n, sh.mem (.ldCount lr.loc n), sh.mem (.ldSum lr.loc n))] })) rep none
  | sTime : Act sh tid rep .sTime sh .done (Report.empty tid) (some rep)

theorem act_sound {sh t ch sh' t' r} (h : act sh t ch = some (sh', t', r)) :
    Act sh t.tid t.rep t.pc sh' t'.pc t'.rep r ∧ t'.tid = t.tid := by
  obtain ⟨tid, pc, rep, vis, need, nvis, nneed⟩ := t
  cases pc <;> dsimp only [act] at h
  case done => cases h
  case finE | loadE | lIss => split at h <;> cases h <;> exact ⟨by constructor; assumption, rfl⟩
  case sDrops | sLocs | lLoads =>
    cases ch <;> dsimp only at h <;> split at h <;> cases h <;> exact ⟨by constructor <;> exact (‹_ ∧ _›).1, rfl⟩
  all_goals cases h; exact ⟨by constructor, rfl⟩

/-! `upd m a v k` is rewritten to `m k + (if k = a then d else 0)`, so that both sides of a ledger equation
mention the same `if` and `omega` can treat it as one unknown. -/

theorem upd_same (m : Key → Nat) (a : Key) (v : Nat) : upd m a v a = v := if_pos rfl
theorem upd_other (m : Key → Nat) {a k : Key} (v : Nat) (h : k ≠ a) : upd m a v k = m k := if_neg h
theorem upd_add (m : Key → Nat) (a k : Key) (d : Nat) : upd m a (m a + d) k = m k + if k = a then d else 0 := by
  unfold upd; split <;> simp [*]

theorem upd_upd_add (m : Key → Nat) (a b k : Key) (d e : Nat) :
    upd (upd m a (m a + d)) b (m b + e) k = m k + if k = b then e else if k = a then d else 0 := by
  simp only [upd]
  split
  · subst k; rfl
  · split
    · subst k; rfl
    · rfl

theorem upd_upd_add' (m : Key → Nat) {a b : Key} (hab : a ≠ b) (k : Key) (d e : Nat) :
    upd (upd m a (m a + d)) b (m b + e) k = m k + if k = a then d else if k = b then e else 0 := by
  rw [upd_upd_add]
  by_cases ha : k = a
  · subst ha; simp only [if_neg hab, if_true]
  · simp only [if_neg ha]

theorem upd_addU (m : Key → Nat) (a : Key) {k : Key} (hw : k = a → m a + 1 < u64) :
    upd m a (addU (m a)) k = m k + if k = a then 1 else 0 := by
  unfold upd addU
  split
  · subst k; exact Nat.mod_eq_of_lt (hw rfl)
  · rfl

/-- rpcLoadData.add: the sum grows by `v`, the count by one -/
theorem upd_loadA (m : Key → Nat) (l n v : Nat) {k : Key} (hw : k = .ldCount l n → m (.ldCount l n) + 1 < u64) :
    upd (upd m (.ldSum l n) (m (.ldSum l n) + v)) (.ldCount l n) (addU (m (.ldCount l n))) k
      = m k + if k = .ldCount l n then 1 else if k = .ldSum l n then v else 0 := by
  simp only [upd, addU]
  split
  · subst k; exact Nat.mod_eq_of_lt (hw rfl)
  · split
    · subst k; rfl
    · rfl

/-- SwapUint64(x, 0) hands the old value to the caller -/
theorem upd_clear (m : Key → Nat) (a k : Key) : upd m a 0 k + (if k = a then m a else 0) = m k := by
  unfold upd; split <;> simp [*]

theorem pc_val_eq (p : Pc) (k : Key) : p.val k = match p with
    | .lInp l s | .lErr l s _ => if k = .succ l then s else 0
    | .lIss l s _ e => (if k = .succ l then s else 0) + (if k = .err l then e else 0)
    | .lLoads lr | .lLoad lr _ => lr.val k
    | _ => 0 := by
  cases p with
  | lInp | lErr | lIss | lLoads | lLoad => cases k <;> simp [Pc.val, eq_comm]
  | _ => cases k <;> rfl

theorem val_newLoc (l s e i is : Nat) (k : Key) :
    ({ loc := l, succ := s, err := e, inprog := i, issued := is, loads := [] } : LocRep).val k
      = (if k = .succ l then s else 0) + (if k = .err l then e else 0) + (if k = .issued l then is else 0) := by
  cases k <;> simp [LocRep.val, eq_comm, sumBy_nil]

theorem val_addLoad (lr : LocRep) (n c s : Nat) (k : Key) :
    ({ lr with loads := lr.loads ++ [(n, c, s)] } : LocRep).val k
      = lr.val k + (if k = .ldCount lr.loc n then c else 0) + (if k = .ldSum lr.loc n then s else 0) := by
  cases k <;> simp only [LocRep.val, sumBy_append, sumBy_cons, sumBy_nil, reduceCtorEq, if_false, Nat.add_zero, Key.ldCount.injEq, Key.ldSum.injEq]
  all_goals
    split <;> rename_i hl
    · simp [hl, eq_comm]
    · simp [Ne.symm hl]

theorem val_addLoc (r : Report) (lr : LocRep) (k : Key) :
    ({ r with locs := r.locs ++ [lr] } : Report).val k = r.val k + lr.val k := by
  cases k <;> simp [Report.val, LocRep.val, sumBy_append, sumBy_cons, sumBy_nil]

theorem val_sDrop (r : Report) (tot c d : Nat) {k : Key} (hk : k.harvested = true) :
    ({ r with total := tot, drops := if c ≠ 0 then r.drops ++ [(c, d)] else r.drops } : Report).val k
      = r.val k + if k = .drop c then d else 0 := by
  cases k <;> simp only [Report.val, reduceCtorEq, if_false, Nat.add_zero, Key.drop.injEq]
  rename_i c'
  have hc' : c' ≠ 0 := by simpa [Key.harvested] using hk
  split
  · simp only [sumBy_append, sumBy_cons, sumBy_nil, Nat.add_zero, eq_comm]
  · have : c' ≠ c := by rintro rfl; contradiction
    rw [if_neg this]; rfl

theorem entry_val (c : Call) (k : Key) : c.entry.val k = 0 := by cases c <;> cases k <;> rfl
theorem empty_val (tid : Nat) (k : Key) : (Report.empty tid).val k = 0 := by cases k <;> rfl

/-- The ledger of any harvested counter.  A rule of stats() moves a value from the store to the thread
    (`upd_clear`), from program point to report, or out; a call adds the same on both sides.  Only a uint64 counter
    can wrap (`hw`); a server-load sum is reported only with a non-zero count, hence `hz`. -/
theorem act_ledger (k : Key) (hk : k.harvested = true) (h : Act sh tid rep p sh' p' rep' r)
    (hw : (∀ l n, k ≠ .ldSum l n) → sh'.applied k < u64) (hm : sh.mem k ≤ sh.applied k)
    (hz : ∀ l n, k = .ldSum l n → sh.mem (.ldCount l n) = 0 → sh.mem k = 0) :
    sh'.mem k + (rep'.val k + p'.val k) + sumBy (·.val k) r.toList + sh.applied k
      = sh.mem k + (rep.val k + p.val k) + sh'.applied k := by
  have hni : ∀ l, k ≠ .inprog l := by rintro l rfl; cases hk
  -- the counter `a` a rule adds to is `k` itself, hence not a sum, and its new total is below 2^64;
  -- the hypothesis is `hw` as the `simp only` below leaves it at an adding rule (`1`: the rule adds to `a`,
  -- `d`: what it adds to a second counter)
  have nowrap : ∀ {a : Key} {d : Nat},
      ((∀ l n, k ≠ .ldSum l n) → sh.applied k + (if k = a then 1 else d) < u64) → (∀ l n, a ≠ .ldSum l n) →
      k = a → sh.mem a + 1 < u64 := by
    rintro a d hw ha rfl
    have := hw ha
    rw [if_pos rfl] at this
    omega
  cases h <;>
    simp only [pc_val_eq, Option.toList, sumBy_cons, sumBy_nil, Shared.add1, Shared.clear, upd_add, upd_upd_add,
      upd_other _ _ (hni _), empty_val, val_addLoc, val_newLoc] at hw ⊢
  case startB | dropA => rw [upd_addU _ _ (nowrap hw nofun)]; omega
  case finB ok => rw [upd_addU _ _ (nowrap hw (by cases ok <;> nofun))]; omega
  case loadA => rw [upd_loadA _ _ _ _ (nowrap hw nofun)]; omega
  case sDrop c =>
    have := upd_clear sh.mem (.drop c) k
    split
    · rename_i h0; rw [h0] at this; simp only [ite_self] at this; omega
    · rw [val_sDrop _ _ _ _ hk]; omega
  case lSucc l => have := upd_clear sh.mem (.succ l) k; omega
  case lErr l _ _ => have := upd_clear sh.mem (.err l) k; omega
  case lIssIdle l _ _ _ hz =>
    have := upd_clear sh.mem (.issued l) k
    obtain ⟨rfl, _, rfl, h0⟩ := hz
    simp only [h0, ite_self] at this ⊢; omega
  case lIss l _ _ _ _ => have := upd_clear sh.mem (.issued l) k; omega
  case lLoad lr n =>
    have h1 := upd_clear (upd sh.mem (.ldCount lr.loc n) 0) (.ldSum lr.loc n) k
    have h2 := upd_clear sh.mem (.ldCount lr.loc n) k
    rw [upd_other _ _ (show Key.ldSum lr.loc n ≠ .ldCount lr.loc n from nofun)] at h1
    split
    · -- a zero count is not reported; its sum is zero as well
      rename_i hc
      have : (if k = .ldSum lr.loc n then sh.mem (.ldSum lr.loc n) else 0) = 0 := by
        split
        · rename_i e; exact e ▸ hz _ _ e hc
        · rfl
      rw [hc] at h2; simp only [ite_self] at h2; omega
    · rw [val_addLoad]; omega
  all_goals omega

/-- a server-load sum is zero whenever its count is: `loadAndClear` zeroes both, and an unwrapped count stays
    non-zero after `add` -/
theorem act_sumZero (l n : Nat) (h : Act sh tid rep p sh' p' rep' r)
    (hw : sh'.applied (.ldCount l n) < u64) (hm : sh.mem (.ldCount l n) ≤ sh.applied (.ldCount l n))
    (hz : sh.mem (.ldCount l n) = 0 → sh.mem (.ldSum l n) = 0) :
    sh'.mem (.ldCount l n) = 0 → sh'.mem (.ldSum l n) = 0 := by
  cases h with
  | @loadA l' n' v =>
    simp only [upd, Key.ldCount.injEq, Key.ldSum.injEq, reduceCtorEq, if_false] at hw ⊢
    split
    · rename_i e; obtain ⟨rfl, rfl⟩ := e
      simp only [and_self, if_true, addU, u64] at hw ⊢
      omega
    · exact hz
  | @lLoad lr n' =>
    simp only [Shared.clear, upd, Key.ldCount.injEq, Key.ldSum.injEq, reduceCtorEq, if_false]
    split
    · exact fun _ => rfl
    · exact hz
  | @finB l' ok => cases ok <;> exact hz
  | _ => exact hz

/-- what any rule does to the ghost totals: `invoked` is written at spawn only, the others grow -/
structure GhostStep (sh sh' : Shared) : Prop where
  invoked : sh'.invoked = sh.invoked
  drops : sh.dropsApplied ≤ sh'.dropsApplied
  applied : ∀ k, sh.applied k ≤ sh'.applied k

theorem act_mono (h : Act sh tid rep p sh' p' rep' r) : GhostStep sh sh' := by
  cases h with
  | startA | startB | finB | loadA =>
    exact ⟨rfl, Nat.le_refl _, fun k => by simp only [Shared.add1, upd_add, upd_upd_add]; omega⟩
  | dropA => exact ⟨rfl, Nat.le_succ _, fun k => by simp only [Shared.add1, upd_add]; omega⟩
  | _ => exact ⟨rfl, Nat.le_refl _, fun _ => Nat.le_refl _⟩

def ledger (s : State) (k : Key) : Nat := reported s k + inflight s k + s.sh.mem k

/-- Reported, held by calls in flight and in the store add up to what was applied: for every harvested uint64
    counter that has not wrapped (`main`); for a server-load sum, which is a `Nat` and cannot wrap but is reported
    only with a non-zero count, together with `count = 0 → sum = 0`, as long as the count has not wrapped (`sum`). -/
structure LedgerInv (s : State) : Prop where
  main : ∀ k, k.harvested = true → (∀ l n, k ≠ .ldSum l n) → s.sh.applied k < u64 → ledger s k = s.sh.applied k
  sum : ∀ l n, s.sh.applied (.ldCount l n) < u64 →
    ledger s (.ldSum l n) = s.sh.applied (.ldSum l n) ∧ (s.sh.mem (.ldCount l n) = 0 → s.sh.mem (.ldSum l n) = 0)

theorem invoke_eq (c : Call) (sh : Shared) : c.invoke sh = { sh with invoked := (c.invoke sh).invoked } := by
  cases c <;> rfl

theorem step?_elim {P : State → Prop} {s s' : State} {o : Op} (h : step? s o = some s')
    (spawn : ∀ tid c, o = .spawn tid c →
      P { s with sh := { s.sh with invoked := (c.invoke s.sh).invoked },
                 threads := s.threads ++ [{ tid := tid, pc := c.entry, rep := Report.empty tid, vis := [],
                                            need := if c = .stats then s.sh.cats else [], nvis := [], nneed := [] }] })
    (step : ∀ ch t sh' t' r, o = .step t.tid ch → t ∈ s.threads → findT s.threads t.tid = some t → t'.tid = t.tid →
      Act s.sh t.tid t.rep t.pc sh' t'.pc t'.rep r →
      P { sh := sh', threads := replaceT s.threads t', reports := s.reports ++ r.toList }) : P s' := by
  cases o with
  | spawn tid c =>
    cases hf : findT s.threads tid with
    | some t => simp [step?, hf] at h
    | none =>
      simp [step?, hf] at h
      exact h ▸ invoke_eq c s.sh ▸ spawn tid c rfl
  | step tid ch =>
    cases hf : findT s.threads tid with
    | none => simp [step?, hf] at h
    | some t =>
      cases ha : act s.sh t ch with
      | none => simp [step?, hf, ha] at h
      | some x =>
        obtain ⟨sh', t', r⟩ := x
        simp [step?, hf, ha] at h
        obtain ⟨htm, rfl⟩ := findT_some hf
        exact h ▸ step ch t sh' t' r rfl htm hf (act_sound ha).2 (act_sound ha).1

theorem ledger_le {s : State} (hi : LedgerInv s) (k : Key) (hk : k.harvested = true) (hns : ∀ l n, k ≠ .ldSum l n)
    (hw : s.sh.applied k < u64) : s.sh.mem k ≤ s.sh.applied k := by
  have := hi.main k hk hns hw
  unfold ledger at this
  omega

theorem step_ledger {s s' : State} {o : Op} (hi : LedgerInv s) (h : step? s o = some s') : LedgerInv s' := by
  refine step?_elim h (fun tid c _ => ?_) (fun ch t sh' t' r _ _ hf htid ha => ?_)
  · refine ⟨fun k hk hns hw => .trans ?_ (hi.main k hk hns hw),
      fun l n hw => ⟨.trans ?_ (hi.sum l n hw).1, (hi.sum l n hw).2⟩⟩ <;>
    · simp only [ledger, reported, inflight, sumBy_append, sumBy_cons, sumBy_nil, Thread.held, entry_val, empty_val]
      omega
  · have key : ∀ k,
        sh'.mem k + t'.held k + sumBy (·.val k) r.toList + s.sh.applied k = s.sh.mem k + t.held k + sh'.applied k →
        ledger s k = s.sh.applied k → ledger ⟨sh', replaceT s.threads t', s.reports ++ r.toList⟩ k = sh'.applied k := by
      intro k hl h0
      have hs := sumBy_replaceT (fun t => t.held k) hf htid
      simp only [ledger, reported, inflight, sumBy_append] at *
      omega
    refine ⟨fun k hk hns hw => ?_, fun l n hw => ?_⟩
    · have hw0 : s.sh.applied k < u64 := Nat.lt_of_le_of_lt ((act_mono ha).applied k) hw
      exact key k (act_ledger k hk ha (fun _ => hw) (ledger_le hi k hk hns hw0) (fun l n e => absurd e (hns l n)))
        (hi.main k hk hns hw0)
    · -- stats() reports a sum only with a non-zero count, so the sum balances only while `count = 0 → sum = 0`;
      -- that clause (`act_sumZero`) holds as long as the count, a uint64, has not wrapped to zero
      have hw0 : s.sh.applied (.ldCount l n) < u64 := Nat.lt_of_le_of_lt ((act_mono ha).applied _) hw
      have ⟨h0, hz⟩ := hi.sum l n hw0
      exact ⟨key _ (act_ledger _ rfl ha (fun hns => absurd rfl (hns l n)) (by unfold ledger at h0; omega)
          (fun _ _ e => by cases e; exact hz)) h0,
        act_sumZero l n ha hw (ledger_le hi (.ldCount l n) rfl nofun hw0) hz⟩

theorem ledger_init : LedgerInv init := by
  constructor <;> intros <;> simp [ledger, reported, inflight, init, Shared.init]

theorem snoc_ind {P : List α → Prop} (h0 : P []) (h1 : ∀ l a, P l → P (l ++ [a])) (l : List α) : P l := by
  rw [← List.reverse_reverse l]
  induction l.reverse with
  | nil => exact h0
  | cons a r ih => rw [List.reverse_cons]; exact h1 _ _ ih

theorem run_snoc (ops : List Op) (o : Op) : run (ops ++ [o]) = step (run ops) o := by
  simp [run, List.foldl_append]

theorem run_ind {P : List Op → State → Prop} (h0 : P [] init) (hskip : ∀ ops o s, P ops s → P (ops ++ [o]) s)
    (hstep : ∀ ops o s', P (ops ++ [o]) (run ops) → step? (run ops) o = some s' → P (ops ++ [o]) s')
    (ops : List Op) : P ops (run ops) := by
  induction ops using snoc_ind with
  | h0 => exact h0
  | h1 ops o ih =>
    rw [run_snoc]
    unfold step
    cases hs : step? (run ops) o with
    | none => exact hskip _ _ _ ih
    | some s' => exact hstep _ _ _ (hskip _ _ _ ih) hs

theorem run_inv {P : State → Prop} (hinit : P init) (hstep : ∀ s s' o, P s → step? s o = some s' → P s')
    (ops : List Op) : P (run ops) :=
  run_ind (P := fun _ s => P s) hinit (fun _ _ _ h => h) (fun _ o _ h hs => hstep _ _ o h hs) ops

theorem ledger_run (ops : List Op) : LedgerInv (run ops) :=
  run_inv ledger_init (fun _ _ _ hi h => step_ledger hi h) ops

def RepInv (s : State) : Prop := ∀ t ∈ s.threads, t.pc.isSnap = false → t.rep = Report.empty t.tid

/-- a rule of stats() stays inside stats() until `sTime` empties the report; no other rule writes it -/
theorem act_rep (h : Act sh tid rep p sh' p' rep' r)
    (h0 : p.isSnap = false → rep = Report.empty tid) : p'.isSnap = false → rep' = Report.empty tid := by
  cases h with
  | sTime => exact fun _ => rfl
  | startE | startA | startB | finE | finEmiss | finA | finB | dropE | dropA | loadE | loadEmiss | loadA =>
    exact fun _ => h0 rfl
  | _ => exact nofun

theorem rep_run (ops : List Op) : RepInv (run ops) :=
  run_inv (by intro t ht; simp [init] at ht) (fun s _ _ hi h => step?_elim h
    (fun tid c _ => forall_snoc hi (fun _ => rfl))
    (fun ch t sh' t' r _ htm _ htid ha => forall_replaceT hi (htid ▸ act_rep ha (hi t htm)))) ops

theorem held_done {t : Thread} (k : Key) (hr : t.pc.isSnap = false → t.rep = Report.empty t.tid) (hd : t.pc = .done) :
    t.held k = 0 := by
  have := hr (by rw [hd]; rfl)
  unfold Thread.held
  rw [this, hd, empty_val]
  cases k <;> rfl

theorem inflight_quiescent {s : State} (hr : RepInv s) (hq : quiescent s) (k : Key) : inflight s k = 0 :=
  sumBy_eq_zero _ _ (fun t ht => held_done k (hr t ht) (hq t ht))

theorem inflightTotal_quiescent {s : State} (hr : RepInv s) (hq : quiescent s) : inflightTotal s = 0 :=
  sumBy_eq_zero _ _ (fun t ht => by
    have := hr t ht (by rw [hq t ht]; rfl)
    rw [this]; rfl)

/-- amount a call that has not returned will still add to counter `k` -/
def pending (p : Pc) (k : Key) : Nat :=
  match p with
  | .startE l | .startA l | .startB l => if k = .issued l then 1 else 0
  | .finE l ok | .finA l ok | .finB l ok => if k = (if ok then Key.succ l else Key.err l) then 1 else 0
  | .dropE c | .dropA c => if k = .drop c then 1 else 0
  | .loadE l n v | .loadA l n v => if k = .ldCount l n then 1 else if k = .ldSum l n then v else 0
  | _ => 0

/-- A counting law: a quantity `A` of the store plus what the calls in flight will still add to it (`π` of their
    program points) is a quantity `I` of the amounts invoked.  It holds in every state once every rule balances `A`
    against `π` and every invocation raises `I` by `π` of its entry point. -/
theorem flow_run (A : Shared → Nat) (I : (Key → Nat) → Nat) (π : Pc → Nat)
    (h0 : A Shared.init = I Shared.init.invoked) (hA : ∀ sh i, A { sh with invoked := i } = A sh)
    (spawn : ∀ (c : Call) sh, I (c.invoke sh).invoked = I sh.invoked + π c.entry)
    (act : ∀ {sh tid rep p sh' p' rep' r}, Act sh tid rep p sh' p' rep' r → A sh' + π p' = A sh + π p)
    (ops : List Op) : A (run ops).sh + sumBy (fun t => π t.pc) (run ops).threads = I (run ops).sh.invoked := by
  refine run_inv (P := fun s => A s.sh + sumBy (fun t => π t.pc) s.threads = I s.sh.invoked) h0
    (fun s _ _ hi h => ?_) ops
  apply step?_elim h
  · intro tid c _
    have := spawn c s.sh
    simp only [sumBy_append, sumBy_cons, sumBy_nil, hA] at *
    omega
  · intro ch t sh' t' r _ _ hf htid ha
    have := act ha
    have := sumBy_replaceT (fun t => π t.pc) hf htid
    simp only [(act_mono ha).invoked] at *
    omega

/-- every invoked call has added its amount, abandoned it, or is still on its way to the add -/
def EventInv (s : State) : Prop :=
  ∀ k, (∀ l, k ≠ .inprog l) →
    s.sh.applied k + s.sh.abandoned k + sumBy (fun t => pending t.pc k) s.threads = s.sh.invoked k

theorem act_event (k : Key) (hk : ∀ l, k ≠ .inprog l)
    (h : Act sh tid rep p sh' p' rep' r) :
    sh'.applied k + sh'.abandoned k + pending p' k = sh.applied k + sh.abandoned k + pending p k := by
  cases h with
  | @loadEmiss l n v hl =>
    simp only [pending, upd_upd_add' _ (show Key.ldCount l n ≠ .ldSum l n from nofun)]; omega
  | _ => simp only [pending, Shared.add1, Shared.clear, upd_add, upd_upd_add, hk, if_false] <;> omega

theorem invoke_event (c : Call) (sh : Shared) (k : Key) :
    (c.invoke sh).invoked k = sh.invoked k + pending c.entry k := by
  cases c with
  | load l n v =>
    simp only [Call.invoke, Call.entry, pending, upd_upd_add' _ (show Key.ldCount l n ≠ .ldSum l n from nofun)]
  | _ => simp only [Call.invoke, Call.entry, pending, upd_add, Nat.add_zero]

theorem event_run (ops : List Op) : EventInv (run ops) := fun k hk =>
  flow_run (fun sh => sh.applied k + sh.abandoned k) (· k) (pending · k) rfl (fun _ _ => rfl)
    (invoke_event · · k) (act_event k hk) ops

theorem pending_done (k : Key) : pending .done k = 0 := rfl

def InprogInv (s : State) : Prop :=
  ∀ l, (s.sh.mem (.inprog l) + s.sh.decs l) % u64 = s.sh.applied (.inprog l) % u64 ∧ s.sh.mem (.inprog l) < u64

theorem act_inprog (l : Nat) (h : Act sh tid rep p sh' p' rep' r)
    (h0 : (sh.mem (.inprog l) + sh.decs l) % u64 = sh.applied (.inprog l) % u64 ∧ sh.mem (.inprog l) < u64) :
    (sh'.mem (.inprog l) + sh'.decs l) % u64 = sh'.applied (.inprog l) % u64 ∧ sh'.mem (.inprog l) < u64 := by
  cases h with
  | @startA l' =>
    by_cases e : l = l'
    · subst e; simp only [Shared.add1, upd_same, addU, u64] at h0 ⊢; omega
    · simp only [Shared.add1, upd, Key.inprog.injEq, if_neg e]; exact h0
  | @finA l' ok =>
    by_cases e : l = l'
    · subst e; simp only [upd_same, updN, if_true, decU, u64] at h0 ⊢; omega
    · simp only [upd, updN, Key.inprog.injEq, if_neg e]; exact h0
  | @finB l' ok => cases ok <;> exact h0
  | _ => exact h0

theorem inprog_run (ops : List Op) : InprogInv (run ops) :=
  run_inv (by intro l; simp [init, Shared.init, u64]) (fun s _ _ hi h => step?_elim h
    (fun tid c _ => hi) (fun ch t sh' t' r _ _ _ _ ha l => act_inprog l ha (hi l))) ops

def resid (m : Key → Nat) (cats : List Nat) : Nat := sumBy (fun c => m (.drop c)) cats
theorem residualDrops_eq (s : State) : residualDrops s = resid s.sh.mem s.sh.cats := rfl

theorem resid_congr {m' m : Key → Nat} (cats : List Nat) (hm : ∀ c, m' (.drop c) = m (.drop c)) :
    resid m' cats = resid m cats :=
  sumBy_congr _ _ _ (fun c _ => hm c)

theorem sumBy_update {f g : α → Nat} {a : α} {l : List α} (hnd : l.Nodup) (ha : a ∈ l)
    (hfg : ∀ x, x ≠ a → g x = f x) : sumBy g l + f a = sumBy f l + g a := by
  induction l with
  | nil => cases ha
  | cons b l ih =>
    rw [List.nodup_cons] at hnd
    simp only [sumBy_cons]
    by_cases hb : b = a
    · subst hb
      rw [sumBy_congr g f l (fun x hx => hfg x (fun e => hnd.1 (e ▸ hx)))]
      omega
    · have := ih hnd.2 ((List.mem_cons.1 ha).resolve_left (Ne.symm hb))
      rw [hfg b hb]
      omega

theorem sumBy_add (f g : α → Nat) (l : List α) : sumBy (fun a => f a + g a) l = sumBy f l + sumBy g l := by
  induction l with
  | nil => rfl
  | cons a l ih => simp only [sumBy_cons, ih]; omega

theorem le_sumBy (f : α → Nat) {ts : List α} {t : α} (h : t ∈ ts) : f t ≤ sumBy f ts := by
  induction ts with
  | nil => simp at h
  | cons a ts ih =>
    simp only [sumBy_cons]
    rcases List.mem_cons.mp h with h | h
    · subst h; omega
    · have := ih h; omega

theorem mem_le_resid (m : Key → Nat) {cats : List Nat} {c : Nat} (h : c ∈ cats) : m (.drop c) ≤ resid m cats :=
  le_sumBy (fun c => m (.drop c)) h

theorem resid_upd (m : Key → Nat) {cats : List Nat} {c : Nat} (v : Nat) (hnd : cats.Nodup) (hc : c ∈ cats) :
    resid (upd m (.drop c) v) cats + m (.drop c) = resid m cats + v := by
  have := sumBy_update (f := fun x => m (.drop x)) (g := fun x => upd m (.drop c) v (.drop x)) hnd hc
    (fun x hx => upd_other _ _ (fun e => hx (Key.drop.inj e)))
  rwa [upd_same] at this

theorem nodup_insertNew [DecidableEq α] (l : List α) (a : α) (h : l.Nodup) : (insertNew l a).Nodup := by
  unfold insertNew
  split
  · exact h
  · rename_i hn
    exact Basic.nodup_snoc h hn

theorem mem_insertNew [DecidableEq α] (l : List α) (a x : α) : x ∈ insertNew l a ↔ x ∈ l ∨ x = a := by
  unfold insertNew
  split <;> simp_all

theorem resid_insertNew {m : Key → Nat} {cats : List Nat} {c : Nat} (hz : c ∉ cats → m (.drop c) = 0) :
    resid m (insertNew cats c) = resid m cats := by
  unfold resid insertNew
  split
  · rfl
  · rw [sumBy_append, sumBy_cons, hz ‹_›]; rfl

/-- the tail of `act_cases` once `t.pc` is known -/
macro "act_rest" h:ident : tactic => `(tactic| (
  all_goals (try dsimp only at $h:ident)
  all_goals (try split at $h:ident)
  all_goals (try split at $h:ident)
  all_goals (simp only [Option.some.injEq, Prod.mk.injEq, reduceCtorEq] at $h:ident)
  all_goals (obtain ⟨h1, h2, h3⟩ := $h:ident; subst h1; subst h2; subst h3)))

/-- `p` is about to add to, or swap out, the drop counter of category `c` -/
abbrev usesCat (p : Pc) (c : Nat) : Prop := p = .dropA c ∨ p = .sDrop c

structure DropsStep (sh sh' : Shared) (rep rep' : Report) (p' : Pc) (r : Option Report) : Prop where
  cats : ∀ c, c ∈ sh.cats → c ∈ sh'.cats
  nodup : sh'.cats.Nodup
  zero : ∀ c, c ∉ sh'.cats → sh'.mem (.drop c) = 0
  pcs : ∀ c, usesCat p' c → c ∈ sh'.cats
  led : sh'.dropsApplied < u64 → resid sh.mem sh.cats + rep.total ≤ sh.dropsApplied →
    resid sh'.mem sh'.cats + rep'.total + sumBy (·.total) r.toList + sh.dropsApplied
      = resid sh.mem sh.cats + rep.total + sh'.dropsApplied

/-- What one action does to the drop counters: `dropE` alone extends `cats`, a thread reaches `dropA c` / `sDrop c`
    only with `c` in `cats`, and only `dropA`, `sDrop` and the return of stats() move the total-drops ledger. -/
theorem act_drops (h : Act sh tid rep p sh' p' rep' r)
    (hnd : sh.cats.Nodup) (hz : ∀ c, c ∉ sh.cats → sh.mem (.drop c) = 0)
    (hp : ∀ c, usesCat p c → c ∈ sh.cats) : DropsStep sh sh' rep rep' p' r := by
  have frame : ∀ {m' cats'}, resid m' cats' = resid sh.mem sh.cats →
      resid m' cats' + rep.total + 0 + sh.dropsApplied = resid sh.mem sh.cats + rep.total + sh.dropsApplied :=
    fun e => by rw [e]; rfl
  cases h with
  | @dropE c' =>
    refine ⟨fun c hc => (mem_insertNew _ _ _).2 (.inl hc), nodup_insertNew _ _ hnd,
      fun c hc => hz c (fun hm => hc ((mem_insertNew _ _ _).2 (.inl hm))), fun c hc => ?_,
      fun _ _ => frame (resid_insertNew (hz c'))⟩
    rcases hc with hc | hc <;> cases hc
    exact (mem_insertNew _ _ _).2 (.inr rfl)
  | @dropA c' =>
    have hc := hp c' (.inl rfl)
    refine ⟨fun _ hc => hc, hnd, fun c hn => ?_, nofun, fun hw hle => ?_⟩
    · have hne : Key.drop c ≠ .drop c' := fun e => hn (Key.drop.inj e ▸ hc)
      exact (upd_other _ _ hne).trans (hz c hn)
    · have h1 := resid_upd sh.mem (addU (sh.mem (.drop c'))) hnd hc
      have h2 := mem_le_resid sh.mem hc
      simp only [Shared.add1, Option.toList, sumBy_nil, addU, u64] at *
      omega
  | @sDrop c' =>
    have hc := hp c' (.inr rfl)
    refine ⟨fun _ hc => hc, hnd, fun c hn => ?_, nofun, fun hw hle => ?_⟩
    · simp only [Shared.clear, upd]
      split
      · rfl
      · exact hz c hn
    · have h1 := resid_upd sh.mem 0 hnd hc
      split
      all_goals simp only [Shared.clear, Option.toList, sumBy_nil, u64] at *; omega
  | @sDropsNext c' hc' =>
    refine ⟨fun _ hc => hc, hnd, hz, fun c hc => ?_, fun _ _ => frame rfl⟩
    rcases hc with hc | hc <;> cases hc
    exact hc'
  | sTime =>
    exact ⟨fun _ hc => hc, hnd, hz, nofun,
      fun _ _ => by simp only [Option.toList, sumBy_cons, sumBy_nil, Report.empty]; omega⟩
  | @finB l ok => cases ok <;> exact ⟨fun _ hc => hc, hnd, hz, nofun, fun _ _ => frame (resid_congr _ fun _ => rfl)⟩
  | _ => exact ⟨fun _ hc => hc, hnd, hz, nofun, fun _ _ => frame (resid_congr _ fun _ => rfl)⟩

/-- conservation of the drop total: `led`; the other clauses say that a category's counter is zero until
    the category is entered in `cats`, which is what `residualDrops` sums over -/
structure TotalInv (s : State) : Prop where
  nodup : s.sh.cats.Nodup
  zero : ∀ c, c ∉ s.sh.cats → s.sh.mem (.drop c) = 0
  pcs : ∀ t ∈ s.threads, ∀ c, usesCat t.pc c → c ∈ s.sh.cats
  led : s.sh.dropsApplied < u64 → reportedTotal s + inflightTotal s + residualDrops s = s.sh.dropsApplied

theorem total_run (ops : List Op) : TotalInv (run ops) := by
  refine run_inv (by constructor <;> simp [init, Shared.init, reportedTotal, inflightTotal, residualDrops])
    (fun s _ _ hi h => step?_elim h (fun tid c _ => ?_) (fun ch t sh' t' r _ htm hf htid ha => ?_)) ops
  · refine ⟨hi.nodup, hi.zero, forall_snoc hi.pcs (fun c' hc' => ?_), fun hw => ?_⟩
    · cases c <;> simp [usesCat, Call.entry] at hc'
    · have := hi.led hw
      simp only [reportedTotal, inflightTotal, residualDrops, sumBy_append, sumBy_cons, sumBy_nil, Report.empty] at *
      omega
  · have d := act_drops ha hi.nodup hi.zero (hi.pcs t htm)
    refine ⟨d.nodup, d.zero, forall_replaceT (fun x hx c hc => d.cats c (hi.pcs x hx c hc)) d.pcs, fun hw => ?_⟩
    · have hw0 : s.sh.dropsApplied < u64 := Nat.lt_of_le_of_lt (act_mono ha).drops hw
      have h0 := hi.led hw0
      have hle : resid s.sh.mem s.sh.cats + t.rep.total ≤ s.sh.dropsApplied := by
        have := le_sumBy (fun t => t.rep.total) htm
        simp only [reportedTotal, inflightTotal, residualDrops_eq] at *
        omega
      have hl := d.led hw hle
      have hs := sumBy_replaceT (fun t => t.rep.total) hf htid
      simp only [reportedTotal, inflightTotal, residualDrops_eq, sumBy_append] at *
      omega

/-- `v` is the value of the in-progress counter of `l` in a state of the run in which thread `tid`
    is a stats() call that has been invoked and has not returned -/
def InSnapshot (ops : List Op) (tid l v : Nat) : Prop :=
  ∃ ops₁ ops₂, ops = ops₁ ++ ops₂ ∧ liveSnap (run ops₁) tid ∧ v = (run ops₁).sh.mem (.inprog l)

theorem InSnapshot.snoc {ops : List Op} {tid l v : Nat} (o : Op) (h : InSnapshot ops tid l v) : InSnapshot (ops ++ [o]) tid l v := by
  obtain ⟨a, b, rfl, h1, h2⟩ := h
  exact ⟨a, b ++ [o], by simp, h1, h2⟩

/-- in-progress values a running stats() holds in local variables -/
def pcInp : Pc → List (Nat × Nat)
  | .lErr l _ i => [(l, i)]
  | .lIss l _ i _ => [(l, i)]
  | .lLoads lr => [(lr.loc, lr.inprog)]
  | .lLoad lr _ => [(lr.loc, lr.inprog)]
  | _ => []

/-- `lInp` reads the counter (`h3`); afterwards the value only moves: to the locality record, then to the report -/
theorem act_snapshot (Q : Nat → Nat → Prop) (h : Act sh tid rep p sh' p' rep' r)
    (h1 : ∀ e ∈ pcInp p, Q e.1 e.2) (h2 : ∀ lr ∈ rep.locs, Q lr.loc lr.inprog)
    (h3 : p.isSnap = true → ∀ l, Q l (sh.mem (.inprog l))) (h4 : rep.tid = tid) :
    (∀ e ∈ pcInp p', Q e.1 e.2) ∧ (∀ lr ∈ rep'.locs, Q lr.loc lr.inprog) ∧ rep'.tid = tid ∧
    (∀ r', r = some r' → r'.tid = tid ∧ ∀ lr ∈ r'.locs, Q lr.loc lr.inprog) := by
  cases h with
  | @lInp l s =>
    refine ⟨fun e he => ?_, h2, h4, nofun⟩
    cases List.mem_singleton.1 he
    exact h3 rfl l
  | lErr | lIss | lLoadsNext => exact ⟨h1, h2, h4, nofun⟩
  | lLoad => exact ⟨by simp only [pcInp]; split <;> exact h1, h2, h4, nofun⟩
  | @lLoadsEnd lr => exact ⟨nofun, forall_snoc h2 (h1 _ (List.mem_singleton_self _)), h4, nofun⟩
  | sDrop => exact ⟨nofun, by split <;> exact h2, by split <;> exact h4, nofun⟩
  | sTime => exact ⟨nofun, nofun, rfl, fun r' hr => by cases hr; exact ⟨h4, h2⟩⟩
  | _ => exact ⟨nofun, h2, h4, nofun⟩

structure SnapshotInv (ops : List Op) (s : State) : Prop where
  pc : ∀ t ∈ s.threads, ∀ e ∈ pcInp t.pc, InSnapshot ops t.tid e.1 e.2
  rep : ∀ t ∈ s.threads, ∀ lr ∈ t.rep.locs, InSnapshot ops t.tid lr.loc lr.inprog
  reps : ∀ r ∈ s.reports, ∀ lr ∈ r.locs, InSnapshot ops r.tid lr.loc lr.inprog
  tid : ∀ t ∈ s.threads, t.rep.tid = t.tid

theorem SnapshotInv.snoc {ops : List Op} {s : State} (o : Op) (h : SnapshotInv ops s) : SnapshotInv (ops ++ [o]) s :=
  ⟨fun t ht e he => (h.pc t ht e he).snoc o, fun t ht lr hl => (h.rep t ht lr hl).snoc o,
   fun r hr lr hl => (h.reps r hr lr hl).snoc o, h.tid⟩

theorem snapshot_run (ops : List Op) : SnapshotInv ops (run ops) := by
  refine run_ind (by constructor <;> simp [init]) (fun _ o _ h => h.snoc o) (fun ops o s' ih hs =>
    step?_elim hs (fun tid c _ => ?_) (fun ch t sh' t' r ho htm hf htid ha => ?_)) ops
  · exact ⟨forall_snoc ih.pc (by cases c <;> nofun), forall_snoc ih.rep nofun, ih.reps, forall_snoc ih.tid rfl⟩
  · obtain ⟨hpc, hrep, htid', hout⟩ := act_snapshot (fun l v => InSnapshot (ops ++ [o]) t.tid l v) ha
      (ih.pc t htm) (ih.rep t htm) (fun hsnap l => ⟨ops, [o], rfl, ⟨t, hf, hsnap⟩, rfl⟩) (ih.tid t htm)
    refine ⟨forall_replaceT ih.pc (htid ▸ hpc), forall_replaceT ih.rep (htid ▸ hrep), ?_,
      forall_replaceT ih.tid (htid'.trans htid.symm)⟩
    refine fun r' hr' => (List.mem_append.1 hr').elim (ih.reps r') (fun hr' => ?_)
    cases r with
    | none => cases hr'
    | some r0 =>
      cases List.mem_singleton.1 hr'
      obtain ⟨e1, e2⟩ := hout r' rfl
      rw [e1]; exact e2

/-- CallFinished / CallServerLoad are only invoked for a locality that has an entry (i.e. after a
    CallStarted for it has begun) -/
def wfOp (s : State) : Op → Prop
  | .spawn _ (.finish l _) => l ∈ s.sh.locs
  | .spawn _ (.load l _ _) => l ∈ s.sh.locs
  | _ => True

def WellFormed (ops : List Op) : Prop := ∀ ops₁ o ops₂, ops = ops₁ ++ o :: ops₂ → wfOp (run ops₁) o

/-- `p` is the entry of a call that is abandoned unless locality `l` has an entry -/
abbrev needsLoc (p : Pc) (l : Nat) : Prop := (∃ ok, p = .finE l ok) ∨ (∃ n v, p = .loadE l n v)

/-- nothing is abandoned, because every call that would be has its locality's entry -/
structure AbandonInv (s : State) : Prop where
  zero : ∀ k, s.sh.abandoned k = 0
  pcs : ∀ t ∈ s.threads, ∀ l, needsLoc t.pc l → l ∈ s.sh.locs

/-- only `finE` / `loadE` of a locality without entry abandon anything; no rule leads back to them -/
theorem act_abandon (h : Act sh tid rep p sh' p' rep' r)
    (hp : ∀ l, needsLoc p l → l ∈ sh.locs) :
    sh'.abandoned = sh.abandoned ∧ (∀ l, l ∈ sh.locs → l ∈ sh'.locs) ∧
    (∀ l, needsLoc p' l → l ∈ sh'.locs) := by
  cases h with
  | @finEmiss l ok hl => exact absurd (hp l (.inl ⟨ok, rfl⟩)) hl
  | @loadEmiss l n v hl => exact absurd (hp l (.inr ⟨n, v, rfl⟩)) hl
  | startE => exact ⟨rfl, fun _ hl => (mem_insertNew _ _ _).2 (.inl hl), nofun⟩
  | _ => exact ⟨rfl, fun _ hl => hl, by rintro l (⟨_, e⟩ | ⟨_, _, e⟩) <;> cases e⟩

theorem abandon_run (ops : List Op) (hwf : WellFormed ops) : AbandonInv (run ops) := by
  refine run_ind (P := fun ops s => WellFormed ops → AbandonInv s) (fun _ => by constructor <;> simp [init, Shared.init])
    (fun ops o s ih hwf => ih (fun a x b e => hwf a x (b ++ [o]) (by simp [e]))) (fun ops o s' ih0 hs hwf => ?_) ops hwf
  have hwo : wfOp (run ops) o := hwf ops o [] (by simp)
  have ih := ih0 hwf
  refine step?_elim hs (fun tid c ho => ?_) (fun ch t sh' t' r _ htm _ _ ha => ?_)
  · refine ⟨ih.zero, forall_snoc ih.pcs (fun l hl => ?_)⟩
    cases c <;> simp_all [needsLoc, Call.entry, wfOp]
  · obtain ⟨hab, hlocs, hpcs⟩ := act_abandon ha (ih.pcs t htm)
    exact ⟨fun k => hab ▸ ih.zero k, forall_replaceT (fun x hx l hl => hlocs l (ih.pcs x hx l hl)) hpcs⟩

def pendingInc (p : Pc) (l : Nat) : Nat :=
  match p with
  | .startE l' | .startA l' => if l = l' then 1 else 0
  | _ => 0

def pendingDec (p : Pc) (l : Nat) : Nat :=
  match p with
  | .finE l' _ | .finA l' _ => if l = l' then 1 else 0
  | _ => 0

/-- increments of the in-progress counter of `l` against CallStarted invocations, decrements (made or
    abandoned) against CallFinished invocations, with the calls between invocation and that step -/
def CountInv (s : State) : Prop :=
  ∀ l, s.sh.applied (.inprog l) + sumBy (fun t => pendingInc t.pc l) s.threads = s.sh.invoked (.issued l) ∧
    s.sh.decs l + s.sh.abandoned (.succ l) + s.sh.abandoned (.err l) + sumBy (fun t => pendingDec t.pc l) s.threads
      = s.sh.invoked (.succ l) + s.sh.invoked (.err l)

theorem updN_add (m : Nat → Nat) (a k d : Nat) : updN m a (m a + d) k = m k + if k = a then d else 0 := by
  unfold updN; split <;> simp [*]

theorem act_count (l : Nat) (h : Act sh tid rep p sh' p' rep' r) :
    sh'.applied (.inprog l) + pendingInc p' l = sh.applied (.inprog l) + pendingInc p l ∧
    sh'.decs l + sh'.abandoned (.succ l) + sh'.abandoned (.err l) + pendingDec p' l
      = sh.decs l + sh.abandoned (.succ l) + sh.abandoned (.err l) + pendingDec p l := by
  cases h with
  | startA => simp only [pendingInc, pendingDec, Shared.add1, upd_add, Key.inprog.injEq, Nat.add_zero, and_self]
  | @finEmiss l' ok hl =>
    cases ok <;> simp only [pendingInc, pendingDec, upd_add, Key.succ.injEq, Key.err.injEq, reduceCtorEq,
      ↓reduceIte, true_and] <;> omega
  | finA => simp only [pendingInc, pendingDec, updN_add, true_and]; omega
  | @finB l' ok => cases ok <;> exact ⟨rfl, rfl⟩
  | _ => exact ⟨rfl, rfl⟩

theorem invoke_count (c : Call) (sh : Shared) (l : Nat) :
    (c.invoke sh).invoked (.issued l) = sh.invoked (.issued l) + pendingInc c.entry l ∧
    (c.invoke sh).invoked (.succ l) + (c.invoke sh).invoked (.err l)
      = sh.invoked (.succ l) + sh.invoked (.err l) + pendingDec c.entry l := by
  cases c with
  | finish l' ok =>
    cases ok <;> simp only [Call.invoke, Call.entry, pendingInc, pendingDec, upd_add, Key.succ.injEq, Key.err.injEq,
      reduceCtorEq, ↓reduceIte, true_and, Nat.add_zero] <;> omega
  | _ => simp only [Call.invoke, Call.entry, pendingInc, pendingDec, upd_add, upd_upd_add, Key.issued.injEq,
      reduceCtorEq, ↓reduceIte, Nat.add_zero, and_self]

theorem count_run (ops : List Op) : CountInv (run ops) := fun l =>
  ⟨flow_run (·.applied (.inprog l)) (· (.issued l)) (pendingInc · l) rfl (fun _ _ => rfl)
      (fun c sh => (invoke_count c sh l).1) (fun ha => (act_count l ha).1) ops,
   flow_run (fun sh => sh.decs l + sh.abandoned (.succ l) + sh.abandoned (.err l)) (fun i => i (.succ l) + i (.err l))
      (pendingDec · l) rfl (fun _ _ => rfl) (fun c sh => (invoke_count c sh l).2) (fun ha => (act_count l ha).2) ops⟩

theorem sumBy_le (f g : α → Nat) (l : List α) (h : ∀ a, f a ≤ g a) : sumBy f l ≤ sumBy g l := by
  induction l with
  | nil => simp
  | cons a l ih => simp only [sumBy_cons]; have := h a; omega

/-- a call that has yet to increment the in-progress counter has yet to add to `issued` -/
theorem sum_pendingInc_le (ts : List Thread) (l : Nat) :
    sumBy (fun t => pendingInc t.pc l) ts ≤ sumBy (fun t => pending t.pc (.issued l)) ts :=
  sumBy_le _ _ ts fun t => by cases t.pc <;> simp [pendingInc, pending] <;> split <;> simp_all

/-- a call that has yet to decrement it has yet to add to `succ` or `err` -/
theorem sum_pendingDec_le (ts : List Thread) (l : Nat) :
    sumBy (fun t => pendingDec t.pc l) ts ≤
      sumBy (fun t => pending t.pc (.succ l)) ts + sumBy (fun t => pending t.pc (.err l)) ts := by
  rw [← sumBy_add]
  refine sumBy_le _ _ ts fun t => ?_
  cases t.pc <;> simp only [pendingDec, pending, Nat.zero_le]
  all_goals rename_i l' ok; cases ok <;> simp only [Key.succ.injEq, Key.err.injEq, reduceCtorEq, ↓reduceIte] <;> omega

end GrpcProofs.Lemmas.LoadStore
