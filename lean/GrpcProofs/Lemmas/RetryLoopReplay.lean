/-
The replay invariant of GrpcModel.RetryLoop (C18 replay exactness).  `RInv st pb pc` speaks of the state and of what
the operation in progress still has pending; the pending lists change with the control flow (own item written,
buffered, replayed, dropped on commit or on a dead attempt), so it is an assertion between the steps of one call
(induction on `Runs`) and not an invariant kept move by move.
-/
import GrpcProofs.Lemmas.RetryLoopMoves
namespace GrpcProofs.Lemmas.RetryLoop
open GrpcModel.Retry GrpcModel.RetryLoop GrpcProofs.Lemmas.Retry

/-- replay invariant with the current op's item still pending: `pb` not yet in the buffer, `pc` not yet
    written on the (live) current attempt. -/
structure RInv (st : St) (pb pc : List Wire) : Prop where
  buf : st.cs.committed = false → wireOf st.clientStreams st.replay ++ pb = st.hist
  pre : ∀ a ∈ st.atts, a.log <+: st.hist
  cur : ∀ a, st.cur = some a → a.dead = false → a.log ++ pc = st.hist
  once : st.cs.committed = false → st.started = true → startsOnce st.replay = true

/-- `RInv` reads the state only through these six fields; a state that agrees on them (a record update of
    any other field, up to unfolding) satisfies it as well -/
theorem RInv.congr {st st' : St} {pb pc : List Wire} (h : RInv st pb pc)
    (hc : st'.cs.committed = st.cs.committed) (hr : st'.replay = st.replay) (hh : st'.hist = st.hist)
    (ha : st'.atts = st.atts) (hk : st'.clientStreams = st.clientStreams) (hs : st'.started = st.started) :
    RInv st' pb pc := by
  refine ⟨?_, ?_, ?_, ?_⟩
  · rw [hc, hk, hr, hh]; exact h.buf
  · rw [ha, hh]; exact h.pre
  · rw [St.cur, ha, hh]; exact h.cur
  · rw [hc, hs, hr]; exact h.once

theorem commit_rinv (st : St) (pb pc : List Wire) (h : RInv st pb pc) (pb' : List Wire := pb) : RInv st.commit pb' pc := by
  refine ⟨?_, h.pre, h.cur, ?_⟩
  · intro hc; simp [St.commit] at hc
  · intro hc; simp [St.commit] at hc

theorem commit_committed (st : St) : st.commit.cs.committed = true := rfl

theorem RInv.pointwise {st st' : St} {pb pc : List Wire} (h : RInv st pb pc) (hs : Same st st')
    (hp : Pointwise (fun a a' => a'.log = a.log ∧ (a.dead = true → a'.dead = true)) st.atts st'.atts) :
    RInv st' pb pc := by
  refine ⟨?_, ?_, ?_, ?_⟩
  · rw [hs.cs, hs.cstr, hs.replay, hs.hist]; exact h.buf
  · intro x' hx
    obtain ⟨x, hx, hl, _⟩ := hp.mem x' hx
    rw [hl, hs.hist]; exact h.pre x hx
  · intro x' hx hd
    obtain ⟨x, hx, hl, hdead⟩ := hp.last x' hx
    rw [hl, hs.hist]
    apply h.cur x hx
    cases hda : x.dead with
    | false => rfl
    | true => rw [hdead hda] at hd; cases hd
  · rw [hs.cs, hs.started, hs.replay]; exact h.once

theorem finishAttempt_rinv (st : St) (code : Nat) (pb pc : List Wire) (h : RInv st pb pc) :
    RInv (st.finishAttempt code) pb pc := by
  obtain ⟨g, hg, e⟩ := finishAttempt_eq st code
  rw [e]
  exact h.pointwise (updCur_same st g) (updCur_pointwise st g (fun _ => ⟨rfl, id⟩) fun a => ⟨(hg a).log, (hg a).dead⟩)

theorem settle_rinv (st : St) (pb pc : List Wire) (h : RInv st pb pc) : RInv st.settle pb pc :=
  h.pointwise (settle_same st) (settle_pointwise st (fun _ => ⟨rfl, id⟩) fun a => ⟨rfl, fun hd => by
    simp only [Att.dead, Bool.or_eq_true, Bool.and_eq_true] at hd ⊢
    exact hd.imp_right fun h => ⟨trivial, h.2⟩⟩)

theorem write_alive_rinv (st : St) (w : Wire) (pb pc : List Wire) (hd : st.curDead = false)
    (h : RInv st pb (w :: pc)) : RInv (st.write w).1 pb pc ∧ (st.write w).1.curDead = false := by
  obtain ⟨a, hc, had⟩ := (curDead_false_iff st).mp hd
  rw [(write_alive st w hd).1, updCur_some st _ a hc]
  have hlog : a.log ++ w :: pc = st.hist := h.cur a hc had
  refine ⟨⟨h.buf, ?_, ?_, h.once⟩, ?_⟩
  · intro x hx
    simp only [List.mem_append, List.mem_singleton] at hx
    rcases hx with hx | hx
    · exact h.pre x (List.mem_of_mem_dropLast hx)
    · subst hx
      simp only
      rw [← hlog]
      exact ⟨pc, by simp⟩
  · intro x hx _
    simp only [St.cur, List.getLast?_append, List.getLast?_singleton, Option.some_or, Option.some.injEq] at hx
    subst hx
    simp only
    rw [← hlog]; simp
  · simp only [St.curDead, St.cur, List.getLast?_append, List.getLast?_singleton, Option.some_or]
    simpa [Att.dead] using had

theorem writes_rinv (ws : List Wire) (st : St) (pb pc : List Wire) (hd : st.curDead = false)
    (h : RInv st pb (ws ++ pc)) : RInv (writes st ws) pb pc := by
  induction ws generalizing st with
  | nil => exact h
  | cons w ws ih =>
    obtain ⟨h1, hd1⟩ := write_alive_rinv st w pb (ws ++ pc) hd h
    exact ih _ hd1 h1

theorem rinv_dead_pc (st : St) (pb pc pc' : List Wire) (hd : st.curDead = true) (h : RInv st pb pc) : RInv st pb pc' := by
  refine ⟨h.buf, h.pre, ?_, h.once⟩
  intro a hc had
  have : st.curDead = false := (curDead_false_iff st).mpr ⟨a, hc, had⟩
  rw [hd] at this; cases this

theorem rinv_committed_pb (st : St) (pb pb' pc : List Wire) (hc : st.cs.committed = true) (h : RInv st pb pc) : RInv st pb' pc := by
  refine ⟨?_, h.pre, h.cur, ?_⟩
  · intro hf; rw [hc] at hf; cases hf
  · intro hf; rw [hc] at hf; cases hf

theorem buffer_rinv (st : St) (sz : Int) (op : ROp) (pb pc : List Wire) (hop : op ≠ .start)
    (h : RInv st (wireOf st.clientStreams [op] ++ pb) pc) : RInv (st.buffer sz op) pb pc := by
  rcases buffer_cases st sz op with ⟨hc, e⟩ | ⟨hc, ⟨_, e⟩ | ⟨_, e⟩⟩ <;> rw [e]
  · exact rinv_committed_pb st _ pb pc hc h
  · exact commit_rinv { st with replaySize := st.replaySize + sz } _ pc (h.congr rfl rfl rfl rfl rfl rfl) pb
  · exact ⟨fun _ => by rw [wireOf_append, List.append_assoc]; exact h.buf hc, h.pre, h.cur,
      fun _ hs => startsOnce_append _ _ (h.once hc hs) hop⟩

/-- once committed with the current attempt dead nothing of the op is pending any more -/
theorem commit_dead_rinv (st : St) (pb pc pb' pc' : List Wire) (hd : st.curDead = true) (h : RInv st pb pc) :
    RInv st.commit pb' pc' :=
  rinv_committed_pb _ pb pb' _ rfl (rinv_dead_pc _ _ _ pc' hd (commit_rinv _ _ _ h))

/-- `op(a)` with the op's own item `st.pendOf op` pending in front of an ambient one (`pb` / `pc`: somebody
    else's message, written or not on the current attempt and not yet in the buffer) -/
theorem applyOp_rinv {st : St} {op : COp} {st1 : St} {raw : Raw} {ev : List Ev} (e : st.applyOp op = (st1, raw, ev))
    (pb pc : List Wire) (h : RInv st (st.pendOf op ++ pb) (st.pendOf op ++ pc)) :
    Same st st1 ∧ RInv st1 (st.pendOf op ++ pb) pc ∧
    (raw.isFail = true → st1.curDead = true ∧ RInv st1 (st.pendOf op ++ pb) (st.pendOf op ++ pc)) := by
  have e1 : (st.applyOp op).1 = st1 := by rw [e]
  have e2 : (st.applyOp op).2.1 = raw := by rw [e]
  refine ⟨applyOp_same e, ?_⟩
  rw [← e1, ← e2]
  cases hop : COp.receives op with
  | true =>
    rw [pendOf_receives st op hop] at h ⊢
    have hr := settle_rinv st pb pc h
    refine applyOp_receives (fun r => RInv r.1 pb pc ∧ (r.2.1.isFail = true → r.1.curDead = true ∧ RInv r.1 pb pc))
      st op hop ⟨hr, nofun⟩ (fun hd _ => ⟨hr, fun _ => ⟨hd, hr⟩⟩) (fun _ => ⟨?_, nofun⟩)
    exact hr.pointwise ((updCur_same _ _).trans (by constructor <;> rfl))
      (updCur_pointwise _ (fun a => { a with respRead := 1 }) (fun _ => ⟨rfl, id⟩) fun _ => ⟨rfl, id⟩)
  | false =>
    obtain ⟨hst, hraw⟩ := applyOp_sends st op hop
    rw [hst]
    cases hd : st.curDead with
    | true =>
      rw [writes_dead st _ hd]
      exact ⟨rinv_dead_pc st _ _ pc hd h, fun _ => ⟨hd, h⟩⟩
    | false =>
      have hnil : (st.applyOp op).2.1 = .nil := hraw.resolve_right (fun hc => by rw [hd] at hc; cases hc.2)
      rw [hnil]
      exact ⟨writes_rinv _ st _ pc hd h, nofun⟩

theorem onSuccess_rinv (st st1 : St) (op : COp) (pb pc : List Wire) (hseq : st1.seq = st.seq)
    (hcstr : st1.clientStreams = st.clientStreams) (h : RInv st1 (st.pendOf op ++ pb) pc) :
    RInv (st1.onSuccess op) pb pc ∧ (st1.onSuccess op).atts.length = st1.atts.length := by
  have hb : ∀ sz o, (st1.buffer sz o).atts.length = st1.atts.length := fun sz o => by rw [buffer_atts]
  cases op with
  | send size =>
    refine ⟨buffer_rinv _ _ _ _ _ (by simp) ?_, hb _ _⟩
    simpa [wireOf, St.pendOf, hseq, hcstr] using h
  | half =>
    refine ⟨buffer_rinv _ _ _ _ _ (by simp) ?_, hb _ _⟩
    simpa [wireOf, St.pendOf] using h
  | recv => exact ⟨commit_rinv _ _ _ h pb, rfl⟩
  | header => exact ⟨commit_rinv _ _ _ h pb, rfl⟩

theorem finishAttempt_keeps_dead (st : St) (code : Nat) (h : st.curDead = true) : (st.finishAttempt code).curDead = true := by
  rw [curDead_true_iff] at h ⊢
  obtain ⟨g, hg, e⟩ := finishAttempt_eq st code
  rw [e]
  intro a' ha
  obtain ⟨a, hc, rfl⟩ := updCur_last st g a' ha
  exact (hg a).dead (h a hc)

theorem cs_swap_rinv (st : St) (cs' : CS) (pb pc : List Wire) (h : RInv st pb pc) (hc : cs'.committed = st.cs.committed) :
    RInv { st with cs := cs' } pb pc :=
  h.congr hc rfl rfl rfl rfl rfl

theorem decideRetry_rinv {st : St} {raw : Raw} {st3 : St} {d : Decision} (e : st.decideRetry raw = (st3, d))
    (pb pc : List Wire) (h : RInv st pb pc) (hd : st.curDead = true) :
    RInv st3 pb pc ∧ st3.curDead = true ∧ SameD st st3 := by
  have h2 := finishAttempt_rinv st raw.code pb pc h
  have hd2 := finishAttempt_keeps_dead st raw.code hd
  have hs := decideRetry_sameD e
  rcases decideRetry_cases e with ⟨_, rfl, _⟩ | ⟨a, _, rfl, _⟩
  · exact ⟨h2, hd2, hs⟩
  · exact ⟨cs_swap_rinv _ _ pb pc h2 (sr_keeps _ _ _ _ 0).committed, hd2, hs⟩

theorem startRetry_rinv (st : St) (d : Decision) (pb pc : List Wire) (h : RInv st pb pc)
    (hu : st.cs.committed = false) (hst : st.started = true) :
    RInv (st.startRetry d).1 pb pb ∧
    ∃ a, (st.startRetry d).1.atts = st.atts ++ [a] ∧ a.log = wireOf st.clientStreams st.replay ∧
      a.prev = (afterDecision st.cs d).numRetries := by
  rw [startRetry_eq st d (h.once hu hst)]
  have hbuf := h.buf hu
  refine ⟨⟨fun _ => hbuf, ?_, ?_, fun _ _ => h.once hu hst⟩, _, rfl, rfl, rfl⟩
  · intro x hx
    simp only [List.mem_append, List.mem_singleton] at hx
    rcases hx with hx | rfl
    · exact h.pre x hx
    · exact ⟨pb, hbuf⟩
  · intro x hx _
    simp only [St.cur, List.getLast?_append, List.getLast?_singleton, Option.some_or, Option.some.injEq] at hx
    subst hx
    exact hbuf

theorem core_rinv {st st' : St} (h : Core st st') (pb pc : List Wire) (hi : RInv st pb pc) : RInv st' pb pc :=
  hi.congr h.committed h.replay h.hist h.atts h.cstr h.started

theorem failed_rinv {st : St} {op : COp} {st1 : St} {raw : Raw} {ev : List Ev} {st3 : St} {d : Decision}
    (hf : Failed op st st1 raw ev st3 d) (pb pc : List Wire) (h : RInv st (st.pendOf op ++ pb) (st.pendOf op ++ pc)) :
    RInv st3 (st.pendOf op ++ pb) (st.pendOf op ++ pc) ∧ st3.curDead = true ∧ SameD st st3 := by
  obtain ⟨hsame, _, hfail⟩ := applyOp_rinv hf.app pb pc h
  obtain ⟨hd1, hi1⟩ := hfail (classify_failure _ _ hf.failure)
  obtain ⟨hi3, hd3, hs3⟩ := decideRetry_rinv hf.dec _ _ hi1 hd1
  exact ⟨hi3, hd3, hsame.toSameD.trans hs3⟩

/-- the three ways `withRetry` can leave the replay invariant when the op's own item is pending in front of
    an ambient one: out of fuel; no new attempt (`same`: only the ambient item is still pending as it was); or at
    least one new attempt (`fresh`), in which case the current attempt carries exactly the buffer, i.e. everything
    but the ambient item -/
inductive RInvAfter (st res : St) (out : Res) (pb pc : List Wire) : Prop
  | outOfFuel : out = .outOfFuel → RInvAfter st res out pb pc
  | same : RInv res pb pc → res.atts.length = st.atts.length → RInvAfter st res out pb pc
  | fresh : RInv res pb pb → st.atts.length < res.atts.length → RInvAfter st res out pb pc

theorem withRetry_rinv (fuel : Nat) (st : St) (op : COp) (hst : st.started = true) (pb pc : List Wire)
    (h : RInv st (st.pendOf op ++ pb) (st.pendOf op ++ pc)) :
    RInvAfter st (St.withRetry fuel st op).1 (St.withRetry fuel st op).2.1 pb pc := by
  have hr := withRetry_runs fuel st op
  generalize (St.withRetry fuel st op).1 = s, (St.withRetry fuel st op).2.1 = res at hr ⊢
  induction hr generalizing pc with
  | committed st st1 raw happ hc =>
    obtain ⟨hsame, hok, _⟩ := applyOp_rinv happ pb pc h
    exact .same (rinv_committed_pb _ _ pb _ (by rw [hsame.cs]; exact hc) hok) hsame.len
  | blocked st st1 raw happ _ hcl =>
    obtain ⟨hsame, hok, _⟩ := applyOp_rinv happ pb pc h
    have hb : (st.applyOp op).2.1 = .blocks := by rw [happ]; exact classify_blocked _ _ hcl
    rw [applyOp_blocks_pend st op hb] at hok; exact .same hok hsame.len
  | success st st1 raw happ =>
    obtain ⟨hsame, hok, _⟩ := applyOp_rinv happ pb pc h
    obtain ⟨hi, hl⟩ := onSuccess_rinv st st1 op pb pc hsame.seq hsame.cstr hok
    exact .same hi (hl.trans hsame.len)
  | noRetry st st1 raw st3 hf | exhausted st st1 raw st3 hf =>
    obtain ⟨hi3, hd3, hs3⟩ := failed_rinv hf pb pc h
    exact .same (commit_dead_rinv _ _ _ pb pc hd3 hi3) hs3.len
  | noFuel => exact .outOfFuel rfl
  | gaveUp fuel st st1 raw st3 d r hf _ _ hfl => -- stream creation gave up: the loop left the attempts alone
    obtain ⟨hi3, hd3, hs3⟩ := failed_rinv hf pb pc h
    have hcore := hfl.core
    exact .same (commit_dead_rinv _ _ _ pb pc (by simpa [St.curDead, St.cur, hcore.atts] using hd3)
      (core_rinv hcore _ _ hi3)) ((congrArg List.length hcore.atts).trans hs3.len)
  | @again _ s4 d4 _ _ fuel st st1 raw st3 d hf hn _ hfl _ ih => -- the new attempt carries the buffer
    obtain ⟨hi3, hd3, hs3⟩ := failed_rinv hf pb pc h
    have hcore := hfl.core
    have hst4 := hcore.started.trans (hs3.started.trans hst)
    obtain ⟨hi5, a, ha, _⟩ := startRetry_rinv _ d4 _ _ (core_rinv hcore _ _ hi3)
      (hcore.committed.trans (hf.decided hn).uncommitted) hst4
    have hfr := startRetry_frame s4 d4
    rw [← pendOf_congr st _ op ((hfr.seq.trans hcore.seq).trans hs3.seq) ((hfr.cstr.trans hcore.cstr).trans hs3.cstr)] at hi5
    have hl5 : (s4.startRetry d4).1.atts.length = st.atts.length + 1 := by
      rw [ha, List.length_append, hcore.atts, hs3.len]; rfl
    cases ih (hfr.started.trans hst4) pb hi5 with
    | outOfFuel h6 => exact .outOfFuel h6
    | same h6 hl6 | fresh h6 hl6 => exact .fresh h6 (by omega)

theorem finish_rinv (st : St) (code : Nat) (pb pc : List Wire) (h : RInv st pb pc) : RInv (st.finish code) pb pc := by
  rcases finish_cases st code with ⟨_, e⟩ | ⟨_, thr, e⟩ <;> rw [e]
  · exact h
  · exact cs_swap_rinv _ _ pb pc (finishAttempt_rinv _ code pb pc
      (commit_rinv _ pb pc (cs_swap_rinv st { st.cs with finished := true } pb pc h rfl))) rfl

theorem extend_hist_rinv (st : St) (item : List Wire) (h : RInv st [] []) :
    RInv { st with hist := st.hist ++ item } item item := by
  refine ⟨?_, ?_, ?_, h.once⟩
  · intro hc; have := h.buf hc; simp only [List.append_nil] at this; simp [this]
  · intro a ha
    obtain ⟨t, ht⟩ := h.pre a ha
    exact ⟨t ++ item, by simp [← ht, List.append_assoc]⟩
  · intro a hc hd
    have := h.cur a hc hd
    simp only [List.append_nil] at this
    simp [this]

theorem rinv_of_no_history (st : St) (hh : st.hist = []) (hl : ∀ a ∈ st.atts, a.log = [])
    (hr : st.cs.committed = false → st.replay = [.start]) : RInv st [] [] := by
  refine ⟨fun hc => ?_, fun a ha => ?_, fun a hc _ => ?_, fun hc _ => ?_⟩
  · rw [hr hc, hh]; rfl
  · rw [hl a ha]; exact List.nil_prefix
  · rw [hl a (cur_mem st a hc), hh]; rfl
  · rw [hr hc]; rfl

/-- replay exactness, as `RInv` spells it with nothing pending -/
theorem RInv.exact {st : St} (h : RInv st [] []) :
    (st.cs.committed = false → wireOf st.clientStreams st.replay = st.hist) ∧
    (∀ a ∈ st.atts, a.log <+: st.hist) ∧
    (∀ a, st.cur = some a → a.dead = false → a.log = st.hist) :=
  ⟨fun hc => by simpa using h.buf hc, h.pre, fun a hc hd => by simpa using h.cur a hc hd⟩

/-- the state between two operations of a started RPC: the replay invariant with nothing pending -/
def Good (st : St) : Prop := RInv st [] [] ∧ st.started = true

theorem Good.rinv {st : St} (h : Good st) : RInv st [] [] := h.1

theorem Good.started {st : St} (h : Good st) : st.started = true := h.2

theorem Good.seq {st : St} (h : Good st) (seq : Nat) : Good { st with seq := seq } :=
  ⟨h.rinv.congr rfl rfl rfl rfl rfl rfl, h.started⟩

theorem finish_len (st : St) (code : Nat) : (st.finish code).atts.length = st.atts.length := by
  rcases finish_cases st code with ⟨_, e⟩ | ⟨_, thr, e⟩ <;> rw [e]
  exact (finishAttempt_same _ code).len

theorem Ended.rinv {st s : St} (he : Ended st s) (pb pc : List Wire) (h : RInv st pb pc) :
    RInv s pb pc ∧ s.atts.length = st.atts.length := by
  cases he with
  | settle => exact ⟨settle_rinv st pb pc h, (settle_same st).len⟩
  | finish code =>
    exact ⟨settle_rinv _ pb pc (finish_rinv st code pb pc h), (settle_same _).len.trans (finish_len st code)⟩

theorem Ended.good {st s : St} (he : Ended st s) (h : Good st) : Good s :=
  ⟨(he.rinv [] [] h.rinv).1, he.reach.frame.started.trans h.started⟩

theorem RInvAfter.good {st s : St} {out : Res} (h : RInvAfter st s out [] []) (hs : s.started = true) :
    out = .outOfFuel ∨ Good s := by
  cases h with
  | outOfFuel hf => exact Or.inl hf
  | same hi | fresh hi => exact Or.inr ⟨hi, hs⟩

theorem withRetry_good (fuel : Nat) (st : St) (op : COp) (hst : st.started = true)
    (h : RInv st (st.pendOf op) (st.pendOf op)) :
    (St.withRetry fuel st op).2.1 = .outOfFuel ∨ Good (St.withRetry fuel st op).1 :=
  (withRetry_rinv fuel st op hst [] [] (by simpa using h)).good ((withRetry_reach fuel st op).frame.started.trans hst)

theorem beginSend_rinv (st : St) (size : Nat) (h : Good st) :
    RInv (st.beginSend size) ((st.beginSend size).pendOf (.send size)) ((st.beginSend size).pendOf (.send size)) ∧
    (st.beginSend size).started = true := by
  have hA := extend_hist_rinv { st with seq := st.seq + 1 } (({ st with seq := st.seq + 1 } : St).pendOf (.send size))
    (h.seq _).rinv
  exact ⟨hA.congr rfl rfl rfl rfl rfl rfl, h.started⟩

theorem beginClose_rinv (st : St) (h : Good st) :
    RInv st.beginClose (st.beginClose.pendOf .half) (st.beginClose.pendOf .half) ∧ st.beginClose.started = true := by
  have hA := extend_hist_rinv st [Wire.half] h.rinv
  exact ⟨hA.congr rfl rfl rfl rfl rfl rfl, h.started⟩

theorem Begins.rinv {st pre : St} {cop : COp} (hb : Begins st pre cop) (h : Good st) :
    RInv pre (pre.pendOf cop) (pre.pendOf cop) ∧ pre.started = true := by
  cases hb with
  | send size => exact beginSend_rinv st size h
  | close => exact beginClose_rinv st h
  | recv => exact h
  | header => exact h

theorem call_good (fuel : Nat) {st pre s : St} {cop : COp} (hb : Begins st pre cop)
    (he : Ended (St.withRetry fuel pre cop).1 s) (h : Good st) :
    (St.withRetry fuel pre cop).2.1 = .outOfFuel ∨ Good s :=
  (withRetry_good fuel pre cop (hb.rinv h).2 (hb.rinv h).1).imp_right he.good

theorem opSend_good (fuel : Nat) (st : St) (size : Nat) (h : Good st) :
    (st.opSend fuel size).2.1 = .outOfFuel ∨ Good (st.opSend fuel size).1 := by
  simp only [St.opSend]
  split_ifs
  · exact Or.inr (Ended.good (.finish 13) (h.seq _))
  · dsimp only; exact call_good fuel (.send st size) (endSend_ended _ _) h

theorem opClose_good (fuel : Nat) (st : St) (h : Good st) :
    (St.withRetry fuel st.beginClose .half).2.1 = .outOfFuel ∨ Good (st.opClose fuel).1 := by
  unfold St.opClose
  split_ifs
  · exact Or.inr (Ended.good .settle h)
  · exact call_good fuel (.close st) .settle h

theorem opRecv_good (fuel : Nat) (st : St) (h : Good st) :
    (st.opRecv fuel).2.1 = .outOfFuel ∨ Good (st.opRecv fuel).1 := by
  simp only [St.opRecv]; exact call_good fuel (.recv st) (endRecv_ended _ _) h

theorem opHeader_good (fuel : Nat) (st : St) (h : Good st) :
    (St.withRetry fuel st .header).2.1 = .outOfFuel ∨ Good (st.opHeader fuel).1 := by
  simp only [St.opHeader]; exact call_good fuel (.header st) (endHeader_ended _ _) h

end GrpcProofs.Lemmas.RetryLoop
