import GrpcProofs.Lemmas.ClientConn
import GrpcProofs.Lemmas.Basic
/-!
The inductive invariant behind C11's "every opened stream gets exactly one terminal status":
a stream without outcome is still in `activeStreams` (or, once `Close` has started, in the snapshot
`Close` will notify), `cleanupStream` items only refer to streams that already have their outcome,
and every outcome is a legal one.
-/
namespace GrpcProofs.Lemmas.ClientConn
open GrpcModel.ClientConn Basic

/-- an outcome the client may record: an error with a code in 0…16 (codes.OK … codes.Unauthenticated), or io.EOF
together with a status (the server's `grpc-status`, not bounded) -/
def LegalTerm (t : Term) : Prop := (∀ c, t.err = some c → c ≤ 16) ∧ (t.err = none → t.status.isSome = true)

structure Inv (s : State) : Prop where
  /-- the transport is `closing` exactly while / after `Close` runs -/
  cp : s.tstate = .closing ↔ s.closeP ≠ .none
  /-- the reader goroutine exits only into `Close` -/
  rd : s.readerDone = true → s.tstate = .closing
  /-- `t.cancel()` has run by the time `Close` waits for the reader -/
  cd : s.closeP = .waitReader ∨ s.closeP = .done → s.ctxDone = true
  /-- `Close`'s timer fires at most 5 s from now -/
  tm : ∀ t, s.closeP = .waitWriter t → t ≤ s.now + 5000
  /-- a stream without outcome is in `activeStreams`, or in the snapshot an unfinished `Close` will notify -/
  live : ∀ (i : Nat) (x : Strm), s.streams[i]? = some x → x.term = none →
      (s.tstate ≠ .closing → x.inActive = true) ∧ (s.tstate = .closing → x.inSnapshot = true ∧ s.closeP ≠ .done)
  /-- a queued `cleanupStream` refers to a stream that has its outcome -/
  cl : ∀ (i id : Nat) (r : Bool) (c : Nat), Item.cleanup i id r c ∈ s.cbuf →
      ∃ x : Strm, s.streams[i]? = some x ∧ x.term.isSome = true
  lg : ∀ (i : Nat) (x : Strm) (t : Term), s.streams[i]? = some x → x.term = some t → LegalTerm t
  /-- the code recorded for a non-gRPC response is a gRPC status code -/
  ng : ∀ (i : Nat) (x : Strm) (c l : Nat), s.streams[i]? = some x → x.nonGRPC = some (c, l) → c ≤ 16

theorem inv_init (ec : Bool) (a : Nat) (b' c : Option Nat) : Inv (init ec a b' c) := by
  constructor <;> simp [init]

/-- what `Inv` reads of a state -/
def invView (s : State) := (s.streams, s.tstate, s.closeP, s.readerDone, s.cbuf, s.now, s.ctxDone)

theorem Inv.of_view {s s' : State} (h : Inv s) (e : invView s' = invView s := by rfl) : Inv s' := by
  simp only [invView, Prod.mk.injEq] at e
  obtain ⟨e1, e2, e3, e4, e5, e6, e7⟩ := e
  exact {
    cp := by rw [e2, e3]; exact h.cp
    rd := by rw [e4, e2]; exact h.rd
    cd := by rw [e3, e7]; exact h.cd
    tm := by rw [e3, e6]; exact h.tm
    live := by rw [e1, e2, e3]; exact h.live
    cl := by rw [e5, e1]; exact h.cl
    lg := by rw [e1]; exact h.lg
    ng := by rw [e1]; exact h.ng }

/-- `f` leaves alone what `Inv` reads of a stream, or records a legal code for a non-gRPC response -/
def ISafe (f : Strm → Strm) : Prop :=
  ∀ x, (f x).inActive = x.inActive ∧ (f x).inSnapshot = x.inSnapshot ∧ (f x).term = x.term ∧
    ((f x).nonGRPC = x.nonGRPC ∨ ∃ c l, (f x).nonGRPC = some (c, l) ∧ c ≤ 16)

theorem Plain.isafe {f : Strm → Strm} (h : Plain f) : ISafe f :=
  fun x => ⟨h.inActive x, h.inSnapshot x, h.term x, Or.inl (h.nonGRPC x)⟩

theorem isafe_markF : ISafe markF := plain_markF.isafe

/-- what the invariant asks of a single stream record -/
structure StrmOK (s : State) (x : Strm) : Prop where
  live : x.term = none →
    (s.tstate ≠ .closing → x.inActive = true) ∧ (s.tstate = .closing → x.inSnapshot = true ∧ s.closeP ≠ .done)
  lg : ∀ t, x.term = some t → LegalTerm t
  ng : ∀ c l, x.nonGRPC = some (c, l) → c ≤ 16

theorem Inv.strm {s : State} (h : Inv s) {i : Nat} {x : Strm} (hx : s.streams[i]? = some x) : StrmOK s x :=
  ⟨h.live i x hx, fun t => h.lg i x t hx, fun c l => h.ng i x c l hx⟩

theorem Inv.streams {s : State} (h : Inv s) (l : List Strm) (hok : ∀ (j : Nat) (y : Strm), l[j]? = some y → StrmOK s y)
    (hfin : ∀ (j : Nat) (x : Strm), s.streams[j]? = some x → x.term.isSome = true →
      ∃ y : Strm, l[j]? = some y ∧ y.term.isSome = true) :
    Inv { s with streams := l } :=
  { h with
    live := fun j y hy => (hok j y hy).live
    cl := fun j id r c hm => have ⟨x, hx, hs⟩ := h.cl j id r c hm; hfin j x hx hs
    lg := fun j y t hy => (hok j y hy).lg t
    ng := fun j y c l hy => (hok j y hy).ng c l }

theorem Inv.pointwise {s : State} (h : Inv s) {l : List Strm} (g : Nat → Strm → Strm)
    (hl : ∀ j : Nat, l[j]? = (s.streams[j]?).map (g j))
    (hg : ∀ (j : Nat) (x : Strm), s.streams[j]? = some x → StrmOK s (g j x) ∧ (x.term.isSome = true → (g j x).term.isSome = true)) :
    Inv { s with streams := l } := by
  refine h.streams l (fun j y hy => ?_) (fun j x hx hs => ⟨g j x, by rw [hl, hx]; rfl, (hg j x hx).2 hs⟩)
  rw [hl] at hy
  cases hx : s.streams[j]? with
  | none => rw [hx] at hy; cases hy
  | some x => rw [hx] at hy; cases hy; exact (hg j x hx).1

theorem Inv.modify {s : State} (h : Inv s) (i : Nat) (f : Strm → Strm)
    (hf : ∀ x, s.streams[i]? = some x → StrmOK s (f x) ∧ (x.term.isSome = true → (f x).term.isSome = true)) :
    Inv (s.updStream i f) :=
  h.pointwise (fun j x => if i = j then f x else x) (fun j => List.getElem?_modify ..) fun j x hx => by
    split
    · rename_i hij; subst hij; exact hf x hx
    · exact ⟨h.strm hx, id⟩

theorem ISafe.ok {f : Strm → Strm} (hf : ISafe f) {s : State} {x : Strm} (hx : StrmOK s x) :
    StrmOK s (f x) ∧ (x.term.isSome = true → (f x).term.isSome = true) := by
  obtain ⟨h1, h2, h3, h4⟩ := hf x
  refine ⟨⟨?_, ?_, fun c l hn => ?_⟩, fun hs => h3 ▸ hs⟩
  · rw [h1, h2, h3]; exact hx.live
  · rw [h3]; exact hx.lg
  · rcases h4 with he | ⟨c', l', he, hle⟩
    · exact hx.ng c l (he ▸ hn)
    · rw [he] at hn; cases hn; exact hle

theorem Inv.updStream {s : State} (h : Inv s) (i : Nat) {f : Strm → Strm} (hf : ISafe f) : Inv (s.updStream i f) :=
  h.modify i f fun _ hx => hf.ok (h.strm hx)

theorem Inv.cbuf {s : State} (h : Inv s) (l : List Item)
    (hl : ∀ i id r c, Item.cleanup i id r c ∈ l → Item.cleanup i id r c ∈ s.cbuf) : Inv { s with cbuf := l } := by
  exact { h with cl := fun i id r c hm => h.cl i id r c (hl i id r c hm) }

theorem StrmOK.close {s : State} {x : Strm} (hx : StrmOK s x) {e : Option Nat} (st : Nat) (he : ∀ k, e = some k → k ≤ 16) :
    StrmOK s (closeF e st x) ∧ (x.term.isSome = true → (closeF e st x).term.isSome = true) := by
  have hn : (closeF e st x).nonGRPC = x.nonGRPC := by unfold closeF; split <;> rfl
  refine ⟨⟨fun ht => ?_, fun t ht => ?_, fun c l h => hx.ng c l (hn ▸ h)⟩, fun _ => by rw [closeF_term]; rfl⟩
  · rw [closeF_term] at ht; cases ht
  · rw [closeF_term] at ht
    cases hxt : x.term with
    | none => rw [hxt] at ht; cases ht; exact ⟨he, fun _ => rfl⟩
    | some t' => rw [hxt] at ht; cases ht; exact hx.lg t' hxt

theorem Inv.closeStream {s : State} (h : Inv s) (i : Nat) (e : Option Nat) (st : Nat) (r : Bool) (c : Nat)
    (he : ∀ k, e = some k → k ≤ 16) : Inv (s.closeStream i e st r c) := by
  obtain ⟨q, cb, tk, hs, hcb⟩ := closeStream_eq s i e st r c
  rw [hs]
  have h1 : Inv (s.updStream i (closeF e st)) := h.modify i _ fun _ hx => (h.strm hx).close st he
  refine Inv.of_view (s := { s.updStream i (closeF e st) with cbuf := cb }) { h1 with cl := fun j id r' c' hm => ?_ }
  rcases hcb with rfl | ⟨x, hx, rfl⟩
  · exact h1.cl j id r' c' hm
  · rcases List.mem_append.mp hm with hm | hm
    · exact h1.cl j id r' c' hm
    · -- the cleanup item queued now refers to the stream that has just got its outcome
      injection List.mem_singleton.mp hm with hj
      subst hj
      refine ⟨closeF e st x, ?_, by rw [closeF_term]; rfl⟩
      show (s.streams.modify j (closeF e st))[j]? = _
      rw [List.getElem?_modify, hx]; simp

theorem Inv.orphan {s : State} (h : Inv s) (i e : Nat) (he : e ≤ 16) : Inv (s.orphan i e) :=
  h.modify i _ fun x hx => by
    unfold orphanF
    split
    · exact ⟨h.strm hx, id⟩
    · refine ⟨⟨fun ht => (nomatch ht), fun t ht => ?_, (h.strm hx).ng⟩, fun _ => rfl⟩
      cases ht
      exact ⟨fun k hk => Option.some.inj hk ▸ he, fun hn => nomatch hn⟩

theorem cInternal_le : cInternal ≤ 16 := by decide
theorem cUnknown_le : cUnknown ≤ 16 := by decide
theorem cUnavailable_le : cUnavailable ≤ 16 := cUnavailable_eq ▸ (by decide : 14 ≤ 16)
theorem cCanceled_le : cCanceled ≤ 16 := by decide
theorem cDeadline_le : cDeadline ≤ 16 := by decide

theorem codeOf_tab_le : ∀ p ∈ GrpcModel.Generated.http2ErrConvTab, codeOf p.2 ≤ 16 := by decide
theorem codeOf_http_le : ∀ p ∈ GrpcModel.Generated.httpStatusConvTab, codeOf p.2 ≤ 16 := by decide

theorem rstToCode_le (h2 : Nat) (d : Nat) (hd : d ≤ 16) : (rstToCode h2).getD d ≤ 16 := by
  unfold rstToCode
  split
  · simpa using hd
  · rename_i n _
    cases hl : GrpcModel.Generated.http2ErrConvTab.lookup n with
    | none => simpa using hd
    | some v => simp; exact codeOf_tab_le (n, v) (lookup_mem hl)

theorem httpToCode_le (st : Int) (d : Nat) (hd : d ≤ 16) : (httpToCode st).getD d ≤ 16 := by
  unfold httpToCode
  cases hf : GrpcModel.Generated.httpStatusConvTab.find? (fun (x : String × String) => httpStatusNames.lookup x.1 == some st) with
  | none => simpa using hd
  | some p => simp; exact codeOf_http_le p (List.mem_of_find?_eq_some hf)

/-- leaving `reachable` for `draining` (GOAWAY received / GracefulClose) -/
theorem Inv.toDraining {s : State} (h : Inv s) (hc : s.tstate ≠ .closing) : Inv { s with tstate := TState.draining } := by
  have hnone : s.closeP = .none := Decidable.not_not.mp fun hp => hc (h.cp.mpr hp)
  exact { h with
    cp := by simp [hnone]
    rd := fun hr => absurd (h.rd hr) hc
    live := fun i x hx ht => ⟨fun _ => (h.live i x hx ht).1 hc, fun hcl => by simp at hcl⟩ }

end GrpcProofs.Lemmas.ClientConn
