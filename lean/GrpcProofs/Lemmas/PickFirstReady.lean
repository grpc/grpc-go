/-
Helper lemmas for C34.  The balancer is in one of two regimes (`Reg`): no SubConn is READY, or one is, alone in the map.  In
the first all of its code except four branches (a SubConn becomes READY, a CONNECTING one drops to IDLE, the resolver empties
the list, Close) goes on looking for a connection: `Seeking s m ev` says what that code can make of a state (`step_seeking` for
the ops), and `Good`, the READY reports, the first regime and sticky TRANSIENT_FAILURE are read off it.  `step_op` is the
invariant of every op.
-/
import GrpcProofs.Lemmas.PickFirst
import GrpcProofs.Lemmas.PickFirstAddr

namespace GrpcProofs.Lemmas.PickFirstSticky
open GrpcModel.PickFirst

/-- the SubConn reports that end a search for a connection (and with it a sticky TRANSIENT_FAILURE period): a SubConn of the
    map becomes READY, or goes CONNECTING→IDLE (connected and dropped, issue 7862) -/
def ends (s : St) : Op → Bool
  | .sc id st _ => match activeSC s id with
    | some sd => st == .ready || (sd.raw == .connecting && st == .idle)
    | none => false
  | _ => false

/-- the resolver emptied the list: everything is torn down, the situation is over -/
def emptied : Op → Bool
  | .update _ raw => raw.isEmpty
  | _ => false

def isClose : Op → Bool
  | .close => true
  | _ => false

end GrpcProofs.Lemmas.PickFirstSticky

namespace GrpcProofs.Lemmas.PickFirstReady
open GrpcModel.PickFirst GrpcProofs.Lemmas.PickFirst
open GrpcProofs.Lemmas.PickFirstSticky (ends emptied isClose)
open GrpcModel.LbConnState (ConnState)

def NoReady (s : St) : Prop := ∀ sc ∈ s.subConns, sc.raw ≠ .ready

def InList (s : St) : Prop := ∀ sc ∈ s.subConns, sc.addr ∈ s.addrs

def Unready (s : St) : Prop := (∀ X, s.picker ≠ .ready X) ∧ s.state ≠ .ready

/-- regime N: nothing is READY -/
structure RN (s : St) : Prop where
  inList : InList s
  noReady : NoReady s
  unready : s.state ≠ .shutdown → Unready s

/-- regime R: SubConn `x` is READY and alone; if READY was reported it is with `x` -/
structure RR (s : St) (x : SC) : Prop where
  inList : InList s
  only : s.subConns = [x]
  raw : x.raw = .ready
  timer : s.timer = false
  cur : currentAddress s = some x.addr
  notIdle : s.state ≠ .idle
  picker : s.state ≠ .shutdown → (∀ X, s.picker = .ready X → X = x.id) ∧ (s.state = .ready → s.picker = .ready x.id)

def Reg (s : St) : Prop := RN s ∨ ∃ x, RR s x

theorem noReady_setSC {s : St} {old new : SC} (hm : old ∈ s.subConns) (ha : new.addr = old.addr)
    (hn : NoReady s) (hr : new.raw ≠ .ready) : NoReady (setSC s new) := by
  intro sc hsc
  rcases (mem_setSC hm ha).mp hsc with rfl | ⟨h, _⟩
  · exact hr
  · exact hn sc h

theorem inList_setSC {s : St} {old new : SC} (hm : old ∈ s.subConns) (ha : new.addr = old.addr)
    (hn : InList s) : InList (setSC s new) := by
  intro sc hsc
  rcases (mem_setSC hm ha).mp hsc with rfl | ⟨h, _⟩
  · exact ha ▸ hn old hm
  · exact hn sc h

/-- what the regimes need of a connection request from `s` to `s'` -/
structure MapPost (s s' : St) : Prop where
  raws : ∀ sc ∈ s'.subConns, sc.raw = .ready → ∃ sc0 ∈ s.subConns, sc0.raw = .ready
  inList : InList s → InList s'
  shutdown : s'.state = .shutdown → s.state = .shutdown

theorem MapPost.congr {s m m' : St} (h : MapPost s m) (e1 : m'.subConns = m.subConns) (e2 : m'.addrs = m.addrs)
    (e3 : m'.state = .shutdown → m.state = .shutdown) : MapPost s m' :=
  ⟨fun sc hsc => h.raws sc (e1 ▸ hsc), fun hi sc hsc => e2 ▸ h.inList hi sc (e1 ▸ hsc), fun hs => h.shutdown (e3 hs)⟩

theorem _root_.GrpcProofs.Lemmas.PickFirst.Adv.mapPost {s m : St} (h : Adv s m) : MapPost s m := by
  refine ⟨fun sc hsc hr => ?_, fun hin sc hsc => ?_, fun hs => h.state ▸ hs⟩
  · rcases h.map sc hsc with ⟨sc0, h0, _, er⟩ | ⟨hi, _⟩
    · exact ⟨sc0, h0, er ▸ hr⟩
    · rw [hi] at hr; cases hr
  · rw [h.addrs]
    rcases h.map sc hsc with ⟨sc0, h0, ea, _⟩ | ⟨_, ha⟩
    · exact ea ▸ hin sc0 h0
    · exact ha

theorem _root_.GrpcProofs.Lemmas.PickFirst.ReqEnd.posts {s m : St} {t : St × List Ev} (a : Adv s m) (h : ReqEnd m t) (hw : WF s) :
    ReqPost s t.1 ∧ MapPost s t.1 ∧ OnlyTF t.2 := by
  have adv : ∀ {m' : St}, Adv s m' → ReqPost s m' ∧ MapPost s m' ∧ OnlyTF [] := fun a => ⟨a.reqPost hw, a.mapPost, .nil⟩
  cases h with
  | stay => exact adv a
  | wait => exact adv (a.trans (adv_schedule m))
  | connect sd hm ha =>
    rw [schedule_eq]
    -- only the log changes: the index is appended
    exact ⟨{ a.reqPost hw with wf := wf_congr (a.wf hw) rfl rfl
                               log := .inr ⟨congrArg (· ++ [m.idx]) a.log, Basic.lt_of_getElem? ha⟩ },
           a.mapPost.congr rfl rfl id, .of_noPush (by simp)⟩
  | giveUp e =>
    rw [endFirstPass_eq]
    split
    · exact adv a
    · -- TRANSIENT_FAILURE with the last error is reported
      exact ⟨{ a.reqPost hw with wf := wf_congr (a.wf hw) rfl rfl, picker := .inr ⟨e, rfl⟩, state := .inr rfl
                                 ps := .inr ⟨e, rfl, rfl⟩ },
             a.mapPost.congr rfl rfl nofun, fun st p h => by simp at h; exact ⟨h.1, e, h.2⟩⟩

theorem requestConnection_posts (s : St) (hw : WF s) :
    ReqPost s (requestConnection s).1 ∧ MapPost s (requestConnection s).1 ∧ OnlyTF (requestConnection s).2 := by
  rcases requestConnection_shape s with e | ⟨m, nev, t, a, n, en, e⟩ <;> rw [e]
  · exact ⟨(Adv.refl s).reqPost hw, (Adv.refl s).mapPost, .nil⟩
  · obtain ⟨p, mp, o⟩ := en.posts a hw
    exact ⟨p, mp, .append (.of_noPush fun st p h => by obtain ⟨_, _, h⟩ := n _ h; cases h) o⟩

theorem rn_of_rr_setSC_nonready (s : St) (x new : SC) (hw : WF s) (h : RR s x) (ha : new.addr = x.addr)
    (hi : new.id = x.id) (hr : new.raw ≠ .ready) (hu : s.state ≠ .shutdown → Unready s) : RN (setSC s new) := by
  refine ⟨inList_setSC (h.only ▸ List.mem_singleton_self x) ha h.inList, fun sc hsc => ?_, hu⟩
  cases List.mem_singleton.mp (setSC_single h.only ha ▸ hsc); exact hr


/-- what code that is looking for a connection may report from `s`: TRANSIENT_FAILURE, or CONNECTING unless `s` is in
    TRANSIENT_FAILURE with a list of addresses; never a SubConn picker -/
structure SeekPush (s : St) (st : ConnState) (p : Picker) : Prop where
  state : st = .tf ∨ st = .connecting ∧ (s.state ≠ .tf ∨ s.addrs = [])
  picker : ∀ X, p ≠ .ready X

/-- From `s` (with a well-formed map), code that looks for a connection got to `m` and emitted `ev`.  Every other clause is an
    implication, kept by each move below whatever else holds of `s`: that is why sticky TRANSIENT_FAILURE, which starts from any
    such state, can use the same lemmas as the runs from `{}`.
    The moves and the functions are stated as "after `ev`" (`Seeking s m ev → Seeking s (f m).1 (ev ++ (f m).2)`) so that they
    chain without `[] ++ _`: unifying that with `(requestConnection _).2` makes Lean unfold `requestLoop`. -/
structure Seeking (s m : St) (ev : List Ev) : Prop where
  wf : WF m
  pl : PL s → PL m
  addrs : s.addrs ≠ [] → m.addrs ≠ []
  noReady : NoReady s → NoReady m
  inList : InList s → InList m
  pushes : Pushes (SeekPush s) ev
  /-- state and picker are as they were (but a Pick may have marked the idle picker as used), or were reported -/
  last : (m.state = s.state ∧ (m.picker = s.picker ∨ m.picker = .idle true)) ∨ SeekPush s m.state m.picker

variable {s m : St} {ev : List Ev}

theorem Seeking.refl (hw : WF s) : Seeking s s [] :=
  { wf := hw, pl := id, addrs := id, noReady := id, inList := id, pushes := .nil, last := .inl ⟨rfl, .inl rfl⟩ }

theorem Seeking.nil (h : Seeking s m ev) : Seeking s m (ev ++ []) := (List.append_nil ev).symm ▸ h

theorem Seeking.of_nil (h : Seeking s m ([] ++ ev)) : Seeking s m ev := h

/-- a report allowed from `m` is allowed from `s`: CONNECTING asks that the state is not TRANSIENT_FAILURE (or the list empty), and
    `m.state` is `s.state` or was itself reported under `SeekPush s`, hence is TRANSIENT_FAILURE if `s.state` is -/
theorem Seeking.seekPush (h : Seeking s m ev) {st : ConnState} {p : Picker} (hp : SeekPush m st p) : SeekPush s st p := by
  refine ⟨hp.state.imp_right fun ⟨a, b⟩ => ⟨a, ?_⟩, hp.picker⟩
  rcases b with b | b
  · rcases h.last with ⟨e, _⟩ | hq
    · exact .inl (e ▸ b)
    · exact (hq.state.resolve_left b).2
  · exact .inr (Decidable.not_not.mp fun hne => h.addrs hne b)

theorem Seeking.frame (h : Seeking s m ev) {m' : St} (subConns : m'.subConns = m.subConns := by rfl)
    (scSerial : m'.scSerial = m.scSerial := by rfl) (addrs : m'.addrs = m.addrs := by rfl) (passLog : m'.passLog = m.passLog := by rfl)
    (idx : m.idx ≤ m'.idx := by exact Nat.le_refl _) (state : m'.state = m.state := by rfl)
    (picker : m'.picker = m.picker ∨ m'.picker = .idle true := by exact .inl rfl) : Seeking s m' ev :=
  { wf := wf_congr h.wf subConns scSerial, pl := fun hp => pl_congr (h.pl hp) passLog idx, addrs := fun hne => addrs ▸ h.addrs hne,
    noReady := fun hn sc hsc => h.noReady hn sc (subConns ▸ hsc),
    inList := fun hi sc hsc => addrs ▸ h.inList hi sc (subConns ▸ hsc), pushes := h.pushes,
    last := by
      rw [state]
      rcases picker with e | e <;> rw [e]
      · exact h.last
      · exact h.last.imp (fun a => ⟨a.1, .inr rfl⟩) fun a => ⟨a.state, nofun⟩ }

theorem Seeking.set (h : Seeking s m ev) {old new : SC} (hm : old ∈ m.subConns) (ha : new.addr = old.addr) (hi : new.id = old.id)
    (hr : new.raw ≠ .ready) : Seeking s (setSC m new) ev :=
  { wf := wf_setSC h.wf hm ha hi, pl := fun hp => pl_congr (h.pl hp) rfl .refl, addrs := h.addrs,
    noReady := fun hn => noReady_setSC hm ha (h.noReady hn) hr, inList := fun hi => inList_setSC hm ha (h.inList hi),
    pushes := h.pushes, last := h.last }

theorem Seeking.emit (h : Seeking s m ev) {ev' : List Ev} (hn : ∀ st p, .push st p ∉ ev') : Seeking s m (ev ++ ev') :=
  { h with pushes := h.pushes.append (.of_noPush hn) }

theorem Seeking.force (h : Seeking s m ev) {st : ConnState} {p : Picker} (hp : SeekPush s st p) :
    Seeking s (forcePush m st p).1 (ev ++ (forcePush m st p).2) := by
  exact { wf := wf_congr h.wf rfl rfl, pl := fun hq => pl_congr (h.pl hq) rfl .refl, addrs := h.addrs, noReady := h.noReady,
          inList := h.inList, pushes := h.pushes.append (.single hp), last := .inr hp }

theorem Seeking.push (h : Seeking s m ev) {st : ConnState} {p : Picker} (hp : SeekPush m st p) :
    Seeking s (pushState m st p).1 (ev ++ (pushState m st p).2) := by
  unfold pushState
  split
  · exact h.nil
  · exact h.force (h.seekPush hp)

theorem Seeking.incr (h : Seeking s m ev) : Seeking s (increment m).1 ev := by
  obtain ⟨i, e, hi, _⟩ := increment_spec m
  rw [e]; exact h.frame (idx := hi)

theorem Seeking.posts (h : Seeking s m ev) {m' : St} {ev' : List Ev} (p : ReqPost m m') (mp : MapPost m m') (o : OnlyTF ev')
    (hpl : PL s → PL m') : Seeking s m' (ev ++ ev') := by
  refine { wf := p.wf, pl := hpl, addrs := fun hne => p.addrs ▸ h.addrs hne, noReady := fun hn sc hsc hr => ?_,
           inList := fun hi => mp.inList (h.inList hi),
           pushes := h.pushes.append (o.mono fun _ _ ⟨e1, _, e2⟩ => ⟨.inl e1, e2 ▸ nofun⟩), last := ?_ }
  · obtain ⟨sc0, h0, r0⟩ := mp.raws sc hsc hr
    exact h.noReady hn sc0 h0 r0
  · rcases p.ps with ⟨e1, e2⟩ | ⟨e, e1, e2⟩
    · rw [e1, e2]; exact h.last
    · rw [e1, e2]; exact .inr ⟨.inl rfl, nofun⟩

theorem Seeking.request (h : Seeking s m ev) (hf : PL s → Fresh m) :
    Seeking s (requestConnection m).1 (ev ++ (requestConnection m).2) :=
  have ⟨p, mp, o⟩ := requestConnection_posts m h.wf
  h.posts p mp o fun hp => pl_of_reqPost (hf hp) p

theorem Seeking.giveUp (h : Seeking s m ev) (e : Nat) : Seeking s (endFirstPass m e).1 (ev ++ (endFirstPass m e).2) :=
  have ⟨p, mp, o⟩ := (ReqEnd.giveUp e).posts (.refl m) h.wf
  h.posts p mp o fun hp => by rw [endFirstPass_eq]; split <;> exact pl_congr (h.pl hp) rfl .refl

theorem Seeking.next (h : Seeking s m ev) (hinc : (increment m).2 = true) :
    Seeking s (requestConnection (increment m).1).1 (ev ++ (requestConnection (increment m).1).2) :=
  h.incr.request fun hp => fresh_increment (h.pl hp) hinc

theorem Seeking.relist (h : Seeking s m ev) {m' : St} {l : List Addr} (hne : l ≠ []) (addrs : m'.addrs = l := by rfl)
    (passLog : m'.passLog = [] := by rfl) (subConns : m'.subConns = m.subConns := by rfl)
    (scSerial : m'.scSerial = m.scSerial := by rfl) (state : m'.state = m.state := by rfl)
    (picker : m'.picker = m.picker := by rfl) : Seeking s (reconcile m' l).1 (ev ++ (reconcile m' l).2) :=
  { wf := wf_reconcile _ (wf_congr h.wf subConns scSerial), pl := fun _ => pl_nil passLog, addrs := fun _ => addrs ▸ hne,
    noReady := fun hn sc hsc => h.noReady hn sc (subConns ▸ (List.mem_filter.mp hsc).1),
    inList := fun _ sc hsc => by show sc.addr ∈ m'.addrs; rw [addrs]; simpa using (List.mem_filter.mp hsc).2,
    pushes := (h.emit (by simp [reconcile])).pushes, last := by simpa only [reconcile, state, picker] using h.last }

theorem Seeking.good (h : Seeking s m ev) (hg : Good s) : Good m := ⟨h.wf, h.pl hg.pl⟩

theorem Seeking.readyOK (h : Seeking s m ev) : ReadyOK m ev := h.pushes.mono fun _ _ hp =>
  pushOK_other _ (by rcases hp.state with e | ⟨e, _⟩ <;> rw [e] <;> decide) hp.picker

theorem Seeking.rn (h : Seeking s m ev) (hn : RN s) : RN m := by
  refine ⟨h.inList hn.inList, h.noReady hn.noReady, fun hns => ?_⟩
  rcases h.last with ⟨e1, e2⟩ | hp
  · have hu := hn.unready (e1 ▸ hns)
    refine ⟨?_, e1 ▸ hu.2⟩
    rcases e2 with e2 | e2 <;> rw [e2]
    · exact hu.1
    · nofun
  · exact ⟨hp.picker, by rcases hp.state with e | ⟨e, _⟩ <;> rw [e] <;> decide⟩

theorem startFirstPass_seeking (h : Seeking s m ev) : Seeking s (startFirstPass m).1 (ev ++ (startFirstPass m).2) := by
  have h1 : Seeking s { m with firstPass := true, numTF := 0, passLog := [], passSerial := m.passSerial + 1,
                               subConns := m.subConns.map ({ · with failed := false }) } ev :=
    { h with wf := wf_clearFailed h.wf rfl rfl, pl := fun _ => pl_nil rfl,
             noReady := fun hn sc hsc => by obtain ⟨x, hx, rfl⟩ := List.mem_map.mp hsc; exact h.noReady hn x hx,
             inList := fun hi sc hsc => by obtain ⟨x, hx, rfl⟩ := List.mem_map.mp hsc; exact h.inList hi x hx }
  exact h1.request fun _ => fresh_nil rfl

theorem resolverError_seeking (h : Seeking s m ev) : Seeking s (resolverError m).1 (ev ++ (resolverError m).2) := by
  unfold resolverError
  split
  · exact h.nil
  · exact h.push ⟨.inl rfl, nofun⟩

theorem exitIdle_seeking (h : Seeking s m ev) : Seeking s (exitIdle m).1 (ev ++ (exitIdle m).2) := by
  unfold exitIdle
  split
  · next hs =>
    rw [← List.append_assoc]
    exact startFirstPass_seeking (h.push (st := .connecting) (p := .queue) ⟨.inr ⟨rfl, .inl (by rw [hs]; nofun)⟩, nofun⟩)
  · exact h.nil

theorem timerCallback_seeking (c : Bool) (h : Seeking s m ev) : Seeking s (timerCallback m c).1 (ev ++ (timerCallback m c).2) := by
  unfold timerCallback
  split
  · exact h.nil
  · simp only
    split
    · next hinc => exact h.next hinc
    · exact h.incr.nil

theorem timerFire_seeking (h : Seeking s m ev) : Seeking s (timerFire m).1 (ev ++ (timerFire m).2) := by
  unfold timerFire
  split
  · exact h.nil
  · exact timerCallback_seeking false (h.frame (m' := { m with timer := false }))

theorem scFirstPass_seeking {sd : SC} (new : ConnState) (err : Nat) (h : Seeking s m ev) (hm : sd ∈ m.subConns)
    (hr : sd.raw ≠ .ready) : Seeking s (scFirstPass m sd new err).1 (ev ++ (scFirstPass m sd new err).2) := by
  cases new with
  | connecting =>
    simp only [scFirstPass]
    split
    · next hc => exact (h.set (new := { sd with eff := .connecting }) hm rfl rfl hr).push ⟨.inr ⟨rfl, .inl hc.2⟩, nofun⟩
    · exact h.nil
  | tf =>
    simp only [scFirstPass]
    have h1 := h.set (new := { sd with lastErr := err, eff := .tf }) hm rfl rfl hr
    split
    · have h2 := h1.frame (m' := cancelTimer (setSC m { sd with lastErr := err, eff := .tf }))
      split
      · next hinc => exact h2.next hinc
      · exact h2.incr.giveUp err
    · exact h1.giveUp err
  | _ => exact h.nil

theorem scLater_seeking {sd : SC} (new : ConnState) (err : Nat) (h : Seeking s m ev) (hm : sd ∈ m.subConns)
    (hr : sd.raw ≠ .ready) : Seeking s (scLater m sd new err).1 (ev ++ (scLater m sd new err).2) := by
  cases new with
  | tf =>
    simp only [scLater]
    have h1 := (h.frame (m' := { m with numTF := (m.numTF + 1) % m.subConns.length })).set
      (new := { sd with lastErr := err }) hm rfl rfl hr
    split
    · exact h1.push ⟨.inl rfl, nofun⟩
    · exact h1.nil
  | idle => exact h.emit (by simp [scLater])
  | _ => exact h.nil

theorem prevReadyAddr_none {s : St} (hn : NoReady s) : prevReadyAddr s = none := by
  unfold prevReadyAddr
  split
  · next a _ =>
    cases hg : getSC s a with
    | none => rfl
    | some sc => simp [hn sc (getSC_mem hg).1]
  · rfl

/-- the tail of a resolver update that found no READY SubConn; `n`: how many addresses there were before it -/
theorem updateTail_seeking (n : Nat) (h : Seeking s m ev) (hn : n = 0 → s.addrs = []) :
    Seeking s (updateTail m false n).1 (ev ++ (updateTail m false n).2) := by
  simp only [updateTail, Bool.false_eq_true, false_or]
  split
  · next hc =>
    rw [← List.append_assoc]
    exact startFirstPass_seeking (h.force (hc.elim (fun e => h.seekPush ⟨.inr ⟨rfl, .inl (by rw [e]; nofun)⟩, nofun⟩)
      fun e => ⟨.inr ⟨rfl, .inr (hn e)⟩, nofun⟩))
  · split
    · exact startFirstPass_seeking h
    · exact h.nil

theorem updateNonEmpty_seeking (hl : Bool) {raw : List Addr} (h : Seeking s m ev) (hnr : NoReady m) (hne : raw ≠ []) :
    Seeking s (updateNonEmpty m hl raw).1 (ev ++ (updateNonEmpty m hl raw).2) := by
  simp only [updateNonEmpty]
  rw [prevReadyAddr_none (s := { m with health := hl }) hnr]
  simp only [Bool.false_eq_true, if_false, Option.isSome_none]
  rw [← List.append_assoc]
  exact updateTail_seeking _ (h.relist (PickFirstAddr.preprocess_ne_nil hne)) fun e =>
    Decidable.not_not.mp fun hs => h.addrs hs (List.eq_nil_of_length_eq_zero e)

theorem scState_seeking {id : Nat} {new : ConnState} {sd0 : SC} (err : Nat) (h : Seeking s m ev) (ha : activeSC m id = some sd0)
    (hns : new ≠ .shutdown) (hnr : new ≠ .ready) (hk : ¬ (sd0.raw = .ready ∨ sd0.raw = .connecting ∧ new = .idle)) :
    Seeking s (scState m id new err).1 (ev ++ (scState m id new err).2) := by
  have hm0 := (activeSC_mem ha).1
  have h1 := h.set (new := sd0.withRaw new) hm0 rfl rfl hnr
  have hm1 : sd0.withRaw new ∈ (setSC m (sd0.withRaw new)).subConns := self_mem_setSC hm0 rfl
  rw [scState_seek ha hns hnr hk]
  split
  · exact scFirstPass_seeking new err h1 hm1 hnr
  · exact scLater_seeking new err h1 hm1 hnr

theorem step_seeking {op : Op} (hw : WF s) (hok : opOk s op = true) (hn : NoReady s) (he : ends s op = false)
    (hc : isClose op = false) (hm : emptied op = false) : Seeking s (step s op).1 (step s op).2.evs := by
  refine .of_nil ?_
  have h := Seeking.refl hw
  cases op with
  | close => cases hc
  | update hl raw =>
    simp only [step, updateCCS, show raw.isEmpty = false from hm, Bool.false_eq_true, if_false]
    exact updateNonEmpty_seeking hl (h.frame (m' := cancelTimer s)) hn (by rintro rfl; cases hm)
  | resErr => exact resolverError_seeking h
  | tick => exact timerFire_seeking h
  | exitIdle => exact exitIdle_seeking h
  | late =>
    simp only [step, lateFire_eq]
    split
    · exact h
    · exact h.frame
  | pick =>
    show Seeking s (pick s).1 ([] ++ (pick s).2.1)
    rcases pick_cases s with ⟨_, e, _⟩ | ⟨_, e⟩ <;> rw [e]
    · exact h
    · exact exitIdle_seeking (h.frame (m' := { s with picker := .idle true }) (picker := .inr rfl))
  | health id st err =>
    simp only [step, healthState]
    cases ha : activeSC s id with
    | none => exact h
    | some sd => exact absurd (opOk_health hok ha) (hn sd (activeSC_mem ha).1)
  | sc id new err =>
    show Seeking s (scState s id new err).1 ([] ++ (scState s id new err).2)
    cases ha : activeSC s id with
    | none => rw [scState_none new err ha]; exact h
    | some sd0 =>
      simp only [ends, ha, Bool.or_eq_false_iff, Bool.and_eq_false_iff, beq_eq_false_iff_ne, ne_eq] at he
      exact scState_seeking err h ha (opOk_sc hok ha) he.1 fun hk =>
        hk.elim (hn sd0 (activeSC_mem ha).1) fun hk => he.2.elim (· hk.1) (· hk.2)

theorem rn_empty {s : St} (he : s.subConns = []) (hu : s.state ≠ .shutdown → Unready s) : RN s :=
  ⟨fun sc hsc => (by rw [he] at hsc; cases hsc), fun sc hsc => (by rw [he] at hsc; cases hsc), hu⟩

/-- what every op establishes whatever the regime -/
def Post (r : St × List Ev) : Prop := Good r.1 ∧ ReadyOK r.1 r.2

theorem Post.good {r : St × List Ev} (h : Post r) : Good r.1 := h.1

theorem Post.readyOK {r : St × List Ev} (h : Post r) : ReadyOK r.1 r.2 := h.2

theorem Seeking.op {s' : St} (h : Seeking s s' ev) (hg : Good s) (hn : RN s) : Post (s', ev) ∧ Reg s' :=
  ⟨⟨h.good hg, h.readyOK⟩, .inl (h.rn hn)⟩

/-- IDLE is not reported if the balancer is IDLE already: then the picker stays, which is why the caller says what it knows
    about it (`hu`) -/
theorem scToIdle_toN {s : St} {sd : SC} (new : ConnState) (h : Good s) (hm : sd ∈ s.subConns) (hin : InList s)
    (hnr : sd.raw ≠ .ready) (hu : s.state = .idle → Unready s) :
    Post (scToIdle s sd new) ∧ RN (scToIdle s sd new).1 := by
  rw [scToIdle_eq]
  refine ⟨⟨good_pushState _ _ ⟨wf_single rfl (h.wf.le sd hm), pl_nil rfl⟩,
    .append (.of_noPush (shutdownRemaining_noPush s sd)) (readyOK_pushState (pushOK_other _))⟩, ?_⟩
  have hin2 : ∀ sc ∈ [{ sd with eff := new }], sc.addr ∈ s.addrs := fun sc hsc => by
    cases List.mem_singleton.mp hsc; exact hin sd hm
  have hnr2 : ∀ sc ∈ [{ sd with eff := new }], sc.raw ≠ .ready := fun sc hsc => by cases List.mem_singleton.mp hsc; exact hnr
  rcases pushState_cases _ .idle (.idle false) with ⟨e, hst⟩ | ⟨_, e⟩ <;> rw [e]
  · exact ⟨hin2, hnr2, fun _ => hu hst.symm⟩
  · exact ⟨hin2, hnr2, fun _ => ⟨nofun, nofun⟩⟩

theorem currentAddress_eq {s : St} {a : Addr} (h : s.addrs[s.idx]? = some a) : currentAddress s = some a := by
  obtain ⟨hlt, heq⟩ := List.getElem?_eq_some_iff.mp h
  simp [currentAddress, isValid, hlt, heq]

/-- what `RR.picker` says of the state's own `state` and `picker`, of a state `st` reported with picker `p` -/
def PickerFor (x : SC) (st : ConnState) (p : Picker) : Prop :=
  (∀ X, p = .ready X → X = x.id) ∧ (st = .ready → p = .ready x.id)

theorem PickerFor.other {x : SC} {st : ConnState} {p : Picker} (h1 : st ≠ .ready) (h2 : ∀ X, p ≠ .ready X) : PickerFor x st p :=
  ⟨fun X hX => absurd hX (h2 X), fun hr => absurd hr h1⟩

/-- regime R but for `notIdle`: what holds of the state on which READY (or CONNECTING) is about to be reported for `x` -/
structure Alone (s : St) (x : SC) : Prop where
  inList : InList s
  only : s.subConns = [x]
  raw : x.raw = .ready
  timer : s.timer = false
  cur : currentAddress s = some x.addr
  picker : s.state ≠ .shutdown → PickerFor x s.state s.picker

theorem RR.alone {s : St} {x : SC} (h : RR s x) : Alone s x := { h with }

theorem Alone.rr {s : St} {x : SC} (h : Alone s x) (hi : s.state ≠ .idle) : RR s x := { h with notIdle := hi }

theorem RR.frame {s s' : St} {x : SC} (h : RR s x) (timer : s'.timer = false) (subConns : s'.subConns = s.subConns := by rfl)
    (addrs : s'.addrs = s.addrs := by rfl) (idx : s'.idx = s.idx := by rfl) (state : s'.state = s.state := by rfl)
    (picker : s'.picker = s.picker := by rfl) : RR s' x :=
  { inList := fun sc hsc => addrs ▸ h.inList sc (subConns ▸ hsc), only := subConns ▸ h.only, raw := h.raw, timer
    cur := by rw [← h.cur, currentAddress, currentAddress, isValid, isValid, addrs, idx]
    notIdle := state ▸ h.notIdle, picker := by rw [state, picker]; exact h.picker }

theorem Alone.store {s : St} {x new : SC} (h : Alone s x) (ha : new.addr = x.addr) (hid : new.id = x.id)
    (hraw : new.raw = .ready) : Alone (setSC s new) new :=
  { h with inList := inList_setSC (h.only ▸ List.mem_singleton_self x) ha h.inList, only := setSC_single h.only ha, raw := hraw
           cur := ha ▸ h.cur, picker := fun hns => by rw [PickerFor, hid]; exact h.picker hns }

theorem Alone.pushState {s : St} {x : SC} {st : ConnState} {p : Picker} (h : Alone s x)
    (hi : st ≠ .idle) (hp : PickerFor x st p) : RR (pushState s st p).1 x := by
  rcases pushState_cases s st p with ⟨e, hst⟩ | ⟨_, e⟩ <;> rw [e]
  · exact h.rr (hst ▸ hi)
  · exact Alone.rr { h with picker := fun _ => hp } hi

theorem alone_report {s : St} {x new : SC} {st : ConnState} {p : Picker} (h : Alone s x) (hg : Good s) (ha : new.addr = x.addr)
    (hid : new.id = x.id) (hraw : new.raw = .ready) (hi : st ≠ .idle)
    (hpk : PickerFor new st p) (hrd : (∃ X, p = .ready X) → st = .ready) :
    Post (pushState (setSC s new) st p) ∧ RR (pushState (setSC s new) st p).1 new := by
  have hn := h.store ha hid hraw
  refine ⟨⟨good_pushState _ _ (good_setSC hg (h.only ▸ List.mem_singleton_self x) ha hid),
      readyOK_pushState ⟨⟨fun e => ⟨_, hpk.2 e⟩, hrd⟩, fun X hX => ⟨new, ?_, (hpk.1 X hX).symm, hraw⟩⟩⟩, hn.pushState hi hpk⟩
  rw [subConns_pushState, hn.only]; exact List.mem_singleton_self _

theorem scReady_toR {s : St} {sd : SC} (h : Good s) (hin : InList s) (hm : sd ∈ s.subConns) (hr : sd.raw = .ready)
    (hp : s.state ≠ .shutdown → PickerFor sd s.state s.picker) :
    Post (scReady s sd) ∧ ∃ x, RR (scReady s sd).1 x := by
  have hn := shutdownRemaining_noPush s sd
  rcases scReady_cases s sd with ⟨hn', _⟩ | ⟨i, s1, hi, hs1, e⟩
  · exact absurd (hin sd hm) hn'
  · rw [e]
    have ha : Alone s1 sd := hs1 ▸
      { inList := fun sc hsc => by cases List.mem_singleton.mp hsc; exact List.mem_of_getElem? hi
        only := rfl, raw := hr, timer := rfl, cur := currentAddress_eq hi, picker := hp }
    have hg : Good s1 := hs1 ▸ ⟨wf_single rfl (h.wf.le sd hm), pl_nil rfl⟩
    split
    · obtain ⟨⟨g, r⟩, x⟩ := alone_report ha hg (new := { sd with eff := .ready }) (st := .ready) (p := .ready sd.id) rfl rfl hr
        (by decide) ⟨fun X h => by cases h; rfl, fun _ => rfl⟩ fun _ => rfl
      exact ⟨⟨g, .append (.of_noPush hn) r⟩, _, x⟩
    · obtain ⟨⟨g, r⟩, x⟩ := alone_report ha hg (new := { sd with eff := .connecting, healthReg := true }) (st := .connecting)
        (p := .queue) rfl rfl hr (by decide) ⟨nofun, nofun⟩ nofun
      exact ⟨⟨g, .append (.append (.of_noPush hn) r) (.of_noPush (by simp))⟩, _, x⟩

theorem rr_active {s : St} {x sd : SC} (h : RR s x) {id : Nat} (ha : activeSC s id = some sd) : sd = x := by
  have := (activeSC_mem ha).1
  rw [h.only] at this
  exact List.mem_singleton.mp this

theorem scState_op {s : St} (id : Nat) (new : ConnState) (err : Nat) (hg : Good s) (h : Reg s)
    (hok : opOk s (.sc id new err) = true) : Post (scState s id new err) ∧ Reg (scState s id new err).1 := by
  cases ha : activeSC s id with
  | none => rw [scState_none new err ha]; exact ⟨⟨hg, .nil⟩, h⟩
  | some sd0 =>
    have hm0 := (activeSC_mem ha).1
    have hns := opOk_sc hok ha
    have hg1 : Good (setSC s (sd0.withRaw new)) := good_setSC hg hm0 rfl rfl
    have hm1 : sd0.withRaw new ∈ (setSC s (sd0.withRaw new)).subConns := self_mem_setSC hm0 rfl
    have hin1 : InList (setSC s (sd0.withRaw new)) :=
      inList_setSC hm0 rfl (h.elim (·.inList) fun ⟨_, hx⟩ => hx.inList)
    by_cases hr : new = .ready
    · -- READY: regime R, with the picker as it was
      subst hr
      rw [scState_ready ha]
      refine (scReady_toR hg1 hin1 hm1 rfl fun hs => ?_).imp_right .inr
      rcases h with hn | ⟨x, hx⟩
      · exact .other (hn.unready hs).2 (hn.unready hs).1
      · cases rr_active hx ha; exact hx.picker hs
    · by_cases hk : sd0.raw = .ready ∨ sd0.raw = .connecting ∧ new = .idle
      · -- the READY SubConn failed, or a CONNECTING one dropped: the picker and the state are replaced by the IDLE report
        rw [scState_toIdle ha hns hr hk]
        exact (scToIdle_toN new hg1 hm1 hin1 hr fun hi =>
          h.elim (·.unready (by rw [show s.state = .idle from hi]; nofun)) fun ⟨_, hx⟩ => absurd hi hx.notIdle).imp_right .inl
      · rcases h with hn | ⟨x, hx⟩
        · exact (scState_seeking err (.refl hg.wf) ha hns hr hk).of_nil.op hg hn
        · cases rr_active hx ha; exact absurd (.inl hx.raw) hk

theorem rr_setSC_eff {s : St} {x : SC} (st : ConnState) (h : RR s x) :
    RR (setSC s { x with eff := st }) { x with eff := st } :=
  (h.alone.store (new := { x with eff := st }) rfl rfl h.raw).rr h.notIdle

theorem healthState_rr {s : St} {x : SC} (id : Nat) (st : ConnState) (err : Nat) (hg : Good s) (hx : RR s x) :
    Post (healthState s id st err) ∧ Reg (healthState s id st err).1 := by
  simp only [healthState]
  cases ha : activeSC s id with
  | none => exact ⟨⟨hg, .nil⟩, .inr ⟨x, hx⟩⟩
  | some sd =>
    cases rr_active hx ha
    have report := fun (st' : ConnState) (p : Picker) => alone_report hx.alone hg (new := { x with eff := st }) (st := st') (p := p) rfl rfl hx.raw
    cases st with
    | ready => exact (report .ready (.ready x.id) (by decide) ⟨fun X h => by cases h; rfl, fun _ => rfl⟩
        fun _ => rfl).imp_right fun h => .inr ⟨_, h⟩
    | tf => exact (report .tf (.healthErr err) (by decide) ⟨nofun, nofun⟩ nofun).imp_right fun h => .inr ⟨_, h⟩
    | connecting => exact (report .connecting .queue (by decide) ⟨nofun, nofun⟩ nofun).imp_right fun h => .inr ⟨_, h⟩
    | _ => exact ⟨⟨good_setSC hg (activeSC_mem ha).1 rfl rfl, .nil⟩, .inr ⟨_, rr_setSC_eff _ hx⟩⟩

theorem resolverError_rr {s : St} {x : SC} (hg : Good s) (hx : RR s x) : Post (resolverError s) ∧ Reg (resolverError s).1 := by
  have hs := (resolverError_seeking (.refl hg.wf)).of_nil
  refine ⟨⟨hs.good hg, hs.readyOK⟩, .inr ⟨x, ?_⟩⟩
  unfold resolverError
  split
  · exact hx
  · exact hx.alone.pushState (by decide) (.other (by decide) nofun)

/-- an op that changes nothing and reports nothing (in regime R: ExitIdle, the timer, which is not armed, a used idle picker) -/
theorem rr_noop {s : St} {x : SC} (hg : Good s) (hx : RR s x) : Post (s, []) ∧ Reg s := ⟨⟨hg, .nil⟩, .inr ⟨x, hx⟩⟩

theorem exitIdle_rr {s : St} {x : SC} (hg : Good s) (hx : RR s x) : Post (exitIdle s) ∧ Reg (exitIdle s).1 := by
  rw [show exitIdle s = (s, []) from if_neg hx.notIdle]
  exact rr_noop hg hx

theorem timerFire_rr {s : St} {x : SC} (hg : Good s) (hx : RR s x) : Post (timerFire s) ∧ Reg (timerFire s).1 := by
  rw [show timerFire s = (s, []) from if_pos (by rw [hx.timer]; rfl)]
  exact rr_noop hg hx

theorem lateFire_rr {s : St} {x : SC} (hg : Good s) (hx : RR s x) : Post (lateFire s) ∧ Reg (lateFire s).1 := by
  rw [lateFire_eq]
  simp only
  split
  · exact rr_noop hg hx
  · exact ⟨⟨hg.congr rfl rfl rfl .refl, .nil⟩, .inr ⟨x, hx.frame hx.timer⟩⟩

theorem pick_rr {s : St} {x : SC} (hg : Good s) (hx : RR s x) : Post ((pick s).1, (pick s).2.1) ∧ Reg (pick s).1 := by
  rcases pick_cases s with ⟨_, e, _⟩ | ⟨hpk, e⟩ <;> rw [e]
  · exact rr_noop hg hx
  · refine exitIdle_rr (s := { s with picker := .idle true }) (hg.congr rfl rfl rfl .refl)
      { hx with picker := fun hns => ⟨nofun, fun hr => ?_⟩ }
    have := (hx.picker hns).2 hr
    rw [hpk] at this; cases this

theorem updateEmpty_toN (s : St) : Post (updateEmpty s) ∧ RN (updateEmpty s).1 := by
  rw [updateEmpty_eq]
  exact ⟨⟨⟨wf_nil rfl, pl_nil rfl⟩, .append (.of_noPush (by simp)) (.single (pushOK_other _))⟩,
    rn_empty rfl fun _ => ⟨nofun, nofun⟩⟩

/-- a new list while SubConn `x` is READY: it is kept if its address is still listed; if not it is shut down, CONNECTING is
    reported and a new pass starts -/
theorem updateNonEmpty_rr {s : St} {x : SC} (hl : Bool) (raw : List Addr) (hg : Good s) (hx : RR s x) :
    Post (updateNonEmpty s hl raw) ∧ Reg (updateNonEmpty s hl raw).1 := by
  simp only [updateNonEmpty]
  generalize hs2 : ({ s with health := hl, addrs := preprocess raw, idx := 0, passLog := [], passSerial := s.passSerial + 1 } : St) = s2
  have g1 : s2.subConns = s.subConns := hs2 ▸ rfl
  have g2 : s2.addrs = preprocess raw := hs2 ▸ rfl
  have hp : prevReadyAddr { s with health := hl } = some x.addr := by
    have hc : currentAddress { s with health := hl } = some x.addr := hx.cur
    have hgs : getSC { s with health := hl } x.addr = some x := by simp [getSC, hx.only]
    simp [prevReadyAddr, hc, hgs, hx.raw]
  rw [hp]
  rcases seekTo_cases s2 x.addr with ⟨hin, e⟩ | ⟨i, hi, e⟩ <;>
    simp only [e, Option.isSome_some, Bool.false_eq_true, if_false, if_true, updateTail, true_or]
  · have hempty : (reconcile s2 (preprocess raw)).1.subConns = [] := by
      simp [reconcile, g1, hx.only, g2 ▸ hin]
    have hw4 : WF (forcePush (reconcile s2 (preprocess raw)).1 .connecting .queue).1 := wf_nil hempty
    have hs := (startFirstPass_seeking (.refl hw4)).of_nil
    exact ⟨⟨hs.good ⟨hw4, pl_nil (hs2 ▸ rfl)⟩, .append (.of_noPush (by simp [reconcile]))
      (.append (.single (pushOK_other _)) hs.readyOK)⟩, .inl (hs.rn (rn_empty hempty fun _ => ⟨nofun, nofun⟩))⟩
  · subst hs2
    refine ⟨⟨⟨wf_congr hg.wf rfl rfl, pl_nil rfl⟩, .nil⟩,
      .inr ⟨x, { hx with inList := fun sc hsc => ?_, cur := currentAddress_eq hi }⟩⟩
    cases List.mem_singleton.mp (hx.only ▸ hsc)
    exact List.mem_of_getElem? hi

theorem step_op (s : St) (op : Op) (hg : Good s) (h : Reg s) (hok : opOk s op = true) :
    Post ((step s op).1, (step s op).2.evs) ∧ Reg (step s op).1 := by
  -- unfolded first: matching `Post (f s)` against `Post ((step s op).1, _)` as pairs is dearer than clause by clause
  unfold Post
  -- regime N, and the op is not one of the four transitions (which it is not, by its form, for six of the nine ops)
  have seek (hn : RN s) (he : ends s op = false := by rfl) (hc : isClose op = false := by rfl)
      (hm : emptied op = false := by rfl) : Post ((step s op).1, (step s op).2.evs) ∧ Reg (step s op).1 :=
    (step_seeking hg.wf hok hn.noReady he hc hm).op hg hn
  cases op with
  | update hl raw =>
    cases hm : raw.isEmpty with
    | true => simp only [step, updateCCS, hm, if_true]; exact (updateEmpty_toN _).imp_right .inl
    | false =>
      refine h.elim (seek · (hm := hm)) fun ⟨x, hx⟩ => ?_
      simp only [step, updateCCS, hm, Bool.false_eq_true, if_false]
      exact updateNonEmpty_rr hl raw (hg.congr rfl rfl rfl .refl) (hx.frame (s' := cancelTimer s) rfl)
  | close =>
    exact ⟨⟨⟨wf_nil rfl, pl_congr hg.pl rfl .refl⟩, .of_noPush (close_noPush s)⟩,
      .inl (rn_empty rfl fun h => absurd rfl h)⟩
  | sc id st err => exact scState_op id st err hg h hok
  | resErr => exact h.elim (seek ·) fun ⟨_, hx⟩ => resolverError_rr hg hx
  | health id st err => exact h.elim (seek ·) fun ⟨_, hx⟩ => healthState_rr id st err hg hx
  | tick => exact h.elim (seek ·) fun ⟨_, hx⟩ => timerFire_rr hg hx
  | late => exact h.elim (seek ·) fun ⟨_, hx⟩ => lateFire_rr hg hx
  | exitIdle => exact h.elim (seek ·) fun ⟨_, hx⟩ => exitIdle_rr hg hx
  | pick => exact h.elim (seek ·) fun ⟨_, hx⟩ => pick_rr hg hx

theorem reg_init : Reg {} := .inl (rn_empty rfl fun _ => ⟨nofun, nofun⟩)

theorem inv_run (s : St) (ops : List Op) (hg : Good s) (h : Reg s) (hok : RunOk s ops) :
    Good (run s ops) ∧ Reg (run s ops) := by
  induction ops generalizing s with
  | nil => exact ⟨hg, h⟩
  | cons op t ih =>
    obtain ⟨p, r⟩ := step_op s op hg h hok.1
    exact ih _ p.good r hok.2

theorem pick_sc (s : St) (X : Nat) (h : (pick s).2.2 = .sc X) : s.picker = .ready X := by
  rcases pick_cases s with ⟨_, e, hr⟩ | ⟨_, e⟩ <;> rw [e] at h
  · exact hr X h
  · cases h

theorem reg_ready (s : St) (h : Reg s) (hns : s.state ≠ .shutdown) :
    (∀ X, s.picker = .ready X → ∃ sc, s.subConns = [sc] ∧ sc.id = X ∧ sc.raw = .ready) ∧
    (s.state = .ready → ∃ sc, s.subConns = [sc] ∧ sc.raw = .ready ∧ s.picker = .ready sc.id) := by
  rcases h with hn | ⟨x, hx⟩
  · have := hn.unready hns
    exact ⟨fun X hX => absurd hX (this.1 X), fun h' => absurd h' this.2⟩
  · have hp := hx.picker hns
    exact ⟨fun X hX => ⟨x, hx.only, (hp.1 X hX).symm, hx.raw⟩, fun h' => ⟨x, hx.only, hx.raw, hp.2 h'⟩⟩

end GrpcProofs.Lemmas.PickFirstReady
