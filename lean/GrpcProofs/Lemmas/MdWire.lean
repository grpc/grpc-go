/-
Lemmas about GrpcModel/Model/MdWire.lean (C09): what the server's field loop hands the handler and what the client's scans
(Lemmas/Status.lean) hand the application, both in terms of the pairs sent (Lemmas/MdPairs.lean); which names can surface;
validation against the framer; `metadata.Join` over several header calls.
-/
import GrpcModel.Model.MdWire
import GrpcProofs.Lemmas.Basic
import GrpcProofs.Lemmas.Status
namespace GrpcProofs.Lemmas.MdWire
open GrpcModel.Status GrpcModel.Headers GrpcModel.MdWire GrpcModel
open GrpcModel.Base64 (Bytes)
open GrpcProofs.Lemmas.Status

theorem res_ua : isReservedHeader hUserAgent = true := server_names.reserved _ (by simp)

section srvField
variable (sc : SrvScan) (v : Bytes)

theorem srvField_contentType : srvField sc (hContentType, v) =
    if validContentType v then { sc with mdata := mdAppend sc.mdata hContentType v, isGRPC := true } else sc := by
  simp only [srvField, if_true]

theorem srvField_acceptEncoding :
    srvField sc (hAcceptEncoding, v) = { sc with mdata := mdAppend sc.mdata hAcceptEncoding v } := by
  simp only [srvField, server_names.acceptEncoding_ne, if_false, if_true]

theorem srvField_method : srvField sc (hMethod, v) = { sc with httpMethod := v } := by
  simp only [srvField, server_names.method_ne, if_false, if_true]

theorem srvField_path : srvField sc (hPath, v) = sc := by
  simp only [srvField, server_names.path_ne, if_false, if_true]

theorem srvField_connection : srvField sc (hConnection, v) = { sc with protocolError := true } := by
  simp only [srvField, server_names.connection_ne, if_false, if_true]

theorem srvField_default {n : Bytes} (hn : n ∉ srvSwitch) : srvField sc (n, v) =
    if isReservedHeader n && !isWhitelistedHeader n then sc
    else match decodeMetadataHeader n v with
      | none => { sc with headerError := true }
      | some v' => { sc with mdata := mdAppend sc.mdata n v' } := by
  simp only [srvSwitch, List.mem_cons, List.not_mem_nil, or_false, not_or] at hn
  simp only [srvField, hn, if_false]
  rfl

end srvField

theorem srv_user_field (sc : SrvScan) (k v : Bytes) (hk : isReservedHeader k = false) (hc : k ≠ hConnection) :
    srvField sc (k, encodeMetadataHeader k v) = { sc with mdata := mdAppend sc.mdata k v } := by
  by_cases ha : k = hAcceptEncoding
  · subst ha
    rw [srvField_acceptEncoding, encodeMetadataHeader, server_names.acceptEncoding_plain.2]; rfl
  · have res := server_names.reserved
    have hn : k ∉ srvSwitch := by
      simp only [srvSwitch, List.mem_cons, List.not_mem_nil, or_false, not_or]
      exact ⟨ne_of_reserved hk reserved_contentType, ha, ne_of_reserved hk reserved_grpcEncoding, ne_of_reserved hk (res hMethod (by simp)),
        ne_of_reserved hk (res hPath (by simp)), ne_of_reserved hk (res hTimeout (by simp)), hc⟩
    rw [srvField_default sc _ hn, hk, decode_encode_md]; rfl

theorem srv_scan_pairs (ps : List (Bytes × Bytes)) (hk : ∀ p ∈ ps, isReservedHeader p.1 = false) (sc : SrvScan) :
    ∃ md', (ps.map encPair).foldl srvField sc =
        { sc with mdata := md', protocolError := sc.protocolError || ps.any (·.1 = hConnection) } ∧
      ∀ key, mdGet md' key = mdGet sc.mdata key ++ valsFor (ps.filter (·.1 ≠ hConnection)) key := by
  induction ps generalizing sc with
  | nil => exact ⟨sc.mdata, by simp, fun _ => by simp [valsFor]⟩
  | cons p t ih =>
    have hk' := fun q hq => hk q (List.mem_cons_of_mem p hq)
    rw [List.map_cons, List.foldl_cons, List.any_cons, List.filter_cons]
    by_cases hc : p.1 = hConnection
    · obtain ⟨md', h1, h2⟩ := ih hk' { sc with protocolError := true }
      refine ⟨md', ?_, ?_⟩
      · rw [encPair, hc, srvField_connection, h1]; simp
      · simpa [hc] using h2
    · obtain ⟨md', h1, h2⟩ := ih hk' { sc with mdata := mdAppend sc.mdata p.1 p.2 }
      refine ⟨md', ?_, fun key => ?_⟩
      · rw [encPair, srv_user_field sc p.1 p.2 (hk p (List.mem_cons_self ..)) hc, h1]; simp [hc]
      · rw [h2 key, mdGet_mdAppend]
        simp only [ne_eq, hc, not_false_eq_true, decide_true, if_true, valsFor_cons]
        by_cases e : p.1 = key <;> simp [e]

/-- what the transport itself contributes to the handler's metadata: :authority, content-type
    (F17), user-agent and — when compressors are registered in the client process —
    grpc-accept-encoding (F30) -/
def baseMD (c : CallCfg) : MD :=
  [(hAuthority, [c.authority]), (hContentType, [contentTypeOf c.subtype]), (hUserAgent, [c.userAgent])] ++
  (if c.acceptEncoding.isEmpty then [] else [(hAcceptEncoding, [c.acceptEncoding])])

/-- `server_names.baseKeys_distinct` as the inequalities `simp` asks for -/
theorem baseKeys_ne :
    (hAuthority ≠ hContentType ∧ hAuthority ≠ hUserAgent ∧ hAuthority ≠ hAcceptEncoding ∧ hAuthority ≠ hHost) ∧
    (hContentType ≠ hUserAgent ∧ hContentType ≠ hAcceptEncoding ∧ hContentType ≠ hHost) ∧
    (hUserAgent ≠ hAcceptEncoding ∧ hUserAgent ≠ hHost) ∧ hAcceptEncoding ≠ hHost := by
  have ne := server_names.baseKeys_distinct
  simp only [List.pairwise_cons, List.mem_cons, List.not_mem_nil, or_false, forall_eq_or_imp, forall_eq] at ne
  exact ⟨ne.1, ne.2.1, ne.2.2.1, ne.2.2.2.1⟩

theorem srvField_baseFields (c : CallCfg) :
    (baseFields c).foldl srvField {} =
      { isGRPC := true, httpMethod := asciiBytes "POST", mdata := baseMD c } := by
  have skipped := server_names.skipped
  have wl := server_names.whitelisted
  have b : baseFields c = [(hMethod, asciiBytes "POST"), (hScheme, c.scheme), (hPath, c.path), (hAuthority, c.authority),
      (hContentType, contentTypeOf c.subtype), (hUserAgent, c.userAgent), (hTe, asciiBytes "trailers")] ++
      (if c.acceptEncoding.isEmpty then [] else [(hAcceptEncoding, c.acceptEncoding)]) := rfl
  have skip : ∀ (sc : SrvScan) v, ∀ n ∈ [hScheme, hTe], srvField sc (n, v) = sc :=
    fun sc v n hn => by rw [srvField_default sc v (skipped n hn).1, if_pos (skipped n hn).2]
  have md : ∀ (sc : SrvScan) v, ∀ n ∈ [hAuthority, hUserAgent], srvField sc (n, v) = { sc with mdata := mdAppend sc.mdata n v } :=
    fun sc v n hn => by
      rw [srvField_default sc v (wl n hn).1, (wl n hn).2.1, decodeMetadataHeader, (wl n hn).2.2]
      simp only [Bool.not_true, Bool.and_false, Bool.false_eq_true, if_false]
  rw [b, List.foldl_append]
  simp only [List.foldl_cons, List.foldl_nil]
  rw [srvField_method, skip _ _ hScheme (by simp), srvField_path, md _ _ hAuthority (by simp), srvField_contentType,
    if_pos (validContentType_contentTypeOf _), md _ _ hUserAgent (by simp), skip _ _ hTe (by simp)]
  -- the keys are new each time, so the appends build `baseMD c` entry by entry
  cases h : c.acceptEncoding.isEmpty
  · simp [srvField_acceptEncoding, baseMD, h, mdAppend, baseKeys_ne]
  · simp [baseMD, h, mdAppend, baseKeys_ne]

theorem mdGet_mdDelete (md : MD) (k key : Bytes) :
    mdGet (mdDelete md k) key = if k = key then [] else mdGet md key := by
  induction md with
  | nil => simp [mdDelete, mdGet]
  | cons kv rest ih =>
    obtain ⟨k', vs⟩ := kv
    unfold mdDelete at ih ⊢
    by_cases h1 : k' = k
    · subst h1
      simp only [List.filter_cons, ne_eq, not_true_eq_false, decide_false, Bool.false_eq_true, if_false, ih, mdGet]
      by_cases h2 : k' = key <;> simp [h2]
    · simp only [List.filter_cons, ne_eq, h1, not_false_eq_true, decide_true, if_true, mdGet, ih]
      by_cases h2 : k' = key
      · subst h2; simp [Ne.symm h1]
      · simp [h2]

theorem mdGet_of_absent (md : MD) (key : Bytes) (h : ∀ x ∈ md, x.1 ≠ key) : mdGet md key = [] := by
  fun_induction mdGet md key with
  | case1 => rfl
  | case2 vs rest => exact absurd rfl (h _ List.mem_cons_self)
  | case3 k' vs rest _ ih => exact ih fun x hx => h x (List.mem_cons_of_mem _ hx)

theorem mdGet_baseMD_host (c : CallCfg) : mdGet (baseMD c) hHost = [] := by
  cases h : c.acceptEncoding.isEmpty <;> simp [baseMD, h, mdGet, baseKeys_ne]

theorem mdGet_baseMD_contentType (c : CallCfg) : mdGet (baseMD c) hContentType = [contentTypeOf c.subtype] := by
  simp [baseMD, mdGet, baseKeys_ne]

theorem mdGet_baseMD_acceptEncoding (c : CallCfg) (h : c.acceptEncoding.isEmpty = false) :
    mdGet (baseMD c) hAcceptEncoding = [c.acceptEncoding] := by
  simp [baseMD, h, mdGet, baseKeys_ne]

theorem contentType_surfaced {m : MD} (h : mdGet m hContentType ≠ []) :
    ¬ ∀ kv ∈ m, isReservedHeader kv.1 = false ∨ isWhitelistedHeader kv.1 = true := by
  intro hall
  apply h
  apply mdGet_of_absent
  intro kv hkv e
  have := hall kv hkv
  rw [e, reserved_contentType, server_names.contentType_not_whitelisted] at this
  simp at this

/-- What the server answers to the request the client transport builds, in the order of its checks: two "host" values
    abort the stream, a "connection" key resets it, otherwise the handler runs, with "host" dropped (A41). -/
theorem serverRecv_clientSend (c : CallCfg) (md : MD) (added : List (Bytes × Bytes)) :
    ∃ m, (∀ key, mdGet m key = if hHost = key then [] else
        mdGet (baseMD c) key ++ valsFor ((sentPairs md added).filter (·.1 ≠ hConnection)) key) ∧
      serverRecv (baseFields c ++ userFields md added) =
        if (valsFor ((sentPairs md added).filter (·.1 ≠ hConnection)) hHost).length > 1 then .earlyAbort 13
        else if (sentPairs md added).any (·.1 = hConnection) then .rstProtocol
        else .handler m := by
  have hnr := sentPairs_nonreserved md added
  obtain ⟨md', e1, g1⟩ := srv_scan_pairs _ hnr { isGRPC := true, httpMethod := asciiBytes "POST", mdata := baseMD c }
  have ha : mdGet md' hAuthority = [c.authority] := by
    rw [g1, valsFor_nil_of_absent _ _ fun p hp =>
      ne_of_reserved (hnr p (List.mem_filter.mp hp).1) (server_names.reserved hAuthority (by simp))]
    simp [baseMD, mdGet]
  have hh : mdGet md' hHost = valsFor ((sentPairs md added).filter (·.1 ≠ hConnection)) hHost := by
    rw [g1, mdGet_baseMD_host]; rfl
  refine ⟨mdDelete md' hHost, fun key => by rw [mdGet_mdDelete, g1], ?_⟩
  rw [serverRecv, List.foldl_append, srvField_baseFields, userFields_eq, e1]
  simp only [ha, hh, Bool.false_or]
  -- what is left of `serverRecv`'s chain tests constants: one :authority, isGRPC, no header error, POST
  simp

theorem md_roundtrip (c : CallCfg) (md : MD) (added : List (Bytes × Bytes))
    (hv : validOutgoing md added = true)
    (hs : ∀ p ∈ sentPairs md added, p.1 ≠ hConnection ∧ p.1 ≠ hHost) :
    ∃ F m, clientSend c md added = some F ∧ serverRecv F = .handler m ∧
      ∀ key, mdGet m key = mdGet (baseMD c) key ++ valsFor (sentPairs md added) key := by
  obtain ⟨m, hm, hr⟩ := serverRecv_clientSend c md added
  have hnone := valsFor_nil_of_absent _ hHost fun p hp => (hs p hp).2
  rw [List.filter_eq_self.2 fun p hp => decide_eq_true (hs p hp).1] at hm hr
  rw [hnone, if_neg (by simp), List.any_eq_false.2 fun p hp => by simpa using (hs p hp).1] at hr
  refine ⟨_, m, by simp [clientSend, hv], hr, fun key => ?_⟩
  rw [hm]
  split
  · rename_i e; subst e
    rw [mdGet_baseMD_host, hnone]; rfl
  · rfl

/-- A name may appear in user-visible metadata: not reserved, or whitelisted, or (finding F17)
    content-type. -/
def Surfaceable (k : Bytes) : Prop := isReservedHeader k = false ∨ isWhitelistedHeader k = true ∨ k = hContentType

theorem mdAppend_keys (md : MD) (k v : Bytes) (P : Bytes → Prop) (hmd : ∀ kv ∈ md, P kv.1) (hk : P k) :
    ∀ kv ∈ mdAppend md k v, P kv.1 := by
  fun_induction mdAppend md k v with
  | case1 => exact List.forall_mem_singleton.2 hk
  | case2 vs rest => exact List.forall_mem_cons.2 (List.forall_mem_cons.1 hmd)  -- the key is there: no new one
  | case3 k' vs rest _ ih =>
    have ⟨h1, h2⟩ := List.forall_mem_cons.1 hmd
    exact List.forall_mem_cons.2 ⟨h1, ih h2⟩

theorem fold_keys {σ : Type} (step : σ → Field → σ) (mdata : σ → MD)
    (hstep : ∀ s f, mdata (step s f) = mdata s ∨ ∃ v, mdata (step s f) = mdAppend (mdata s) f.1 v ∧ Surfaceable f.1)
    (fields : List Field) (s : σ) (h : mdata s = []) :
    ∀ kv ∈ mdata (fields.foldl step s), Surfaceable kv.1 :=
  Basic.foldl_inv (P := fun s => ∀ kv ∈ mdata s, Surfaceable kv.1) (fun s f h => by
    rcases hstep s f with e | ⟨v, e, hs⟩ <;> rw [e]
    · exact h
    · exact mdAppend_keys _ _ _ _ h hs) fields (by rw [h]; nofun)

theorem srvField_mdata (sc : SrvScan) (hf : Field) :
    (srvField sc hf).mdata = sc.mdata ∨ ∃ v, (srvField sc hf).mdata = mdAppend sc.mdata hf.1 v ∧ Surfaceable hf.1 := by
  obtain ⟨name, value⟩ := hf
  unfold srvField
  dsimp only
  by_cases c1 : name = hContentType
  · rw [if_pos c1]
    cases validContentType value
    · exact Or.inl rfl
    · exact Or.inr ⟨value, rfl, Or.inr (Or.inr c1)⟩
  rw [if_neg c1]
  by_cases c2 : name = hAcceptEncoding
  · rw [if_pos c2]; exact Or.inr ⟨value, rfl, Or.inl (c2 ▸ server_names.acceptEncoding_plain.1)⟩
  rw [if_neg c2]
  by_cases c3 : name = hGrpcEncoding
  · rw [if_pos c3]; exact Or.inl rfl
  rw [if_neg c3]
  by_cases c4 : name = hMethod
  · rw [if_pos c4]; exact Or.inl rfl
  rw [if_neg c4]
  by_cases c5 : name = hPath
  · rw [if_pos c5]; exact Or.inl rfl
  rw [if_neg c5]
  by_cases c6 : name = hTimeout
  · rw [if_pos c6]; cases Timeout.decodeBytes value <;> exact Or.inl rfl
  rw [if_neg c6]
  by_cases c7 : name = hConnection
  · rw [if_pos c7]; exact Or.inl rfl
  rw [if_neg c7]
  by_cases c8 : (isReservedHeader name && !isWhitelistedHeader name) = true
  · rw [if_pos c8]; exact Or.inl rfl
  rw [if_neg c8]
  cases decodeMetadataHeader name value with
  | none => exact Or.inl rfl
  | some v => exact Or.inr ⟨v, rfl, not_skipped c8⟩

/-- The handler's metadata: the scanned metadata without "host", and possibly an :authority entry made from it. -/
theorem serverRecv_handler {fields : List Field} {m : MD} (h : serverRecv fields = .handler m) :
    ∀ kv ∈ m, kv ∈ (fields.foldl srvField {}).mdata ∨ kv.1 = hAuthority := by
  unfold serverRecv at h
  generalize fields.foldl srvField {} = sc at h
  -- none of the early exits is `.handler`
  have skip {a b : SrvRes} {c : Prop} [Decidable c] (h : (if c then a else b) = .handler m) (ha : a ≠ .handler m) :
      b = .handler m := (Basic.of_ite_eq h ha).2
  cases skip (skip (skip (skip (skip h nofun) nofun) nofun) nofun) nofun
  have del : ∀ kv ∈ mdDelete sc.mdata hHost, kv ∈ sc.mdata ∨ kv.1 = hAuthority :=
    fun kv hkv => .inl (List.mem_filter.mp hkv).1
  intro kv hkv
  split at hkv
  · split at hkv
    · rcases List.mem_append.mp hkv with hkv | hkv
      · exact del kv hkv
      · exact .inr (by rw [List.mem_singleton.mp hkv])
    · exact .inl hkv
  · exact del kv hkv

theorem clientHeaders_md {fields : List Field} {m : MD} (h : clientHeaders fields = .md m) :
    m = (fields.foldl scanField { isGRPC := false }).mdata := by
  revert h
  fun_cases clientHeaders fields
  -- the last branch is the only `.md`, and it returns the scan's metadata
  case case5 => exact fun h => (HdrRes.md.inj h).symm
  all_goals exact nofun

/-- `Trailer()` is empty when the RPC ends otherwise than with the status the frame carries. -/
theorem clientTrailers_md (initialHeader : Bool) (fields : List Field) :
    (clientTrailers initialHeader fields).2 = [] ∨
    (clientTrailers initialHeader fields).2 = (fields.foldl scanField { isGRPC := !initialHeader }).mdata := by
  fun_cases clientTrailers initialHeader fields
  case case4 => exact .inr rfl  -- the last branch: the status the frame carries
  all_goals exact .inl rfl

/-- what the client transport itself contributes to Header() / a trailers-only Trailer() (F17) -/
def ctMD (sub : Bytes) : MD := [(hContentType, [contentTypeOf sub])]

theorem header_roundtrip (sub : Bytes) (header : MD) (hw : wireOK (headerFrame sub header) = true) :
    ∃ m, clientHeaders (headerFrame sub header) = .md m ∧
      ∀ key, mdGet m key = mdGet (ctMD sub) key ++ valsFor (sentPairs header []) key := by
  obtain ⟨md', e1, g1⟩ := scan_pairs _ (sentPairs_nonreserved header []) { isGRPC := true, mdata := ctMD sub } rfl
  refine ⟨md', ?_, g1⟩
  have e0 : (headerFrame sub header).foldl scanField { isGRPC := false } = { isGRPC := true, mdata := md' } := by
    show (preFields false sub ++ fieldsFromMD header).foldl scanField { isGRPC := false } = _
    rw [List.foldl_append, scan_preFields, fieldsFromMD_eq]
    exact e1
  simp only [clientHeaders, hw, e0, Bool.not_true, Bool.false_eq_true, if_false]

/-- `hs`: a HEADERS frame went out before; otherwise the response is trailers-only and carries content-type. -/
theorem trailer_roundtrip (hs : Bool) (sub : Bytes) (st : Status) (tr : MD)
    (hc : st.code < 2147483648) (hd : st.details = []) :
    ∀ key, mdGet (clientTrailers (!hs) (writeStatus hs sub st tr)).2 key =
      mdGet (if hs then [] else ctMD sub) key ++ valsFor (sentPairs tr []) key := by
  obtain ⟨md', e, g⟩ := clientTrailers_writeStatus hs sub st tr hc
  intro key
  rw [e, g, detailPairs, if_pos hd]
  rfl

def byteOK (b : UInt8) : Bool := !((b < 0x20 || b == 0x7F) && !(b == 0x20 || b == 0x09))

/-- lower-case letters and digits are ranges of `isTokenByte` itself, the three punctuation marks
    are in its list; none is an upper-case letter -/
theorem keyChar_token (b : UInt8) (h : validKeyChar b = true) : (isTokenByte b && !(65 ≤ b && b ≤ 90)) = true := by
  simp only [validKeyChar, Bool.or_eq_true, Bool.and_eq_true, decide_eq_true_eq, beq_iff_eq] at h
  have notUpper : b.toNat < 65 ∨ 90 < b.toNat → (65 ≤ b && b ≤ 90) = false := fun h => by
    simp only [Bool.and_eq_false_iff, decide_eq_false_iff_not, UInt8.le_iff_toNat_le]
    simp; omega
  rcases h with (((h | h) | h) | h) | h
  · simp [isTokenByte, h, notUpper (Or.inr (Nat.lt_of_lt_of_le (by decide) (UInt8.le_iff_toNat_le.mp h.1)))]
  · simp [isTokenByte, h, notUpper (Or.inl (Nat.lt_of_le_of_lt (UInt8.le_iff_toNat_le.mp h.2) (by decide)))]
  · subst h; decide
  · subst h; decide
  · subst h; decide

theorem printable_ok (b : UInt8) (h : (decide (b < 0x20) || decide (b > 0x7E)) = false) : byteOK b = true := by
  simp only [Bool.or_eq_false_iff, decide_eq_false_iff_not, UInt8.lt_iff_toNat_lt, gt_iff_lt] at h
  have h1 : (b == 0x7F) = false := by
    rw [beq_eq_false_iff_ne]; intro e; subst e; exact h.2 (by decide)
  have h2 : ¬ b < 0x20 := fun e => h.1 (UInt8.lt_iff_toNat_lt.mp e)
  simp [byteOK, h1, h2]

theorem encode_ok (pad : Bool) (bs : Bytes) : (Base64.encode pad bs).all byteOK = true :=
  Lemmas.Base64.encode_all byteOK (by decide) (by decide) pad bs

theorem wireValueOK_eq (v : Bytes) : wireValueOK v = v.all byteOK := rfl

theorem nonreserved_not_pseudo (k : Bytes) (h : isReservedHeader k = false) : ∀ c rest, k = c :: rest → (c == 58) = false := by
  intro c rest e
  subst e
  simp only [isReservedHeader, Bool.or_eq_false_iff] at h
  exact h.1

/-- Each byte of a validated key is a lower-case token byte; a `-bin` value goes out as base64 text, any other
    validated value is printable: neither has a byte the framer's value check rejects. -/
theorem valid_field_ok (k : Bytes) (vs : List Bytes) (v : Bytes) (hv : v ∈ vs)
    (hvalid : validatePair k vs = true) (hnr : isReservedHeader k = false) :
    (wireNameOK k && wireValueOK (encodeMetadataHeader k v)) = true := by
  simp only [validatePair, Bool.and_eq_true, Bool.or_eq_true] at hvalid
  obtain ⟨hkey, hval⟩ := hvalid
  have hname : wireNameOK k = true := by
    cases k with
    | nil => simp [validateKey] at hkey
    | cons c rest =>
      have hc := nonreserved_not_pseudo _ hnr c rest rfl
      simp only [validateKey, hc, Bool.false_eq_true, if_false] at hkey
      simp only [wireNameOK, hc, Bool.false_eq_true, if_false]
      rw [List.all_eq_true] at hkey ⊢
      intro b hb
      exact keyChar_token b (hkey b hb)
  rw [hname, Bool.true_and]
  unfold encodeMetadataHeader
  by_cases hb : isBinKey k = true
  · simp only [hb, if_true, wireValueOK_eq]
    exact encode_ok false v
  · simp only [hb, Bool.false_eq_true, if_false]
    simp only [hb, Bool.false_eq_true, false_or, List.all_eq_true] at hval
    have := hval v hv
    simp only [hasNotPrintable, Bool.not_eq_true', List.any_eq_false] at this
    rw [wireValueOK_eq, List.all_eq_true]
    intro b hb'
    apply printable_ok
    have := this b hb'
    simpa using this

theorem lower_idem (k : Bytes) : lower (lower k) = lower k := by
  unfold lower
  rw [List.map_map]
  apply List.map_congr_left
  intro b _
  simp only [Function.comp, lowerByte]
  split
  · rename_i h
    simp only [Bool.and_eq_true, decide_eq_true_eq] at h
    have h1 : 65 ≤ b.toNat := UInt8.le_iff_toNat_le.mp h.1
    have h2 : b.toNat ≤ 90 := UInt8.le_iff_toNat_le.mp h.2
    have : ¬ ((65 : UInt8) ≤ b + 32 ∧ b + 32 ≤ 90) := by
      intro ⟨_, g2⟩
      have := UInt8.le_iff_toNat_le.mp g2
      rw [UInt8.toNat_add] at this
      simp at this; omega
    simp [this]
  · rfl

/-- a Go map: no key twice -/
def Distinct : MD → Prop
  | [] => True
  | kv :: rest => (∀ x ∈ rest, x.1 ≠ kv.1) ∧ Distinct rest

theorem valsAll_eq_mdGet (md : MD) (key : Bytes) (hd : Distinct md) : valsAll md key = mdGet md key := by
  induction md with
  | nil => rfl
  | cons kv rest ih =>
    obtain ⟨k, vs⟩ := kv
    rw [mdGet, valsAll_cons]
    split
    · next e => rw [valsAll_of_absent fun x hx => e ▸ hd.1 x hx, List.append_nil]
    · exact ih hd.2

theorem mdAppend_mem (md : MD) (k v : Bytes) : ∀ x ∈ mdAppend md k v, x.1 = k ∨ ∃ y ∈ md, y.1 = x.1 :=
  mdAppend_keys md k v (fun a => a = k ∨ ∃ y ∈ md, y.1 = a) (fun kv h => Or.inr ⟨kv, h, rfl⟩) (Or.inl rfl)

theorem distinct_mdAppend (md : MD) (k v : Bytes) (hd : Distinct md) : Distinct (mdAppend md k v) := by
  fun_induction mdAppend md k v with
  | case1 => exact ⟨nofun, trivial⟩
  | case2 vs rest => exact hd
  | case3 k' vs rest ne ih =>  -- another key `k'` in front: behind it stand `k` or old keys, none of them `k'`
    obtain ⟨h1, h2⟩ := hd
    refine ⟨fun x hx => ?_, ih h2⟩
    rcases mdAppend_mem rest k v x hx with h | ⟨y, hy, e⟩
    · rw [h]; exact fun e => ne e.symm
    · rw [← e]; exact h1 y hy

theorem distinct_ensureKey (md : MD) (k : Bytes) (hd : Distinct md) : Distinct (ensureKey md k) := by
  unfold ensureKey
  split
  · exact hd
  · rename_i h
    simp only [List.any_eq_true, decide_eq_true_eq, not_exists, not_and] at h
    induction md with
    | nil => simp [Distinct]
    | cons kv rest ih =>
      obtain ⟨h1, h2⟩ := hd
      refine ⟨?_, ih h2 (fun x hx => h x (by simp [hx]))⟩
      intro x hx
      rcases List.mem_append.mp hx with hx | hx
      · exact h1 x hx
      · simp only [List.mem_singleton] at hx
        subst hx
        exact fun e => h kv (by simp) e.symm

theorem mdGet_append_empty (md : MD) (k key : Bytes) : mdGet (md ++ [(k, [])]) key = mdGet md key := by
  fun_induction mdGet md key with
  | case1 => simp only [List.nil_append, mdGet]; split <;> rfl
  | case2 vs rest => simp only [List.cons_append, mdGet, if_true]
  | case3 k' vs rest e ih => simp only [List.cons_append, mdGet, e, if_false, ih]

theorem mdGet_ensureKey (md : MD) (k key : Bytes) : mdGet (ensureKey md k) key = mdGet md key := by
  unfold ensureKey
  split
  · rfl
  · exact mdGet_append_empty md k key

theorem mdGet_foldl_mdAppend (k key : Bytes) (vs : List Bytes) (m : MD) :
    mdGet (vs.foldl (fun m v => mdAppend m k v) m) key = mdGet m key ++ (if k = key then vs else []) := by
  induction vs generalizing m with
  | nil => simp
  | cons v t ih =>
    rw [List.foldl_cons, ih, mdGet_mdAppend]
    by_cases e : k = key <;> simp [e]

theorem mdGet_mdJoin (a b : MD) (key : Bytes) : mdGet (mdJoin a b) key = mdGet a key ++ valsAll b key := by
  unfold mdJoin
  induction b generalizing a with
  | nil => simp [valsAll]
  | cons kv rest ih =>
    -- one entry of the second argument: its key is made present, then its values are appended
    rw [List.foldl_cons, ih, mdGet_foldl_mdAppend, mdGet_ensureKey, valsAll_cons, List.append_assoc]

theorem distinct_mdJoin (a b : MD) (ha : Distinct a) : Distinct (mdJoin a b) :=
  Basic.foldl_inv (P := Distinct) (fun acc kv h =>
    Basic.foldl_inv (fun m v => distinct_mdAppend m kv.1 v) kv.2 (distinct_ensureKey acc kv.1 h)) b ha

theorem mdGet_joinAll (mds : List MD) (acc : MD) (key : Bytes) :
    mdGet (mds.foldl mdJoin acc) key = mdGet acc key ++ mds.flatMap (valsAll · key) := by
  induction mds generalizing acc with
  | nil => simp
  | cons m t ih => rw [List.foldl_cons, ih, mdGet_mdJoin, List.flatMap_cons, List.append_assoc]

theorem mdJoin_nil (a : MD) : mdJoin a [] = a := rfl

/-- The four header calls differ in three respects: the Set calls ignore empty metadata, the
    ServerStream methods validate, the Send calls write the frame. 13 is INTERNAL. -/
theorem hdrCall_eq (st : HdrState) (api : HdrApi) (md : MD) : hdrCall st api md =
    if (api = .ssSet ∨ api = .ctxSet) ∧ md.isEmpty then (st, none)
    else if ((api = .ssSet ∨ api = .ssSend) ∧ validate md = false) ∨ st.sent then (st, some 13)
    else ({ header := mdJoin st.header md, sent := st.sent || decide (api = .ssSend ∨ api = .ctxSend) }, none) := by
  cases api <;> cases h : st.sent <;> simp [hdrCall, h]

theorem hdrCall_header (st : HdrState) (api : HdrApi) (md : MD) :
    ((hdrCall st api md).2 = none → (hdrCall st api md).1.header = mdJoin st.header md) ∧
    ((hdrCall st api md).2 ≠ none → (hdrCall st api md).1 = st) := by
  rw [hdrCall_eq]
  split
  · rename_i h
    rw [List.isEmpty_iff.mp h.2]
    exact ⟨fun _ => rfl, fun h => absurd rfl h⟩
  · split
    · exact ⟨fun h => (nomatch h), fun _ => rfl⟩
    · exact ⟨fun _ => rfl, fun h => absurd rfl h⟩

/-- The header calls of one handler in order: the final state and each call's error. -/
def hdrRun (calls : List (HdrApi × MD)) (st : HdrState) : HdrState × List (Option Nat) :=
  calls.foldl (fun acc c => let r := hdrCall acc.1 c.1 c.2; (r.1, acc.2 ++ [r.2])) (st, [])

/-- The metadata of the calls of `hdrRun` that succeed. -/
def accepted : List (HdrApi × MD) → HdrState → List MD
  | [], _ => []
  | c :: rest, st =>
    let r := hdrCall st c.1 c.2
    (if r.2 = none then [c.2] else []) ++ accepted rest r.1

theorem hdrRun_fold_header (calls : List (HdrApi × MD)) (st : HdrState) (res : List (Option Nat)) :
    (calls.foldl (fun acc c => let r := hdrCall acc.1 c.1 c.2; (r.1, acc.2 ++ [r.2])) (st, res)).1.header =
      (accepted calls st).foldl mdJoin st.header := by
  induction calls generalizing st res with
  | nil => rfl
  | cons c t ih =>
    simp only [List.foldl_cons, accepted]
    rw [ih]
    obtain ⟨h1, h2⟩ := hdrCall_header st c.1 c.2
    by_cases e : (hdrCall st c.1 c.2).2 = none
    · simp only [e, if_true, List.singleton_append, List.foldl_cons, h1 e]
    · simp only [e, if_false, List.nil_append, h2 e]

theorem hdrRun_header (calls : List (HdrApi × MD)) :
    (hdrRun calls {}).1.header = (accepted calls {}).foldl mdJoin [] := hdrRun_fold_header calls {} []

theorem valsFor_joined (mds : List MD) (key : Bytes) (hk : isReservedHeader key = false) :
    valsFor (sentPairs (mds.foldl mdJoin []) []) key = mds.flatMap (valsAll · key) := by
  have d : Distinct (mds.foldl mdJoin []) := Basic.foldl_inv distinct_mdJoin mds trivial
  rw [valsFor_sentPairs_nil _ hk, valsAll_eq_mdGet _ key d, mdGet_joinAll]
  rfl

theorem header_calls_roundtrip (sub : Bytes) (calls : List (HdrApi × MD))
    (hw : wireOK (headerFrame sub (hdrRun calls {}).1.header) = true) (key : Bytes) (hk : isReservedHeader key = false) :
    ∃ m, clientHeaders (headerFrame sub (hdrRun calls {}).1.header) = .md m ∧
      mdGet m key = mdGet (ctMD sub) key ++ (accepted calls {}).flatMap (valsAll · key) := by
  obtain ⟨m, h1, h2⟩ := header_roundtrip sub (hdrRun calls {}).1.header hw
  refine ⟨m, h1, ?_⟩
  rw [h2 key, hdrRun_header calls,
    valsFor_joined _ key hk]

/-- `SetTrailer` with empty metadata is a no-op, as is `Join` with it. -/
theorem trlCall_eq : trlCall = mdJoin := by
  funext acc m
  unfold trlCall
  split
  · rename_i he; rw [List.isEmpty_iff.mp he]; rfl
  · rfl

theorem trailer_calls_roundtrip (hs : Bool) (sub : Bytes) (st : Status) (mds : List MD)
    (hc : st.code < 2147483648) (hd : st.details = []) (key : Bytes) (hk : isReservedHeader key = false) :
    mdGet (clientTrailers (!hs) (writeStatus hs sub st (mds.foldl trlCall []))).2 key =
      mdGet (if hs then [] else ctMD sub) key ++ mds.flatMap (valsAll · key) := by
  rw [trailer_roundtrip hs sub st _ hc hd key, trlCall_eq, valsFor_joined _ key hk]

end GrpcProofs.Lemmas.MdWire
