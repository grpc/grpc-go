/-
The invariants of GrpcModel.RetryLoop at the level of the application operations (C18): `OpInv` holds between
any two operations of a run, and `fuelFor` fuel is never used up.
-/
import GrpcProofs.Lemmas.RetryLoopReplay
import GrpcProofs.Lemmas.RetryLoopCounts
namespace GrpcProofs.Lemmas.RetryLoop
open GrpcModel.Retry GrpcModel.RetryLoop GrpcProofs.Lemmas.Retry

/-- what holds between two operations of a run: replay exactness, the buffer limit, the attempt bound -/
structure OpInv (st : St) : Prop where
  good : Good st
  size : SizeInv st
  bound : BInv st

/-- fuel that is enough for any operation of this RPC -/
def fuelFor (st : St) : Nat := 1 + (match st.pol with | some rp => rp.maxAttempts.toNat | none => 0)

theorem budget_le_fuelFor (st : St) (h : BInv st) : st.retryBudget ≤ fuelFor st := by
  unfold St.retryBudget budget fuelFor
  have := h.bound.nonneg
  cases st.pol with
  | none => split_ifs <;> simp
  | some rp => simp only; split_ifs <;> omega

theorem fuelFor_pol (st st' : St) (h : st'.pol = st.pol) : fuelFor st' = fuelFor st := by
  unfold fuelFor; rw [h]

theorem Begins.retryBudget {st pre : St} {cop : COp} (hb : Begins st pre cop) : pre.retryBudget = st.retryBudget := by
  obtain ⟨_, _, _, rfl⟩ := hb.app; rfl

theorem OpRuns.pol {fuel : Nat} {st s : St} {res : Res} (o : OpRuns fuel st s res) : s.pol = st.pol :=
  o.preserves (P := fun s => s.pol = st.pol) (fun m h => m.frame.pol.trans h) (fun _ _ _ _ h => h) rfl

/-- the replay invariant through an application operation: with the fuel that `BInv` promises to be enough, the
    way out of `call_good` through `.outOfFuel` is closed -/
theorem OpRuns.good {fuel : Nat} {st s : St} {res : Res} (o : OpRuns fuel st s res) (h : Good st) (hb : BInv st)
    (hf : fuelFor st ≤ fuel) : Good s ∧ res ≠ .outOfFuel := by
  induction o with
  | early st seq he hne => exact ⟨he.good (h.seq seq), hne⟩
  | @call pre cop _ _ st hbg he hres =>
    have hne := withRetry_fuel fuel pre cop (hbg.retryBudget.le.trans ((budget_le_fuelFor st hb).trans hf))
    exact ⟨(call_good fuel hbg he h).resolve_left hne, by rcases hres with rfl | hq; exacts [hne, hq.1]⟩
  | twice st n o1 _ hres ih1 ih2 =>
    obtain ⟨h2, hne⟩ := ih2 (ih1 h hb hf).1 (o1.preserves Move.binv (fun _ _ _ _ h => h) hb)
      (by rw [fuelFor_pol _ _ o1.pol]; exact hf)
    exact ⟨h2, fun e => hne (hres e)⟩

theorem step_inv (fuel : Nat) (st : St) (op : AppOp) (hop : op ≠ .new) (h : OpInv st) (hf : fuelFor st ≤ fuel) :
    OpInv (st.step fuel op).1 ∧ (st.step fuel op).1.pol = st.pol ∧ (st.step fuel op).2.1 ≠ .outOfFuel := by
  have o := step_runs fuel st op hop
  obtain ⟨hg, hne⟩ := o.good h.good h.bound hf
  exact ⟨⟨hg, o.preserves Move.size (fun _ _ _ _ hs => hs) h.size, o.preserves Move.binv (fun _ _ _ _ hs => hs) h.bound⟩,
    o.pol, hne⟩

theorem settle_inv (st : St) (h : OpInv st) : OpInv st.settle :=
  ⟨Ended.good .settle h.good, h.size, Move.binv (.settle st) h.bound⟩

theorem opNewOk_inv (st : St) (h0 : Unstarted st) (hn : NrBound st) : OpInv st.opNewOk.1 := by
  have hp : ∀ a ∈ [freshAtt st], a.log = [] ∧ a.prev ≤ st.cs.numRetries := fun a ha => by
    rw [List.mem_singleton.mp ha]; exact ⟨rfl, le_refl _⟩
  rw [opNewOk_eq st h0]
  apply settle_inv
  split_ifs with hm
  · -- a negative buffer limit: the first `buffer` commits, so the clauses about an uncommitted RPC are void
    exact ⟨⟨rinv_of_no_history _ h0.hist (fun a ha => (hp a ha).1) nofun, rfl⟩, nofun, fun a ha => (hp a ha).2, hn⟩
  · exact ⟨⟨rinv_of_no_history _ h0.hist (fun a ha => (hp a ha).1) fun _ => rfl, rfl⟩,
      fun _ => h0.rsize.trans_le (not_lt.mp hm), fun a ha => (hp a ha).2, hn⟩

theorem opNewOk_pol (st : St) (h0 : Unstarted st) : st.opNewOk.1.pol = st.pol := by
  rw [opNewOk_eq st h0]; split_ifs <;> rfl

theorem opNew_inv (fuel : Nat) (st : St) (h0 : Unstarted st) (hn : st.cs.numRetries = 0) (hok : (st.opNew fuel).2.1 = .ok) :
    OpInv (st.opNew fuel).1 ∧ (st.opNew fuel).1.pol = st.pol := by
  have hb : BInv st := ⟨fun a ha => (by rw [h0.atts] at ha; cases ha), hn.ge, Or.inl hn⟩
  rcases opNew_cases fuel st with ⟨s, hr, hc, e, _⟩ | ⟨_, hne⟩
  · rw [e]
    exact ⟨opNewOk_inv s (h0.core hc) (hr.preserves Move.binv hb).bound, (opNewOk_pol s (h0.core hc)).trans hr.frame.pol⟩
  · exact absurd hok hne

/-- what a run from `st` without `new` comes to (state `s`, results `rs`) when every operation has `fuelFor` fuel -/
structure RunInv (st s : St) (rs : List Res) : Prop where
  inv : OpInv s
  pol : s.pol = st.pol
  fuel : ∀ r ∈ rs, r ≠ .outOfFuel

theorem run_inv (fuel : Nat) (ops : List AppOp) (st : St) (hops : ∀ o ∈ ops, o ≠ .new) (h : OpInv st) (hf : fuelFor st ≤ fuel) :
    RunInv st (St.run fuel st ops).1 (St.run fuel st ops).2.1 :=
  have ⟨⟨hi, hp⟩, hne⟩ := run_preserves (P := fun s => OpInv s ∧ s.pol = st.pol)
    (fun s op hop ⟨hi, hp⟩ =>
      have ⟨hi', hp', hne⟩ := step_inv fuel s op hop hi (by rw [fuelFor_pol _ _ hp]; exact hf)
      ⟨⟨hi', hp'.trans hp⟩, hne⟩)
    ops st hops ⟨h, rfl⟩
  ⟨hi, hp, hne⟩

theorem run_new_inv (f0 fuel : Nat) (ops : List AppOp) (st : St) (h0 : Unstarted st) (hn : st.cs.numRetries = 0)
    (hok : (st.opNew f0).2.1 = .ok) (hops : ∀ o ∈ ops, o ≠ .new) (hf : fuelFor (st.opNew f0).1 ≤ fuel) :
    RunInv st (St.run fuel (st.opNew f0).1 ops).1 (St.run fuel (st.opNew f0).1 ops).2.1 :=
  have ⟨hi, hp⟩ := opNew_inv f0 st h0 hn hok
  have h := run_inv fuel ops _ hops hi hf
  ⟨h.inv, h.pol.trans hp, h.fuel⟩

theorem OpRuns.delivery_commits {fuel : Nat} {st s : St} {res : Res} (o : OpRuns fuel st s res) (h : res.delivers = true) :
    s.cs.committed = true := by
  induction o with
  | early st seq _ _ hq => rw [hq] at h; cases h
  | call st _ he hres =>
    rcases hres with rfl | hq
    · exact (he.reach.committed_len (withRetry_delivery_commits fuel _ _ h)).1
    · rw [hq.2] at h; cases h
  | twice st n _ o2 _ ih1 => exact (o2.preserves Move.committed_len (fun _ _ _ _ h => h) ⟨ih1 rfl, rfl⟩).1

end GrpcProofs.Lemmas.RetryLoop
