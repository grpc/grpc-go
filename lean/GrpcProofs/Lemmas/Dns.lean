/-
The invariant of the watcher loop of GrpcModel/Model/Dns.lean, preserved by every event, and `net.SplitHostPort`
on the four shapes of target that `parseTarget` tells apart.
-/
import GrpcModel.Model.Dns
namespace GrpcProofs.Lemmas.Dns
open GrpcModel.Dns

/-- the successful lookups of a history (entries are start time and success) -/
def countOk : List (Nat × Bool) → Nat
  | [] => 0
  | (_, ok) :: t => (if ok then 1 else 0) + countOk t

/-- the backoff delay an event brings along (used only after a failed lookup) is at least `D` -/
def evDelayOk (D : Nat) : Ev → Prop
  | .build _ d _ => D ≤ d
  | .tick _ _ d _ => D ≤ d
  | _ => True

/-- Invariant of the watcher, for backoff delays that are all ≥ D.  The `ok*` clauses and `tailOk`: every token
    consumed has paid for one successful lookup (the newest lookup may still be waiting for its token).  The `due*`
    and `done*` clauses: the timer is due no earlier than `gapAfter` after the start and after the return of the
    newest lookup (`inv_waitT` takes them in that form). -/
structure Inv (D : Nat) (w : W) : Prop where
  tokens : w.consumed + (if w.rn then 1 else 0) ≤ w.rnCalls
  okCnt  : countOk w.lookups ≤ w.consumed + 1
  tailOk : countOk w.lookups.tail ≤ w.consumed
  okWaitT : ∀ a, w.mode = .waitT a → countOk w.lookups = w.consumed
  okWaitRN : ∀ n, w.mode = .waitRN n → countOk w.lookups = w.consumed + 1 ∧ w.rn = false
  idleEmpty : w.mode = .idle → w.lookups = [] ∧ w.consumed = 0
  times  : ∀ t b, w.lookups.head? = some (t, b) → t ≤ w.now
  dueOk  : ∀ a t, w.mode = .waitT a → w.lookups.head? = some (t, true) → t + w.minI ≤ a
  dueFail : ∀ a t, w.mode = .waitT a → w.lookups.head? = some (t, false) → t + D ≤ a
  dueRN  : ∀ n, w.mode = .waitRN n → ∃ t, w.lookups.head? = some (t, true) ∧ t + w.minI ≤ n ∧ n = w.lastDone + w.minI
  doneOk : ∀ a t, w.mode = .waitT a → w.lookups.head? = some (t, true) → w.lastDone + w.minI ≤ a
  doneFail : ∀ a t, w.mode = .waitT a → w.lookups.head? = some (t, false) → w.lastDone + D ≤ a
  doneLe : w.lastDone ≤ w.now

theorem inv_init (D m : Nat) : Inv D (W.init m) := by
  constructor <;> simp [W.init, countOk]

/-- the wait the code imposes after a lookup: `MinResolutionInterval` after a success, the backoff (≥ `D`) after a failure -/
def gapAfter (D : Nat) (w : W) (ok : Bool) : Nat := if ok then w.minI else D

theorem countOk_tail_le : ∀ l : List (Nat × Bool), countOk l.tail ≤ countOk l
  | [] => Nat.le_refl _
  | _ :: l => Nat.le_add_left (countOk l) _

theorem inv_waitT {D : Nat} {w : W} {a : Nat} (hm : w.mode = .waitT a)
    (tok : w.consumed + (if w.rn then 1 else 0) ≤ w.rnCalls) (cnt : countOk w.lookups = w.consumed)
    (tm : ∀ t b, w.lookups.head? = some (t, b) → t ≤ w.now) (dn : w.lastDone ≤ w.now)
    (due : ∀ t b, w.lookups.head? = some (t, b) →
      t + gapAfter D w b ≤ a ∧ w.lastDone + gapAfter D w b ≤ a) : Inv D w where
  tokens := tok
  okCnt := cnt ▸ Nat.le_succ _
  tailOk := cnt ▸ countOk_tail_le _
  okWaitT _ _ := cnt
  okWaitRN n e := nomatch hm.symm.trans e
  idleEmpty e := nomatch hm.symm.trans e
  times := tm
  dueOk _ t e e' := by cases hm.symm.trans e; exact (due t true e').1
  dueFail _ t e e' := by cases hm.symm.trans e; exact (due t false e').1
  dueRN n e := nomatch hm.symm.trans e
  doneOk _ t e e' := by cases hm.symm.trans e; exact (due t true e').2
  doneFail _ t e e' := by cases hm.symm.trans e; exact (due t false e').2
  doneLe := dn

theorem doLookup_inv (D : Nat) (w : W) (ok : Bool) (d dur : Nat) (hd : D ≤ d)
    (h1 : w.consumed + (if w.rn then 1 else 0) ≤ w.rnCalls)
    (h2 : countOk w.lookups = w.consumed) :
    Inv D (doLookup w ok d dur) := by
  have tm : ∀ t b, some (w.now, ok) = some (t, b) → t ≤ w.now + dur := fun t b e => by
    cases e; exact Nat.le_add_right _ _
  cases ok
  · exact inv_waitT (a := w.now + dur + d) rfl h1 ((Nat.zero_add _).trans h2) tm (Nat.le_refl _)
      fun t b e => by cases e; exact ⟨Nat.add_le_add (Nat.le_add_right _ _) hd, Nat.add_le_add_left hd _⟩
  · show Inv D (if w.rn then _ else _)
    split
    · next hr =>
      rw [hr] at h1
      exact inv_waitT (a := w.now + dur + w.minI) rfl h1 ((Nat.add_comm _ _).trans (congrArg (· + 1) h2)) tm
        (Nat.le_refl _) fun t b e => by cases e; exact ⟨Nat.add_le_add_right (Nat.le_add_right _ _) _, Nat.le_refl _⟩
    · next hr =>
      have c : 1 + countOk w.lookups = w.consumed + 1 := (Nat.add_comm _ _).trans (congrArg (· + 1) h2)
      exact {
        tokens := h1
        okCnt := Nat.le_of_eq c
        tailOk := Nat.le_of_eq h2
        okWaitT := nofun
        okWaitRN := fun _ _ => ⟨c, Bool.eq_false_iff.2 hr⟩
        idleEmpty := nofun
        times := tm
        dueOk := nofun
        dueFail := nofun
        dueRN := fun _ e => by cases e; exact ⟨_, rfl, Nat.add_le_add_right (Nat.le_add_right _ _) _, rfl⟩
        doneOk := nofun
        doneFail := nofun
        doneLe := Nat.le_refl _ }

theorem inv_setNow {D : Nat} {w : W} (h : Inv D w) {t : Nat} (ht : w.now ≤ t) : Inv D { w with now := t } :=
  { h with times := fun a b e => Nat.le_trans (h.times a b e) ht, doneLe := Nat.le_trans h.doneLe ht }

theorem inv_step (D : Nat) (w : W) (e : Ev) (h : Inv D w) (hd : evDelayOk D e) : Inv D (step w e) := by
  -- one goal per branch of `step`, numbered in the order of its text: `build` 1-2; `resolveNow` 3-5 (at `waitRN`, at `closed`,
  -- elsewhere); `tick` at `waitT` 6-8 (stale, before `due`, fires), in another mode 9-10; `close` 11
  fun_cases step w e
  case case1 ok d dur hm =>
    exact doLookup_inv D w ok d dur hd h.tokens (by rw [(h.idleEmpty hm).1, (h.idleEmpty hm).2]; rfl)
  case case3 n hm =>
    -- the blocked watcher takes the token at once: the successful lookup it waited after is now paid for
    obtain ⟨t, ht, h1, h2⟩ := h.dueRN n hm
    have ⟨c, hr⟩ := h.okWaitRN n hm
    have tok := h.tokens
    rw [hr] at tok
    exact inv_waitT (a := n) rfl (hr ▸ Nat.succ_le_succ tok) c h.times h.doneLe fun t' b e => by
      cases ht.symm.trans e; exact ⟨h1, Nat.le_of_eq h2.symm⟩
  case case4 => exact { h with tokens := Nat.le_succ_of_le h.tokens }
  case case5 hn _ =>
    exact { h with
      tokens := Nat.succ_le_succ (Nat.le_trans (Nat.le_add_right _ _) h.tokens)
      okWaitRN := fun n e => (hn n e).elim }
  case case7 | case10 => exact inv_setNow h (by omega)
  case case8 ok d dur due hm _ _ => exact doLookup_inv D _ ok d dur hd h.tokens (h.okWaitT due hm)
  case case11 =>
    exact { h with
      okWaitT := nofun, okWaitRN := nofun, idleEmpty := nofun, dueOk := nofun, dueFail := nofun,
      dueRN := nofun, doneOk := nofun, doneFail := nofun }
  all_goals exact h

theorem doLookup_fields (w : W) (ok : Bool) (d dur : Nat) :
    (doLookup w ok d dur).minI = w.minI ∧ (doLookup w ok d dur).lookups = (w.now, ok) :: w.lookups ∧
    (doLookup w ok d dur).idx = if ok then 1 else w.idx + 1 := by
  cases ok
  · exact ⟨rfl, rfl, rfl⟩
  · show (fun x : W => x.minI = _ ∧ x.lookups = _ ∧ x.idx = _) (if w.rn then _ else _)
    split <;> exact ⟨rfl, rfl, rfl⟩

theorem step_lookups (w : W) (e : Ev) :
    (step w e).minI = w.minI ∧
    ((step w e).lookups = w.lookups ∨ (w.mode = .idle ∧ ∃ ok, (step w e).lookups = (w.now, ok) :: w.lookups) ∨
      ∃ due ok, w.mode = .waitT due ∧ (step w e).lookups = (max w.now due, ok) :: w.lookups) := by
  -- only the two branches of `step` that call `doLookup` (numbered as in `inv_step`) add a lookup
  fun_cases step w e
  case case1 ok _ _ h => exact ⟨(doLookup_fields ..).1, .inr (.inl ⟨h, ok, (doLookup_fields ..).2.1⟩)⟩
  case case8 ok _ _ due h _ _ => exact ⟨(doLookup_fields ..).1, .inr (.inr ⟨due, ok, h, (doLookup_fields ..).2.1⟩)⟩
  all_goals exact ⟨rfl, .inl rfl⟩

theorem lbr_ne_colon : lbr ≠ colon := by decide
theorem rbr_ne_colon : rbr ≠ colon := by decide
theorem rbr_ne_lbr : rbr ≠ lbr := by decide

theorem lastSplit_none (c : UInt8) (s : List UInt8) (h : c ∉ s) : lastSplit c s = none := by
  induction s with
  | nil => rfl
  | cons x xs ih =>
    simp only [List.mem_cons, not_or] at h
    simp only [lastSplit, ih h.2]
    rw [if_neg (Ne.symm h.1)]

theorem lastSplit_append (c : UInt8) (a p : List UInt8) (h : c ∉ p) :
    lastSplit c (a ++ c :: p) = some (a, p) := by
  induction a with
  | nil => simp [lastSplit, lastSplit_none c p h]
  | cons x xs ih => simp [lastSplit, ih]

theorem firstSplit_append (c : UInt8) (a r : List UInt8) (h : c ∉ a) :
    firstSplit c (a ++ c :: r) = some (a, r) := by
  induction a with
  | nil => simp [firstSplit]
  | cons x xs ih =>
    simp only [List.mem_cons, not_or] at h
    simp [firstSplit, ih h.2, Ne.symm h.1]

theorem firstSplit_bracket (hst r : List UInt8) (h3 : rbr ∉ hst) :
    firstSplit rbr (lbr :: (hst ++ rbr :: r)) = some (lbr :: hst, r) := by
  simpa using firstSplit_append rbr (lbr :: hst) r (by simp [rbr_ne_lbr, h3])

theorem split_plain (hst p : List UInt8) (h1 : colon ∉ hst) (h2 : lbr ∉ hst) (h3 : rbr ∉ hst)
    (p1 : colon ∉ p) (p2 : lbr ∉ p) (p3 : rbr ∉ p) :
    splitHostPort (hst ++ colon :: p) = .ok (hst, p) := by
  unfold splitHostPort
  rw [lastSplit_append colon hst p p1]
  have hh : (hst ++ colon :: p).head? ≠ some lbr := by
    cases hst with
    | nil => simp; decide
    | cons x xs => simp only [List.mem_cons, not_or] at h2; simp [Ne.symm h2.1]
  simp only [hh, if_false]
  simp [h1, h2, h3, p2, p3, lbr_ne_colon, rbr_ne_colon]

theorem split_bracket (hst p : List UInt8) (h2 : lbr ∉ hst) (h3 : rbr ∉ hst)
    (p1 : colon ∉ p) (p2 : lbr ∉ p) (p3 : rbr ∉ p) :
    splitHostPort (lbr :: (hst ++ rbr :: colon :: p)) = .ok (hst, p) := by
  unfold splitHostPort
  have e : lbr :: (hst ++ rbr :: colon :: p) = (lbr :: hst ++ [rbr]) ++ colon :: p := by simp
  rw [e, lastSplit_append colon _ p p1, ← e]
  simp [firstSplit_bracket _ _ h3, h2, p2, p3, lbr_ne_colon, rbr_ne_colon, rbr_ne_lbr.symm]

theorem split_bracket_noport (hst : List UInt8) (h3 : rbr ∉ hst) :
    ∃ e, splitHostPort (lbr :: (hst ++ [rbr])) = .error e := by
  unfold splitHostPort
  cases hl : lastSplit colon (lbr :: (hst ++ [rbr])) with
  | none => exact ⟨_, rfl⟩
  | some pp =>
    obtain ⟨pre, port⟩ := pp
    simp [firstSplit_bracket _ _ h3]

theorem split_nocolon (t : List UInt8) (h : colon ∉ t) : splitHostPort t = .error .missingPort := by
  unfold splitHostPort
  rw [lastSplit_none colon t h]

end GrpcProofs.Lemmas.Dns
