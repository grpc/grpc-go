import GrpcProofs.Lemmas.Loopy
import GrpcProofs.Lemmas.Basic
/-! Structural invariant `Wf` of the loopy writer's state (shared by C02 and C03). -/
namespace GrpcProofs.Loopy
open GrpcModel.Loopy Lemmas.Basic

def headIsTrailers : List Item → Prop
  | .trailers .. :: _ => True
  | _ => False

/-- `activeStreams` has no duplicates and holds exactly the established streams in state `active`; a stream is `empty` iff its item
queue is; a `waitingOnStreamQuota` stream has no stream quota left; the queue of an established stream is never headed by trailers,
which is what makes the unchecked `str.itl.peek().(*dataFrame)` in `processData` safe. -/
structure Wf (s : St) : Prop where
  keysNodup : s.keys.Nodup
  actNodup : s.active.Nodup
  actKeys : ∀ id ∈ s.active, id ∈ s.keys ∧ (s.str id).state = .active
  actAll : ∀ id ∈ s.keys, (s.str id).state = .active → id ∈ s.active
  emptyIff : ∀ id ∈ s.keys, ((s.str id).state = .empty ↔ (s.str id).items = [])
  waitQuota : ∀ id ∈ s.keys, (s.str id).state = .waiting → s.quota id ≤ 0
  headData : ∀ id ∈ s.keys, ¬ headIsTrailers (s.str id).items

theorem wf_init (side : Side) : Wf (init side) := by
  refine ⟨?_, ?_, ?_, ?_, ?_, ?_, ?_⟩ <;> simp [init]

theorem headIsTrailers_append {l : List Item} (hl : l ≠ []) (x : Item) : headIsTrailers (l ++ [x]) ↔ headIsTrailers l := by
  cases l with
  | nil => exact absurd rfl hl
  | cons a t => cases a <;> simp [headIsTrailers]

/-- What `Wf` asks of one established stream, given whether it is on the active list. -/
structure StrOk (oiws : Nat) (onList : Prop) (x : OutStream) : Prop where
  act : x.state = .active ↔ onList
  emptyIff : x.state = .empty ↔ x.items = []
  waitQuota : x.state = .waiting → (oiws : Int) - x.bytesOut ≤ 0
  headData : ¬ headIsTrailers x.items

variable {s t : St} {id : Nat}

theorem Wf.strOk (h : Wf s) (hk : id ∈ s.keys) : StrOk s.oiws (id ∈ s.active) (s.str id) :=
  ⟨⟨h.actAll id hk, fun hi => (h.actKeys id hi).2⟩, h.emptyIff id hk, h.waitQuota id hk, h.headData id hk⟩

theorem Wf.of_strOk (hk : s.keys.Nodup) (ha : s.active.Nodup) (hsub : ∀ i ∈ s.active, i ∈ s.keys)
    (hs : ∀ i ∈ s.keys, StrOk s.oiws (i ∈ s.active) (s.str i)) : Wf s :=
  ⟨hk, ha, fun i hi => ⟨hsub i hi, (hs i (hsub i hi)).act.mpr hi⟩, fun i hi => (hs i hi).act.mp,
    fun i hi => (hs i hi).emptyIff, fun i hi => (hs i hi).waitQuota, fun i hi => (hs i hi).headData⟩

theorem Wf.update (h : Wf s) (id : Nat) (hk : t.keys.Nodup) (ha : t.active.Nodup) (ho : t.oiws = s.oiws)
    (hne : ∀ i, i ≠ id → t.str i = s.str i ∧ (i ∈ t.keys ↔ i ∈ s.keys) ∧ (i ∈ t.active ↔ i ∈ s.active))
    (hsub : id ∈ t.active → id ∈ t.keys) (hid : id ∈ t.keys → StrOk s.oiws (id ∈ t.active) (t.str id)) : Wf t := by
  refine .of_strOk hk ha (fun i hi => ?_) (fun i hi => ?_)
  · by_cases e : i = id
    · exact e ▸ hsub (e ▸ hi)
    · exact (hne i e).2.1.mpr (h.actKeys i ((hne i e).2.2.mp hi)).1
  · by_cases e : i = id
    · subst e; exact ho ▸ hid hi
    · obtain ⟨hs, hkeys, hact⟩ := hne i e
      rw [hs, ho, propext hact]
      exact h.strOk (hkeys.mp hi)

theorem Wf.congr (h : Wf s) (hk : t.keys = s.keys := by rfl) (ha : t.active = s.active := by rfl) (hs : t.str = s.str := by rfl)
    (ho : t.oiws = s.oiws := by rfl) : Wf t :=
  .of_strOk (hk ▸ h.keysNodup) (ha ▸ h.actNodup) (fun i hi => hk ▸ (h.actKeys i (ha ▸ hi)).1)
    fun i hi => by rw [hs, ha, ho]; exact h.strOk (hk ▸ hi)

theorem Wf.items_ne_nil (h : Wf s) (hk : id ∈ s.keys) (hne : (s.str id).state ≠ .empty) :
    (s.str id).items ≠ [] := fun e => hne ((h.emptyIff id hk).mpr e)

theorem Wf.without (h : Wf s) (hs : ∀ i, i ≠ id → t.str i = s.str i) (hk : t.keys = s.keys.filter (· ≠ id))
    (ha : t.active = s.active.filter (· ≠ id)) (ho : t.oiws = s.oiws := by rfl) : Wf t :=
  h.update id (hk ▸ h.keysNodup.filter _) (ha ▸ h.actNodup.filter _) ho
    (fun i hi => ⟨hs i hi, by simp [hk, hi], by simp [ha, hi]⟩) (by simp [ha]) (by simp [hk])

theorem removeStream_wf (h : Wf s) (id : Nat) : Wf (removeStream s id) := by
  rw [removeStream_eq fun hi => (h.actKeys id hi).1]
  exact h.without (fun _ _ => rfl) rfl rfl

theorem newStream_wf (h : Wf s) (hk : id ∉ s.keys) : Wf ({ s with keys := s.keys ++ [id] }.setStr id {}) :=
  have hna : id ∉ s.active := fun hi => hk (h.actKeys id hi).1
  h.update id (nodup_snoc h.keysNodup hk) h.actNodup rfl
    (fun i hi => ⟨setStr_str_ne _ _ hi, by simp [hi], .rfl⟩) (fun hi => absurd hi hna)
    (fun _ => by rw [setStr_str_same]; exact { act := by simp [hna], emptyIff := by simp, waitQuota := nofun, headData := nofun })

theorem Wf.setStr (h : Wf s) (hk : id ∈ s.keys) {x : OutStream} (ok : StrOk s.oiws (id ∈ s.active) x) : Wf (s.setStr id x) :=
  h.update id h.keysNodup h.actNodup rfl (fun i hi => ⟨setStr_str_ne _ _ hi, .rfl, .rfl⟩) (fun _ => hk)
    fun _ => by rw [setStr_str_same]; exact ok

theorem Wf.activate (h : Wf s) (hk : id ∈ s.keys) (hst : (s.str id).state ≠ .active) {x : OutStream}
    (ok : StrOk s.oiws True x) : Wf { s.setStr id x with active := s.active ++ [id] } :=
  have hna : id ∉ s.active := fun hi => hst (h.actKeys id hi).2
  h.update id h.keysNodup (nodup_snoc h.actNodup hna) rfl (fun i hi => ⟨setStr_str_ne _ _ hi, .rfl, by simp [hi]⟩)
    (fun _ => hk) fun _ => by rw [setStr_str_same]; exact
        { act := by simp [ok.act]
          emptyIff := ok.emptyIff
          waitQuota := ok.waitQuota
          headData := ok.headData }

theorem StrOk.enqueue {o : Nat} {l : Prop} {x x' : OutStream} (ok : StrOk o l x) (hne : x.state ≠ .empty) (it : Item)
    (hs : x'.state = x.state) (hb : x'.bytesOut = x.bytesOut) (hi : x'.items = x.items ++ [it]) : StrOk o l x' :=
  have hnil : x.items ≠ [] := fun e => hne (ok.emptyIff.mpr e)
  { act := hs ▸ ok.act
    emptyIff := by rw [hs, hi]; simp [hne]
    waitQuota := hs ▸ hb ▸ ok.waitQuota
    headData := by rw [hi, headIsTrailers_append hnil]; exact ok.headData }

theorem settings_wf {order : List Nat} {ss : List (Nat × Nat)} (hd : Settings order s ss t) : Wf s → Wf t := by
  induction hd with
  | done => exact id
  | other _ _ ih => exact ih
  | lower _ _ ih =>
    refine fun h => ih { h with waitQuota := fun i hi hs => ?_ }
    have := h.waitQuota i hi hs
    simp only [St.quota] at this ⊢
    omega
  | @raise s _ _ _ _ _ ih =>
    refine fun h => ih (.of_strOk h.keysNodup ?_ (fun i hi => ?_) (fun i hi => ?_))
    · refine List.nodup_append.mpr ⟨h.actNodup, (wakeOrder_perm s order).nodup_iff.mpr (h.keysNodup.filter _), ?_⟩
      rintro a ha _ hb rfl
      have := (mem_wakeOrder.mp hb).2
      rw [(h.actKeys a ha).2] at this; cases this
    · rcases List.mem_append.mp hi with hi | hi
      · exact (h.actKeys i hi).1
      · exact (mem_wakeOrder.mp hi).1
    · have ok := h.strOk hi
      dsimp only
      rw [List.mem_append, mem_wakeOrder]
      split
      · rename_i hw
        have hne : (s.str i).items ≠ [] := fun e => by have := ok.emptyIff.mpr e; rw [hw] at this; cases this
        exact { act := by simp [hi, hw], emptyIff := by simp [hne], waitQuota := nofun, headData := ok.headData }
      · rename_i hw
        exact { act := by simp [hw, ok.act], emptyIff := ok.emptyIff, waitQuota := fun e => absurd e hw, headData := ok.headData }

/-- No lost wake-up: an established stream with something queued and stream quota left is on the active list. -/
theorem Wf.active_of_quota (h : Wf s) (hk : id ∈ s.keys) (hne : (s.str id).items ≠ []) (hq : 0 < s.quota id) : id ∈ s.active := by
  have hne' : (s.str id).state ≠ .empty := fun e => hne ((h.emptyIff id hk).mp e)
  have hnw : (s.str id).state ≠ .waiting := fun e => absurd (h.waitQuota id hk e) (Int.not_le.mpr hq)
  apply h.actAll id hk
  cases hst : (s.str id).state <;> simp_all

theorem Wf.head_item (h : Wf s) (hi : id ∈ s.active) : ∃ off hl d es tl, (s.str id).items = .data off hl d es :: tl := by
  obtain ⟨hk, ha⟩ := h.actKeys id hi
  have hhd := h.headData id hk
  cases hit : (s.str id).items with
  | nil => exact absurd hit (h.items_ne_nil hk (by rw [ha]; decide))
  | cons a t =>
    cases a with
    | data off hl d es => exact ⟨off, hl, d, es, t, rfl⟩
    | trailers r c => rw [hit] at hhd; exact absurd trivial hhd

/-- What `Wf` says of the head `id` of the active list `id :: rest`. -/
structure Wf.Head (s : St) (id : Nat) (rest : List Nat) : Prop where
  keys : id ∈ s.keys
  active : (s.str id).state = .active
  notMem : id ∉ rest
  nodup : rest.Nodup

theorem Wf.head (h : Wf s) {rest : List Nat} (hact : s.active = id :: rest) : Wf.Head s id rest :=
  have hn := List.nodup_cons.mp (hact ▸ h.actNodup)
  have hk := h.actKeys id (hact ▸ List.mem_cons_self)
  ⟨hk.1, hk.2, hn.1, hn.2⟩

theorem Wf.not_panic (h : Wf s) {rest : List Nat} (hact : s.active = id :: rest)
    (hit : ∀ off hl d es tl, (s.str id).items ≠ .data off hl d es :: tl) : False := by
  obtain ⟨_, _, _, _, _, e⟩ := h.head_item (hact ▸ List.mem_cons_self)
  exact hit _ _ _ _ _ e

theorem Wf.park_head (h : Wf s) {rest : List Nat} (hact : s.active = id :: rest) (hs : ∀ i, i ≠ id → t.str i = s.str i)
    (ok : StrOk s.oiws False (t.str id)) (hk : t.keys = s.keys := by rfl) (ha : t.active = rest := by rfl)
    (ho : t.oiws = s.oiws := by rfl) : Wf t :=
  have hd := h.head hact
  h.update id (hk ▸ h.keysNodup) (ha ▸ hd.nodup) ho (fun i hi => ⟨hs i hi, by rw [hk], by simp [ha, hact, hi]⟩)
    (fun hi => absurd (ha ▸ hi) hd.notMem) fun _ => { ok with act := by simp [ok.act, ha, hd.notMem] }

theorem afterWrite_wf {hb : Nat} {pre : List Out} {r : Res} {rest : List Nat} (hw : AfterWrite t id hb pre r) (h : Wf s)
    (hact : s.active = id :: rest) (hs : ∀ i, i ≠ id → t.str i = s.str i) (hst : (t.str id).state = .active)
    (hk : t.keys = s.keys := by rfl) (ha : t.active = rest := by rfl) (ho : t.oiws = s.oiws := by rfl) : Wf r.st := by
  have hd := h.head hact
  have hoff : ∀ x : OutStream, StrOk s.oiws False x → Wf (t.setStr id x) := fun x ok =>
    h.park_head hact (fun i hi => by rw [setStr_str_ne _ _ hi, hs i hi]) (by rw [setStr_str_same]; exact ok) hk ha ho
  cases hw with
  | drained hnil => exact hoff _ { act := by simp, emptyIff := by simp [hnil], waitQuota := nofun, headData := by simp [hnil, headIsTrailers] }
  | trailers =>
    rw [removeStream_eq fun _ => hk ▸ hd.keys]
    exact h.without hs (congrArg _ hk) (by simp [ha, hact]) ho
  | waiting hit hq =>
    exact hoff _ { act := by simp, emptyIff := by simp [hit], waitQuota := fun _ => ho ▸ hq, headData := by simp [hit, headIsTrailers] }
  | again hit =>
    exact h.update id (hk ▸ h.keysNodup) (nodup_snoc (ha ▸ hd.nodup) (ha ▸ hd.notMem)) ho
      (fun i hi => ⟨hs i hi, by rw [hk], by simp [ha, hact, hi]⟩) (fun _ => hk ▸ hd.keys)
      fun _ =>
        { act := by simp [hst]
          emptyIff := by simp [hst, hit]
          waitQuota := by simp [hst]
          headData := by simp [hit, headIsTrailers] }

/-- Under `Wf` the row `panic` is never taken. -/
theorem does_wf {o : Op} {r : Res} (h : Wf s) (hd : Does s o r) : Wf r.st := by
  cases hd with
  | creditConn | incomingGoAway | goAway => exact h.congr
  | creditWake _ hk hc =>
    have ok := h.strOk hk
    exact h.activate hk (by rw [hc.2]; nofun)
      { act := by simp, emptyIff := by simpa [hc.2] using ok.emptyIff, waitQuota := nofun, headData := ok.headData }
  | @credit id inc _ hk hc =>
    have ok := h.strOk hk
    refine h.setStr hk { act := ok.act, emptyIff := ok.emptyIff, waitQuota := fun hw => ?_, headData := ok.headData }
    have hw' : (s.str id).state = .waiting := hw
    have := ok.waitQuota hw'
    simp only [hw', and_true] at hc
    dsimp only; omega
  | settings hss => exact settings_wf hss h
  | register hk | clientOpen hk => exact newStream_wf h hk
  | trailersQueued hk hne | dataQueued hk hne => exact h.setStr hk ((h.strOk hk).enqueue hne _ rfl rfl rfl)
  | trailersNow | cleanup => exact removeStream_wf h _
  | dataFirst hk he =>
    exact h.activate hk (by rw [he]; nofun)
      { act := by simp, emptyIff := by simp, waitQuota := nofun, headData := by simp [(h.strOk hk).emptyIff.mp he, headIsTrailers] }
  | panic _ hact hit => exact (h.not_panic hact hit).elim
  | park _ hact hit hc =>
    exact h.park_head hact (fun i hi => setStr_str_ne _ _ hi) <| by
      rw [setStr_str_same]
      exact { act := by simp, emptyIff := by simp [hit], waitQuota := fun _ => hc.1, headData := by simp [hit, headIsTrailers] }
  | write hs hw =>
    exact afterWrite_wf hw h hs.active (fun i hi => wrote_str_ne hi)
      (by rw [wrote, setStr_str_same]; exact (h.head hs.active).active)
  | _ => exact h

theorem steps_wf {o : Op} {r : Res} (hd : Steps s o r) (h : Wf s) : Wf r.st := by
  cases hd with
  | closed | outside => exact h
  | does _ _ hd => exact (does_wf h hd).congr

theorem step_wf (h : Wf s) (o : Op) : Wf (step s o).st := steps_wf (step_steps s o) h

theorem runFrom_wf (h : Wf s) (ops : List Op) : Wf (runFrom s ops).1 := by
  induction ops generalizing s with
  | nil => exact h
  | cons o os ih => exact ih (step_wf h o)

theorem wf_reachable (side : Side) (ops : List Op) : Wf (final side ops) := runFrom_wf (wf_init side) ops

end GrpcProofs.Loopy
