import GrpcModel.Model.RecvBuffer
import GrpcProofs.Lemmas.Basic
/-! C05: the receive buffer against the FIFO monitor `Spec`. `sim_step` keeps `Inv` and the simulation `Sim` (the monitor's queue is
`absQ` of `front s`) `Move` by `Move`; `check_trace`/`checkAll_trace` say what the monitor's acceptance means for ANY trace;
`run_summary` puts the two together for the runs from `init`. -/
namespace GrpcProofs.Lemmas.RecvBuffer
open GrpcModel.RecvBuffer GrpcModel.Generated

def bytesOf (q : List Msg) : Bytes := q.flatMap Msg.bytes

def AllData (q : List Msg) : Prop := ∀ m ∈ q, m.isData = true

/-- The compaction ledger is exact: the last `sufLen` backlog entries are data messages whose payload sizes add up to `sufBytes`. -/
def Ledger (b : RB) : Prop :=
  ∃ pre suf, b.backlog = pre ++ suf ∧ suf.length = b.sufLen ∧ AllData suf
    ∧ b.sufBytes = ((bytesOf suf).length : Int) ∧ (b.compaction = false → b.sufLen = 0)

theorem bytesOf_append (a b : List Msg) : bytesOf (a ++ b) = bytesOf a ++ bytesOf b := by
  simp [bytesOf]

theorem bytesOf_nil : bytesOf [] = [] := rfl

theorem bytesOf_cons (m : Msg) (t : List Msg) : bytesOf (m :: t) = m.bytes ++ bytesOf t := by
  simp [bytesOf]

theorem allData_nil : AllData [] := by intro m h; cases h

theorem allData_append {a b : List Msg} (ha : AllData a) (hb : AllData b) : AllData (a ++ b) := by
  intro m h
  rcases List.mem_append.mp h with h | h
  · exact ha m h
  · exact hb m h

theorem allData_single (d : Bytes) : AllData [Msg.data d] := by
  intro m hm; simp at hm; subst hm; rfl

theorem fillBuf_exact (cat : Bytes) : fillBuf cat cat.length = cat := by
  simp [fillBuf]

theorem ledger_of_zero (b : RB) (h0 : b.sufLen = 0) (hb : b.sufBytes = 0) : Ledger b :=
  ⟨b.backlog, [], (List.append_nil _).symm, h0.symm, allData_nil, hb, fun _ => h0⟩

theorem ledger_off {b : RB} (h : Ledger b) (hc : b.compaction = false) :
    b.sufLen = 0 ∧ b.sufBytes = 0 := by
  obtain ⟨pre, suf, _, hlen, _, hbytes, hoff⟩ := h
  have h0 := hoff hc
  obtain rfl : suf = [] := List.eq_nil_of_length_eq_zero (hlen.trans h0)
  exact ⟨h0, hbytes⟩

theorem compact_frame (b : RB) (r : Msg) :
    (compactBacklog b r).chan = b.chan ∧ (compactBacklog b r).err = b.err
    ∧ (compactBacklog b r).compaction = b.compaction := by
  -- every branch of `compactBacklog` returns `b` with other `backlog`, `sufLen`, `sufBytes` at most
  simp only [compactBacklog]
  repeat' split
  all_goals exact ⟨rfl, rfl, rfl⟩

/-- `Merge q q'`: the queue `q'` is `q`, or `q` with a non-empty block of data messages replaced by the
    one message that carries their bytes. Compaction is seen only through this relation. -/
inductive Merge : List Msg → List Msg → Prop
  | refl (q : List Msg) : Merge q q
  | block (pre suf : List Msg) (hd : AllData suf) (hne : suf ≠ []) :
      Merge (pre ++ suf) (pre ++ [.data (bytesOf suf)])

theorem merge_append_left (x : List Msg) {q q' : List Msg} (h : Merge q q') : Merge (x ++ q) (x ++ q') := by
  cases h with
  | refl => exact .refl _
  | block pre suf hd hne => simpa only [List.append_assoc] using Merge.block (x ++ pre) suf hd hne

theorem merge_bytesOf {q q' : List Msg} (h : Merge q q') : bytesOf q' = bytesOf q := by
  cases h with
  | refl => rfl
  | block pre suf hd hne => simp [bytesOf_append, bytesOf_cons, bytesOf_nil, Msg.bytes]

/-- `compactBacklogLocked` after the append of `r` to a backlog with an exact ledger: `fillBuf` neither truncates nor
    leaves pool bytes. -/
theorem compact_spec (b : RB) (bl : List Msg) (r : Msg) (h : Ledger { b with backlog := bl }) :
    Ledger (compactBacklog { b with backlog := bl ++ [r] } r)
    ∧ Merge (bl ++ [r]) (compactBacklog { b with backlog := bl ++ [r] } r).backlog := by
  cases hc : b.compaction with
  | false =>
    obtain ⟨h0, hb⟩ := ledger_off h hc
    simp only [compactBacklog, Bool.not_false, ↓reduceIte]
    exact ⟨ledger_of_zero _ h0 hb, .refl _⟩
  | true =>
    cases r with
    | err e =>
      simp only [compactBacklog, Bool.not_true, Bool.false_eq_true, ↓reduceIte]
      exact ⟨ledger_of_zero _ rfl rfl, .refl _⟩
    | data d =>
      obtain ⟨pre, suf, hbl, hlen, hdata, hbytes, _⟩ := h
      simp only at hbl hlen hbytes
      have hsuf : AllData (suf ++ [.data d]) := allData_append hdata (allData_single d)
      have hsplit : bl ++ [Msg.data d] = pre ++ (suf ++ [.data d]) := by rw [hbl, List.append_assoc]
      have hn : b.sufBytes + (d.length : Int) = ((bytesOf (suf ++ [.data d])).length : Int) := by
        simp [bytesOf_append, bytesOf_cons, bytesOf_nil, Msg.bytes, hbytes]
      simp only [compactBacklog, Bool.not_true, Bool.false_eq_true, ↓reduceIte]
      split
      · exact ⟨ledger_of_zero _ rfl rfl, .refl _⟩
      · split
        · exact ⟨⟨pre, suf ++ [.data d], hsplit, by rw [List.length_append, hlen]; rfl, hsuf, hn,
            fun h => Bool.noConfusion h⟩, .refl _⟩
        · -- the compaction branch: the new buffer has exactly the size of the suffix payloads
          have hsl : (bl ++ [Msg.data d]).length - (b.sufLen + 1) = pre.length := by
            simp [hbl, ← hlen]
          have hcat : (suf ++ [Msg.data d]).flatMap Msg.bytes = bytesOf (suf ++ [.data d]) := rfl
          rw [hsl, hsplit, List.drop_left, List.take_left, hn, Int.toNat_natCast, hcat, fillBuf_exact]
          exact ⟨ledger_of_zero _ rfl rfl, .block pre _ hsuf (by simp)⟩

theorem compact_err_spec (b : RB) (bl : List Msg) (e : Nat) (h : Ledger { b with backlog := bl }) :
    Ledger (compactBacklog { b with backlog := bl ++ [.err e] } (.err e))
    ∧ (compactBacklog { b with backlog := bl ++ [.err e] } (.err e)).backlog = bl ++ [.err e] :=
  ⟨(compact_spec b bl (.err e) h).1, by simp only [compactBacklog]; split <;> rfl⟩

theorem load_ledger (b : RB) (h : Ledger b) : Ledger (load b) := by
  obtain ⟨pre, suf, hbl, hlen, hdata, hbytes, hoff⟩ := h
  unfold load
  split
  · rename_i m rest hb hch
    rw [hb] at hbl
    cases pre with
    | nil =>
      -- the whole backlog is the suffix, so the head leaves the ledger (compaction is on: `suf ≠ []`)
      obtain rfl : m :: rest = suf := hbl
      have hc : b.compaction = true := by
        cases hc : b.compaction with
        | true => rfl
        | false => have := hoff hc; rw [← hlen] at this; cases this
      have hsl : (b.sufLen == b.backlog.length) = true := by rw [hb, ← hlen]; exact beq_self_eq_true _
      simp only [hc, hsl, Bool.and_self, ↓reduceIte]
      refine ⟨[], rest, rfl, ?_, fun x hx => hdata x (List.mem_cons_of_mem _ hx), ?_, fun h => nomatch h⟩
      · simp at hlen ⊢; omega
      · simp [bytesOf_cons, Msg.len] at hbytes ⊢; omega
    | cons a t =>
      obtain ⟨rfl, hrest⟩ := List.cons.inj hbl
      have hsl : (b.sufLen == b.backlog.length) = false := by
        rw [hb, hrest, ← hlen]; simp; omega
      simp only [hsl, Bool.and_false, Bool.false_eq_true, ↓reduceIte]
      exact ⟨t, suf, hrest, hlen, hdata, hbytes, hoff⟩
  · exact ⟨pre, suf, hbl, hlen, hdata, hbytes, hoff⟩

theorem load_queue (b : RB) :
    (load b).chan.toList ++ (load b).backlog = b.chan.toList ++ b.backlog
    ∧ (load b).err = b.err ∧ (load b).compaction = b.compaction
    ∧ ((load b).chan = none → (load b).backlog = []) := by
  fun_cases load b
  -- a message moves from the backlog to the empty channel; `b'` is `b` with the ledger adjusted
  case case1 m rest hch hb b' =>
    exact ⟨by simp [hb, hch], by unfold b'; split <;> rfl, by unfold b'; split <;> rfl, nofun⟩
  case case2 hno =>
    refine ⟨rfl, rfl, rfl, fun hch => ?_⟩
    cases hb : b.backlog with
    | nil => rfl
    | cons m rest => exact (hno m rest hb hch).elim

theorem load_err (b : RB) : (load b).err = b.err := (load_queue b).2.1
theorem load_compaction (b : RB) : (load b).compaction = b.compaction := (load_queue b).2.2.1

/-- data bytes in front of the first error message, and that error -/
def absQ : List Msg → Bytes × Option Nat
  | [] => ([], none)
  | .data b :: t => (b ++ (absQ t).1, (absQ t).2)
  | .err e :: _ => ([], some e)

def emptiesIn (q : List Msg) : Nat := q.count (.data [])

theorem absQ_append (x y : List Msg) :
    absQ (x ++ y) = if (absQ x).2.isSome then absQ x else ((absQ x).1 ++ (absQ y).1, (absQ y).2) := by
  induction x with
  | nil => simp [absQ]
  | cons m t ih =>
    cases m with
    | data b => simp only [List.cons_append, absQ, ih]; by_cases h : (absQ t).2.isSome <;> simp [h]
    | err e => simp [absQ]

theorem absQ_single (r : Msg) : absQ [r] = (r.bytes, r.errOf) := by
  cases r <;> simp [absQ, Msg.bytes, Msg.errOf]

theorem absQ_allData {suf : List Msg} (h : AllData suf) : absQ suf = (bytesOf suf, none) := by
  induction suf with
  | nil => rfl
  | cons m t ih =>
    have hm := h m (by simp)
    cases m with
    | data b => simp [absQ, bytesOf_cons, Msg.bytes, ih fun y hy => h y (List.mem_cons_of_mem _ hy)]
    | err e => simp [Msg.isData] at hm

theorem emptiesIn_block {suf : List Msg} (h : AllData suf) (hne : suf ≠ []) :
    emptiesIn [.data (bytesOf suf)] ≤ emptiesIn suf := by
  cases hb : bytesOf suf with
  | cons a t => simp [emptiesIn]
  | nil =>
    -- all payloads are empty, so every message of `suf` counts
    cases suf with
    | nil => exact absurd rfl hne
    | cons m t =>
      have hm := h m (by simp)
      cases m with
      | err e => simp [Msg.isData] at hm
      | data b =>
        simp only [bytesOf_cons, Msg.bytes, List.append_eq_nil_iff] at hb
        simp [emptiesIn, hb.1]

theorem merge_absQ {q q' : List Msg} (h : Merge q q') : absQ q' = absQ q := by
  cases h with
  | refl => rfl
  | block pre suf hd hne => rw [absQ_append, absQ_append pre suf, absQ_single, absQ_allData hd]; rfl

theorem merge_empties {q q' : List Msg} (h : Merge q q') : emptiesIn q' ≤ emptiesIn q := by
  cases h with
  | refl => exact Nat.le_refl _
  | block pre suf hd hne =>
    have := emptiesIn_block hd hne
    simp only [emptiesIn, List.count_append] at this ⊢
    omega

/-- the queue of messages not yet seen by the reader logic, oldest first -/
def qOf (s : State) : List Msg := s.held.toList ++ (s.rb.chan.toList ++ s.rb.backlog)

/-- everything the reader has yet to deliver, oldest first: what is left of the message it is reading
    (`last`, a data message like any other), then the queue -/
def front (s : State) : List Msg := (s.rd.last.map Msg.data).toList ++ qOf s

/-- Simulation relation between (the relevant parts of) a state and the FIFO specification. -/
structure SimOn (rerr berr : Option Nat) (q : List Msg) (sp : Spec) : Prop where
  perr : sp.perr = berr
  done : sp.done = rerr
  live : rerr = none → sp.queue = (absQ q).1 ∧ (absQ q).2 = berr ∧ emptiesIn q ≤ sp.empties

def Sim (s : State) (sp : Spec) : Prop := SimOn s.rd.err s.rb.err (front s) sp

theorem Sim.on {s : State} {sp : Spec} (h : Sim s sp) {rerr : Option Nat} {q : List Msg}
    (he : s.rd.err = rerr) (hq : front s = q) : SimOn rerr s.rb.err q sp := he ▸ hq ▸ h

theorem Sim.of {s : State} {sp : Spec} {rerr berr : Option Nat} {q : List Msg} (h : SimOn rerr berr q sp)
    (he : s.rd.err = rerr) (hb : s.rb.err = berr) (hq : front s = q) : Sim s sp := by
  subst he hb hq
  exact h

theorem absQ_rest (rest : Option Bytes) (q : List Msg) (hne : ∀ r, rest = some r → r ≠ []) :
    absQ ((rest.map Msg.data).toList ++ q) = (rest.getD [] ++ (absQ q).1, (absQ q).2)
    ∧ emptiesIn ((rest.map Msg.data).toList ++ q) = emptiesIn q := by
  cases rest with
  | none => exact ⟨rfl, rfl⟩
  | some r =>
    refine ⟨rfl, ?_⟩
    cases r with
    | nil => exact absurd rfl (hne _ rfl)
    | cons a t => simp [emptiesIn]

/-- What holds of every reachable state besides the simulation: the compaction ledger is exact, the channel slot is filled before
the backlog, the reader's remainder `last` is never empty, and a message is held (between `rbegin` and `fin`) only by an idle reader. -/
structure Inv (s : State) : Prop where
  ledger : Ledger s.rb
  chanFull : s.held = none → s.rb.chan = none → s.rb.backlog = []
  lastNe : ∀ l, s.rd.last = some l → l ≠ []
  heldOk : s.held.isSome → s.rd.last = none ∧ s.rd.err = none

theorem put_open (b : RB) (r : Msg) (hl : Ledger b) (he : b.err = none) :
    Ledger (put b r)
    ∧ Merge (b.chan.toList ++ b.backlog ++ [r]) ((put b r).chan.toList ++ (put b r).backlog)
    ∧ (put b r).err = r.errOf
    ∧ ((put b r).chan = none → b.chan = none ∧ b.backlog ≠ []) := by
  unfold put
  simp only [he, Option.isSome_none, Bool.false_eq_true, ↓reduceIte]
  by_cases hdirect : (b.backlog.isEmpty && b.chan.isNone) = true
  · simp only [hdirect, ↓reduceIte]
    simp only [Bool.and_eq_true, List.isEmpty_iff, Option.isNone_iff_eq_none] at hdirect
    exact ⟨hl, by simpa [hdirect.1, hdirect.2] using Merge.refl [r], trivial, nofun⟩
  · simp only [hdirect, Bool.false_eq_true, ↓reduceIte]
    have hch : b.chan = none → b.backlog ≠ [] := fun hc hb => hdirect (by simp [hc, hb])
    obtain ⟨f1, f2, _⟩ := compact_frame { b with err := r.errOf, backlog := b.backlog ++ [r] } r
    obtain ⟨h1, h2⟩ := compact_spec { b with err := r.errOf } b.backlog r hl
    refine ⟨h1, ?_, f2, fun hc => ⟨f1 ▸ hc, hch (f1 ▸ hc)⟩⟩
    rw [f1, List.append_assoc]
    exact merge_append_left _ h2

theorem put_closed (b : RB) (r : Msg) (he : b.err.isSome) : put b r = b := by
  unfold put; simp [he]

/-- How a reader call splits the bytes `l` it looks at (its `last`, or the payload of the message it
    received) into what it returns (`out`) and what it keeps in `last` (`rest`). -/
structure SplitOK (n : Nat) (l out : Bytes) (rest : Option Bytes) : Prop where
  cat : out ++ rest.getD [] = l
  le : out.length ≤ n
  restNe : ∀ r, rest = some r → r ≠ []
  prog : out = [] → n = 0 ∨ l = []

theorem splitOK_take {n : Nat} {l : Bytes} (h : l.length > n) : SplitOK n l (l.take n) (some (l.drop n)) := by
  refine ⟨by simp, by simp; omega, ?_, ?_⟩
  · intro r hr; simp at hr; subst hr; simp; omega
  · intro ho; simp at ho; exact ho

theorem splitOK_all {n : Nat} {l : Bytes} (h : l.length ≤ n) : SplitOK n l l none :=
  ⟨by simp, h, nofun, Or.inr⟩

theorem split_hdr (k : Nat) (l : Bytes) : SplitOK k l (readUnsafe k l).1 (readUnsafe k l).2 := by
  unfold readUnsafe
  by_cases h : l.length > k
  · have : min k l.length = k := by omega
    simpa [this, Nat.ne_of_lt h] using splitOK_take h
  · have : min k l.length = l.length := by omega
    simpa [this] using splitOK_all (Nat.le_of_not_gt h)

theorem ite_error_eq_ok {ε α : Type} {c : Prop} [Decidable c] {m : ε} {b : Except ε α} {x : α} :
    (if c then .error m else b) = .ok x ↔ ¬c ∧ b = .ok x := by
  split <;> simp [*]

theorem ite_else_error_eq_ok {ε α : Type} {c : Prop} [Decidable c] {m : ε} {b : Except ε α} {x : α} :
    (if c then b else .error m) = .ok x ↔ c ∧ b = .ok x := by
  split <;> simp [*]

/-- `readCheck` as rules: the answers the monitor in state `sp` accepts to a request for at most `n` bytes, each with the
    state it goes to. -/
inductive Reads (sp : Spec) (n : Nat) : Out → Spec → Prop
  | data {b : Bytes} (hd : sp.done = none) (hn : b.length ≤ n) (hq : b <+: sp.queue) (hb : ¬(b = [] ∧ 0 < n)) :
      Reads sp n (.bytes b) { sp with queue := sp.queue.drop b.length }
  | empty (hd : sp.done = none) (hn : 0 < n) (he : sp.empties ≠ 0) :
      Reads sp n (.bytes []) { sp with empties := sp.empties - 1 }
  | fail {e : Nat} (hd : sp.done = none) (hq : sp.queue = []) (hp : sp.perr = some e) :
      Reads sp n (.err e) { sp with done := some e }
  | again {e : Nat} (hd : sp.done = some e) : Reads sp n (.err e) sp
  | blocked (hd : sp.done = none) (hq : sp.queue = []) (hp : sp.perr = none) : Reads sp n .blocked sp
  | busy : Reads sp n .busy sp
  | skip : Reads sp n .skip sp

theorem readCheck_iff {sp sp' : Spec} {n : Nat} {out : Out} : sp.readCheck n out = .ok sp' ↔ Reads sp n out sp' := by
  constructor
  · intro h
    cases out with
    | bytes b =>
      simp [Spec.readCheck, ite_error_eq_ok] at h
      obtain ⟨hd, hn, hq, h⟩ := h
      split at h
      · rename_i hb
        obtain ⟨he, h⟩ := ite_error_eq_ok.mp h
        cases h; obtain ⟨rfl, hn0⟩ := hb
        exact .empty hd hn0 he
      · cases h; exact .data hd hn hq ‹_›
    | err e =>
      cases hd : sp.done with
      | some e' =>
        simp [Spec.readCheck, hd, ite_else_error_eq_ok] at h
        obtain ⟨rfl, rfl⟩ := h
        exact .again hd
      | none =>
        simp [Spec.readCheck, hd, ite_else_error_eq_ok] at h
        obtain ⟨hq, hp, rfl⟩ := h
        exact .fail hd hq hp
    | blocked =>
      simp [Spec.readCheck, ite_error_eq_ok, ite_else_error_eq_ok] at h
      obtain ⟨hd, hq, hp, rfl⟩ := h
      exact .blocked hd hq hp
    | busy => cases h; exact .busy
    | skip => cases h; exact .skip
    | ok | took | panic => cases h
  · intro h
    cases h with
    | data hd hn hq hb => simp [Spec.readCheck, hd, Nat.not_lt.mpr hn, List.isPrefixOf_iff_prefix.mpr hq, hb]
    | empty hd hn he => simp [Spec.readCheck, hd, hn, he]
    | fail hd hq hp => simp [Spec.readCheck, hd, hq, hp]
    | again hd => simp [Spec.readCheck, hd]
    | blocked hd hq hp => simp [Spec.readCheck, hd, hq, hp]
    | busy | skip => rfl

theorem simOn_read_data (sp : Spec) (n : Nat) (d out : Bytes) (rest : Option Bytes)
    (berr : Option Nat) (q : List Msg) (hr : SimOn none berr (.data d :: q) sp)
    (hs : SplitOK n d out rest) :
    ∃ sp', sp.readCheck n (.bytes out) = .ok sp'
      ∧ SimOn none berr ((rest.map Msg.data).toList ++ q) sp' := by
  obtain ⟨hq, he, hem⟩ := hr.live rfl
  simp only [absQ] at hq he
  obtain ⟨e1, e2⟩ := absQ_rest rest q hs.restNe
  by_cases hb : out = [] ∧ 0 < n
  · -- an empty answer to a real request: `d` is an empty frame, counted in `sp.empties`, and uses one up
    obtain ⟨rfl, hn⟩ := hb
    obtain rfl : d = [] := (hs.prog rfl).resolve_left (Nat.ne_of_gt hn)
    have hr0 : rest.getD [] = [] := by simpa using hs.cat
    rw [emptiesIn, List.count_cons_self] at hem
    refine ⟨_, readCheck_iff.mpr (.empty hr.done hn (by omega)), { hr with live := fun _ => ?_ }⟩
    rw [e1, e2, hr0]
    exact ⟨hq, he, by simp only [emptiesIn]; omega⟩
  · have hpre : out <+: sp.queue := ⟨rest.getD [] ++ (absQ q).1, by rw [hq, ← hs.cat, List.append_assoc]⟩
    refine ⟨_, readCheck_iff.mpr (.data hr.done hs.le hpre hb), { hr with live := fun _ => ?_ }⟩
    rw [e1, e2]
    exact ⟨by simp [hq, ← hs.cat], he, Nat.le_trans List.count_le_count_cons hem⟩

theorem simOn_consume_err (sp : Spec) (n e : Nat) (berr : Option Nat) (q : List Msg)
    (hr : SimOn none berr (.err e :: q) sp) :
    ∃ sp', sp.readCheck n (.err e) = .ok sp' ∧ SimOn (some e) berr q sp' := by
  obtain ⟨hq, he, _⟩ := hr.live rfl
  exact ⟨_, readCheck_iff.mpr (.fail hr.done hq (hr.perr.trans he.symm)), { perr := hr.perr, done := rfl, live := nofun }⟩

theorem simOn_blocked (sp : Spec) (n : Nat) (berr : Option Nat)
    (hr : SimOn none berr [] sp) : sp.readCheck n .blocked = .ok sp := by
  obtain ⟨hq, he, _⟩ := hr.live rfl
  exact readCheck_iff.mpr (.blocked hr.done hq (hr.perr.trans he.symm))

theorem simOn_merge {rerr berr : Option Nat} {q q' : List Msg} {sp : Spec} (h : SimOn rerr berr q sp)
    (hm : Merge q q') : SimOn rerr berr q' sp :=
  { h with live := fun hre =>
      have ⟨a, b, c⟩ := h.live hre
      ⟨merge_absQ hm ▸ a, merge_absQ hm ▸ b, Nat.le_trans (merge_empties hm) c⟩ }

def putOp : Msg → Op
  | .data b => .putD b
  | .err e => .putE e

theorem simOn_put {rerr : Option Nat} {q : List Msg} {sp : Spec} (hr : SimOn rerr none q sp) (r : Msg) :
    ∃ sp', sp.check (putOp r) .ok = .ok sp' ∧ SimOn rerr r.errOf (q ++ [r]) sp' := by
  have hspn : sp.perr = none := hr.perr
  have key : ∀ sp' : Spec, sp'.queue = sp.queue ++ r.bytes → sp'.perr = r.errOf → sp'.done = sp.done →
      sp.empties + emptiesIn [r] ≤ sp'.empties → SimOn rerr r.errOf (q ++ [r]) sp' := by
    intro sp' h1 h2 h3 h4
    refine { perr := h2, done := h3.trans hr.done, live := fun hre => ?_ }
    obtain ⟨hq0, he, hem0⟩ := hr.live hre
    rw [absQ_append, he, absQ_single]
    refine ⟨by rw [h1, hq0]; rfl, rfl, ?_⟩
    have : emptiesIn (q ++ [r]) = emptiesIn q + emptiesIn [r] := List.count_append
    omega
  cases r with
  | data b =>
    exact ⟨{ sp with queue := sp.queue ++ b, empties := if b.isEmpty then sp.empties + 1 else sp.empties },
      by simp [putOp, Spec.check, hspn], key _ rfl hspn rfl (by cases b <;> simp [emptiesIn])⟩
  | err e =>
    exact ⟨{ sp with perr := some e }, by simp [putOp, Spec.check, hspn],
      key _ (List.append_nil _).symm rfl rfl (Nat.le_refl _)⟩

theorem sim_put (s : State) (sp : Spec) (r : Msg) (hi : Inv s) (hr : Sim s sp) :
    ∃ sp', sp.check (putOp r) .ok = .ok sp'
      ∧ Sim { s with rb := put s.rb r } sp' ∧ Inv { s with rb := put s.rb r } := by
  cases hbe : s.rb.err with
  | some e0 =>
    rw [put_closed _ _ (by simp [hbe])]
    have hsp : sp.perr.isSome = true := by rw [hr.perr, hbe]; rfl
    exact ⟨sp, by cases r <;> simp [putOp, Spec.check, hsp], hr, hi⟩
  | none =>
    obtain ⟨hled, hmerge, hperr, hchan⟩ := put_open s.rb r hi.ledger hbe
    -- the new front is the old one with `r` appended, merged at most
    have hfront : Merge (front s ++ [r]) (front { s with rb := put s.rb r }) := by
      have := merge_append_left ((s.rd.last.map Msg.data).toList ++ s.held.toList) hmerge
      simpa only [front, qOf, List.append_assoc] using this
    obtain ⟨sp', hc, hs⟩ := simOn_put (hbe ▸ hr : SimOn s.rd.err none (front s) sp) r
    exact ⟨sp', hc, Sim.of (simOn_merge hs hfront) rfl hperr rfl,
      { hi with ledger := hled, chanFull := fun hh hc => absurd (hi.chanFull hh (hchan hc).1) (hchan hc).2 }⟩

/-- What `readAdditional` and `readMessageHeaderAdditional` do with the received message `m` on a request
    for `n` bytes (a reachable reader has `last = none` when it receives). -/
inductive Consume (rd : Reader) (n : Nat) : Msg → Reader × Out → Prop
  | err (e : Nat) : Consume rd n (.err e) ({ rd with err := some e }, .err e)
  | data {d out : Bytes} {rd' : Reader}
      (hcut : rd.last = none → ∃ rest, rd' = { rd with last := rest } ∧ SplitOK n d out rest) :
      Consume rd n (.data d) (rd', .bytes out)

theorem consume_read (rd : Reader) (n : Nat) (m : Msg) : Consume rd n m (readAdditional rd m n) := by
  cases m with
  | err e => exact .err e
  | data d =>
    simp only [readAdditional]
    split
    · exact .data fun _ => ⟨_, rfl, splitOK_take ‹_›⟩
    · exact .data fun hl => ⟨none, by cases rd; cases hl; rfl, splitOK_all (Nat.le_of_not_gt ‹_›)⟩

theorem consume_hdr (rd : Reader) (n : Nat) (m : Msg) : Consume rd n m (readHeaderAdditional rd m n) := by
  cases m with
  | err e => exact .err e
  | data d => exact .data fun _ => ⟨_, rfl, split_hdr n d⟩

/-- The reader consumes message `m` (taken from the channel now, or held since `rbegin`) and `load`s
    the buffer `b` that holds the rest of the queue. -/
theorem sim_consume {s : State} {sp : Spec} {m : Msg} {n : Nat} {r : Reader × Out} (b : RB)
    (hm : Consume s.rd n m r) (hr : SimOn none s.rb.err (m :: (b.chan.toList ++ b.backlog)) sp)
    (hlast : s.rd.last = none) (herr : s.rd.err = none) (hbe : b.err = s.rb.err) (hled : Ledger b) :
    ∃ sp', sp.readCheck n r.2 = .ok sp'
      ∧ Sim { s with rb := load b, rd := r.1, held := none } sp'
      ∧ Inv { s with rb := load b, rd := r.1, held := none } := by
  obtain ⟨l1, l2, _, l4⟩ := load_queue b
  have hled' := load_ledger b hled
  cases hm with
  | err e =>
    obtain ⟨sp', h1, h2⟩ := simOn_consume_err sp n e s.rb.err _ hr
    exact ⟨sp', h1, Sim.of h2 rfl (l2.trans hbe) (by simp [front, qOf, hlast, l1]),
      { ledger := hled', chanFull := fun _ => l4, lastNe := fun l hl => absurd (hlast ▸ hl) nofun, heldOk := nofun }⟩
  | data hcut =>
    obtain ⟨rest, rfl, h2⟩ := hcut hlast
    obtain ⟨sp', c1, c2⟩ := simOn_read_data sp n _ _ rest s.rb.err _ hr h2
    exact ⟨sp', c1, Sim.of c2 herr (l2.trans hbe) (by simp [front, qOf, l1]),
      { ledger := hled', chanFull := fun _ => l4, lastNe := h2.restNe, heldOk := nofun }⟩

def IsCall (n : Nat) (op : Op) : Prop := op = .read n ∨ op = .hdr n

def IsFin (n : Nat) (op : Op) : Prop := op = .fin n ∨ op = .finh n

def isReader : Op → Bool
  | .putD _ | .putE _ | .load => false
  | _ => true

/-- What one `step` can do. The answers `busy` and `skip` are listed without the conditions under which
    they are given, and `blocked` for every reader op: the simulation needs no more. `sticky_step`, which does need when `skip` is
    answered, reads `step` itself. -/
inductive Move (s : State) : Op → State × Out → Prop
  | put (r : Msg) : Move s (putOp r) ({ s with rb := put s.rb r }, .ok)
  | load : Move s .load ({ s with rb := load s.rb }, .ok)
  | pass {op : Op} {o : Out} (hop : isReader op) (ho : o = .busy ∨ o = .skip) : Move s op (s, o)
  | again {op : Op} {n e : Nat} (hop : IsCall n op) (hh : s.held = none) (he : s.rd.err = some e) :
      Move s op (s, .err e)
  | last {op : Op} {n : Nat} {l out : Bytes} {rest : Option Bytes} (hop : IsCall n op) (hh : s.held = none)
      (he : s.rd.err = none) (hl : s.rd.last = some l) (hs : SplitOK n l out rest) :
      Move s op ({ s with rd := { s.rd with last := rest } }, .bytes out)
  | blocked {op : Op} (hop : isReader op) (hh : s.held = none) (he : s.rd.err = none)
      (hl : s.rd.last = none) (hc : s.rb.chan = none) : Move s op (s, .blocked)
  | took {m : Msg} (hh : s.held = none) (he : s.rd.err = none) (hl : s.rd.last = none)
      (hc : s.rb.chan = some m) :
      Move s .rbegin ({ s with rb := { s.rb with chan := none }, held := some m }, .took)
  | call {op : Op} {n : Nat} {m : Msg} {r : Reader × Out} (hop : IsCall n op) (hh : s.held = none)
      (he : s.rd.err = none) (hl : s.rd.last = none) (hc : s.rb.chan = some m) (hr : Consume s.rd n m r) :
      Move s op ({ s with rb := load { s.rb with chan := none }, rd := r.1, held := none }, r.2)
  | fin {op : Op} {n : Nat} {m : Msg} {r : Reader × Out} (hop : IsFin n op) (hh : s.held = some m)
      (hr : Consume s.rd n m r) : Move s op ({ s with rb := load s.rb, rd := r.1, held := none }, r.2)

theorem step_move (s : State) (op : Op) : Move s op (step s op) := by
  -- one goal per branch of `step`, numbered in the order of its text: `putD`, `putE`, `load` 1-3; `read` 4-9 and `hdr` 10-14
  -- (busy, sticky error, from `last` (in two ways for `read`), blocked, from the channel); `rbegin` 15-18; `fin` 19-20; `finh` 21-22
  fun_cases step s op
  case case1 b => exact .put (.data b)
  case case2 e => exact .put (.err e)
  case case3 => exact .load
  case case4 | case10 | case15 => exact .pass rfl (.inl rfl)
  case case16 | case19 | case21 => exact .pass rfl (.inr rfl)
  -- where `step` takes a pair apart, `hx` says of which call it is the value
  case case20 hx => exact (hx ▸ Move.fin (.inl rfl) ‹_› (consume_read s.rd _ _) :)
  case case22 hx => exact (hx ▸ Move.fin (.inr rfl) ‹_› (consume_hdr s.rd _ _) :)
  all_goals have hh : s.held = none := by simpa using ‹¬ s.held.isSome = true›
  case case5 => exact .again (.inl rfl) hh ‹_›
  case case11 => exact .again (.inr rfl) hh ‹_›
  case case6 => exact .last (.inl rfl) hh ‹_› ‹_› (splitOK_take ‹_›)
  case case7 => exact .last (.inl rfl) hh ‹_› ‹_› (splitOK_all (Nat.le_of_not_gt ‹_›))
  case case12 hx => exact .last (.inr rfl) hh ‹_› ‹_› (hx ▸ split_hdr _ _)
  case case8 | case13 => exact .blocked rfl hh ‹_› ‹_› ‹_›
  -- `step` answers with `held := s.held` where the rule `call` says `none`: one record once `s` is taken apart and `hh` put in
  case case9 hx =>
    have := hx ▸ Move.call (.inl rfl) hh ‹_› ‹_› ‹_› (consume_read s.rd _ _)
    cases s; cases hh; exact this
  case case14 hx =>
    have := hx ▸ Move.call (.inr rfl) hh ‹_› ‹_› ‹_› (consume_hdr s.rd _ _)
    cases s; cases hh; exact this
  all_goals
    have hel := ‹¬ (_ || _) = true›
    simp only [Bool.or_eq_true, not_or, Bool.not_eq_true, Option.isSome_eq_false_iff, Option.isNone_iff_eq_none] at hel
  case case17 => exact .blocked rfl hh hel.1 hel.2 ‹_›
  case case18 => exact .took hh hel.1 hel.2 ‹_›

theorem check_call {n : Nat} {op : Op} (h : IsCall n op) (sp : Spec) (o : Out) :
    sp.check op o = sp.readCheck n o := by
  rcases h with rfl | rfl <;> rfl

theorem check_fin {n : Nat} {op : Op} (h : IsFin n op) (sp : Spec) (o : Out) :
    sp.check op o = sp.readCheck n o := by
  rcases h with rfl | rfl <;> rfl

theorem sim_step (s : State) (sp : Spec) (op : Op) (hi : Inv s) (hr : Sim s sp) :
    ∃ sp', sp.check op (step s op).2 = .ok sp' ∧ Sim (step s op).1 sp' ∧ Inv (step s op).1 := by
  have hm := step_move s op
  generalize step s op = r at hm ⊢
  cases hm with
  | put r => exact sim_put s sp r hi hr
  | load =>
    obtain ⟨l1, l2, l3, l4⟩ := load_queue s.rb
    exact ⟨sp, rfl, Sim.of hr rfl l2 (by simp only [front, qOf, l1]),
      { hi with ledger := load_ledger _ hi.ledger, chanFull := fun _ => l4 }⟩
  | pass hop ho =>
    refine ⟨sp, ?_, hr, hi⟩
    -- the monitor accepts `busy` and `skip` from every reader op and leaves its state alone
    cases op <;> rcases ho with rfl | rfl <;> first | rfl | cases hop
  | again hop hh he => exact ⟨sp, check_call hop sp _ ▸ readCheck_iff.mpr (.again (hr.done.trans he)), hr, hi⟩
  | last hop hh he hl hs =>
    obtain ⟨sp', c1, c2⟩ := simOn_read_data sp _ _ _ _ s.rb.err (qOf s) (hr.on he (by simp [front, hl])) hs
    exact ⟨sp', check_call hop sp _ ▸ c1, Sim.of c2 he rfl rfl,
      { hi with lastNe := hs.restNe, heldOk := fun h => by rw [hh] at h; cases h }⟩
  | blocked hop hh he hl hc =>
    have hsim := hr.on he (q := []) (by simp [front, qOf, hl, hh, hc, hi.chanFull hh hc])
    refine ⟨sp, ?_, hr, hi⟩
    rw [← simOn_blocked sp 0 s.rb.err hsim]
    cases op <;> first | rfl | cases hop
  | took hh he hl hc =>
    exact ⟨sp, rfl, Sim.of hr rfl rfl (by simp [front, qOf, hh, hc]),
      { hi with chanFull := nofun, heldOk := fun _ => ⟨hl, he⟩ }⟩
  | call hop hh he hl hc hm =>
    rw [check_call hop]
    exact sim_consume { s.rb with chan := none } hm (hr.on he (by simp [front, qOf, hl, hh, hc])) hl he rfl
      hi.ledger
  | fin hop hh hm =>
    obtain ⟨h1, h2⟩ := hi.heldOk (by rw [hh]; rfl)
    rw [check_fin hop]
    exact sim_consume s.rb hm (hr.on h2 (by simp [front, qOf, h1, hh])) h1 h2 rfl hi.ledger

theorem run_nil (s : State) : run s [] = (s, []) := rfl
theorem run_cons (s : State) (o : Op) (os : List Op) :
    run s (o :: os) = ((run (step s o).1 os).1, (step s o).2 :: (run (step s o).1 os).2) := rfl

theorem run_length (s : State) (ops : List Op) : (run s ops).2.length = ops.length := by
  induction ops generalizing s with
  | nil => rfl
  | cons o os ih => rw [run_cons]; simp [ih]

theorem run_append (s : State) (a b : List Op) :
    run s (a ++ b) = ((run (run s a).1 b).1, (run s a).2 ++ (run (run s a).1 b).2) := by
  induction a generalizing s with
  | nil => rfl
  | cons o os ih => simp only [List.cons_append, run_cons, ih, List.cons_append]

theorem inv_init (c : Bool) : Inv (init c) :=
  { ledger := ledger_of_zero _ rfl rfl, chanFull := fun _ _ => rfl, lastNe := nofun, heldOk := nofun }

theorem sim_init (c : Bool) : Sim (init c) {} :=
  { perr := rfl, done := rfl, live := fun _ => ⟨rfl, rfl, Nat.le_refl _⟩ }

theorem sim_run (s : State) (sp : Spec) (ops : List Op) (hi : Inv s) (hr : Sim s sp) :
    ∃ sp', sp.checkAll ops (run s ops).2 = .ok sp' ∧ Sim (run s ops).1 sp' ∧ Inv (run s ops).1 := by
  induction ops generalizing s sp with
  | nil => exact ⟨sp, rfl, hr, hi⟩
  | cons o os ih =>
    rw [run_cons]
    obtain ⟨sp1, h1, h2, h3⟩ := sim_step s sp o hi hr
    obtain ⟨sp2, g1, g2, g3⟩ := ih _ sp1 h3 h2
    exact ⟨sp2, by simp only [Spec.checkAll, h1]; exact g1, g2, g3⟩

def opBytes : Op → Bytes
  | .putD b => b
  | _ => []

def opErr : Op → Option Nat
  | .putE e => some e
  | _ => none

def outBytes : Out → Bytes
  | .bytes b => b
  | _ => []

/-- DATA payload accepted by the stream: everything put before the first error/end-of-stream -/
def accepted : List Op → Bytes
  | [] => []
  | op :: t => opBytes op ++ (if (opErr op).isSome then [] else accepted t)

def firstErr : List Op → Option Nat
  | [] => none
  | op :: t => (opErr op).or (firstErr t)

def delivered : List Out → Bytes
  | [] => []
  | x :: t => outBytes x ++ delivered t

def DoneDrained (sp : Spec) : Prop := sp.done.isSome → sp.queue = [] ∧ sp.perr = sp.done

/-- what the monitor's acceptance of the answer `out` to `op` says, whatever gave the answer -/
structure Accepted (sp sp' : Spec) (op : Op) (out : Out) : Prop where
  queue : outBytes out ++ sp'.queue = sp.queue ++ (if sp.perr.isSome then [] else opBytes op)
  perr : sp'.perr = sp.perr.or (opErr op)
  si : DoneDrained sp'
  onErr : ∀ e, out = .err e → sp.queue = [] ∧ sp.perr = some e
  onBlocked : out = .blocked → sp.queue = [] ∧ sp.perr = none

/-- `op`: a reader op, which puts nothing. -/
theorem readCheck_trace (sp sp' : Spec) (n : Nat) (op : Op) (out : Out) (hsi : DoneDrained sp)
    (h : sp.readCheck n out = .ok sp') (hb : opBytes op = [] := by rfl) (he : opErr op = none := by rfl) :
    Accepted sp sp' op out := by
  suffices h5 : outBytes out ++ sp'.queue = sp.queue ∧ sp'.perr = sp.perr ∧ DoneDrained sp'
      ∧ (∀ e, out = .err e → sp.queue = [] ∧ sp.perr = some e) ∧ (out = .blocked → sp.queue = [] ∧ sp.perr = none) by
    obtain ⟨a, b, c, d, e⟩ := h5
    exact ⟨by rw [a, hb]; simp, by rw [b, he]; simp, c, d, e⟩
  have hsi' : ∀ sp'' : Spec, sp''.done = none → DoneDrained sp'' := fun _ hd hs => by rw [hd] at hs; cases hs
  cases readCheck_iff.mp h with
  | data hd _ hq _ =>
    obtain ⟨t, ht⟩ := hq
    exact ⟨by simp [outBytes, ← ht], rfl, hsi' _ hd, nofun, nofun⟩
  | empty hd => exact ⟨rfl, rfl, hsi' _ hd, nofun, nofun⟩
  | fail hd hq hp => exact ⟨rfl, rfl, fun _ => ⟨hq, hp⟩, fun _ he => by cases he; exact ⟨hq, hp⟩, nofun⟩
  | again hd =>
    obtain ⟨h1, h2⟩ := hsi (by rw [hd]; rfl)
    exact ⟨rfl, rfl, hsi, fun _ he => by cases he; exact ⟨h1, h2.trans hd⟩, nofun⟩
  | blocked _ hq hp => exact ⟨rfl, rfl, hsi, nofun, fun _ => ⟨hq, hp⟩⟩
  | busy | skip => exact ⟨rfl, rfl, hsi, nofun, nofun⟩

theorem check_trace (sp sp' : Spec) (op : Op) (out : Out) (hsi : DoneDrained sp)
    (h : sp.check op out = .ok sp') : Accepted sp sp' op out := by
  cases op with
  | putD _ | putE _ =>
    cases out <;> simp only [Spec.check] at h <;> try cases h
    split at h
    · rename_i hp; cases h; exact ⟨by simp [outBytes, hp], by
        cases hpe : sp.perr <;> simp_all [opErr], hsi, nofun, nofun⟩
    · rename_i hp; cases h
      refine ⟨by simp [outBytes, hp, opBytes], ?_, ?_, nofun, nofun⟩
      · simp only [Bool.not_eq_true, Option.isSome_eq_false_iff, Option.isNone_iff_eq_none] at hp
        simp [opErr, hp]
      · intro hd
        have := (hsi hd).2
        rw [this] at hp; exact absurd hd hp
  | load =>
    cases out <;> simp only [Spec.check] at h <;> try cases h
    exact ⟨by simp [outBytes, opBytes], by simp [opErr], hsi, nofun, nofun⟩
  | read n | hdr n | fin n | finh n => exact readCheck_trace sp sp' n _ out hsi h
  | rbegin =>
    cases out <;> simp only [Spec.check] at h <;> try cases h
    · exact readCheck_trace sp sp' 0 _ _ hsi h
    all_goals exact ⟨by simp [outBytes, opBytes], by simp [opErr], hsi, nofun, nofun⟩

theorem checkAll_trace (sp sp' : Spec) (ops : List Op) (outs : List Out)
    (hlen : ops.length = outs.length) (hsi : DoneDrained sp) (h : sp.checkAll ops outs = .ok sp') :
    delivered outs ++ sp'.queue = sp.queue ++ (if sp.perr.isSome then [] else accepted ops)
    ∧ sp'.perr = sp.perr.or (firstErr ops) ∧ DoneDrained sp' := by
  induction ops generalizing sp outs with
  | nil =>
    cases outs with
    | nil => cases h; exact ⟨by simp [delivered, accepted], by simp [firstErr], hsi⟩
    | cons x xs => simp at hlen
  | cons o os ih =>
    cases outs with
    | nil => simp at hlen
    | cons x xs =>
      simp only [Spec.checkAll] at h
      cases hc : sp.check o x with
      | error e => rw [hc] at h; cases h
      | ok sp1 =>
        rw [hc] at h
        have a := check_trace sp sp1 o x hsi hc
        obtain ⟨b1, b2, b3⟩ := ih sp1 xs (by simpa using hlen) a.si h
        refine ⟨?_, ?_, b3⟩
        · simp only [delivered, accepted, List.append_assoc]
          rw [b1, ← List.append_assoc, a.queue, a.perr]
          cases hp : sp.perr <;> cases he : opErr o <;> simp
        · rw [b2, a.perr]
          simp only [firstErr]
          cases sp.perr <;> simp

/-- bytes received and not yet handed to the application -/
def pending (s : State) : Bytes :=
  match s.rd.err with
  | some _ => []
  | none => s.rd.last.getD [] ++ (absQ (qOf s)).1

/-- everything the monitor knows at the end of a run from the initial state -/
structure Summary (c : Bool) (ops : List Op) (sp : Spec) : Prop where
  accepts : ({} : Spec).checkAll ops (run (init c) ops).2 = .ok sp
  sim : Sim (run (init c) ops).1 sp
  inv : Inv (run (init c) ops).1
  si : DoneDrained sp
  trace : delivered (run (init c) ops).2 ++ sp.queue = accepted ops
  perr : sp.perr = firstErr ops
  queue : sp.queue = pending (run (init c) ops).1

theorem run_summary (c : Bool) (ops : List Op) : ∃ sp, Summary c ops sp := by
  obtain ⟨sp, h1, h2, h3⟩ := sim_run (init c) {} ops (inv_init c) (sim_init c)
  have hsi0 : DoneDrained ({} : Spec) := by intro h; cases h
  obtain ⟨t1, t2, t3⟩ := checkAll_trace {} sp ops _ (run_length _ _).symm hsi0 h1
  refine ⟨sp, {
    accepts := h1
    sim := h2
    inv := h3
    si := t3
    trace := by simpa using t1
    perr := by simpa using t2
    queue := ?_ }⟩
  unfold pending
  cases he : (run (init c) ops).1.rd.err with
  | some e => exact (t3 (by rw [h2.done, he]; rfl)).1
  | none => exact (h2.live he).1.trans (by unfold front; cases (run (init c) ops).1.rd.last <;> rfl)

/-- An answer that the monitor accepts only with an empty queue is given only when all accepted bytes have
    been delivered; the first error put is then what the monitor has as `perr`. -/
theorem drained_of_answer (c : Bool) (pre : List Op) (op : Op) {x : Option Nat}
    (h : ∀ sp sp', Accepted sp sp' op (step (run (init c) pre).1 op).2 → sp.queue = [] ∧ sp.perr = x) :
    delivered (run (init c) pre).2 = accepted pre ∧ firstErr pre = x := by
  obtain ⟨sp, hs⟩ := run_summary c pre
  obtain ⟨sp', hc, _, _⟩ := sim_step _ sp op hs.inv hs.sim
  obtain ⟨hq, hp⟩ := h sp sp' (check_trace sp sp' op _ hs.si hc)
  have h5 := hs.trace
  rw [hq, List.append_nil] at h5
  exact ⟨h5, by rw [← hs.perr, hp]⟩

/-- after the reader has reported error `e` (and holds no message) every call answers the same -/
def Sticky (e : Nat) (s : State) : Prop := s.rd.err = some e ∧ s.held = none

/-- what an op may answer once the error has been reported -/
def afterErr (e : Nat) : Op → Out → Prop
  | .read _, o => o = .err e
  | .hdr _, o => o = .err e
  | .rbegin, o => o = .skip
  | .fin _, o => o = .skip
  | .finh _, o => o = .skip
  | .load, o => o = .ok
  | .putD _, o => o = .ok
  | .putE _, o => o = .ok

theorem sticky_step (e : Nat) (s : State) (op : Op) (h : Sticky e s) :
    Sticky e (step s op).1 ∧ afterErr e op (step s op).2 := by
  obtain ⟨he, hh⟩ := h
  cases op with
  | putD b | putE x | load => exact ⟨⟨he, hh⟩, rfl⟩
  | read n | hdr n | rbegin | fin n | finh n => simp [step, hh, he, Sticky, afterErr]

theorem afterErr_noBytes (e : Nat) (op : Op) (o : Out) (h : afterErr e op o) : outBytes o = [] := by
  cases op <;> (simp only [afterErr] at h; subst h; rfl)

structure OutOK (r : State × Out) : Prop where
  noPanic : r.2 ≠ .panic
  sticky : ∀ e, r.2 = .err e → Sticky e r.1

theorem consume_out {rd : Reader} {n : Nat} {m : Msg} {r : Reader × Out} (h : Consume rd n m r) :
    r.2 ≠ .panic ∧ ∀ e, r.2 = .err e → r.1.err = some e := by
  cases h with
  | err e => exact ⟨nofun, fun _ h => by cases h; rfl⟩
  | data => exact ⟨nofun, nofun⟩

theorem step_out (s : State) (op : Op) : OutOK (step s op) := by
  have hm := step_move s op
  generalize step s op = r at hm
  cases hm with
  | put | load | last | blocked | took => exact ⟨nofun, nofun⟩
  | pass _ ho => rcases ho with rfl | rfl <;> exact ⟨nofun, nofun⟩
  | again _ hh he => exact ⟨nofun, fun _ h => by cases h; exact ⟨he, hh⟩⟩
  | call _ _ _ _ _ hr | fin _ _ hr => exact ⟨(consume_out hr).1, fun e h => ⟨(consume_out hr).2 e h, rfl⟩⟩

theorem sticky_run (e : Nat) (s : State) (ops : List Op) (h : Sticky e s) :
    (∀ p ∈ List.zip ops (run s ops).2, afterErr e p.1 p.2) ∧ delivered (run s ops).2 = [] := by
  induction ops generalizing s with
  | nil => exact ⟨(by intro p hp; cases hp), rfl⟩
  | cons o os ih =>
    obtain ⟨h1, h2⟩ := sticky_step e s o h
    obtain ⟨i1, i2⟩ := ih _ h1
    rw [run_cons]
    refine ⟨?_, ?_⟩
    · intro p hp
      simp only [List.zip_cons_cons, List.mem_cons] at hp
      rcases hp with hp | hp
      · subst hp; exact h2
      · exact i1 p hp
    · simp only [delivered, i2, afterErr_noBytes e o _ h2, List.append_nil]

def errPuts : List Op → Nat
  | [] => 0
  | .putE _ :: t => errPuts t + 1
  | _ :: t => errPuts t

theorem put_frame (b : RB) (r : Msg) :
    (put b r).compaction = b.compaction ∧ ((put b r).err = b.err ∨ (put b r).err = r.errOf) := by
  unfold put
  split
  · exact ⟨rfl, Or.inl rfl⟩
  · simp only
    split
    · exact ⟨rfl, Or.inr rfl⟩
    · obtain ⟨_, herr, hcomp⟩ := compact_frame { b with err := r.errOf, backlog := b.backlog ++ [r] } r
      exact ⟨hcomp, Or.inr herr⟩

theorem step_rb (s : State) (op : Op) :
    (∃ r, r.errOf = opErr op ∧ (step s op).1.rb = put s.rb r)
    ∨ (∃ c, (step s op).1.rb = { s.rb with chan := c } ∨ (step s op).1.rb = load { s.rb with chan := c }) := by
  have hm := step_move s op
  generalize step s op = r at hm
  cases hm with
  | put r => exact .inl ⟨r, by cases r <;> rfl, rfl⟩
  | load | fin => exact .inr ⟨s.rb.chan, .inr rfl⟩
  | call => exact .inr ⟨none, .inr rfl⟩
  | took => exact .inr ⟨none, .inl rfl⟩
  | pass | again | last | blocked => exact .inr ⟨s.rb.chan, .inl rfl⟩

theorem step_err_mono (s : State) (op : Op) (h : (step s op).1.rb.err.isSome) :
    s.rb.err.isSome ∨ (opErr op).isSome := by
  rcases step_rb s op with ⟨r, hr, e⟩ | ⟨c, e | e⟩ <;> rw [e] at h
  · rcases (put_frame s.rb r).2 with e' | e' <;> rw [e'] at h
    · exact Or.inl h
    · exact Or.inr (hr ▸ h)
  · exact Or.inl h
  · rw [load_err] at h; exact Or.inl h

theorem step_comp (s : State) (op : Op) : (step s op).1.rb.compaction = s.rb.compaction := by
  rcases step_rb s op with ⟨r, _, e⟩ | ⟨c, e | e⟩ <;> rw [e]
  · exact (put_frame _ _).1
  · exact load_compaction _

theorem comp_run (s : State) (ops : List Op) : (run s ops).1.rb.compaction = s.rb.compaction := by
  induction ops generalizing s with
  | nil => rfl
  | cons o os ih => rw [run_cons, ih, step_comp]

end GrpcProofs.Lemmas.RecvBuffer
