/-
The invariant of the timeout cache in two halves.  What happens to an entry once created depends on
that entry alone (its timer goroutine, the one Remove or Clear that takes it, the callbacks owed for
it): `Good e`, two ledgers over the entry's ghost counters, kept by every `Move` an entry can make.
The key map is the only shared structure, and it is a function of the entries: a key maps to `id`
exactly when entry `id` carries that key and is still `inMap` (`Inv.cache`).  So a rule is checked by
what it does to one entry (`apply_move`, `Inv.move`); only Add and Clear are argued on the state.
-/
import GrpcModel.Model.TimeoutCache
namespace GrpcProofs.Lemmas.TimeoutCache
open GrpcModel.TimeoutCache

def b2n (p : Prop) [Decidable p] : Nat := if p then 1 else 0

theorem b2n_pos {p : Prop} [Decidable p] (h : p) : b2n p = 1 := if_pos h
theorem b2n_neg {p : Prop} [Decidable p] (h : ¬p) : b2n p = 0 := if_neg h

/-- the timer func of the entry got past its `deleted` check -/
def evicted (e : Entry) : Prop := (e.tm = .cb ∨ e.tm = .done) ∧ e.deleted = false

instance (e : Entry) : Decidable (evicted e) := by unfold evicted; infer_instance

structure EntOK (s : St) (id : Nat) : Prop where
  inMap   : s.cache (s.ent id).key = some id ↔
              (id < s.n ∧ ((s.ent id).tm = .armed ∨ (s.ent id).tm = .fired) ∧ (s.ent id).deleted = false)
  taken   : id < s.n → (s.ent id).removed + (s.ent id).cleared =
              b2n ((s.ent id).tm = .stopped ∨ (s.ent id).deleted = true)
  shape   : ((s.ent id).deleted = true → (s.ent id).tm = .fired ∨ (s.ent id).tm = .done)
  ledger  : id < s.n → (s.ent id).cbRuns + (s.ent id).owed + b2n ((s.ent id).tm = .cb) =
              b2n (evicted (s.ent id)) + (s.ent id).clearedCb
  clr     : (s.ent id).clearedCb ≤ (s.ent id).cleared ∧ (s.ent id).owed ≤ (s.ent id).clearedCb

/-- The entry is in `c.cache`: neither Remove/Clear nor its own timer func has taken it out. -/
def inMap (e : Entry) : Prop := (e.tm = .armed ∨ e.tm = .fired) ∧ e.deleted = false

/-- What holds of a created entry whatever the rest of the cache does.  `taken`: Remove and Clear
    together took it at most once, and exactly then its timer was stopped or it is marked `deleted`;
    `ledger`: callbacks run, owed or about to run against the two reasons for one (its own timer got
    past the `deleted` check, a Clear(true) took it). -/
structure Good (e : Entry) : Prop where
  taken   : e.removed + e.cleared = b2n (e.tm = .stopped ∨ e.deleted = true)
  shape   : e.deleted = true → e.tm = .fired ∨ e.tm = .done
  ledger  : e.cbRuns + e.owed + b2n (e.tm = .cb) = b2n (evicted e) + e.clearedCb
  clr     : e.clearedCb ≤ e.cleared ∧ e.owed ≤ e.clearedCb

namespace Good
variable {e : Entry}

/-- An entry is evicted by its own timer or taken by Remove/Clear, not both; a timer about to run
    the callback has evicted.  With these two facts the clauses of `Good` are linear arithmetic. -/
theorem excl (h : Good e) :
    b2n (e.tm = .cb) ≤ b2n (evicted e) ∧ b2n (evicted e) + b2n (e.tm = .stopped ∨ e.deleted = true) ≤ 1 := by
  have hs := h.shape
  obtain ⟨_, _, tm, d, _, _, _, _, _⟩ := e
  cases tm <;> cases d <;> simp [b2n, evicted] at hs ⊢

/-- what `omega` needs of a created entry: the clauses with the two exclusions, as linear facts about
    the counters and the three indicators -/
theorem linear (h : Good e) :
    b2n (e.tm = .cb) ≤ b2n (evicted e) ∧ b2n (evicted e) + b2n (e.tm = .stopped ∨ e.deleted = true) ≤ 1 ∧
    e.removed + e.cleared = b2n (e.tm = .stopped ∨ e.deleted = true) ∧
    e.cbRuns + e.owed + b2n (e.tm = .cb) = b2n (evicted e) + e.clearedCb ∧
    e.clearedCb ≤ e.cleared ∧ e.owed ≤ e.clearedCb :=
  ⟨h.excl.1, h.excl.2, h.taken, h.ledger, h.clr⟩

theorem fresh (k item : Nat) :
    Good { key := k, item := item, tm := .armed, deleted := false, cbRuns := 0,
           removed := 0, cleared := 0, clearedCb := 0, owed := 0 } := by
  constructor <;> simp [b2n, evicted]

end Good

theorem stopTimer_eq (e : Entry) :
    stopTimer e = { e with tm := (stopTimer e).tm, deleted := (stopTimer e).deleted } := by
  unfold stopTimer; split <;> rfl

theorem stopTimer_key (e : Entry) : (stopTimer e).key = e.key := by rw [stopTimer_eq]

/-- the four rules that name the entry they are about -/
inductive Kind | clearCall | fire | lock | call

def Kind.rule : Kind → Nat → Rule
  | .clearCall => .clearCall
  | .fire => .timerFire
  | .lock => .timerLock
  | .call => .timerCall

/-- What a rule does to the entry it touches.  First index: the rule, if it is one of the four that name
    their entry (`apply_move`); `out`: the move takes the entry out of the map.
    `take`: Remove (`r = 1`) and Clear (`c = 1`; `cb = 1` with callbacks), which find their entries through the map. -/
inductive Move : Option Kind → Bool → Entry → Entry → Prop
  | take {e} (r c cb : Nat) : inMap e → r + c = 1 → cb ≤ c →
      Move none true e { stopTimer e with removed := (stopTimer e).removed + r, cleared := (stopTimer e).cleared + c,
                                          clearedCb := (stopTimer e).clearedCb + cb, owed := (stopTimer e).owed + cb }
  | clearCall {e} : e.owed > 0 → Move (some .clearCall) false e { e with owed := e.owed - 1, cbRuns := e.cbRuns + 1 }
  | fire {e} : e.tm = .armed → Move (some .fire) false e { e with tm := .fired }
  | lockDeleted {e} : e.tm = .fired → e.deleted = true → Move (some .lock) false e { e with tm := .done }
  | lock {e} : e.tm = .fired → e.deleted = false → Move (some .lock) true e { e with tm := .cb }
  | call {e} : e.tm = .cb → Move (some .call) false e { e with tm := .done, cbRuns := e.cbRuns + 1 }

structure Later (e e' : Entry) : Prop where
  key : e'.key = e.key
  item : e'.item = e.item
  cbRuns : e.cbRuns ≤ e'.cbRuns
  removed : e.removed ≤ e'.removed
  cleared : e.cleared ≤ e'.cleared

theorem Later.rfl (e : Entry) : Later e e :=
  { key := Eq.refl _, item := Eq.refl _, cbRuns := Nat.le_refl _, removed := Nat.le_refl _, cleared := Nat.le_refl _ }

namespace Move
variable {k : Option Kind} {out : Bool} {e e' : Entry}

theorem good (m : Move k out e e') (h : Good e) : Good e' := by
  obtain ⟨taken, shape, ledger, clr⟩ := h
  cases m with
  | take r c cb hm hrc hcb =>
    -- in the map: not taken and not evicted so far, so `taken` goes from 0 to 1 with `r + c`
    -- and the timer, stopped or marked `deleted` here, will not evict: `ledger` gains `cb` on both sides
    obtain ⟨ht, hd⟩ := hm
    rcases ht with ht | ht <;> simp only [stopTimer, ht] <;>
      exact ⟨by simp [b2n, ht, hd] at taken ⊢; omega, by simp [hd] <;> exact .inl ht,
             by simp [b2n, evicted, ht, hd] at ledger ⊢; omega, by simp only; omega⟩
  | clearCall ho => exact ⟨taken, shape, by simp only [evicted] at ledger ⊢; omega, by simp only; omega⟩
  | fire ht =>
    simp only [ht, b2n, evicted] at taken shape ledger
    exact ⟨by simpa [b2n] using taken, by simp, by simpa [b2n, evicted] using ledger, clr⟩
  | lockDeleted ht hd =>
    simp only [ht, hd, b2n, evicted] at taken shape ledger
    exact ⟨by simpa [b2n, hd] using taken, by simp, by simpa [b2n, evicted, hd] using ledger, clr⟩
  | lock ht hd =>
    simp only [ht, hd, b2n, evicted] at taken shape ledger
    exact ⟨by simpa [b2n, hd] using taken, by simp [hd], by simp [b2n, evicted, hd] at ledger ⊢; omega, clr⟩
  | call ht =>
    simp only [ht, b2n, evicted] at taken shape ledger
    exact ⟨by simpa [b2n] using taken, by simp, by simp [b2n, evicted] at ledger ⊢; omega, clr⟩

theorem stays (m : Move k false e e') : inMap e' ↔ inMap e := by
  cases m with
  | clearCall => exact .rfl
  | fire ht => simp [inMap, ht]
  | lockDeleted ht hd => simp [inMap, hd]
  | call ht => simp [inMap, ht]

theorem leaves (m : Move k true e e') : inMap e ∧ ¬inMap e' := by
  cases m with
  | take r c cb hm => exact ⟨hm, by obtain ⟨ht | ht, hd⟩ := hm <;> simp [inMap, stopTimer, ht]⟩
  | lock ht hd => simp [inMap, ht, hd]

theorem later (m : Move k out e e') : Later e e' := by
  cases m with
  | take => rw [stopTimer_eq]; exact { Later.rfl e with removed := Nat.le_add_right _ _, cleared := Nat.le_add_right _ _ }
  | clearCall | call => exact { Later.rfl e with cbRuns := Nat.le_add_right _ _ }
  | fire | lockDeleted | lock => exact { Later.rfl e with }

end Move

/-- `cache`: the key map is determined by the entries. -/
structure Inv (s : St) : Prop where
  cache : ∀ k id, s.cache k = some id ↔ id < s.n ∧ (s.ent id).key = k ∧ inMap (s.ent id)
  ent   : ∀ id, id < s.n → Good (s.ent id)

theorem Inv.keyOf {s : St} (h : Inv s) {k id : Nat} (hk : s.cache k = some id) : id < s.n ∧ (s.ent id).key = k :=
  have ⟨hid, hkey, _⟩ := (h.cache k id).1 hk
  ⟨hid, hkey⟩

theorem Inv.entOK {s : St} (h : Inv s) {id : Nat} (hid : id < s.n) : EntOK s id :=
  have g := h.ent id hid
  ⟨(h.cache _ id).trans ⟨fun ⟨a, _, c⟩ => ⟨a, c⟩, fun ⟨a, c⟩ => ⟨a, rfl, c⟩⟩,
   fun _ => g.taken, g.shape, fun _ => g.ledger, g.clr⟩

theorem inv_init : Inv init := ⟨fun k id => by simp [init], fun _ h => nomatch h⟩

theorem setEnt_self (f : Nat → Entry) (i : Nat) (e : Entry) : setEnt f i e i = e := if_pos rfl
theorem setEnt_ne (f : Nat → Entry) {i j : Nat} (e : Entry) (h : j ≠ i) : setEnt f i e j = f j := if_neg h

section Rules
variable {s t : St} {id : Nat}

theorem apply_add {k item : Nat} : apply s (.add k item) = some t ↔
    (∃ id, s.cache k = some id ∧ t = s) ∨
    s.cache k = none ∧ t =
      { n := s.n + 1, cache := setKey s.cache k (some s.n),
        ent := setEnt s.ent s.n { key := k, item := item, tm := .armed, deleted := false, cbRuns := 0,
                                  removed := 0, cleared := 0, clearedCb := 0, owed := 0 } } := by
  simp only [apply]; split <;> simp [*, eq_comm]

theorem apply_remove {k : Nat} : apply s (.remove k) = some t ↔
    s.cache k = none ∧ t = s ∨
    ∃ id, s.cache k = some id ∧ t =
      { s with cache := setKey s.cache k none,
               ent := setEnt s.ent id { stopTimer (s.ent id) with removed := (stopTimer (s.ent id)).removed + 1 } } := by
  simp only [apply]; split <;> simp [*, eq_comm]

theorem apply_move (k : Kind) : apply s (k.rule id) = some t ↔
    id < s.n ∧ ∃ out e', Move (some k) out (s.ent id) e' ∧
      t = { s with cache := if out then setKey s.cache (s.ent id).key none else s.cache,
                   ent := setEnt s.ent id e' } := by
  constructor
  · intro st
    cases k <;> simp only [Kind.rule, apply, Option.ite_none_right_eq_some, Option.some.injEq] at st <;>
      obtain ⟨⟨hid, hg⟩, st⟩ := st
    case clearCall => exact ⟨hid, _, _, .clearCall hg, st.symm⟩
    case fire => exact ⟨hid, _, _, .fire hg, st.symm⟩
    case call => exact ⟨hid, _, _, .call hg, st.symm⟩
    case lock =>
      split at st <;> cases st
      · next hd => exact ⟨hid, _, _, .lockDeleted hg hd, rfl⟩
      · next hd => exact ⟨hid, _, _, .lock hg (Bool.eq_false_iff.2 hd), rfl⟩
  · rintro ⟨hid, _, _, m, rfl⟩
    cases m <;> simp only [Kind.rule, apply]
    case lockDeleted hg hd => rw [if_pos ⟨hid, hg⟩, if_pos hd]; rfl
    case lock hg hd => rw [if_pos ⟨hid, hg⟩, if_neg (Bool.eq_false_iff.1 hd)]; rfl
    all_goals exact if_pos ⟨hid, ‹_›⟩

end Rules

/-- what a step keeps of the entries created so far -/
def Grows (s t : St) : Prop := ∀ id, id < s.n → id < t.n ∧ Later (s.ent id) (t.ent id)

theorem Grows.rfl (s : St) : Grows s s := fun _ hid => ⟨hid, .rfl _⟩

/-- One entry moves and, if it leaves the map, its key is deleted: the shape of every rule but Add
    and Clear.  Deleting by key is right because no other entry in the map has that key. -/
theorem Inv.move {s : St} (h : Inv s) {id : Nat} {k : Option Kind} {out : Bool} {e' : Entry} (hid : id < s.n)
    (m : Move k out (s.ent id) e') :
    let t : St := { s with cache := if out then setKey s.cache (s.ent id).key none else s.cache, ent := setEnt s.ent id e' }
    Inv t ∧ Grows s t := by
  refine ⟨⟨fun k j => ?_, fun j hj => ?_⟩, fun j hj => ⟨hj, ?_⟩⟩
  · show (if out then setKey s.cache (s.ent id).key none else s.cache) k = some j ↔
        j < s.n ∧ (setEnt s.ent id e' j).key = k ∧ inMap (setEnt s.ent id e' j)
    by_cases hj : j = id
    · subst hj
      rw [setEnt_self, m.later.key]
      cases out
      · rw [m.stays]; exact h.cache k j
      · refine iff_of_false ?_ fun hh => m.leaves.2 hh.2.2
        show ¬setKey s.cache _ none k = some j
        unfold setKey; split
        · nofun
        · next hk => exact fun hc => hk (h.keyOf hc).2.symm
    · rw [setEnt_ne _ _ hj, ← h.cache k j]
      cases out
      · exact .rfl
      · show setKey s.cache _ none k = some j ↔ _
        unfold setKey; split
        · next hk =>
          rw [hk, (h.cache _ id).2 ⟨hid, rfl, m.leaves.1⟩]
          exact iff_of_false nofun fun hh => hj (Option.some.inj hh).symm
        · exact .rfl
  · show Good (setEnt s.ent id e' j)
    unfold setEnt; split
    · exact m.good (h.ent id hid)
    · exact h.ent j hj
  · show Later (s.ent j) (setEnt s.ent id e' j)
    unfold setEnt; split
    · next hji => rw [hji]; exact m.later
    · exact .rfl _

theorem Inv.step {s t : St} {r : Rule} (h : Inv s) (st : apply s r = some t) : Inv t ∧ Grows s t := by
  cases r with
  | add k item =>
    obtain ⟨_, _, rfl⟩ | ⟨hk, rfl⟩ := apply_add.1 st
    · exact ⟨h, .rfl _⟩
    · refine ⟨⟨fun k' j => ?_, fun j hj => ?_⟩, fun j hj => ⟨Nat.lt_succ_of_lt hj, ?_⟩⟩
      · show setKey s.cache k (some s.n) k' = some j ↔
            j < s.n + 1 ∧ (setEnt s.ent s.n _ j).key = k' ∧ inMap (setEnt s.ent s.n _ j)
        have hc := h.cache k' j
        by_cases hj : j = s.n
        · subst hj; rw [setEnt_self]; unfold setKey; split
          · next hkk => simp [hkk, inMap]
          · next hkk => simp [Ne.symm hkk]; exact fun hh => Nat.lt_irrefl _ (hc.1 hh).1
        · rw [setEnt_ne _ _ hj]; unfold setKey; split
          · next hkk =>
            -- no entry in the map has the new key
            rw [hkk, hk] at hc
            exact iff_of_false (fun hh => hj (Option.some.inj hh).symm)
              fun ⟨a, b, c⟩ => nomatch hc.2 ⟨by omega, hkk ▸ b, c⟩
          · rw [hc]; exact and_congr_left' (by omega)
      · show Good (setEnt s.ent s.n _ j)
        unfold setEnt; split
        · exact .fresh k item
        · next hne => exact h.ent j (Nat.lt_of_le_of_ne (Nat.le_of_lt_succ hj) hne)
      · show Later _ (setEnt s.ent s.n _ j)
        rw [setEnt_ne _ _ (Nat.ne_of_lt hj)]; exact .rfl _
  | remove k =>
    obtain ⟨_, rfl⟩ | ⟨id, hk, rfl⟩ := apply_remove.1 st
    · exact ⟨h, .rfl _⟩
    · obtain ⟨hid, rfl, hm⟩ := (h.cache k id).1 hk
      exact h.move hid (.take 1 0 0 hm rfl (Nat.le_refl _))
  | clear b =>
    cases st
    have tk (j : Nat) (hm : s.cache (s.ent j).key = some j) :=
      have ⟨_, _, hin⟩ := (h.cache _ j).1 hm
      Move.take 0 1 (if b then 1 else 0) hin rfl (by split <;> omega)
    refine ⟨⟨fun k j => iff_of_false nofun fun ⟨hj, _, hin⟩ => ?_, fun j hj => ?_⟩, fun j hj => ⟨hj, ?_⟩⟩
    · change inMap (if s.cache (s.ent j).key = some j then _ else s.ent j) at hin
      split at hin
      · next hm => cases b <;> exact (tk j hm).leaves.2 hin
      · next hm => exact hm ((h.cache _ j).2 ⟨hj, rfl, hin⟩)
    · show Good (if s.cache (s.ent j).key = some j then _ else s.ent j)
      split
      · next hm => cases b <;> exact (tk j hm).good (h.ent j hj)
      · exact h.ent j hj
    · show Later _ (if s.cache (s.ent j).key = some j then _ else s.ent j)
      split
      · next hm => cases b <;> exact (tk j hm).later
      · exact .rfl _
  | clearCall id => obtain ⟨hid, _, _, m, rfl⟩ := (apply_move .clearCall).1 st; exact h.move hid m
  | timerFire id => obtain ⟨hid, _, _, m, rfl⟩ := (apply_move .fire).1 st; exact h.move hid m
  | timerLock id => obtain ⟨hid, _, _, m, rfl⟩ := (apply_move .lock).1 st; exact h.move hid m
  | timerCall id => obtain ⟨hid, _, _, m, rfl⟩ := (apply_move .call).1 st; exact h.move hid m

theorem reach_inv {s : St} (h : Reach s) : Inv s := by
  induction h with
  | init => exact inv_init
  | step r _ st ih => exact (ih.step st).1

end GrpcProofs.Lemmas.TimeoutCache
