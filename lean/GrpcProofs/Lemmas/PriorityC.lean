/-
C39: init-timer callbacks that have been dispatched but have not yet obtained
the balancer's mutex (`St.pending`).  No operation other than `dispatch` / `runcb` touches them or
the clock, and a callback waits only for a timer whose deadline has passed.
-/
import GrpcProofs.Lemmas.Priority
namespace GrpcProofs.Lemmas.Priority
open GrpcModel.Priority Basic

/-- the waiting callbacks and the clock, which every handler below `step` leaves alone -/
structure Frame (s t : St) : Prop where
  pending : t.pending = s.pending
  now : t.now = s.now

theorem Frame.refl (s : St) : Frame s s := ⟨rfl, rfl⟩

/-! Each handler keeps `Frame s₀`, for any origin `s₀`.  `⟨h.pending, h.now⟩` re-reads `h : Frame s₀ s` for a state that
    differs from `s` in other fields only. -/

theorem stopChild_frame {s₀ s : St} (h : Frame s₀ s) (n : Nat) (imm : Bool) : Frame s₀ (stopChild s n imm) := by
  rcases stopChild_cases s n imm with ⟨he, -⟩ | ⟨-, _, _, he, -⟩ <;> rw [he]
  · exact h
  · exact ⟨h.pending, h.now⟩

theorem startChild_frame {s₀ s : St} (h : Frame s₀ s) (n : Nat) : Frame s₀ (startChild s n) := by
  rcases startChild_cases s n with ⟨he, -⟩ | ⟨_, -, -, _, _, _, he, -⟩ <;> rw [he]
  · exact h
  · exact ⟨h.pending, h.now⟩

theorem switchTo_frame {s₀ s : St} (h : Frame s₀ s) (c : Child) (rest : List Nat) : Frame s₀ (switchTo s c rest) := by
  unfold switchTo
  have h1 : Frame s₀ (stopLower s rest) := foldl_inv (P := Frame s₀) (fun _ n h => stopChild_frame h n false) rest h
  dsimp only
  split
  · exact h1
  · split
    · refine startChild_frame ?_ c.name
      exact ⟨h1.pending, h1.now⟩
    · exact ⟨h1.pending, h1.now⟩

theorem sync_frame {s₀ s : St} (h : Frame s₀ s) (upd : Option Nat) : Frame s₀ (sync s upd) := by
  unfold sync
  rcases syncFrom_cases s upd s.prios with ⟨he, -⟩ | ⟨_, _, _, _, -, -, -, -, he⟩ <;> rw [he]
  · exact h
  · refine switchTo_frame ?_ _ _
    split
    · exact ⟨h.pending, h.now⟩
    · exact h

theorem handleChild_frame {s₀ s : St} (h : Frame s₀ s) (n : Nat) (p : PState) : Frame s₀ (handleChild s n p) := by
  unfold handleChild
  split
  · exact h
  · split
    · exact h
    · refine sync_frame ?_ _
      exact ⟨h.pending, h.now⟩

theorem settle_frame {s₀ s : St} (h : Frame s₀ s) : Frame s₀ (settle s) :=
  drain_inv (P := Frame s₀) (fun _ _ h => ⟨h.pending, h.now⟩) (fun _ n p h => handleChild_frame h n p) _ h

theorem timerFire_frame {s₀ s : St} (h : Frame s₀ s) (n : Nat) : Frame s₀ (timerFire s n) := by
  refine settle_frame (sync_frame ?_ _)
  exact ⟨h.pending, h.now⟩

theorem updChild_frame {s₀ s : St} (h : Frame s₀ s) (nt : Nat × Nat) : Frame s₀ (updChild s nt) := by
  unfold updChild
  cases findChild s nt.1 with
  | none => exact ⟨h.pending, h.now⟩
  | some c =>
    dsimp only
    have h1 : Frame s₀ (if c.typ ≠ nt.2 then modChild (stopChild s nt.1 true) nt.1 fun c => { c with typ := nt.2 } else s) := by
      split
      · exact ⟨(stopChild_frame h nt.1 true).pending, (stopChild_frame h nt.1 true).now⟩
      · exact h
    generalize (if c.typ ≠ nt.2 then modChild (stopChild s nt.1 true) nt.1 fun c => { c with typ := nt.2 } else s) = s1 at h1
    cases findChild s1 nt.1 with
    | none => exact h1
    | some c' =>
      dsimp only
      cases c'.started with
      | true => exact ⟨h1.pending, h1.now⟩
      | false => exact h1

theorem update_frame {s₀ s : St} (h : Frame s₀ s) (prios : List Nat) (kids : List (Nat × Nat)) :
    Frame s₀ (update s prios kids) := by
  unfold update; dsimp only
  have h2 : Frame s₀ (dropChildren (kids.foldl updChild s) (kids.map (·.1))) :=
    have := foldl_inv (P := Frame s₀) (fun _ n h => stopChild_frame h n true) _
      (foldl_inv (P := Frame s₀) (fun _ nt h => updChild_frame h nt) kids h)
    ⟨this.pending, this.now⟩
  generalize dropChildren (kids.foldl updChild s) (kids.map (·.1)) = t at h2
  split
  · exact ⟨h2.pending, h2.now⟩
  · refine settle_frame (sync_frame ?_ _)
    exact ⟨h2.pending, h2.now⟩

def PendOK (s : St) : Prop := ∀ p ∈ s.pending, p.2 ≤ s.now

theorem pendOK_frame {s t : St} (h : PendOK s) (f : Frame s t) : PendOK t := by
  intro p hp; rw [f.pending] at hp; rw [f.now]; exact h p hp

theorem step_pendOK (s : St) (h : PendOK s) (op : Op) : PendOK (step s op) := by
  have hc : Frame s (clearOut s) := ⟨rfl, rfl⟩
  -- the branches of `step` in the order of its text: `update` 1, `child` 2, `timer` 3-5, `dispatch` 6, `runcb` 7,
  -- `expire` 8-10, `advance` 11; a timer or cache entry that is not there (4, 5, 9, 10) only clears the outputs
  fun_cases step s op
  case case1 prios kids => exact pendOK_frame h (update_frame hc prios kids)
  case case2 n conn =>
    unfold childReport
    split
    · exact pendOK_frame h hc
    · refine pendOK_frame h (settle_frame (handleChild_frame ?_ n _))
      exact ⟨rfl, rfl⟩
  case case3 n _ _ _ => exact pendOK_frame h (timerFire_frame hc n)
  case case6 n =>
    rcases dispatch_cases (clearOut s) n with he | ⟨d, hd, he⟩ <;> rw [he]
    · exact pendOK_frame h hc
    · intro p hp
      rcases List.mem_append.mp hp with h1 | h1
      · exact h p h1
      · obtain rfl := List.mem_singleton.mp h1
        exact hd
  case case7 =>
    rcases runCallback_cases (clearOut s) with ⟨_, e⟩ | ⟨n, _, rest, hpend, e⟩
    · rw [e]; exact pendOK_frame h hc
    · have h1 : PendOK { clearOut s with pending := rest } := fun p hp =>
        h p ((hpend : s.pending = _) ▸ List.mem_cons_of_mem _ hp)
      rcases e with ⟨_, e⟩ | ⟨_, e⟩ <;> rw [e]
      · exact pendOK_frame h1 (timerFire_frame (Frame.refl _) n)
      · exact h1
  case case8 => exact pendOK_frame h ⟨rfl, rfl⟩
  case case11 d _ =>
    intro p hp
    have := h p hp
    show p.2 ≤ s.now + (d : Int)
    omega
  all_goals exact pendOK_frame h hc

theorem reach_pendOK {s : St} (h : Reach s) : PendOK s := by
  induction h with
  | init => exact fun _ hp => nomatch hp
  | step op _ _ ih => exact step_pendOK _ ih op

end GrpcProofs.Lemmas.Priority
