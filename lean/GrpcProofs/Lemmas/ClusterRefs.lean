import GrpcModel.Model.ClusterRefs
import GrpcProofs.Lemmas.Basic
/-! Helper lemmas for C51 (model: GrpcModel/Model/ClusterRefs.lean).  The resolver's table is read as a finite map
    (`findInfo`).  `step` changes it only by rewriting the entry of one cluster (`tab_update`: `acquireCS`, `release`,
    the increment of `select`) and by `prune`, a filter.  The table invariant `Tab s k` takes the expected reference counts `k` as a
    parameter, so it also holds in the middle of `deliver`; `Inv` is `Tab` for the counts the property speaks of
    (selector + uncommitted RPCs), with what is known of the queue and the RPC log. -/
namespace GrpcProofs.Lemmas.ClusterRefs
open GrpcModel.ClusterRefs Basic

def names (a : List Info) : List Name := a.map (·.name)
def rc (a : List Info) (c : Name) : Nat := ((findInfo a c).map (·.refCount)).getD 0

theorem findInfo_nil (c : Name) : findInfo [] c = none := rfl

theorem findInfo_cons (i : Info) (a : List Info) (c : Name) :
    findInfo (i :: a) c = if i.name = c then some i else findInfo a c := by
  by_cases h : i.name = c <;> simp [findInfo, h]

theorem findInfo_none_iff (a : List Info) (c : Name) : findInfo a c = none ↔ c ∉ names a := find_none_iff

theorem findInfo_some_name {a : List Info} {c : Name} {i : Info} (h : findInfo a c = some i) : i.name = c ∧ i ∈ a :=
  (find_some h).symm

theorem rc_of_not_mem (a : List Info) (c : Name) (h : c ∉ names a) : rc a c = 0 := by
  simp [rc, (findInfo_none_iff a c).mpr h]

theorem rc_some {a : List Info} {c : Name} {i : Info} (h : findInfo a c = some i) : rc a c = i.refCount := by
  simp [rc, h]

theorem findInfo_of_mem {a : List Info} (hnd : (names a).Nodup) {i : Info} (hi : i ∈ a) : findInfo a i.name = some i :=
  find_of_mem hnd hi

theorem names_modify (a : List Info) (c : Name) (f : Info → Info) (hf : ∀ i, (f i).name = i.name := by intro _; rfl) :
    names (modifyInfo a c f) = names a :=
  keys_map fun i => by split <;> simp [hf]

theorem findInfo_modify (a : List Info) (c x : Name) (f : Info → Info) (hf : ∀ i, (f i).name = i.name) :
    findInfo (modifyInfo a c f) x = if x = c then (findInfo a c).map f else findInfo a x :=
  find_modify hf x

theorem findInfo_modify_some {a : List Info} {c : Name} {i : Info} {f : Info → Info} (hf : findInfo a c = some i)
    (x : Name) (hn : ∀ i, (f i).name = i.name := by intro _; rfl) :
    findInfo (modifyInfo a c f) x = if x = c then some (f i) else findInfo a x := by
  rw [findInfo_modify a c x f hn, hf]; rfl

theorem findInfo_append (a : List Info) (i : Info) (x : Name) :
    findInfo (a ++ [i]) x = match findInfo a x with
      | some j => some j
      | none => if i.name = x then some i else none := by
  induction a with
  | nil => simp [findInfo_cons, findInfo_nil]
  | cons y a ih =>
    simp only [List.cons_append, findInfo_cons]
    by_cases h : y.name = x <;> simp [h, ih]

theorem findInfo_append_new (a : List Info) (i : Info) (x : Name) (h : findInfo a i.name = none) :
    findInfo (a ++ [i]) x = if x = i.name then some i else findInfo a x := by
  rw [findInfo_append]
  by_cases hx : x = i.name
  · subst hx; simp [h]
  · cases findInfo a x <;> simp [hx, Ne.symm hx]

theorem findInfo_filter (a : List Info) (p : Info → Bool) (x : Name) (hnd : (names a).Nodup) :
    findInfo (a.filter p) x = (findInfo a x).filter p := by
  induction a with
  | nil => simp [findInfo_nil]
  | cons i a ih =>
    rw [names, List.map_cons, List.nodup_cons] at hnd
    rw [List.filter_cons, findInfo_cons]
    by_cases hp : p i = true
    · simp only [hp, if_true, findInfo_cons]
      by_cases hx : i.name = x
      · simp [hx, Option.filter, hp]
      · simp only [hx, if_false]; exact ih hnd.2
    · rw [if_neg hp, ih hnd.2]
      by_cases hx : i.name = x
      · subst hx
        simp [(findInfo_none_iff a i.name).mpr hnd.1, Option.filter, hp]
      · simp [hx]

theorem rc_filter_nonzero (a : List Info) (x : Name) (hnd : (names a).Nodup) :
    rc (a.filter (fun i => i.refCount ≠ 0)) x = rc a x := by
  unfold rc
  rw [findInfo_filter _ _ _ hnd]
  cases findInfo a x with
  | none => rfl
  | some i => by_cases h : i.refCount = 0 <;> simp [Option.filter, h]

theorem mem_dedup (l : List Name) (x : Name) : x ∈ dedup l ↔ x ∈ l := by
  induction l with
  | nil => simp [dedup]
  | cons a l ih =>
    simp only [dedup]
    split
    · rename_i h
      rw [ih, List.mem_cons]
      exact ⟨Or.inr, fun hx => hx.elim (fun e => e ▸ h) id⟩
    · simp [ih]

theorem nodup_dedup (l : List Name) : (dedup l).Nodup := by
  induction l with
  | nil => simp [dedup]
  | cons a l ih =>
    simp only [dedup]
    split
    · exact ih
    · rename_i h
      exact List.nodup_cons.mpr ⟨fun hm => h ((mem_dedup l a).mp hm), ih⟩

theorem dedup_of_nodup (l : List Name) (h : l.Nodup) : dedup l = l := by
  induction l with
  | nil => rfl
  | cons a l ih =>
    rw [List.nodup_cons] at h
    simp [dedup, h.1, ih h.2]

/-- the fields the dependency-manager side never touches -/
structure Same (s s' : State) : Prop where
  cur : s'.cur = s.cur
  rpcs : s'.rpcs = s.rpcs
  commits : s'.commits = s.commits
  sc : s'.pushedSC = s.pushedSC
  static : s'.static = s.static

theorem Same.refl (s : State) : Same s s := ⟨rfl, rfl, rfl, rfl, rfl⟩
theorem Same.trans {a b c : State} (h1 : Same a b) (h2 : Same b c) : Same a c :=
  ⟨h2.cur.trans h1.cur, h2.rpcs.trans h1.rpcs, h2.commits.trans h1.commits, h2.sc.trans h1.sc, h2.static.trans h1.static⟩

/-- what the dependency manager may do during the resolver's bookkeeping: its static route stays, it only appends
    updates for that route to the queue, and the ghost flag `reusedSpent` only goes up -/
structure Ext (s s' : State) : Prop where
  static : s'.static = s.static
  reused : s'.reusedSpent = false → s.reusedSpent = false
  queue : ∃ extra, s'.queue = s.queue ++ extra ∧ ∀ u ∈ extra, u.route = s.static

theorem Ext.of_eq {s s' : State} (hs : s'.static = s.static) (hr : s'.reusedSpent = s.reusedSpent)
    (hq : s'.queue = s.queue) : Ext s s' := ⟨hs, fun h => hr ▸ h, [], by simp [hq], by simp⟩
theorem Ext.refl (s : State) : Ext s s := .of_eq rfl rfl rfl
theorem Ext.trans {a b c : State} (h1 : Ext a b) (h2 : Ext b c) : Ext a c := by
  obtain ⟨e1, q1, r1⟩ := h1.queue
  obtain ⟨e2, q2, r2⟩ := h2.queue
  refine ⟨h2.static.trans h1.static, fun h => h1.reused (h2.reused h), e1 ++ e2, by rw [q2, q1, List.append_assoc], ?_⟩
  intro u hu
  rcases List.mem_append.mp hu with h | h
  · exact r1 u h
  · rw [← h1.static]; exact r2 u h

theorem Ext.queue_ne {s s' : State} (h : Ext s s') (hq : s.queue ≠ []) : s'.queue ≠ [] := by
  obtain ⟨e, q, _⟩ := h.queue
  rw [q]
  exact fun h' => hq (List.append_eq_nil_iff.mp h').1

/-- unsubscribeFromCluster, after the resolver has rewritten its table to `a` -/
theorem unsubscribeDM_ext (s : State) (a : List Info) (c : Name) :
    let s' := unsubscribeDM { s with active := a } c
    Ext s s' ∧ Same s s' ∧ s'.active = a ∧ (∀ x, x ≠ c → dynOf s' x = dynOf s x) ∧ dynOf s' c = dynOf s c - 1 ∧
    (dynOf s c = 1 → c ∈ s.static ∨ s'.queue ≠ []) := by
  have hd : ∀ x, x ≠ c → (s.dyn.erase c).count x = s.dyn.count x := fun x hx => List.count_erase_of_ne hx
  have hc : (s.dyn.erase c).count c = s.dyn.count c - 1 := List.count_erase_self
  unfold unsubscribeDM
  dsimp only
  split
  · exact ⟨⟨rfl, id, [_], rfl, by simp⟩, ⟨rfl, rfl, rfl, rfl, rfl⟩, rfl, hd, hc, fun _ => Or.inr (by simp [sendUpdate])⟩
  · rename_i hcond
    refine ⟨.of_eq rfl rfl rfl, ⟨rfl, rfl, rfl, rfl, rfl⟩, rfl, hd, hc, fun h1 => Or.inl ?_⟩
    exact Classical.not_not.mp fun hs => hcond ⟨by show dynOf s c - 1 = 0; rw [h1], by simpa using hs⟩

theorem subscribe_ext (s : State) (c : Name) :
    let s' := subscribe s c
    Ext s s' ∧ Same s s' ∧ s'.active = s.active ∧ (∀ x, x ≠ c → dynOf s' x = dynOf s x) ∧ dynOf s' c = dynOf s c + 1 := by
  have hd : ∀ x, x ≠ c → (s.dyn ++ [c]).count x = s.dyn.count x := fun x hx => by simp [Ne.symm hx]
  have hc : (s.dyn ++ [c]).count c = s.dyn.count c + 1 := by simp
  unfold subscribe
  dsimp only
  split
  · exact ⟨.of_eq rfl rfl rfl, ⟨rfl, rfl, rfl, rfl, rfl⟩, rfl, hd, hc⟩
  · refine ⟨⟨rfl, id, ?_⟩, ⟨rfl, rfl, rfl, rfl, rfl⟩, rfl, hd, hc⟩
    simp only [sendUpdate, List.append_assoc]
    refine ⟨_, rfl, fun u hu => ?_⟩
    simp only [List.mem_append, List.mem_cons, List.not_mem_nil, or_false] at hu
    rcases hu with (h | h) | h <;> subst h <;> rfl

def ind (b : Bool) : Nat := if b then 1 else 0

def inflightCount (s : State) (c : Name) : Nat := (s.rpcs.filter (fun r => !r.committed && r.cluster == c)).length
def curList (s : State) : List Name := s.cur.getD []

theorem inflightCount_same {s s' : State} (h : s'.rpcs = s.rpcs) (c : Name) : inflightCount s' c = inflightCount s c := by
  unfold inflightCount; rw [h]

theorem inflightCount_eq (s : State) (c : Name) : inflightCount s c = (inflight s).count c := by
  unfold inflightCount inflight
  rw [List.count, List.countP_map, List.countP_filter, List.countP_eq_length_filter]
  exact congrArg (fun p => (s.rpcs.filter p).length) (funext fun r => Bool.and_comm _ _)

theorem curList_same {s s' : State} (h : s'.cur = s.cur) : curList s' = curList s := by
  unfold curList; rw [h]

/-- Consistency of one cluster, from its entry `e`, its dynamic count `d` and the ghost flag: an unspent clusterInfo
    holds exactly one dynamic reference and at least one reference count; a spent one holds none (and, unless a
    spent one was ever re-referenced, has reference count 0); a cluster without clusterInfo has no dynamic reference. -/
def Cell (e : Option Info) (d : Nat) (reused : Bool) : Prop := match e with
  | none => d = 0
  | some i => if i.spent = true then d = 0 ∧ (reused = false → i.refCount = 0) else 1 ≤ i.refCount ∧ d = 1

theorem cell_spent {i : Info} {d : Nat} {r : Bool} (hs : i.spent = true) :
    Cell (some i) d r ↔ d = 0 ∧ (r = false → i.refCount = 0) := by simp [Cell, hs]

theorem cell_unspent {i : Info} {d : Nat} {r : Bool} (hs : i.spent = false) :
    Cell (some i) d r ↔ 1 ≤ i.refCount ∧ d = 1 := by simp [Cell, hs]

theorem cell_mono {e : Option Info} {d : Nat} {r r' : Bool} (hr : r' = false → r = false) (h : Cell e d r) : Cell e d r' := by
  cases e with
  | none => exact h
  | some i =>
    cases hs : i.spent with
    | false => exact (cell_unspent hs).mpr ((cell_unspent hs).mp h)
    | true =>
      rw [cell_spent hs] at h ⊢
      exact ⟨h.1, fun hh => h.2 (hr hh)⟩

/-- a spent clusterInfo is still named by the route the dependency manager has, or an update is queued (a `def` over
    `reusedSpent`, `active`, `static`, `queue`: across a write to any other field it holds as it stands) -/
def SpentCovered (s : State) : Prop :=
  s.reusedSpent = false → ∀ c i, findInfo s.active c = some i → i.spent = true → (c ∈ s.static ∨ s.queue ≠ [])

/-- bookkeeping that leaves selector, RPC log and pushed service config alone and lets the dependency manager only
    queue updates for its unchanged route -/
structure Quiet (s s' : State) : Prop where
  ext : Ext s s'
  same : Same s s'
  spent : SpentCovered s → SpentCovered s'

theorem Quiet.refl (s : State) : Quiet s s := ⟨Ext.refl s, Same.refl s, id⟩
theorem Quiet.trans {a b c : State} (h1 : Quiet a b) (h2 : Quiet b c) : Quiet a c :=
  ⟨h1.ext.trans h2.ext, h1.same.trans h2.same, fun h => h2.spent (h1.spent h)⟩

/-- The table is a finite map in which cluster `c` has reference count `k c`, and entries and dynamic subscriptions
    agree.  `k` is a variable: inside `deliver` the new selector's references are taken before `cur` is set, and
    those states satisfy `Tab` for the `k` in between. -/
structure TabOf (a : List Info) (dyn : List Name) (reused : Bool) (k : Name → Nat) : Prop where
  nd : (names a).Nodup
  cnt : ∀ c, rc a c = k c
  cells : ∀ c, Cell (findInfo a c) (dyn.count c) reused

/-- `Tab` reads `active`, `dyn` and `reusedSpent` only, and unfolds: of a state that differs from `s` in other fields
    it holds as it stands. -/
abbrev Tab (s : State) (k : Name → Nat) : Prop := TabOf s.active s.dyn s.reusedSpent k

theorem Tab.entry {s : State} {k : Name → Nat} {c : Name} {i : Info} (h : Tab s k) (hf : findInfo s.active c = some i) :
    Cell (some i) (dynOf s c) s.reusedSpent := hf ▸ h.cells c

theorem Tab.congr {s : State} {k k' : Name → Nat} (h : Tab s k) (hk : ∀ c, k c = k' c) : Tab s k' :=
  ⟨h.nd, fun c => (h.cnt c).trans (hk c), h.cells⟩

/-- Point update: an operation that replaces the entry of one cluster `c` by `e`, changes the dynamic count of `c`
    only, and is otherwise `Ext`/`Same`, has to re-establish consistency at `c` only; the count of `c` moves by
    `op · 1` (`op` = + or −). -/
theorem tab_update {s s' : State} {k : Name → Nat} {c : Name} {op : Nat → Nat → Nat} (hop : ∀ n, op n 0 = n)
    (h : Tab s k) (e : Option Info) (hn : (names s'.active).Nodup)
    (hf : ∀ x, findInfo s'.active x = if x = c then e else findInfo s.active x)
    (hd : ∀ x, x ≠ c → dynOf s' x = dynOf s x) (he : Ext s s') (hs : Same s s')
    (hc : Cell e (dynOf s' c) s'.reusedSpent) (hk : (e.map (·.refCount)).getD 0 = op (rc s.active c) 1)
    (hb : SpentCovered s → s'.reusedSpent = false → ∀ j, e = some j → j.spent = true → c ∈ s'.static ∨ s'.queue ≠ []) :
    Tab s' (fun x => op (k x) (ind (c == x))) ∧ Quiet s s' := by
  have hfc : findInfo s'.active c = e := by rw [hf, if_pos rfl]
  refine ⟨{ nd := hn, cnt := fun x => ?_, cells := fun x => show Cell _ (dynOf s' x) _ from ?_ }, { ext := he, same := hs, spent := fun b hr x j hj hs => ?_ }⟩
  · by_cases hx : x = c
    · subst hx; rw [← h.cnt]; unfold rc at hk ⊢; rw [hfc]; simpa [ind] using hk
    · have hx' : (c == x) = false := by simpa using Ne.symm hx
      rw [hx', ← h.cnt x]
      unfold rc
      rw [hf, if_neg hx]
      exact (hop _).symm
  · by_cases hx : x = c
    · subst hx; rw [hfc]; exact hc
    · rw [hf, if_neg hx, hd x hx]; exact cell_mono he.reused (h.cells x)
  · rw [hf] at hj
    split at hj
    · subst ‹x = c›; exact hb b hr j hj hs
    · exact (b (he.reused hr) x j hj hs).imp (fun h => by rw [he.static]; exact h) he.queue_ne

theorem modifyInfo_modifyInfo (a : List Info) (c : Name) (f g : Info → Info) (hf : ∀ i, (f i).name = i.name) :
    modifyInfo (modifyInfo a c f) c g = modifyInfo a c (g ∘ f) := by
  unfold modifyInfo
  rw [List.map_map]
  apply List.map_congr_left
  intro i _
  by_cases h : i.name = c <;> simp [h, hf]

/-- `release` in one step: the decrement, and the first time the count reaches 0 the OnceFunc -/
theorem release_eq (s : State) (c : Name) : release s c = match findInfo s.active c with
    | none => s
    | some i =>
      if i.refCount - 1 = 0 ∧ i.spent = false then
        unsubscribeDM { s with active := modifyInfo s.active c (markSpent ∘ decr) } c
      else { s with active := modifyInfo s.active c decr } := by
  unfold release
  cases hf : findInfo s.active c with
  | none => rfl
  | some i =>
    dsimp only
    by_cases h0 : i.refCount - 1 = 0
    · rw [if_pos h0]
      unfold unsubscribe
      rw [show findInfo (modifyInfo s.active c decr) c = some (decr i) by rw [findInfo_modify_some hf, if_pos rfl]]
      dsimp only
      by_cases hs : i.spent = true
      · rw [if_pos (show (decr i).spent = true from hs), if_neg (by simp [hs])]
      · rw [if_neg (show ¬ (decr i).spent = true from hs), if_pos ⟨h0, by simpa using hs⟩,
          modifyInfo_modifyInfo _ _ decr _ fun _ => rfl]
    · rw [if_neg h0, if_neg fun h => h0 h.1]

theorem release_tab {s : State} {k : Name → Nat} (c : Name) (h : Tab s k) :
    Tab (release s c) (fun x => k x - ind (c == x)) ∧ names (release s c).active = names s.active ∧
    Quiet s (release s c) := by
  rw [release_eq]
  cases hf : findInfo s.active c with
  | none =>
    refine ⟨h.congr fun x => ?_, rfl, Quiet.refl s⟩
    by_cases hx : c = x
    · subst hx; rw [← h.cnt, rc_of_not_mem _ _ ((findInfo_none_iff _ _).mp hf), Nat.zero_sub]
    · simp [ind, hx]
  | some i =>
    dsimp only
    have hgc := h.entry hf
    split
    · -- 0 for the first time: the entry is unspent, so it holds the dynamic reference that the OnceFunc gives back
      rename_i h0
      obtain ⟨-, hd1⟩ := (cell_unspent h0.2).mp hgc
      obtain ⟨e, sm, ha, hd, hdc, hq⟩ := unsubscribeDM_ext s (modifyInfo s.active c (markSpent ∘ decr)) c
      have hn := (congrArg names ha).trans (names_modify s.active c (markSpent ∘ decr))
      refine (tab_update (op := (· - ·)) Nat.sub_zero h (e := some (markSpent (decr i))) (hn := hn ▸ h.nd)
        (hf := fun x => by rw [ha]; exact findInfo_modify_some hf x) (hd := hd) (he := e) (hs := sm) (hc := ?_)
        (hk := by rw [rc_some hf]; rfl)
        (hb := fun _ _ _ _ _ => (hq hd1).imp (fun h => by rw [e.static]; exact h) id)).elim fun t q => ⟨t, hn, q⟩
      exact (cell_spent rfl).mpr ⟨by rw [hdc, hd1], fun _ => h0.1⟩
    · -- only the count changes: still positive, or the entry was spent already
      rename_i h0
      have hn : names (modifyInfo s.active c decr) = names s.active := names_modify _ _ _
      refine (tab_update (op := (· - ·)) Nat.sub_zero h (s' := { s with active := modifyInfo s.active c decr })
        (e := some (decr i)) (hn := hn ▸ h.nd) (hf := fun x => findInfo_modify_some hf x) (hd := fun _ _ => rfl)
        (he := .of_eq rfl rfl rfl) (hs := ⟨rfl, rfl, rfl, rfl, rfl⟩) (hc := ?_) (hk := by rw [rc_some hf]; rfl)
        (hb := fun hb hr j hj hs => by cases hj; exact hb hr c i hf hs)).elim fun t q => ⟨t, hn, q⟩
      cases hs : i.spent with
      | true =>
        obtain ⟨hd0, hz⟩ := (cell_spent hs).mp hgc
        exact (cell_spent (i := decr i) hs).mpr ⟨hd0, fun hr => by show i.refCount - 1 = 0; rw [hz hr]⟩
      | false =>
        obtain ⟨h1, hd1⟩ := (cell_unspent hs).mp hgc
        have : i.refCount - 1 ≠ 0 := fun h => h0 ⟨h, hs⟩
        exact (cell_unspent (i := decr i) hs).mpr ⟨by show 1 ≤ i.refCount - 1; omega, hd1⟩

/-- One more reference on the existing entry `i` of `c`.  The ghost flag may become any `r` that is up when `i` is
    spent: `acquireCS` sets it so, `select` leaves it alone. -/
theorem incr_tab {s : State} {k : Name → Nat} {c : Name} {i : Info} (h : Tab s k) (hf : findInfo s.active c = some i)
    {r : Bool} (hr : r = false → s.reusedSpent = false ∧ i.spent = false) :
    Tab { s with active := modifyInfo s.active c incr, reusedSpent := r } (fun x => k x + ind (c == x)) ∧
    Quiet s { s with active := modifyInfo s.active c incr, reusedSpent := r } := by
  have hgc := h.entry hf
  refine tab_update (op := (· + ·)) Nat.add_zero h (e := some (incr i))
    (hn := (names_modify s.active c incr).symm ▸ h.nd)
    (hf := fun x => findInfo_modify_some hf x) (hd := fun _ _ => rfl)
    (he := ⟨rfl, fun h => (hr h).1, [], by simp, by simp⟩) (hs := ⟨rfl, rfl, rfl, rfl, rfl⟩) (hc := ?_)
    (hk := by rw [rc_some hf]; rfl) (hb := fun _ h j hj hs => by cases hj; simp [incr, (hr h).2] at hs)
  cases hs : i.spent with
  | true => exact (cell_spent (i := incr i) hs).mpr ⟨((cell_spent hs).mp hgc).1, fun h => by simp [(hr h).2] at hs⟩
  | false => exact (cell_unspent (i := incr i) hs).mpr ⟨Nat.le_add_left 1 _, ((cell_unspent hs).mp hgc).2⟩

theorem acquire_tab {s : State} {k : Name → Nat} (c : Name) (h : Tab s k) :
    Tab (acquireCS s c) (fun x => k x + ind (c == x)) ∧ Quiet s (acquireCS s c) := by
  unfold acquireCS
  cases hf : findInfo s.active c with
  | some i => exact incr_tab h hf fun h => by simpa using h
  | none =>
    dsimp only
    obtain ⟨e, sm, ha, hd, hdc⟩ := subscribe_ext s c
    have hgc : dynOf s c = 0 := by have := h.cells c; rwa [hf] at this
    have hnm := (findInfo_none_iff _ _).mp hf
    refine tab_update (op := (· + ·)) Nat.add_zero h
      (e := some ⟨c, 1, false⟩) (hn := ?_) (hf := fun x => by rw [ha]; exact findInfo_append_new _ _ x hf) (hd := hd)
      (he := e.trans (.of_eq rfl rfl rfl)) (hs := sm.trans ⟨rfl, rfl, rfl, rfl, rfl⟩) (hc := ?_) (hk := by rw [rc_of_not_mem _ _ hnm]; rfl)
      (hb := fun _ _ j hj hs => by cases hj; cases hs)
    · show (names ((subscribe s c).active ++ [_])).Nodup
      rw [ha, names, List.map_append]
      exact nodup_snoc h.nd hnm
    · exact (cell_unspent rfl).mpr ⟨Nat.le_refl 1, by show dynOf (subscribe s c) c = 1; rw [hdc, hgc]⟩

/-- a list of distinct clusters acquired (`op` = +) or released (`op` = −) one after the other; `Q` is what each
    single operation does to the rest of the state -/
theorem foldl_tab {f : State → Name → State} {op : Nat → Nat → Nat} {Q : State → State → Prop} (hop : ∀ n, op n 0 = n)
    (hr : ∀ s, Q s s) (ht : ∀ {a b c}, Q a b → Q b c → Q a c)
    (hf : ∀ s k c, Tab s k → Tab (f s c) (fun x => op (k x) (ind (c == x))) ∧ Q s (f s c))
    (l : List Name) (hl : l.Nodup) {s : State} {k : Name → Nat} (h : Tab s k) :
    Tab (l.foldl f s) (fun x => op (k x) (ind (l.contains x))) ∧ Q s (l.foldl f s) := by
  induction l generalizing s k with
  | nil => exact ⟨h.congr fun _ => (hop _).symm, hr s⟩
  | cons c l ih =>
    rw [List.nodup_cons] at hl
    obtain ⟨a1, a2⟩ := hf s k c h
    obtain ⟨b1, b2⟩ := ih hl.2 a1
    refine ⟨b1.congr fun x => ?_, ht a2 b2⟩
    by_cases hx : x = c
    · subst hx; simp [ind, hl.1, hop]
    · simp [ind, hx, Ne.symm hx, hop]

theorem stopOld_tab {s : State} {k : Name → Nat} (h : Tab s k) (hc : (curList s).Nodup) :
    Tab (stopOld s) (fun x => k x - ind ((curList s).contains x)) ∧ names (stopOld s).active = names s.active ∧
    Quiet s (stopOld s) := by
  unfold stopOld curList at *
  cases hcur : s.cur with
  | none => exact ⟨h, rfl, Quiet.refl s⟩
  | some old =>
    rw [hcur] at hc
    exact foldl_tab (op := (· - ·)) (Q := fun s s' => names s'.active = names s.active ∧ Quiet s s') Nat.sub_zero
      (fun s => ⟨rfl, .refl s⟩) (fun h1 h2 => ⟨h2.1.trans h1.1, h1.2.trans h2.2⟩) (fun _ _ c => release_tab c) old hc h

/-! ### prune: in a consistent state an entry without references has used its unsubscribe already, so
    pruneActiveClustersAndPlugins only deletes -/

theorem unsubscribe_dead {s : State} {c : Name} (hg : Cell (findInfo s.active c) (dynOf s c) s.reusedSpent)
    (h0 : rc s.active c = 0) : unsubscribe s c = s := by
  unfold unsubscribe
  cases hf : findInfo s.active c with
  | none => rfl
  | some i =>
    rw [hf] at hg
    have h0 : i.refCount = 0 := by simpa [rc, hf] using h0
    dsimp only
    cases hs : i.spent with
    | true => rfl
    | false => have := ((cell_unspent hs).mp hg).1; omega

theorem prune_eq {s : State} {k : Name → Nat} (h : Tab s k) :
    prune s = { s with active := s.active.filter (fun i => i.refCount ≠ 0) } := by
  have hdead : ∀ l : List Name, (∀ c ∈ l, rc s.active c = 0) → l.foldl unsubscribe s = s := by
    intro l hl
    induction l with
    | nil => rfl
    | cons c l ih =>
      rw [List.foldl_cons, unsubscribe_dead (h.cells c) (hl c (by simp))]
      exact ih fun x hx => hl x (by simp [hx])
  unfold prune
  dsimp only
  rw [hdead]
  intro c hc
  obtain ⟨i, hi, rfl⟩ := List.mem_map.mp hc
  have hi' := List.mem_filter.mp hi
  simpa [rc, findInfo_of_mem h.nd hi'.1] using hi'.2

theorem prune_tab {s : State} {k : Name → Nat} (h : Tab s k) : Tab (prune s) k ∧ Quiet s (prune s) ∧ SpentCovered (prune s) := by
  rw [prune_eq h]
  have hg' : ∀ x, Cell (findInfo (s.active.filter (fun i => i.refCount ≠ 0)) x) (dynOf s x) s.reusedSpent := by
    intro x
    have hgx := h.cells x
    rw [findInfo_filter _ _ x h.nd]
    cases hfx : findInfo s.active x with
    | none => rw [hfx] at hgx; exact hgx
    | some j =>
      rw [hfx] at hgx
      by_cases hz : j.refCount = 0
      · -- a deleted entry was spent, so no dynamic reference is left behind
        rw [show (some j).filter (fun i => decide (i.refCount ≠ 0)) = none by simp [Option.filter, hz]]
        cases hs : j.spent with
        | true => exact ((cell_spent hs).mp hgx).1
        | false => have := ((cell_unspent hs).mp hgx).1; omega
      · rw [show (some j).filter (fun i => decide (i.refCount ≠ 0)) = some j by simp [Option.filter, hz]]
        exact hgx
  have hb : SpentCovered { s with active := s.active.filter (fun i => i.refCount ≠ 0) } := by
    -- a spent entry has count 0 and is gone
    intro hr x j hj hs
    have hj' : findInfo (s.active.filter (fun i => i.refCount ≠ 0)) x = some j := hj
    have hz := hg' x
    rw [show findInfo _ x = some j from hj'] at hz
    have := (List.mem_filter.mp (findInfo_some_name hj').2).2
    simp [((cell_spent hs).mp hz).2 hr] at this
  exact ⟨⟨nodup_keys_filter h.nd _, fun x => (rc_filter_nonzero _ x h.nd).trans (h.cnt x), hg'⟩,
    { ext := .of_eq rfl rfl rfl, same := ⟨rfl, rfl, rfl, rfl, rfl⟩, spent := fun _ => hb }, hb⟩

/-- the RPC log: ids are distinct; a release is logged once, and only for a committed RPC -/
structure LogOk (rpcs : List Rpc) (commits : List Nat) : Prop where
  idsNd : (rpcs.map (·.id)).Nodup
  commitsNd : commits.Nodup
  commitsOk : ∀ id ∈ commits, ∃ r ∈ rpcs, r.id = id ∧ r.committed = true

def markCommitted (id : Nat) (x : Rpc) : Rpc := if x.id == id then { x with committed := true } else x

theorem ids_markCommitted (rpcs : List Rpc) (id : Nat) : (rpcs.map (markCommitted id)).map (·.id) = rpcs.map (·.id) :=
  keys_map fun x => by
    unfold markCommitted
    split <;> rfl

theorem inflightCount_select {s s' : State} {id : Nat} {c : Name}
    (h : s'.rpcs = s.rpcs ++ [{ id := id, cluster := c, committed := false }]) (x : Name) :
    inflightCount s' x = inflightCount s x + ind (c == x) := by
  unfold inflightCount
  rw [h, List.filter_append, List.length_append]
  cases hx : c == x <;> simp [List.filter, ind, hx]

theorem inflightCount_commit {s s' : State} {r : Rpc} (h : s'.rpcs = s.rpcs.map (markCommitted r.id))
    (hnd : (s.rpcs.map (·.id)).Nodup) (hm : r ∈ s.rpcs) (hu : r.committed = false) (x : Name) :
    inflightCount s' x + ind (r.cluster == x) = inflightCount s x := by
  unfold inflightCount
  rw [h]
  simp only [← List.countP_eq_length_filter]
  have := countP_map_key hnd hm (g := markCommitted r.id) (fun q hq => by simp [markCommitted, hq])
    fun r => !r.committed && r.cluster == x
  simpa [markCommitted, hu, ind] using this

theorem logOk_select {rpcs : List Rpc} {commits : List Nat} (h : LogOk rpcs commits) {id : Nat} (c : Name)
    (hid : ¬ rpcs.any (·.id == id) = true) : LogOk (rpcs ++ [{ id := id, cluster := c, committed := false }]) commits := by
  refine { idsNd := ?_, commitsNd := h.commitsNd, commitsOk := fun id' hid' => ?_ }
  · simp only [List.map_append, List.map_cons, List.map_nil]
    refine nodup_snoc h.idsNd fun ha => ?_
    obtain ⟨q, hq, hqe⟩ := List.mem_map.mp ha
    exact hid (List.any_eq_true.mpr ⟨q, hq, by simpa using hqe⟩)
  · obtain ⟨q, hq, h⟩ := h.commitsOk id' hid'
    exact ⟨q, by simp [hq], h⟩

theorem logOk_commit {rpcs : List Rpc} {commits : List Nat} (h : LogOk rpcs commits) {r : Rpc} (hrm : r ∈ rpcs)
    (hu : r.committed = false) : LogOk (rpcs.map (markCommitted r.id)) (commits ++ [r.id]) := by
  refine { idsNd := ?_, commitsNd := ?_, commitsOk := fun id' hid' => ?_ }
  · rw [ids_markCommitted]; exact h.idsNd
  · refine nodup_snoc h.commitsNd fun ha => ?_
    obtain ⟨q, hq, k1, k2⟩ := h.commitsOk _ ha
    rw [eq_of_nodup_map h.idsNd hq hrm k1, hu] at k2
    cases k2
  · rcases List.mem_append.mp hid' with h' | h'
    · obtain ⟨q, hq, k1, k2⟩ := h.commitsOk id' h'
      refine ⟨markCommitted r.id q, List.mem_map_of_mem hq, ?_, ?_⟩
      · unfold markCommitted; split <;> exact k1
      · unfold markCommitted; split
        · rfl
        · exact k2
    · rw [List.mem_singleton.mp h']
      refine ⟨markCommitted r.id r, List.mem_map_of_mem hrm, ?_, ?_⟩ <;> simp [markCommitted]

/-- the last queued update — or, with an empty queue, the current selector — carries the static route -/
def LastIs (q : List Upd) (cur static : List Name) : Prop :=
  match q.reverse with
  | [] => cur = static
  | u :: _ => u.route = static

theorem LastIs_append (q extra : List Upd) (cur static : List Name) (hne : extra ≠ [])
    (h : ∀ u ∈ extra, u.route = static) : LastIs (q ++ extra) cur static := by
  unfold LastIs
  rw [List.reverse_append]
  cases he : extra.reverse with
  | nil => exact absurd (List.reverse_eq_nil_iff.mp he) hne
  | cons v vs =>
    have : v ∈ extra.reverse := by rw [he]; simp
    exact h v (by simpa using this)

/-- what `Inv` knows of selector, queue and static route -/
structure Routes (q : List Upd) (cur static : List Name) : Prop where
  curNd : cur.Nodup
  staticNd : static.Nodup
  last : LastIs q cur static

theorem Routes.ext {s s' : State} (h : Routes s.queue (curList s) s.static) (e : Ext s s') (hc : s'.cur = s.cur) :
    Routes s'.queue (curList s') s'.static := by
  obtain ⟨extra, hq, hr⟩ := e.queue
  rw [curList_same hc, hq, e.static]
  refine ⟨h.curNd, h.staticNd, ?_⟩
  by_cases hne : extra = []
  · subst hne; simpa using h.last
  · exact LastIs_append _ _ _ _ hne hr

theorem Routes.deliver {u : Upd} {rest extra : List Upd} {cur static : List Name} (h : Routes (u :: rest) cur static)
    (he : ∀ v ∈ extra, v.route = static) : Routes (rest ++ extra) (dedup u.route) static := by
  refine ⟨nodup_dedup _, h.staticNd, ?_⟩
  by_cases hne : extra = []
  · subst hne
    rw [List.append_nil]
    have hl := h.last
    unfold LastIs at *
    rw [List.reverse_cons] at hl
    cases hr : rest.reverse with
    | nil =>
      -- the queue has run empty: the selector installed now is the one for the static route
      rw [hr] at hl
      show dedup u.route = static
      rw [show u.route = static from hl]; exact dedup_of_nodup _ h.staticNd
    | cons v vs => rw [hr] at hl; exact hl
  · exact LastIs_append _ _ _ _ hne he

/-- What holds after every `run`.  `tab` is the count equation (it gets across `deliver` with `routes.curNd`, across
    `commit` with `log.idsNd`) and `sc` turns it into clause 1; `log.commitsNd` is clause 2 (`log.commitsOk` keeps it);
    `spent` and the rest of `routes` are there for clause 3 only. -/
structure Inv (s : State) : Prop where
  tab : Tab s fun c => ind ((curList s).contains c) + inflightCount s c
  spent : SpentCovered s
  routes : Routes s.queue (curList s) s.static
  sc : s.pushedSC = names s.active
  log : LogOk s.rpcs s.commits

theorem inv_init : Inv init where
  tab := ⟨by simp [init, names], fun c => by simp [init, rc, findInfo_nil, ind, curList, inflightCount],
    fun c => (rfl : dynOf init c = 0)⟩
  spent := fun _ c i h => by simp [init, findInfo_nil] at h
  routes := ⟨by simp [init, curList], by simp [init], by simp [init, LastIs, curList]⟩
  sc := by simp [init, names]
  log := ⟨by simp [init], by simp [init], by simp [init]⟩

theorem deliver_inv (s : State) (h : Inv s) : Inv (deliver s) := by
  unfold deliver
  split
  · exact h
  · rename_i u rest hq
    dsimp only
    have hr := nodup_dedup u.route
    obtain ⟨t1, q1⟩ := foldl_tab (s := { s with queue := rest }) (op := (· + ·)) Nat.add_zero Quiet.refl Quiet.trans
      (fun _ _ c => acquire_tab c) (dedup u.route) hr h.tab
    generalize List.foldl acquireCS { s with queue := rest } (dedup u.route) = s1 at t1 q1
    obtain ⟨t2, q2, b2⟩ := prune_tab t1
    generalize prune s1 = s2 at t2 q2 b2
    have hcl : curList (pushConfig s2 u) = curList s := curList_same (s := s) (q2.same.cur.trans q1.same.cur)
    obtain ⟨t4, n4, q4⟩ := stopOld_tab (s := pushConfig s2 u) t2 (by rw [hcl]; exact h.routes.curNd)
    rw [hcl] at t4
    generalize stopOld (pushConfig s2 u) = s4 at t4 n4 q4
    have hrpcs : s4.rpcs = s.rpcs := q4.same.rpcs.trans (q2.same.rpcs.trans q1.same.rpcs)
    have hcommits : s4.commits = s.commits := q4.same.commits.trans (q2.same.commits.trans q1.same.commits)
    have E : Ext { s with queue := rest } s4 :=
      q1.ext.trans (q2.ext.trans (Ext.trans (b := pushConfig s2 u) (.of_eq rfl rfl rfl) q4.ext))
    obtain ⟨extra, hq4, hr4⟩ := E.queue
    have hst : s4.static = s.static := E.static
    refine { tab := t4.congr fun c => ?_,
             spent := q4.spent b2,
             routes := ?_, sc := ?_, log := ?_ }
    · show _ = ind ((dedup u.route).contains c) + inflightCount s4 c
      rw [inflightCount_same hrpcs]
      omega
    · show Routes s4.queue (dedup u.route) s4.static
      rw [hq4, hst]
      exact (hq ▸ h.routes).deliver hr4
    · show s4.pushedSC = names s4.active
      rw [q4.same.sc, n4]
      rfl
    · show LogOk s4.rpcs s4.commits
      rw [hrpcs, hcommits]; exact h.log

theorem step_inv (s : State) (o : Op) (h : Inv s) : Inv (step s o) := by
  -- the branches of `step` in the order of its text; where a guard refuses, the state stays
  fun_cases step s o with
  | case1 r =>
    have hq : (step s (.rds r)).queue ≠ [] := by simp [step, sendUpdate]
    refine { tab := h.tab, spent := fun _ _ _ _ _ => Or.inr hq,
             routes := ⟨h.routes.curNd, nodup_dedup r, ?_⟩, sc := h.sc, log := h.log }
    show LastIs (s.queue ++ [_]) (curList s) (dedup r)
    exact LastIs_append _ _ _ _ (by simp) (by intro u hu; simp at hu; subst hu; rfl)
  | case2 => exact deliver_inv s h
  | case3 s2 =>
    obtain ⟨t2, q2, b2⟩ : Tab s2 _ ∧ Quiet s s2 ∧ SpentCovered s2 := prune_tab h.tab
    clear_value s2
    have hcl : curList s2 = curList s := curList_same q2.same.cur
    refine { tab := t2.congr fun c => ?_, spent := b2, routes := h.routes.ext (s' := s2) q2.ext q2.same.cur, sc := rfl,
             log := ?_ }
    · show _ = ind ((curList s2).contains c) + inflightCount s2 c
      rw [hcl, inflightCount_same q2.same.rpcs]
    · show LogOk s2.rpcs s2.commits
      rw [q2.same.rpcs, q2.same.commits]; exact h.log
  | case4 | case6 | case7 | case8 | case9 | case10 => exact h
  | case5 rid c hid cl hc hcc i hf =>
    have hccur : (curList s).contains c = true := by simpa [curList, hc] using hcc
    -- the current selector holds a reference, so a spent entry has been re-referenced before
    have hsp : s.reusedSpent = false → i.spent = false := fun hr => by
      cases hs : i.spent with
      | false => rfl
      | true =>
        have hk := h.tab.cnt c
        rw [rc_some hf, ((cell_spent hs).mp (h.tab.entry hf)).2 hr] at hk
        simp only [ind, hccur, if_true] at hk
        omega
    obtain ⟨t, q⟩ := incr_tab (r := s.reusedSpent) h.tab hf fun hr => ⟨hr, hsp hr⟩
    refine { tab := t.congr fun x => ?_, spent := q.spent h.spent, routes := h.routes, sc := ?_,
             log := logOk_select h.log c hid }
    · have := inflightCount_select (s := s) (s' := { s with rpcs := s.rpcs ++ [⟨rid, c, false⟩] }) rfl x
      show _ = ind ((curList s).contains x) + inflightCount { s with rpcs := s.rpcs ++ [⟨rid, c, false⟩] } x
      rw [this]
      omega
    · show s.pushedSC = names (modifyInfo s.active c incr)
      rw [names_modify s.active c incr]; exact h.sc
  | case11 id r hf hu s1 =>
    have hu' : r.committed = false := by simpa using hu
    have hrm : r ∈ s.rpcs := List.mem_of_find?_eq_some hf
    have hrid : r.id = id := by simpa using List.find?_some hf
    subst hrid
    obtain ⟨t, hn, q⟩ := release_tab (s := s1) r.cluster h.tab
    change names (release s1 r.cluster).active = names s.active at hn
    generalize release s1 r.cluster = s' at t q hn
    have hcl : curList s' = curList s := curList_same q.same.cur
    have hrp : s'.rpcs = s.rpcs.map (markCommitted r.id) := q.same.rpcs
    have hco : s'.commits = s.commits ++ [r.id] := q.same.commits
    have e : Ext s s' := Ext.trans (b := s1) (.of_eq rfl rfl rfl) q.ext
    refine { tab := t.congr fun x => ?_, spent := q.spent h.spent,
             routes := h.routes.ext e q.same.cur, sc := ?_, log := ?_ }
    · show _ = ind ((curList s').contains x) + inflightCount s' x
      have := inflightCount_commit hrp h.log.idsNd hrm hu' x
      rw [hcl]
      omega
    · rw [q.same.sc, hn]; exact h.sc
    · rw [hrp, hco]; exact logOk_commit h.log hrm hu'

theorem run_inv (ops : List Op) : Inv (run ops) := foldl_inv step_inv ops inv_init

/-- clause 1: an uncommitted RPC makes the count of its cluster positive, so the cluster has an entry in the table, and
    the pushed service config is the table -/
theorem Inv.usable {s : State} (i : Inv s) : usableSC s = true := by
  unfold usableSC
  rw [List.all_eq_true]
  intro c hc
  have hpos : 0 < inflightCount s c := by rw [inflightCount_eq]; exact List.count_pos_iff.mpr hc
  have : c ∈ s.pushedSC := by
    rw [i.sc]
    exact Classical.not_not.mp fun hn => by have := i.tab.cnt c; rw [rc_of_not_mem _ _ hn] at this; omega
  simpa using this

/-- clause 3 in a state in which no clusterInfo with a used unsubscribe has been re-referenced: at quiescence every
    cluster of the service config is a cluster of the current selector -/
theorem Inv.dropped {s : State} (i : Inv s) (hr : s.reusedSpent = false) (hq : quiescent s = true) : dropped s = true := by
  simp only [quiescent, Bool.and_eq_true, List.isEmpty_iff] at hq
  obtain ⟨hqe, hie⟩ := hq
  have key : ∀ c ∈ s.pushedSC, c ∈ curList s := by
    intro c hcm
    rw [i.sc] at hcm
    cases hf : findInfo s.active c with
    | none => exact absurd hcm ((findInfo_none_iff s.active c).mp hf)
    | some j =>
      have hg := i.tab.entry hf
      have heq := i.tab.cnt c
      rw [rc_some hf, inflightCount_eq, hie, List.count_nil, Nat.add_zero] at heq
      cases hs : j.spent with
      | true =>
        -- spent, so the static route names c; with an empty queue that is the current route
        rcases i.spent hr c j hf hs with h | h
        · have hl := i.routes.last
          rw [hqe] at hl
          rw [show curList s = s.static by simpa [LastIs] using hl]
          exact h
        · exact absurd hqe h
      | false =>
        -- unspent, so the count is positive, and nothing but the current selector holds a reference
        have := ((cell_unspent hs).mp hg).1
        refine Classical.not_not.mp fun hn => ?_
        simp only [ind, List.contains_iff_mem, hn, if_false] at heq
        omega
  unfold GrpcModel.ClusterRefs.dropped
  cases hc : s.cur with
  | none => simpa [curList, hc, List.eq_nil_iff_forall_not_mem] using key
  | some cl => simpa [curList, hc] using key

end GrpcProofs.Lemmas.ClusterRefs
