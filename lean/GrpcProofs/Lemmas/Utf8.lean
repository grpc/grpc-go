/-
Helper lemmas about the model of Go's unicode/utf8 (GrpcModel/Prim/Utf8.lean): an arithmetic,
table-free description of `decodeRune`, its agreement with the Unicode Standard's Table 3-7, and
`encodeRune (decodeRune s) = s.take size` for every position that is not reported as (RuneError, 1).
-/
import GrpcModel.Prim.Utf8
namespace GrpcProofs.Lemmas.Utf8
open GrpcModel.Utf8

def lo2 (b0 : Nat) : Nat := if b0 = 0xE0 then 0xA0 else if b0 = 0xF0 then 0x90 else 0x80
def hi2 (b0 : Nat) : Nat := if b0 = 0xED then 0x9F else if b0 = 0xF4 then 0x8F else 0xBF
abbrev cont (b : Nat) : Prop := 0x80 ≤ b ∧ b ≤ 0xBF

/-- `decodeRune` without its tables: by the class of the lead byte, the range test on the second byte (`lo2`, `hi2`),
    the continuation tests on the others, and the rune as a sum of the bit fields. -/
def decodeSpec : List UInt8 → Nat × Nat
  | [] => (runeError, 0)
  | b0 :: t =>
    if b0.toNat < 0x80 then (b0.toNat, 1)
    else if 0xC2 ≤ b0.toNat ∧ b0.toNat ≤ 0xDF then
      match t with
      | b1 :: _ => if lo2 b0.toNat ≤ b1.toNat ∧ b1.toNat ≤ hi2 b0.toNat then (b0.toNat % 32 * 64 + b1.toNat % 64, 2) else (runeError, 1)
      | [] => (runeError, 1)
    else if 0xE0 ≤ b0.toNat ∧ b0.toNat ≤ 0xEF then
      match t with
      | b1 :: b2 :: _ =>
        if lo2 b0.toNat ≤ b1.toNat ∧ b1.toNat ≤ hi2 b0.toNat ∧ cont b2.toNat then
          (b0.toNat % 16 * 4096 + b1.toNat % 64 * 64 + b2.toNat % 64, 3)
        else (runeError, 1)
      | _ => (runeError, 1)
    else if 0xF0 ≤ b0.toNat ∧ b0.toNat ≤ 0xF4 then
      match t with
      | b1 :: b2 :: b3 :: _ =>
        if lo2 b0.toNat ≤ b1.toNat ∧ b1.toNat ≤ hi2 b0.toNat ∧ cont b2.toNat ∧ cont b3.toNat then
          (b0.toNat % 8 * 262144 + b1.toNat % 64 * 4096 + b2.toNat % 64 * 64 + b3.toNat % 64, 4)
        else (runeError, 1)
      | _ => (runeError, 1)
    else (runeError, 1)

theorem or_add (i a b : Nat) (h : b < 2 ^ i) : (a * 2 ^ i) ||| b = a * 2 ^ i + b := by
  rw [Nat.mul_comm, ← Nat.two_pow_add_eq_or_of_lt h]

/-- A continuation byte carries 6 bits: `c` goes into the 6 bits freed below `q`, at any offset `k`. -/
theorem or_field (k q c : Nat) : (q <<< (6 + k)) ||| ((c &&& 0x3F) <<< k) = (q * 64 + c % 64) <<< k := by
  rw [Nat.shiftLeft_add, ← Nat.shiftLeft_or_distrib, Nat.shiftLeft_eq q, Nat.and_two_pow_sub_one_eq_mod c 6,
    or_add 6 q _ (Nat.mod_lt _ (by decide))]

theorem rune2 (a b : Nat) : ((a &&& 31) <<< 6) ||| (b &&& 63) = a % 32 * 64 + b % 64 := by
  rw [Nat.and_two_pow_sub_one_eq_mod a 5]; exact or_field 0 _ b

theorem rune3 (a b c : Nat) :
    (((a &&& 15) <<< 12) ||| ((b &&& 63) <<< 6)) ||| (c &&& 63) = a % 16 * 4096 + b % 64 * 64 + c % 64 := by
  rw [Nat.and_two_pow_sub_one_eq_mod a 4, or_field 6 _ b]
  refine (or_field 0 _ c).trans ?_
  rw [Nat.shiftLeft_zero]; omega

theorem rune4 (a b c d : Nat) :
    ((((a &&& 7) <<< 18) ||| ((b &&& 63) <<< 12)) ||| ((c &&& 63) <<< 6)) ||| (d &&& 63)
      = a % 8 * 262144 + b % 64 * 4096 + c % 64 * 64 + d % 64 := by
  rw [Nat.and_two_pow_sub_one_eq_mod a 3, or_field 12 _ b, or_field 6 _ c]
  refine (or_field 0 _ d).trans ?_
  rw [Nat.shiftLeft_zero]; omega

/-- What `decodeRune` takes from `first` and `acceptRanges` for a lead byte `b`: the length of the
    sequence and the range of its second byte. -/
abbrev FirstClass (b : Nat) : Prop :=
  if b < 0x80 then first b = as
  else if 0xC2 ≤ b ∧ b ≤ 0xF4 then
    first b < as ∧ first b &&& 7 = (if b ≤ 0xDF then 2 else if b ≤ 0xEF then 3 else 4) ∧
      acceptRange (first b >>> 4) = (lo2 b, hi2 b)
  else first b = xx

/-- The table is finite: its 16 rows of 16 entries are read off one by one. -/
theorem first_rows : ∀ h < 16, ∀ l < 16, FirstClass (h * 16 + l) := by decide

theorem first_class (b : UInt8) : FirstClass b.toNat := by
  have := first_rows (b.toNat / 16) (by have := b.toNat_lt; omega) (b.toNat % 16) (Nat.mod_lt _ (by decide))
  rwa [Nat.div_add_mod' b.toNat 16] at this

theorem range_ite {α : Type} (lo hi c : Nat) (x e : α) :
    (if c < lo ∨ hi < c then e else x) = if lo ≤ c ∧ c ≤ hi then x else e := by
  by_cases h : lo ≤ c ∧ c ≤ hi
  · rw [if_pos h, if_neg (by omega)]
  · rw [if_neg h, if_pos (by omega)]

theorem ite_ite_and {α : Type} (a b : Prop) [Decidable a] [Decidable b] (x e : α) :
    (if a then (if b then x else e) else e) = if a ∧ b then x else e := by
  by_cases a <;> simp [*]

theorem decodeRune_eq_spec (s : List UInt8) : decodeRune s = decodeSpec s := by
  match s with
  | [] => rfl
  | b0 :: t =>
    have hc := first_class b0
    unfold FirstClass at hc
    simp only [decodeSpec]
    by_cases h1 : b0.toNat < 0x80
    · rw [if_pos h1] at hc ⊢; simp [decodeRune, hc]
    rw [if_neg h1] at hc ⊢
    by_cases h2 : 0xC2 ≤ b0.toNat ∧ b0.toNat ≤ 0xF4
    · rw [if_pos h2] at hc
      obtain ⟨hlt, hsz, hacc⟩ := hc
      have hge := Nat.not_le.2 hlt
      -- by the length `first` announces, then by how many bytes are there; `this`: the length test passes
      split at hsz
      · rw [if_pos ⟨h2.1, ‹_›⟩]
        match t with
        | [] => simp [decodeRune, hge, hsz]
        | b1 :: t1 =>
          have : ¬ t1.length + 1 + 1 < 2 := by omega
          simp [decodeRune, hge, hsz, hacc, range_ite, rune2, this]
      rw [if_neg (by omega)]
      split at hsz
      · rw [if_pos ⟨by omega, ‹_›⟩]
        match t with
        | [] | [_] => simp [decodeRune, hge, hsz]
        | b1 :: b2 :: t2 =>
          have : ¬ t2.length + 1 + 1 + 1 < 3 := by omega
          simp [decodeRune, hge, hsz, hacc, range_ite, ite_ite_and, and_assoc, rune3, this]
      · rw [if_neg (by omega), if_pos (by omega)]
        match t with
        | [] | [_] | [_, _] => simp [decodeRune, hge, hsz]
        | b1 :: b2 :: b3 :: t3 =>
          have : ¬ t3.length + 1 + 1 + 1 + 1 < 4 := by omega
          simp [decodeRune, hge, hsz, hacc, range_ite, ite_ite_and, and_assoc, rune4, this]
    · rw [if_neg h2] at hc
      rw [if_neg (by omega), if_neg (by omega), if_neg (by omega)]
      simp [decodeRune, hc, as, xx]

theorem byte_toNat (b : UInt8) : byte b.toNat = b := by
  simp [byte, Nat.mod_eq_of_lt b.toNat_lt]

theorem cont_byte (n : Nat) : 0x80 ||| (n % 256 &&& 0x3F) = 128 + n % 64 := by
  rw [Nat.and_two_pow_sub_one_eq_mod _ 6, or_add 6 2 _ (Nat.mod_lt _ (by decide))]; omega

theorem encodeRune_1 (r : Nat) (h : r ≤ 0x7F) : encodeRune r = [byte r] := by
  simp [encodeRune, h]

/-! `encodeRune` on a rune given by its bit fields; the side conditions are the gaps of Table 3-7:
    no overlong form, no surrogate, nothing beyond U+10FFFF. -/

theorem encodeRune_2 (a b : Nat) (ha : 2 ≤ a ∧ a < 32) (hb : b < 64) :
    encodeRune (a * 64 + b) = [byte (192 + a), byte (128 + b)] := by
  generalize hr : a * 64 + b = r
  have h1 : ¬ r ≤ 0x7F := by omega
  have h2 : r ≤ 0x7FF := by omega
  have hf : r / 64 = a ∧ r % 64 = b := by omega
  simp only [encodeRune, h1, h2, if_true, if_false, cont_byte, Nat.shiftRight_eq_div_pow, Nat.reducePow, hf]
  rw [Nat.mod_eq_of_lt (by omega), or_add 6 3 a (by omega)]

theorem encodeRune_3 (a b c : Nat) (ha : a < 16) (hb : b < 64) (hc : c < 64)
    (hmin : a = 0 → 32 ≤ b) (hsur : a = 13 → b < 32) :
    encodeRune (a * 4096 + b * 64 + c) = [byte (224 + a), byte (128 + b), byte (128 + c)] := by
  generalize hr : a * 4096 + b * 64 + c = r
  have h1 : ¬ r ≤ 0x7F := by omega
  have h2 : ¬ r ≤ 0x7FF := by omega
  have h3 : ¬ (r > 0x10FFFF ∨ (0xD800 ≤ r ∧ r ≤ 0xDFFF)) := by omega
  have h4 : r ≤ 0xFFFF := by omega
  have hf : r / 4096 = a ∧ r / 64 % 64 = b ∧ r % 64 = c := by omega
  simp only [encodeRune, h1, h2, h3, h4, if_true, if_false, cont_byte, Nat.shiftRight_eq_div_pow, Nat.reducePow, hf]
  rw [Nat.mod_eq_of_lt (by omega), or_add 4 14 a ha]

theorem encodeRune_4 (a b c d : Nat) (ha : a ≤ 4) (hb : b < 64) (hc : c < 64) (hd : d < 64)
    (hmin : a = 0 → 16 ≤ b) (hmax : a = 4 → b < 16) :
    encodeRune (a * 262144 + b * 4096 + c * 64 + d) =
      [byte (240 + a), byte (128 + b), byte (128 + c), byte (128 + d)] := by
  generalize hr : a * 262144 + b * 4096 + c * 64 + d = r
  have h1 : ¬ r ≤ 0x7F := by omega
  have h2 : ¬ r ≤ 0x7FF := by omega
  have h3 : ¬ (r > 0x10FFFF ∨ (0xD800 ≤ r ∧ r ≤ 0xDFFF)) := by omega
  have h4 : ¬ r ≤ 0xFFFF := by omega
  have hf : r / 262144 = a ∧ r / 4096 % 64 = b ∧ r / 64 % 64 = c ∧ r % 64 = d := by omega
  simp only [encodeRune, h1, h2, h3, h4, if_false, cont_byte, Nat.shiftRight_eq_div_pow, Nat.reducePow, hf]
  rw [Nat.mod_eq_of_lt (by omega), or_add 3 30 a (by omega)]

theorem encodeRune_err (r : Nat) (h : r > 0x10FFFF ∨ (0xD800 ≤ r ∧ r ≤ 0xDFFF)) : encodeRune r = replacement := by
  have a : ¬ r ≤ 0x7F := by omega
  have b : ¬ r ≤ 0x7FF := by omega
  simp only [encodeRune, a, b, h, if_true, if_false]
  decide

theorem encodeRune_runeError : encodeRune runeError = replacement := by decide

theorem isInvalid_iff (p : Nat × Nat) : isInvalid p = true ↔ p = (runeError, 1) := by
  simp [isInvalid, Prod.ext_iff]

theorem byte_eq {n : Nat} {b : UInt8} (h : n = b.toNat) : byte n = b := h ▸ byte_toNat b

/-- The second byte ranges over 80…BF, except after the four lead bytes next to a gap of Table 3-7
    (overlong forms, surrogates, beyond U+10FFFF). -/
theorem second_range (b0 : Nat) :
    (b0 = 0xE0 ∧ lo2 b0 = 0xA0 ∧ hi2 b0 = 0xBF) ∨ (b0 = 0xED ∧ lo2 b0 = 0x80 ∧ hi2 b0 = 0x9F) ∨
    (b0 = 0xF0 ∧ lo2 b0 = 0x90 ∧ hi2 b0 = 0xBF) ∨ (b0 = 0xF4 ∧ lo2 b0 = 0x80 ∧ hi2 b0 = 0x8F) ∨
    (b0 ≠ 0xE0 ∧ b0 ≠ 0xED ∧ b0 ≠ 0xF0 ∧ b0 ≠ 0xF4 ∧ lo2 b0 = 0x80 ∧ hi2 b0 = 0xBF) := by
  by_cases h1 : b0 = 0xE0
  · subst h1; decide
  by_cases h2 : b0 = 0xED
  · subst h2; decide
  by_cases h3 : b0 = 0xF0
  · subst h3; decide
  by_cases h4 : b0 = 0xF4
  · subst h4; decide
  · simp [lo2, hi2, *]

/-- Table 3-7 with its nine rows folded by length: one constructor for each branch of `decodeSpec`, under exactly the
    tests made there, so that `decodeSpec` is related to `Row` by rewriting and `Row` to `Scalar` by arithmetic on the
    second byte's range (`second_range`) alone. -/
inductive Row : List UInt8 → Prop
  | one (b0) : b0.toNat < 0x80 → Row [b0]
  | two (b0 b1) : 0xC2 ≤ b0.toNat ∧ b0.toNat ≤ 0xDF → lo2 b0.toNat ≤ b1.toNat ∧ b1.toNat ≤ hi2 b0.toNat → Row [b0, b1]
  | three (b0 b1 b2) : 0xE0 ≤ b0.toNat ∧ b0.toNat ≤ 0xEF →
      lo2 b0.toNat ≤ b1.toNat ∧ b1.toNat ≤ hi2 b0.toNat ∧ cont b2.toNat → Row [b0, b1, b2]
  | four (b0 b1 b2 b3) : 0xF0 ≤ b0.toNat ∧ b0.toNat ≤ 0xF4 →
      lo2 b0.toNat ≤ b1.toNat ∧ b1.toNat ≤ hi2 b0.toNat ∧ cont b2.toNat ∧ cont b3.toNat → Row [b0, b1, b2, b3]

theorem scalar_iff_row {pre : List UInt8} : Scalar pre ↔ Row pre := by
  constructor
  · intro h
    cases h with
    | r00_7F b0 h0 => exact .one b0 (Nat.lt_succ_of_le h0.2)
    | rC2_DF b0 b1 h0 h1 =>
      simp only [inRange] at h0 h1
      exact .two b0 b1 h0 (by have := second_range b0.toNat; omega)
    | rE0 b0 b1 b2 h0 h1 h2 | rE1_EC b0 b1 b2 h0 h1 h2 | rED b0 b1 b2 h0 h1 h2 | rEE_EF b0 b1 b2 h0 h1 h2 =>
      simp only [inRange] at h0 h1 h2
      exact .three b0 b1 b2 (by omega) (by have := second_range b0.toNat; omega)
    | rF0 b0 b1 b2 b3 h0 h1 h2 h3 | rF1_F3 b0 b1 b2 b3 h0 h1 h2 h3 | rF4 b0 b1 b2 b3 h0 h1 h2 h3 =>
      simp only [inRange] at h0 h1 h2 h3
      exact .four b0 b1 b2 b3 (by omega) (by have := second_range b0.toNat; omega)
  · intro h
    cases h with
    | one b0 h0 => exact .r00_7F b0 ⟨Nat.zero_le _, Nat.le_of_lt_succ h0⟩
    | two b0 b1 h0 h1 => exact .rC2_DF b0 b1 h0 (by have := second_range b0.toNat; simp only [inRange]; omega)
    | three b0 b1 b2 h0 h1 =>
      obtain ⟨h1l, h1h, h2⟩ := h1
      rcases second_range b0.toNat with ⟨e, hl, hh⟩ | ⟨e, hl, hh⟩ | ⟨e, -⟩ | ⟨e, -⟩ | ⟨n0, n1, -, -, hl, hh⟩
      · exact .rE0 b0 b1 b2 ⟨by omega, by omega⟩ ⟨by omega, by omega⟩ h2
      · exact .rED b0 b1 b2 ⟨by omega, by omega⟩ ⟨by omega, by omega⟩ h2
      · omega
      · omega
      · by_cases hb : b0.toNat ≤ 0xEC
        · exact .rE1_EC b0 b1 b2 ⟨by omega, hb⟩ ⟨by omega, by omega⟩ h2
        · exact .rEE_EF b0 b1 b2 ⟨by omega, by omega⟩ ⟨by omega, by omega⟩ h2
    | four b0 b1 b2 b3 h0 h1 =>
      obtain ⟨h1l, h1h, h2, h3⟩ := h1
      rcases second_range b0.toNat with ⟨e, -⟩ | ⟨e, -⟩ | ⟨e, hl, hh⟩ | ⟨e, hl, hh⟩ | ⟨-, -, n0, n1, hl, hh⟩
      · omega
      · omega
      · exact .rF0 b0 b1 b2 b3 ⟨by omega, by omega⟩ ⟨by omega, by omega⟩ h2 h3
      · exact .rF4 b0 b1 b2 b3 ⟨by omega, by omega⟩ ⟨by omega, by omega⟩ h2 h3
      · exact .rF1_F3 b0 b1 b2 b3 ⟨by omega, by omega⟩ ⟨by omega, by omega⟩ h2 h3

/-- The decoder's result `p` (rune, size) reads the bytes `pre` as one valid rune; `encode` is Go's `string(rune)`. -/
structure Reads (p : Nat × Nat) (pre : List UInt8) : Prop where
  size : p.2 = pre.length
  valid : isInvalid p = false
  encode : encodeRune p.1 = pre

theorem row_decode {pre : List UInt8} (h : Row pre) (t : List UInt8) : Reads (decodeSpec (pre ++ t)) pre := by
  cases h with
  | one b0 h0 =>
    simp only [List.cons_append, List.nil_append, decodeSpec, if_pos h0]
    refine ⟨rfl, ?_, ?_⟩
    · simp [isInvalid, runeError]; omega
    · rw [encodeRune_1 _ (by omega), byte_toNat]
  | two b0 b1 h0 h1 =>
    simp only [List.cons_append, List.nil_append, decodeSpec]
    rw [if_neg (by omega), if_pos h0, if_pos h1]
    refine ⟨rfl, by simp [isInvalid], ?_⟩
    have hr := second_range b0.toNat
    rw [encodeRune_2 _ _ (by omega) (by omega), byte_eq (b := b0) (by omega), byte_eq (b := b1) (by omega)]
  | three b0 b1 b2 h0 h1 =>
    simp only [List.cons_append, List.nil_append, decodeSpec]
    rw [if_neg (by omega), if_neg (by omega), if_pos h0, if_pos h1]
    refine ⟨rfl, by simp [isInvalid], ?_⟩
    have hr := second_range b0.toNat
    rw [encodeRune_3 _ _ _ (by omega) (by omega) (by omega) (by omega) (by omega), byte_eq (b := b0) (by omega),
      byte_eq (b := b1) (by omega), byte_eq (b := b2) (by omega)]
  | four b0 b1 b2 b3 h0 h1 =>
    simp only [List.cons_append, List.nil_append, decodeSpec]
    rw [if_neg (by omega), if_neg (by omega), if_neg (by omega), if_pos h0, if_pos h1]
    refine ⟨rfl, by simp [isInvalid], ?_⟩
    have hr := second_range b0.toNat
    rw [encodeRune_4 _ _ _ _ (by omega) (by omega) (by omega) (by omega) (by omega) (by omega),
      byte_eq (b := b0) (by omega), byte_eq (b := b1) (by omega), byte_eq (b := b2) (by omega),
      byte_eq (b := b3) (by omega)]

theorem ite_eq_else_or {α : Type} {c P : Prop} [Decidable c] {v e : α} (h : c → P) :
    (if c then v else e) = e ∨ P :=
  if hc : c then .inr (h hc) else .inl (if_neg hc)

theorem decodeSpec_cases (b0 : UInt8) (t : List UInt8) :
    decodeSpec (b0 :: t) = (runeError, 1) ∨ ∃ pre t', Row pre ∧ b0 :: t = pre ++ t' := by
  simp only [decodeSpec]
  by_cases h1 : b0.toNat < 0x80
  · exact .inr ⟨[b0], t, .one b0 h1, rfl⟩
  rw [if_neg h1]
  by_cases h2 : 0xC2 ≤ b0.toNat ∧ b0.toNat ≤ 0xDF
  · rw [if_pos h2]
    match t with
    | b1 :: t1 => exact ite_eq_else_or fun hc => ⟨[b0, b1], t1, .two b0 b1 h2 hc, rfl⟩
    | [] => exact .inl rfl
  rw [if_neg h2]
  by_cases h3 : 0xE0 ≤ b0.toNat ∧ b0.toNat ≤ 0xEF
  · rw [if_pos h3]
    match t with
    | b1 :: b2 :: t2 => exact ite_eq_else_or fun hc => ⟨[b0, b1, b2], t2, .three b0 b1 b2 h3 hc, rfl⟩
    | [] | [_] => exact .inl rfl
  rw [if_neg h3]
  by_cases h4 : 0xF0 ≤ b0.toNat ∧ b0.toNat ≤ 0xF4
  · rw [if_pos h4]
    match t with
    | b1 :: b2 :: b3 :: t3 =>
      exact ite_eq_else_or fun hc => ⟨[b0, b1, b2, b3], t3, .four b0 b1 b2 b3 h4 hc, rfl⟩
    | [] | [_] | [_, _] => exact .inl rfl
  · exact .inl (if_neg h4)

theorem scalar_ne_nil {pre : List UInt8} (h : Scalar pre) : pre ≠ [] := by cases h <;> simp

theorem decodeRune_cases (s : List UInt8) (hne : s ≠ []) :
    decodeRune s = (runeError, 1) ∨ ∃ pre t, Scalar pre ∧ s = pre ++ t ∧ Reads (decodeRune s) pre := by
  rw [decodeRune_eq_spec]
  match s with
  | b0 :: t =>
    exact (decodeSpec_cases b0 t).imp id fun ⟨pre, t', hp, h⟩ => ⟨pre, t', scalar_iff_row.2 hp, h, h ▸ row_decode hp t'⟩

theorem decodeRune_valid (s : List UInt8) (hne : s ≠ []) (hv : isInvalid (decodeRune s) = false) :
    Scalar (s.take (decodeRune s).2) ∧ encodeRune (decodeRune s).1 = s.take (decodeRune s).2 := by
  rcases decodeRune_cases s hne with h | ⟨pre, t, hp, rfl, hr⟩
  · rw [h] at hv; cases hv
  · rw [hr.size, List.take_left]
    exact ⟨hp, hr.encode⟩

theorem scalar_decode {pre : List UInt8} (h : Scalar pre) (t : List UInt8) :
    (decodeRune (pre ++ t)).2 = pre.length ∧ isInvalid (decodeRune (pre ++ t)) = false := by
  rw [decodeRune_eq_spec]
  exact ⟨(row_decode (scalar_iff_row.1 h) t).size, (row_decode (scalar_iff_row.1 h) t).valid⟩

theorem decodeRune_size (s : List UInt8) (hne : s ≠ []) :
    1 ≤ (decodeRune s).2 ∧ (decodeRune s).2 ≤ s.length := by
  rcases decodeRune_cases s hne with h | ⟨pre, t, hp, rfl, hr⟩
  · rw [h]; exact ⟨Nat.le_refl 1, List.length_pos_iff.2 hne⟩
  · rw [hr.size, List.length_append]
    exact ⟨List.length_pos_iff.2 (scalar_ne_nil hp), Nat.le_add_right _ _⟩

theorem encode_decode (s : List UInt8) (hne : s ≠ []) (hv : isInvalid (decodeRune s) = false) :
    encodeRune (decodeRune s).1 = s.take (decodeRune s).2 := (decodeRune_valid s hne hv).2

theorem encode_invalid (s : List UInt8) (hv : isInvalid (decodeRune s) = true) :
    encodeRune (decodeRune s).1 = replacement ∧ (decodeRune s).2 = 1 := by
  rw [(isInvalid_iff _).1 hv]; exact ⟨encodeRune_runeError, rfl⟩

theorem decodeRune_ascii (b0 : UInt8) (t : List UInt8) (h : b0.toNat < 0x80) :
    decodeRune (b0 :: t) = (b0.toNat, 1) := by
  rw [decodeRune_eq_spec]; simp only [decodeSpec, if_pos h]

end GrpcProofs.Lemmas.Utf8
