import GrpcModel.Model.PickerWrapper
/-!
For C32. `Inv`, the inductive invariant of the pickerWrapper model, is kept by each of the changes a step is made of
(an event is logged, one thread is written, a generation is published). A trace is read through `reach_emitted`: every
event was emitted by a step from a reachable state, where `Inv` holds, and `Emitted` says what the event certifies
about that state.
-/
namespace GrpcProofs.Lemmas.PickerWrapper
open GrpcModel.PickerWrapper

inductive Reach : Sys → List Obs → Prop
  | init : Reach init []
  | step {s : Sys} {log : List Obs} (a : Act) : Reach s log → Reach (step s a).1 (log ++ (step s a).2.toList)

theorem runFrom_induction {P : Sys → List Obs → Prop}
    (hstep : ∀ s log a, P s log → P (step s a).1 (log ++ (step s a).2.toList)) :
    ∀ acts s log, P s log → P (runFrom s log acts).1 (runFrom s log acts).2 := by
  intro acts
  induction acts with
  | nil => exact fun _ _ h => h
  | cons a as ih => exact fun s log h => ih _ _ (hstep s log a h)

theorem run_reach (acts : List Act) : Reach (run acts).1 (run acts).2 :=
  runFrom_induction (fun _ _ a h => Reach.step a h) acts _ _ Reach.init

theorem runFrom_append (as bs : List Act) : ∀ s log,
    runFrom s log (as ++ bs) = runFrom (runFrom s log as).1 (runFrom s log as).2 bs := by
  induction as with
  | nil => exact fun _ _ => rfl
  | cons a as ih => exact fun s log => ih _ _

theorem reach_run {s : Sys} {log : List Obs} (h : Reach s log) : ∃ acts, run acts = (s, log) := by
  induction h with
  | init => exact ⟨[], rfl⟩
  | @step s log a _ ih =>
    obtain ⟨acts, ha⟩ := ih
    exact ⟨acts ++ [a], by rw [run, runFrom_append, ← run, ha]; rfl⟩

theorem setThr_thr (s : Sys) (tid : Nat) (t : Thread) (i : Nat) :
    (s.setThr tid t).thr i = if i = tid then some t else s.thr i := rfl

theorem setThr_self (s : Sys) (tid : Nat) (t : Thread) : (s.setThr tid t).thr tid = some t := by
  simp [setThr_thr]

theorem setThr_sh (s : Sys) (tid : Nat) (t : Thread) : (s.setThr tid t).sh = s.sh := rfl

theorem getReadyTransport_eq_some {sc : SubConnSt} {tr : Nat} :
    getReadyTransport sc = some tr ↔ sc.state = .ready ∧ sc.transport = some tr := by
  unfold getReadyTransport; split <;> simp [*]

theorem getReadyTransport_eq_none {sc : SubConnSt} :
    getReadyTransport sc = none ↔ sc.state ≠ .ready ∨ sc.transport = none := by
  unfold getReadyTransport; split <;> simp [*]

structure Inv (s : Sys) (log : List Obs) : Prop where
  /-- generation 0 (newPickerWrapper) has no picker -/
  head0 : s.sh.pickers.head? = some none
  startLe : ∀ tid c, Obs.started tid c ∈ log → c ≤ s.sh.cur
  /-- `ch` always holds the channel of an existing generation -/
  chLe : ∀ tid t g, s.thr tid = some t → t.ch = some g → g ≤ s.sh.cur
  seen : ∀ tid c, (Obs.blocked tid c ∈ log ∨ ∃ p, Obs.pickCalled tid c p ∈ log) →
      ∃ t g, s.thr tid = some t ∧ t.ch = some g ∧ c ≤ g
  /-- in the select and inside Pick, `ch` is the channel of the generation being used -/
  pcCh : ∀ tid t, s.thr tid = some t → (∀ g, t.pc = .block g → t.ch = some g) ∧ (∀ g, t.pc = .inPick g → t.ch = some g)
  pub : ∀ g p, 0 < g → s.sh.pickers[g]? = some p → Obs.published g p ∈ log
  called : ∀ tid g p, Obs.pickCalled tid g p ∈ log → s.sh.pickers[g]? = some (some p)

/-- what `Inv.pcCh` asks of one thread -/
def ChAtPc (t : Thread) : Prop :=
  (∀ g, t.pc = .block g → t.ch = some g) ∧ (∀ g, t.pc = .inPick g → t.ch = some g)

theorem cur_succ {sh : Shared} (h : sh.pickers.head? = some none) : sh.pickers.length = sh.cur + 1 := by
  unfold Shared.cur
  cases hp : sh.pickers with
  | nil => simp [hp] at h
  | cons a l => simp

theorem cur_le_of_getElem? {sh : Shared} {g : Nat} {p : Option Nat} (h : sh.pickers[g]? = some p) : g ≤ sh.cur := by
  have := (List.getElem?_eq_some_iff.mp h).1
  unfold Shared.cur; omega

theorem cur_append {sh sh' : Shared} {p : Option Nat} (h0 : sh.pickers.head? = some none)
    (h : sh'.pickers = sh.pickers ++ [p]) : sh'.cur = sh.cur + 1 ∧ sh'.pickerAt (sh.cur + 1) = p := by
  have hl := cur_succ h0
  constructor
  · simp only [Shared.cur, h, List.length_append, List.length_singleton]; omega
  · simp [Shared.pickerAt, h, List.getD_eq_getElem?_getD, hl]

theorem inv_init : Inv init [] where
  head0 := rfl
  startLe := by intro tid c h; simp at h
  chLe := by intro tid t g h; simp [init] at h
  seen := by intro tid c h; simp at h
  pcCh := by intro tid t h; simp [init] at h
  pub := by
    intro g p hg h
    cases g with
    | zero => omega
    | succ n => simp [init] at h
  called := by intro tid g p h; simp at h

theorem mem_append_toList {log : List Obs} {o : Option Obs} {e : Obs} : e ∈ log ++ o.toList ↔ e ∈ log ∨ o = some e := by
  cases o <;> simp [eq_comm]

/-- what `Inv` asks of the state for an event to be appended to its log -/
def EventOk (s : Sys) : Obs → Prop
  | .started _ c => c ≤ s.sh.cur
  | .blocked i g => ∃ t, s.thr i = some t ∧ t.ch = some g
  | .pickCalled i g p => (∃ t, s.thr i = some t ∧ t.ch = some g) ∧ s.sh.pickers[g]? = some (some p)
  | _ => True

theorem inv_log {s : Sys} {log : List Obs} (h : Inv s log) (o : Option Obs) (ho : ∀ e, o = some e → EventOk s e) :
    Inv s (log ++ o.toList) := by
  refine { h with
    startLe := fun i c hm => ?_
    seen := fun i c hm => ?_
    pub := fun g q hg hq => List.mem_append_left _ (h.pub g q hg hq)
    called := fun i g q hm => ?_ }
  · rcases mem_append_toList.mp hm with hm | hm
    · exact h.startLe i c hm
    · exact ho _ hm
  · rcases hm with hm | ⟨p, hm⟩ <;> rcases mem_append_toList.mp hm with hm | hm
    · exact h.seen i c (.inl hm)
    · obtain ⟨t, ht, hc⟩ := ho _ hm
      exact ⟨t, c, ht, hc, Nat.le_refl _⟩
    · exact h.seen i c (.inr ⟨p, hm⟩)
    · obtain ⟨⟨t, ht, hc⟩, _⟩ := ho _ hm
      exact ⟨t, c, ht, hc, Nat.le_refl _⟩
  · rcases mem_append_toList.mp hm with hm | hm
    · exact h.called i g q hm
    · exact (ho _ hm).2

theorem inv_setThr {s : Sys} {log : List Obs} (h : Inv s log) {tid : Nat} {old : Option Thread} {t' : Thread}
    (hold : s.thr tid = old) (hch : t'.ch = some s.sh.cur ∨ t'.ch = old.bind (·.ch)) (hpc : ChAtPc t') :
    Inv (s.setThr tid t') log := by
  subst hold
  have thr : ∀ i u, (s.setThr tid t').thr i = some u → (i = tid ∧ u = t') ∨ s.thr i = some u := by
    intro i u hu
    rw [setThr_thr] at hu
    split at hu
    · next hi => exact .inl ⟨hi, (Option.some.inj hu).symm⟩
    · exact .inr hu
  refine { h with
    chLe := fun i u g hu hg => ?_
    seen := fun i c hm => ?_
    pcCh := fun i u hu => ?_ }
  · rcases thr i u hu with ⟨_, rfl⟩ | hu
    · rcases hch with hc | hc
      · cases hc.symm.trans hg; exact Nat.le_refl _
      · cases ht : s.thr tid with
        | none => rw [hc, ht] at hg; cases hg
        | some t => rw [hc, ht] at hg; exact h.chLe tid t g ht hg
    · exact h.chLe i u g hu hg
  · obtain ⟨u, g, hu, hg, hc⟩ := h.seen i c hm
    by_cases hi : i = tid
    · subst hi
      refine ⟨t', ?_⟩
      rcases hch with hc' | hc'
      · exact ⟨_, setThr_self .., hc', Nat.le_trans hc (h.chLe i u g hu hg)⟩
      · exact ⟨g, setThr_self .., by rw [hc', hu]; exact hg, hc⟩
    · exact ⟨u, g, by simp [setThr_thr, hi, hu], hg, hc⟩
  · rcases thr i u hu with ⟨_, rfl⟩ | hu
    · exact hpc
    · exact h.pcCh i u hu

/-- `updatePicker` / `reset`: generation `cur + 1`, already announced in the log, comes into being -/
theorem inv_publish {s : Sys} {log : List Obs} (h : Inv s log) (p : Option Nat)
    (hp : Obs.published (s.sh.cur + 1) p ∈ log) :
    Inv { s with sh := { s.sh with pickers := s.sh.pickers ++ [p] } } log := by
  have hl := cur_succ h.head0
  have hcur := (cur_append (sh' := { s.sh with pickers := s.sh.pickers ++ [p] }) h.head0 rfl).1
  refine { h with
    head0 := ?_
    startLe := fun i c hm => ?_
    chLe := fun i t g ht hg => ?_
    pub := fun g q hg hq => ?_
    called := fun i g q hm => ?_ }
  · simp [List.head?_append, h.head0]
  · have := h.startLe i c hm
    rw [hcur]; omega
  · have := h.chLe i t g ht hg
    rw [hcur]; omega
  · simp only [List.getElem?_append] at hq
    split at hq
    · exact h.pub g q hg hq
    · rw [List.getElem?_singleton] at hq
      split at hq
      · cases hq
        rwa [show g = s.sh.cur + 1 by omega]
      · cases hq
  · have := h.called i g q hm
    simp only [List.getElem?_append, (List.getElem?_eq_some_iff.mp this).1, if_true]
    exact this

theorem pickerAt_some {sh : Shared} {g q : Nat} (h : sh.pickerAt g = some q) : sh.pickers[g]? = some (some q) := by
  unfold Shared.pickerAt at h
  rw [List.getD_eq_getElem?_getD] at h
  cases hq : sh.pickers[g]? with
  | none => simp [hq] at h
  | some x => simpa [hq] using h

/-- The steps of a pick goroutine, by program point: `tstep` as a relation (`tstep_sound`, `TStep.eq`).  `b` is the select's
    choice when both the context is done and the channel is closed: `hsel` of `ctx` and `wake`. -/
inductive TStep (sh : Shared) (tid : Nat) (t : Thread) (b : Bool) : Thread → Option Obs → Prop
  | closing (hpc : t.pc = .load) (hc : sh.closed = true) :
      TStep sh tid t b { t with pc := .done .closing } (some (.returned tid .closing))
  | block (hpc : t.pc = .load) (hc : sh.closed = false) (h : sh.pickerAt sh.cur = none ∨ t.ch = some sh.cur) :
      TStep sh tid t b { t with pc := .block sh.cur, ch := some sh.cur } (some (.blocked tid sh.cur))
  | pick (hpc : t.pc = .load) (hc : sh.closed = false) (q : Nat) (hp : sh.pickerAt sh.cur = some q)
      (hne : t.ch ≠ some sh.cur) :
      TStep sh tid t b { t with pc := .inPick sh.cur, pickBlocked := t.pickBlocked || t.ch.isSome, ch := some sh.cur,
                                calls := t.calls + 1 } (some (.pickCalled tid sh.cur q))
  | ctx (g : Nat) (hpc : t.pc = .block g) (hctx : t.ctx ≠ .live) (hsel : b = true ∨ sh.chClosed g = false) :
      TStep sh tid t b
        { t with pc := .done (.ctxErr (if t.ctx = .deadlineExceeded then GrpcModel.Generated.pwCodeDeadlineExceeded
            else GrpcModel.Generated.pwCodeCanceled) t.lastPickErr) }
        (some (.returned tid (.ctxErr (if t.ctx = .deadlineExceeded then GrpcModel.Generated.pwCodeDeadlineExceeded
            else GrpcModel.Generated.pwCodeCanceled) t.lastPickErr)))
  | wake (g : Nat) (hpc : t.pc = .block g) (hcl : sh.chClosed g = true) (hsel : t.ctx = .live ∨ b = false) :
      TStep sh tid t b { t with pc := .load } none
  | ret (sc : Nat) (hd : Bool) (tr : Nat) (hpc : t.pc = .check sc hd) (hr : getReadyTransport (sh.sc sc) = some tr) :
      TStep sh tid t b { t with pc := .done (.transport sc tr t.pickBlocked) }
        (some (.returned tid (.transport sc tr t.pickBlocked)))
  | done (sc : Nat) (hpc : t.pc = .check sc true) (hr : getReadyTransport (sh.sc sc) = none) :
      TStep sh tid t b { t with pc := .load, dones := t.dones + 1 } (some (.doneCalled tid sc))
  | loop (sc : Nat) (hpc : t.pc = .check sc false) (hr : getReadyTransport (sh.sc sc) = none) :
      TStep sh tid t b { t with pc := .load } none

theorem tstep_sound {sh : Shared} {tid : Nat} {t t' : Thread} {o : Option Obs} {b : Bool}
    (hs : tstep sh tid t b = some (t', o)) : TStep sh tid t b t' o := by
  revert hs
  -- one goal per branch of `tstep`, numbered in the order of its text: `load` 1-3, `block` 4-6, `inPick` 7, `check` 8-10,
  -- `done` 11; the branches that return `none` (6, 7, 11) have no row
  fun_cases tstep sh tid t b
  all_goals intro hs
  case case1 hpc hc => cases hs; exact .closing hpc hc
  case case2 hpc hc g ch hch =>
    rw [hch] at hs; cases hs
    refine .block hpc (by simpa using hc) ?_
    by_cases hp : sh.pickerAt sh.cur = none
    · exact .inl hp
    · exact .inr (by simpa [ch, g, hp] using hch)
  case case3 hpc hc g ch hch =>
    -- `ch ≠ some g` rules out the nil picker, so `ch` is still `t.ch`
    have hp : sh.pickerAt sh.cur ≠ none := fun hp => hch (if_pos hp)
    obtain ⟨q, hq⟩ := Option.ne_none_iff_exists'.mp hp
    rw [show ch = t.ch from if_neg hp] at hch hs
    cases hs; simpa [g, hq] using TStep.pick (tid := tid) hpc (by simpa using hc) q hq hch
  case case4 g hpc _ _ hc _ _ => cases hs; exact .ctx g hpc hc.1 (by simpa using hc.2)
  case case5 g hpc _ _ hc hcl =>
    cases hs
    exact .wake g hpc hcl (Decidable.or_iff_not_imp_left.mpr fun hl => Bool.eq_false_iff.mpr fun hb => hc ⟨hl, .inl hb⟩)
  case case8 sc hd hpc tr hr _ => cases hs; exact .ret sc hd tr hpc hr
  case case9 sc hr hpc => cases hs; exact .done sc hpc hr
  case case10 sc hd hpc hr hhd => cases hs; rw [Bool.not_eq_true] at hhd; subst hhd; exact .loop sc hpc hr
  all_goals cases hs

theorem TStep.eq {sh : Shared} {tid : Nat} {t t' : Thread} {o : Option Obs} {b : Bool} (h : TStep sh tid t b t' o) :
    tstep sh tid t b = some (t', o) := by
  cases h with
  | block hpc hc h =>
    -- with a nil picker `ch` becomes the current channel whatever it was
    by_cases hp : sh.pickerAt sh.cur = none
    · simp [tstep, hpc, hc, hp]
    · simp [tstep, hpc, hc, hp, h.resolve_left hp]
  | ctx g hpc hctx hsel => rcases hsel with rfl | hcl <;> simp [tstep, *]
  | wake g hpc hcl hsel => rcases hsel with hl | rfl <;> simp [tstep, *]
  | _ => simp [tstep, *]

/-- what `inv_setThr` and `inv_log` ask of a step of the pick goroutine -/
theorem tstep_thread_ok {s : Sys} {tid : Nat} {t t' : Thread} {o : Option Obs} {b : Bool} (hs : TStep s.sh tid t b t' o) :
    (t'.ch = some s.sh.cur ∨ t'.ch = t.ch) ∧ ChAtPc t' ∧ ∀ e, o = some e → EventOk (s.setThr tid t') e := by
  cases hs with
  | block =>
    exact ⟨.inl rfl, ⟨fun g hg => by cases hg; rfl, nofun⟩, fun e he => by cases he; exact ⟨_, setThr_self .., rfl⟩⟩
  | pick hpc hc q hp =>
    exact ⟨.inl rfl, ⟨nofun, fun g hg => by cases hg; rfl⟩,
      fun e he => by cases he; exact ⟨⟨_, setThr_self .., rfl⟩, pickerAt_some hp⟩⟩
  | _ => exact ⟨.inr rfl, ⟨nofun, nofun⟩, fun e he => by cases he <;> trivial⟩

/-- the same of the return from `Pick`; its events (`returned`) ask nothing of the state -/
theorem pickReturn_thread_ok (tid : Nat) (t : Thread) (r : PickResult) :
    (pickReturn tid t r).1.ch = t.ch ∧ ChAtPc (pickReturn tid t r).1 ∧
    ∀ s e, (pickReturn tid t r).2 = some e → EventOk s e := by
  cases r with
  | otherErr e =>
    simp only [pickReturn]
    split <;> exact ⟨rfl, ⟨nofun, nofun⟩, fun _ e he => by cases he <;> trivial⟩
  | _ => exact ⟨rfl, ⟨nofun, nofun⟩, fun _ e he => by cases he <;> trivial⟩

/-- `step` as a relation: what an action does where it is enabled (elsewhere it does nothing: `step_sound`). -/
inductive Step (s : Sys) : Act → Sys → Option Obs → Prop
  | publish (a : Act) (p : Option Nat) (hc : s.sh.closed = false) (ha : a = .update p ∨ a = .idle ∧ p = none) :
      Step s a { s with sh := { s.sh with pickers := s.sh.pickers ++ [p] } } (some (.published (s.sh.cur + 1) p))
  | close (hc : s.sh.closed = false) : Step s .close { s with sh := { s.sh with closed := true } } (some .closedPw)
  | setSc (k : Nat) (st : SubConnSt) :
      Step s (.setSc k st) { s with sh := { s.sh with sc := fun i => if i = k then st else s.sh.sc i } } none
  | start (tid : Nat) (ff : Bool) (hn : s.thr tid = none) :
      Step s (.start tid ff) (s.setThr tid (newThread ff)) (some (.started tid s.sh.cur))
  | ctx (tid : Nat) (dl : Bool) (t : Thread) (ht : s.thr tid = some t) (hl : t.ctx = .live) :
      Step s (.ctxExpire tid dl) (s.setThr tid { t with ctx := if dl then .deadlineExceeded else .canceled }) none
  | thread (tid : Nat) (b : Bool) (t t' : Thread) (o : Option Obs) (ht : s.thr tid = some t)
      (hs : TStep s.sh tid t b t' o) : Step s (.step tid b) (s.setThr tid t') o
  | pickRet (tid : Nat) (r : PickResult) (t : Thread) (g : Nat) (ht : s.thr tid = some t) (hpc : t.pc = .inPick g) :
      Step s (.pickRet tid r) (s.setThr tid (pickReturn tid t r).1) (pickReturn tid t r).2

theorem step_sound {P : Sys → Option Obs → Prop} (s : Sys) (a : Act) (skip : P s none)
    (row : ∀ s' o, Step s a s' o → P s' o) : P (step s a).1 (step s a).2 := by
  -- one goal per branch of `step`, numbered in the order of its text: `update` 1-2, `idle` 3-4, `close` 5-6, `setSc` 7,
  -- `start` 8-9, `ctxExpire` 10-12, `step` 13-15, `pickRet` 16-18; a branch that acts is a row of `Step`, the others return `s`
  fun_cases step s a
  case case2 p hc => exact row _ _ (.publish _ p (by simpa using hc) (.inl rfl))
  case case4 hc => exact row _ _ (.publish _ none (by simpa using hc) (.inr ⟨rfl, rfl⟩))
  case case6 hc => exact row _ _ (.close (by simpa using hc))
  case case7 k st => exact row _ _ (.setSc k st)
  case case9 tid ff hn => exact row _ _ (.start tid ff hn)
  case case10 tid dl t ht hl => exact row _ _ (.ctx tid dl t ht hl)
  case case13 tid b t ht t' o hs => exact row _ _ (.thread tid b t t' o ht (tstep_sound hs))
  case case16 tid r t ht g hpc t' o hpr => have := row _ _ (.pickRet tid r t g ht hpc); rwa [hpr] at this
  all_goals exact skip

theorem Step.eq {s s' : Sys} {a : Act} {o : Option Obs} (h : Step s a s' o) : step s a = (s', o) := by
  cases h with
  | publish a p hc ha => rcases ha with rfl | ⟨rfl, rfl⟩ <;> simp [step, hc]
  | thread tid b t t' o ht hs => simp [step, ht, hs.eq]
  | _ => simp [step, *]

theorem inv_step {s : Sys} {log : List Obs} (a : Act) (h : Inv s log) :
    Inv (step s a).1 (log ++ (step s a).2.toList) := by
  refine step_sound (P := fun s' o => Inv s' (log ++ o.toList)) s a (by simpa using h) fun s' o hst => ?_
  cases hst with
  | publish _ p => exact inv_publish (inv_log h (some _) (fun e he => by cases he; trivial)) p (by simp)
  -- `closed` and `sc` change: `Inv` reads only `sh.pickers` and `thr`, so every clause is the old one up to unfolding
  | close => exact { inv_log h (some .closedPw) (fun e he => by cases he; trivial) with }
  | setSc => simpa using { h with }
  | start tid ff hn =>
    exact inv_log (inv_setThr h hn (.inr rfl) ⟨fun _ h => (by cases h), fun _ h => (by cases h)⟩) (some _)
      (fun e he => by cases he; exact Nat.le_refl _)
  | ctx tid dl t ht =>
    exact inv_log (inv_setThr h ht (t' := { t with ctx := if dl then .deadlineExceeded else .canceled }) (.inr rfl)
      (h.pcCh tid t ht)) none nofun
  | thread tid b t t' o ht hs =>
    obtain ⟨f1, f2, f3⟩ := tstep_thread_ok hs
    exact inv_log (inv_setThr h ht f1 f2) o f3
  | pickRet tid r t g ht =>
    obtain ⟨f1, f2, f3⟩ := pickReturn_thread_ok tid t r
    exact inv_log (inv_setThr h ht (.inr f1) f2) _ (f3 _)

theorem reach_inv {s : Sys} {log : List Obs} (h : Reach s log) : Inv s log := by
  induction h with
  | init => exact inv_init
  | step a _ ih => exact inv_step a ih

theorem reach_gen {s : Sys} {log : List Obs} (hr : Reach s log) {tid g : Nat} {t : Thread} (ht : s.thr tid = some t)
    (hpc : t.pc = .block g ∨ t.pc = .inPick g) : t.ch = some g ∧ g ≤ s.sh.cur := by
  have h := reach_inv hr
  have hch : t.ch = some g := hpc.elim ((h.pcCh tid t ht).1 g) ((h.pcCh tid t ht).2 g)
  exact ⟨hch, h.chLe tid t g ht hch⟩

/-- the events of pick `tid` in `l` are in order with a Pick call on generation `g` -/
structure Before (l : List Obs) (tid g : Nat) : Prop where
  started : ∀ c, Obs.started tid c ∈ l → c ≤ g
  blocked : ∀ c, Obs.blocked tid c ∈ l → c < g
  called : ∀ c p', Obs.pickCalled tid c p' ∈ l → c < g

theorem before_cur {s : Sys} {log : List Obs} (h : Inv s log) {tid : Nat} {t : Thread}
    (ht : s.thr tid = some t) (hne : t.ch ≠ some s.sh.cur) :
    Before log tid s.sh.cur := by
  -- every generation seen is ≤ the one `ch` holds (`seen`), which exists (`chLe`) and is not the current one
  have key : ∀ c, (Obs.blocked tid c ∈ log ∨ ∃ p, Obs.pickCalled tid c p ∈ log) → c < s.sh.cur := by
    intro c hm
    obtain ⟨u, g, hu, hg, hc⟩ := h.seen tid c hm
    rw [ht] at hu; simp at hu; subst hu
    have := h.chLe tid t g ht hg
    have : g ≠ s.sh.cur := by intro hh; apply hne; rw [hg, hh]
    omega
  exact ⟨fun c hm => h.startLe tid c hm, fun c hm => key c (Or.inl hm), fun c p' hm => key c (Or.inr ⟨p', hm⟩)⟩

theorem snoc_eq_append_cons {α : Type} {log l1 l2 : List α} {e x : α} (h : log ++ [e] = l1 ++ x :: l2) :
    (log = l1 ∧ e = x ∧ l2 = []) ∨ ∃ l2', log = l1 ++ x :: l2' := by
  rcases List.eq_nil_or_concat l2 with rfl | ⟨l2', b, rfl⟩
  · obtain ⟨h1, h2⟩ := List.append_inj' h rfl
    exact .inl ⟨h1, by simpa using h2, rfl⟩
  · have h' : log ++ [e] = (l1 ++ x :: l2') ++ [b] := by rw [h]; simp
    exact .inr ⟨l2', (List.append_inj' h' rfl).1⟩

/-- what an event certifies about the state `s` and the action `a` it was emitted from -/
def Emitted (s : Sys) (a : Act) : Obs → Prop
  | .started _ c => c = s.sh.cur
  | .blocked _ c => c = s.sh.cur ∧ s.sh.closed = false
  | .pickCalled tid g p => g = s.sh.cur ∧ s.sh.closed = false ∧ s.sh.pickers[g]? = some (some p) ∧
      ∃ t, s.thr tid = some t ∧ t.ch ≠ some g
  | .returned tid o => ∃ t, s.thr tid = some t ∧
    match o with
    | .transport sc tr b => (s.sh.sc sc).state = .ready ∧ (s.sh.sc sc).transport = some tr ∧
        ∃ hd, t.pc = .check sc hd ∧ b = t.pickBlocked
    | .closing => s.sh.closed = true
    | .ctxErr code lpe => ∃ g, t.pc = .block g ∧ t.ctx ≠ .live ∧ lpe = t.lastPickErr ∧
        code = if t.ctx = .deadlineExceeded then GrpcModel.Generated.pwCodeDeadlineExceeded
          else GrpcModel.Generated.pwCodeCanceled
    | .drop code rw => ∃ c, a = .pickRet tid (.statusErr c) ∧
        Outcome.drop code rw = if isRestricted c then .drop GrpcModel.Generated.pwCodeInternal true else .drop c false
    | .unavailable x => a = .pickRet tid (.otherErr x) ∧ t.failfast = true
  | _ => True

theorem step_emits {s : Sys} {a : Act} {e : Obs} (h : (step s a).2 = some e) : Emitted s a e := by
  refine step_sound (P := fun _ o => o = some e → Emitted s a e) s a nofun (fun s' o hst h => ?_) h
  cases hst with
  | publish => cases h; trivial
  | close => cases h; trivial
  | setSc => cases h
  | start => cases h; rfl
  | ctx => cases h
  | thread tid b t t' o ht hs =>
    cases hs with
    | closing _ hc => cases h; exact ⟨t, ht, hc⟩
    | block _ hc => cases h; exact ⟨rfl, hc⟩
    | pick _ hc q hp hne => cases h; exact ⟨rfl, hc, pickerAt_some hp, t, ht, hne⟩
    | ctx g hpc hctx => cases h; exact ⟨t, ht, g, hpc, hctx, rfl, rfl⟩
    | wake => cases h
    | ret sc hd tr hpc hr =>
      cases h
      obtain ⟨h1, h2⟩ := getReadyTransport_eq_some.mp hr
      exact ⟨t, ht, h1, h2, hd, hpc, rfl⟩
    | done => cases h; trivial
    | loop => cases h
  | pickRet tid r t g ht =>
    cases r with
    | statusErr c =>
      cases h
      by_cases hr : isRestricted c = true <;> simp only [hr, if_true] <;> exact ⟨t, ht, c, rfl, by simp [hr]⟩
    | otherErr x =>
      simp only [pickReturn] at h
      split at h
      · cases h
      · next hff => cases h; exact ⟨t, ht, rfl, by simpa using hff⟩
    | _ => cases h

theorem reach_emitted {s : Sys} {log : List Obs} (h : Reach s log) :
    ∀ {l1 e l2}, log = l1 ++ e :: l2 → ∃ s0 a, Reach s0 l1 ∧ Inv s0 l1 ∧ Emitted s0 a e := by
  induction h with
  | init => intro l1 e l2 h; simp at h
  | @step s log a hprev ih =>
    intro l1 e l2 heq
    cases ho : (step s a).2 with
    | none => rw [ho] at heq; simp at heq; exact ih heq
    | some e0 =>
      rw [ho] at heq
      rcases snoc_eq_append_cons heq with ⟨rfl, rfl, _⟩ | ⟨l2', hl⟩
      · exact ⟨s, a, hprev, reach_inv hprev, step_emits ho⟩
      · exact ih hl

theorem tstep_block_none_iff {sh : Shared} {tid : Nat} {t : Thread} {g : Nat} (b : Bool) (hpc : t.pc = Pc.block g) :
    tstep sh tid t b = none ↔ sh.chClosed g = false ∧ t.ctx = CtxState.live := by
  unfold tstep
  cases hcl : sh.chClosed g
  · -- channel open: the select takes the context's case iff the context is done
    simp [hpc, hcl]
  · -- channel closed: one of the two cases is taken
    simp only [hpc, hcl]; split <;> simp

theorem tstep_block_stuck {sh : Shared} {tid : Nat} {t : Thread} {g : Nat} (b : Bool) (hpc : t.pc = Pc.block g)
    (hcl : sh.chClosed g = false) (hctx : t.ctx = CtxState.live) : tstep sh tid t b = none :=
  (tstep_block_none_iff b hpc).2 ⟨hcl, hctx⟩

theorem repick_after_publish {sh sh' : Shared} {p : Option Nat} {tid g : Nat} {t : Thread}
    (h0 : sh.pickers.head? = some none) (hpk : sh'.pickers = sh.pickers ++ [p]) (hcl : sh'.closed = false)
    (hch : t.ch = some g) (hle : g ≤ sh.cur) (b : Bool) :
    sh'.chClosed g = true ∧
    (∀ q, p = some q → tstep sh' tid { t with pc := Pc.load } b =
        some ({ t with pc := Pc.inPick (sh.cur + 1), pickBlocked := true, ch := some (sh.cur + 1), calls := t.calls + 1 },
              some (Obs.pickCalled tid (sh.cur + 1) q))) ∧
    (p = none → tstep sh' tid { t with pc := Pc.load } b =
        some ({ t with pc := Pc.block (sh.cur + 1), ch := some (sh.cur + 1) }, some (Obs.blocked tid (sh.cur + 1)))) := by
  obtain ⟨hcur, hpa⟩ := cur_append h0 hpk
  refine ⟨by simp [Shared.chClosed, hcur]; left; omega, ?_, ?_⟩
  · rintro q rfl
    have hne : ({ t with pc := Pc.load } : Thread).ch ≠ some sh'.cur := by
      show t.ch ≠ _; rw [hch, hcur]; simp; omega
    rw [(TStep.pick rfl hcl q (by rw [hcur]; exact hpa) hne).eq, hcur]
    simp [hch]
  · rintro rfl
    rw [(TStep.block rfl hcl (.inl (by rw [hcur]; exact hpa))).eq, hcur]

theorem pickReturn_failfast (tid : Nat) (t : Thread) (r : PickResult) : (pickReturn tid t r).1.failfast = t.failfast := by
  cases r with
  | statusErr c => rfl
  | otherErr e => simp only [pickReturn]; split <;> rfl
  | _ => rfl

theorem step_failfast {s : Sys} {tid : Nat} {t : Thread} (a : Act) (ht : s.thr tid = some t) :
    ∃ t', (step s a).1.thr tid = some t' ∧ t'.failfast = t.failfast := by
  -- the thread `i` an action moves: another pick, or this one with `failfast` kept
  have moved : ∀ (i : Nat) (u u' : Thread), s.thr i = some u → u'.failfast = u.failfast →
      ∃ t', (s.setThr i u').thr tid = some t' ∧ t'.failfast = t.failfast := by
    intro i u u' hu hf
    by_cases hi : tid = i
    · subst hi
      cases ht.symm.trans hu
      exact ⟨u', by simp [setThr_thr], hf⟩
    · exact ⟨t, by simp [setThr_thr, hi, ht], rfl⟩
  refine step_sound (P := fun s' _ => ∃ t', s'.thr tid = some t' ∧ t'.failfast = t.failfast) s a ⟨t, ht, rfl⟩
    fun s' o hst => ?_
  cases hst with
  | start i ff hn =>
    have hi : tid ≠ i := fun e => by rw [e, hn] at ht; cases ht
    exact ⟨t, by simp [setThr_thr, hi, ht], rfl⟩
  | ctx i dl u hu => exact moved i u _ hu rfl
  | thread i b u u' o hu hs => exact moved i u u' hu (by cases hs <;> rfl)
  | pickRet i r u g hu => exact moved i u _ hu (pickReturn_failfast _ _ _)
  | _ => exact ⟨t, ht, rfl⟩

end GrpcProofs.Lemmas.PickerWrapper
