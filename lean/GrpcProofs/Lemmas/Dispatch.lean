/-
What each stage of GrpcModel/Model/Dispatch.lean computes (`splitLastSlash`/`parse`, `lookupMethod`,
`findService`), then `dispatch_cases`: the five things `dispatch` can do.
-/
import GrpcModel.Model.Dispatch
namespace GrpcProofs.Lemmas.Dispatch
open GrpcModel.Dispatch

theorem splitLastSlash_none : ∀ (l : Bytes), splitLastSlash l = none ↔ slash ∉ l := by
  intro l
  fun_induction splitLastSlash l with
  | case1 => simp
  | case2 b rest s m hr ih =>   -- a slash further on
    have : ¬ (slash ∉ rest) := fun hn => by rw [ih.mpr hn] at hr; cases hr
    simp only [reduceCtorEq, false_iff, List.mem_cons]
    intro hn
    exact this (fun hm => hn (Or.inr hm))
  | case3 rest hr ih => simp    -- the head is a slash
  | case4 b rest hr hb ih =>
    simp only [true_iff, List.mem_cons, not_or]
    exact ⟨fun h' => hb h'.symm, ih.mp hr⟩

theorem splitLastSlash_append (s m : Bytes) (hm : slash ∉ m) : splitLastSlash (s ++ slash :: m) = some (s, m) := by
  induction s with
  | nil => simp [splitLastSlash, (splitLastSlash_none m).mpr hm]
  | cons c s ih => simp [splitLastSlash, ih]

theorem splitLastSlash_some (l s m : Bytes) :
    splitLastSlash l = some (s, m) ↔ l = s ++ slash :: m ∧ slash ∉ m := by
  refine ⟨fun h => ?_, fun ⟨e, hm⟩ => e ▸ splitLastSlash_append s m hm⟩
  fun_induction splitLastSlash l generalizing s with
  | case1 => cases h
  | case2 b rest s' m' hr ih =>   -- a slash further on
    cases h
    obtain ⟨e, hm⟩ := ih _ hr
    exact ⟨congrArg (b :: ·) e, hm⟩
  | case3 rest hr =>              -- the head is the only slash
    cases h
    exact ⟨rfl, (splitLastSlash_none _).mp hr⟩
  | case4 => cases h

theorem parse_some (p s m : Bytes) :
    parse p = some (s, m) ↔ p = slash :: (s ++ slash :: m) ∧ slash ∉ m := by
  cases p with
  | nil => simp [parse]
  | cons b sm =>
    unfold parse
    by_cases hb : b = slash
    · simp only [hb, if_true, List.cons.injEq, true_and]
      exact splitLastSlash_some sm s m
    · simp only [hb, if_false, reduceCtorEq, List.cons.injEq, false_and]

theorem wellFormed_iff_parse (p : Bytes) : wellFormed p ↔ (parse p).isSome = true := by
  constructor
  · rintro ⟨s, m, rfl⟩
    unfold parse
    simp only [if_true]
    cases h : splitLastSlash (s ++ slash :: m) with
    | some _ => rfl
    | none =>
      have := (splitLastSlash_none _).mp h
      exact absurd (by simp) this
  · intro h
    cases hp : parse p with
    | none => rw [hp] at h; cases h
    | some sm =>
      obtain ⟨s, m⟩ := sm
      exact ⟨s, m, ((parse_some p s m).mp hp).1⟩

theorem lastIndexOf_some (m : Bytes) : ∀ (l : List Bytes) (i : Nat), lastIndexOf m l = some i → l[i]? = some m := by
  intro l i h
  fun_induction lastIndexOf m l generalizing i with
  | case1 => cases h
  | case2 x xs j hx ih => cases h; simpa using ih j hx
  | case3 xs hx ih => cases h; rfl
  | case4 => cases h

theorem lastIndexOf_none (m : Bytes) : ∀ (l : List Bytes), lastIndexOf m l = none ↔ m ∉ l := by
  intro l
  fun_induction lastIndexOf m l with
  | case1 => simp
  | case2 x xs j hx ih =>
    have : m ∈ xs := by
      have := lastIndexOf_some m xs j hx
      exact List.mem_of_getElem? this
    simp [this]
  | case3 xs hx ih => simp
  | case4 x xs hx hxm ih =>
    simp only [true_iff, List.mem_cons, not_or]
    exact ⟨fun h => hxm h.symm, ih.mp hx⟩

theorem lookupMethod_some (svc : Service) (m : Bytes) (e : Entry) (h : lookupMethod svc m = some e) :
    entryName svc e = some m := by
  unfold lookupMethod at h
  cases hm : lastIndexOf m svc.methods with
  | some i =>
    rw [hm] at h; simp only [Option.some.injEq] at h; subst h
    exact lastIndexOf_some m _ i hm
  | none =>
    rw [hm] at h
    cases hs : lastIndexOf m svc.streams with
    | some i =>
      rw [hs] at h; simp only [Option.some.injEq] at h; subst h
      exact lastIndexOf_some m _ i hs
    | none => rw [hs] at h; cases h

theorem lookupMethod_none (svc : Service) (m : Bytes) :
    lookupMethod svc m = none ↔ m ∉ svc.methods ++ svc.streams := by
  unfold lookupMethod
  cases hm : lastIndexOf m svc.methods with
  | some i =>
    have : m ∈ svc.methods := List.mem_of_getElem? (lastIndexOf_some m _ i hm)
    simp [this]
  | none =>
    have h1 := (lastIndexOf_none m _).mp hm
    cases hs : lastIndexOf m svc.streams with
    | some i =>
      have : m ∈ svc.streams := List.mem_of_getElem? (lastIndexOf_some m _ i hs)
      simp [this]
    | none =>
      have h2 := (lastIndexOf_none m _).mp hs
      simp [h1, h2]

/-- `findService` without its position counter: the recursion the proofs below follow. -/
theorem findService_cons (x : Service) (xs : List Service) (s : Bytes) :
    findService (x :: xs) s = if x.name = s then some (0, x) else (findService xs s).map fun p => (p.1 + 1, p.2) := by
  have shift : ∀ (reg : List Service) (k : Nat),
      findService.go s reg k = (findService.go s reg 0).map fun p => (p.1 + k, p.2) := by
    intro reg
    induction reg with
    | nil => intro k; rfl
    | cons y ys ih =>
      intro k
      unfold findService.go
      split
      · simp
      · rw [ih (k + 1), ih (0 + 1), Option.map_map]
        congr 1; funext p; simp only [Function.comp_apply, Prod.mk.injEq, and_true]; omega
  simp only [findService, findService.go]
  split
  · rfl
  · exact shift xs 1

theorem findService_some (reg : List Service) (s : Bytes) (i : Nat) (svc : Service)
    (h : findService reg s = some (i, svc)) : reg[i]? = some svc ∧ svc.name = s := by
  induction reg generalizing i with
  | nil => cases h
  | cons x xs ih =>
    rw [findService_cons] at h
    split at h
    · cases h; exact ⟨rfl, ‹_›⟩
    · cases hf : findService xs s with
      | none => rw [hf] at h; cases h
      | some p => rw [hf] at h; cases h; exact ih _ hf

theorem findService_none (reg : List Service) (s : Bytes) :
    findService reg s = none ↔ ∀ svc ∈ reg, svc.name ≠ s := by
  induction reg with
  | nil => simp [findService, findService.go]
  | cons x xs ih =>
    rw [findService_cons]
    by_cases hx : x.name = s
    · simp [hx]
    · simp [hx, ih]

theorem findService_of_mem (reg : List Service) (j : Nat) (svc : Service) (hnd : NoDupNames reg)
    (hj : reg[j]? = some svc) : findService reg svc.name = some (j, svc) := by
  induction reg generalizing j with
  | nil => simp at hj
  | cons x xs ih =>
    rw [findService_cons]
    obtain ⟨hx, hnd⟩ := List.nodup_cons.mp hnd
    cases j with
    | zero => cases hj; simp
    | succ j =>
      have hne : ¬ x.name = svc.name := fun e =>
        hx (List.mem_map.mpr ⟨svc, List.mem_of_getElem? hj, e.symm⟩)
      rw [if_neg hne, ih j hnd hj]
      rfl

theorem dispatch_cases (reg : List Service) (unk : Bool) (p : Bytes) :
    (parse p = none ∧ dispatch reg unk p = .malformed) ∨
    ∃ s m, parse p = some (s, m) ∧
      ((findService reg s = none ∧ dispatch reg unk p = if unk then .unknownHandler else .unimplService) ∨
       ∃ i svc, findService reg s = some (i, svc) ∧
         ((lookupMethod svc m = none ∧ dispatch reg unk p = if unk then .unknownHandler else .unimplMethod) ∨
          ∃ e, lookupMethod svc m = some e ∧ dispatch reg unk p = .run i e)) := by
  unfold dispatch
  cases parse p with
  | none => exact .inl ⟨rfl, rfl⟩
  | some sm =>
    obtain ⟨s, m⟩ := sm
    refine .inr ⟨s, m, rfl, ?_⟩
    dsimp only
    cases findService reg s with
    | none => exact .inl ⟨rfl, rfl⟩
    | some isvc =>
      obtain ⟨i, svc⟩ := isvc
      refine .inr ⟨i, svc, rfl, ?_⟩
      dsimp only
      cases lookupMethod svc m with
      | none => exact .inl ⟨rfl, rfl⟩
      | some e => exact .inr ⟨e, rfl, rfl⟩

end GrpcProofs.Lemmas.Dispatch

