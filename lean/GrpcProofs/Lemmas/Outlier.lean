/-
Outlier detection (C40).  Each handler of the model is taken apart once (`algStep_cases`, `plain_small`, `updateCore_spec`,
`unejStep_spec`); invariants are proved over `Reach` through `reach_induction`.
-/
import GrpcModel.Model.Outlier
import GrpcProofs.Lemmas.Basic
namespace GrpcProofs.Lemmas.Outlier
open GrpcModel.Outlier Basic

abbrev idsOf (eps : List Ep) : List Nat := eps.map (·.id)

theorem idsOf_map {f : Ep → Ep} (hf : ∀ x, (f x).id = x.id) (eps : List Ep) : idsOf (eps.map f) = idsOf eps :=
  keys_map hf

theorem trueCount_eq_countP (eps : List Ep) : trueCount eps = eps.countP Ep.ejected :=
  List.countP_eq_length_filter.symm

theorem trueCount_eq_zero {eps : List Ep} (h : ∀ x ∈ eps, x.ej = none) : trueCount eps = 0 := by
  rw [trueCount_eq_countP, List.countP_eq_zero]
  intro x hx
  simp [Ep.ejected, h x hx]

theorem trueCount_map {f : Ep → Ep} (h : ∀ x, (f x).ej = x.ej) (eps : List Ep) :
    trueCount (eps.map f) = trueCount eps := by
  simp only [trueCount_eq_countP, List.countP_map, Function.comp_def, Ep.ejected, h]
  rfl

/-- the map performed by ejectEndpoint -/
def setEj (ts : Int) (id : Nat) (x : Ep) : Ep :=
  if x.id = id then { x with ej := some ts, mult := x.mult + 1 } else x

/-- what `ejectEndpoint`s never touch -/
structure SameRest (x y : Ep) : Prop where
  id : y.id = x.id
  gen : y.gen = x.gen
  actS : y.actS = x.actS
  actF : y.actF = x.actF
  inS : y.inS = x.inS
  inF : y.inF = x.inF
  sws : y.sws = x.sws

theorem SameRest.refl (x : Ep) : SameRest x x := ⟨rfl, rfl, rfl, rfl, rfl, rfl, rfl⟩

theorem SameRest.trans {x y z : Ep} (h1 : SameRest x y) (h2 : SameRest y z) : SameRest x z :=
  ⟨h2.id.trans h1.id, h2.gen.trans h1.gen, h2.actS.trans h1.actS, h2.actF.trans h1.actF,
   h2.inS.trans h1.inS, h2.inF.trans h1.inF, h2.sws.trans h1.sws⟩

theorem setEj_sameRest (ts : Int) (id : Nat) (x : Ep) : SameRest x (setEj ts id x) := by
  unfold setEj; split
  · exact ⟨rfl, rfl, rfl, rfl, rfl, rfl, rfl⟩
  · exact .refl x

theorem setEj_of_ne {ts : Int} {id : Nat} {x : Ep} (h : x.id ≠ id) : setEj ts id x = x := if_neg h

theorem trueCount_setEj (ts : Int) (id : Nat) (eps : List Ep) (hn : (idsOf eps).Nodup) (e : Ep)
    (he : e ∈ eps) (hid : e.id = id) :
    trueCount (eps.map (setEj ts id)) = trueCount eps + (if e.ejected then 0 else 1) := by
  have := countP_map_key hn he (g := setEj ts id) (fun x hx => setEj_of_ne (hid ▸ hx)) Ep.ejected
  have hej : (setEj ts id e).ejected = true := by simp [setEj, hid, Ep.ejected]
  rw [hej, if_pos rfl] at this
  rw [trueCount_eq_countP, trueCount_eq_countP]
  cases h : e.ejected <;> simp [h] at this ⊢ <;> omega

def applyEj (ts : Int) (js : List Nat) (x : Ep) : Ep := js.foldl (fun x j => setEj ts j x) x

theorem applyEj_nil (ts : Int) (x : Ep) : applyEj ts [] x = x := rfl

theorem applyEj_append (ts : Int) (js ks : List Nat) (x : Ep) :
    applyEj ts (js ++ ks) x = applyEj ts ks (applyEj ts js x) := List.foldl_append

theorem map_applyEj_nil (ts : Int) (eps : List Ep) : eps.map (applyEj ts []) = eps := List.map_id eps

theorem applyEj_sameRest (ts : Int) (js : List Nat) (x : Ep) : SameRest x (applyEj ts js x) :=
  List.foldlRecOn js _ (.refl x) fun y hy j _ => hy.trans (setEj_sameRest ts j y)

theorem applyEj_not_mem (ts : Int) (js : List Nat) (x : Ep) (h : x.id ∉ js) : applyEj ts js x = x := by
  induction js with
  | nil => rfl
  | cons j js ih =>
    rw [List.mem_cons, not_or] at h
    show applyEj ts js (setEj ts j x) = x
    rw [setEj_of_ne h.1, ih h.2]

theorem applyEj_ej (ts : Int) (js : List Nat) (x : Ep) :
    (applyEj ts js x).ej = if x.id ∈ js then some ts else x.ej := by
  induction js generalizing x with
  | nil => simp [applyEj]
  | cons j js ih =>
    show (applyEj ts js (setEj ts j x)).ej = _
    rw [ih, (setEj_sameRest ts j x).id]
    by_cases hj : x.id = j
    · simp [setEj, hj]
    · simp [setEj_of_ne hj, hj]

theorem findEp_some {eps : List Ep} {id : Nat} {e : Ep} (h : findEp eps id = some e) : e ∈ eps ∧ e.id = id :=
  find_some h

theorem findEp_isSome {eps : List Ep} {id : Nat} : (findEp eps id).isSome ↔ id ∈ idsOf eps := by
  simp [findEp, idsOf]

theorem findEp_of_mem {eps : List Ep} (hn : (idsOf eps).Nodup) {e : Ep} (he : e ∈ eps) : findEp eps e.id = some e :=
  find_of_mem hn he

theorem findEp_map {f : Ep → Ep} (hf : ∀ x, (f x).id = x.id) (eps : List Ep) (j : Nat) :
    findEp (eps.map f) j = (findEp eps j).map f :=
  find_map hf j

def ejIds (evs : List Ev) : List Nat :=
  evs.filterMap fun e => match e with | .eject _ id => some id | _ => none

theorem ejIds_append (a b : List Ev) : ejIds (a ++ b) = ejIds a ++ ejIds b := by
  simp [ejIds, List.filterMap_append]

def swsOf (eps : List Ep) (j : Nat) : List Nat := match findEp eps j with | some e => e.sws | none => []

theorem swsOf_map_applyEj (ts : Int) (js : List Nat) (eps : List Ep) (j : Nat) :
    swsOf (eps.map (applyEj ts js)) j = swsOf eps j := by
  simp only [swsOf]
  rw [findEp_map (fun x => (applyEj_sameRest ts js x).id)]
  cases findEp eps j with
  | none => rfl
  | some e => exact (applyEj_sameRest ts js e).sws

/-- an iteration that ejects nothing -/
structure StepSame (l r : Loop) : Prop where
  eps : r.eps = l.eps
  nEj : r.nEj = l.nEj
  cmds : r.cmds = l.cmds
  evs : ejIds r.evs = ejIds l.evs

/-- an iteration that ejects `id`: it satisfied the criterion, was not ejected, and the share was
    below max_ejection_percent -/
structure StepEjects (maxPct : Nat) (ts : Int) (out : Nat → Bool) (id : Nat) (l r : Loop) : Prop where
  out : out id = true
  found : ∃ e, findEp l.eps id = some e ∧ e.ejected = false
  below : ¬ (maxPct : Int) * (l.eps.length : Int) ≤ l.nEj * 100
  eps : r.eps = l.eps.map (setEj ts id)
  nEj : r.nEj = l.nEj + 1
  cmds : r.cmds = l.cmds ++ (swsOf l.eps id).map (fun x => (x, true))
  evs : ejIds r.evs = ejIds l.evs ++ [id]

theorem algStep_cases (k : AlgK) (a : Alg) (maxPct : Nat) (ts : Int) (out : Nat → Bool) (l : Loop) (id : Nat)
    (hout : out id = true → id ∈ idsOf l.eps) :
    StepSame l (algStep k a maxPct ts out l id) ∨ StepEjects maxPct ts out id l (algStep k a maxPct ts out l id) := by
  have hevs : ∀ e, ejIds [e] = [] → ejIds (l.evs ++ [e]) = ejIds l.evs := fun e h => by rw [ejIds_append, h, List.append_nil]
  unfold algStep
  cases ho : out id
  · exact .inl ⟨rfl, rfl, rfl, rfl⟩
  obtain ⟨e, hf⟩ := Option.isSome_iff_exists.mp (findEp_isSome.mpr (hout ho))
  simp only [hf, Bool.not_true, Bool.false_eq_true, if_false, Option.map_some, Option.getD_some, decide_eq_true_eq]
  cases hej : e.ejected
  case true => exact .inl ⟨rfl, rfl, rfl, rfl⟩
  simp only [Bool.false_eq_true, if_false]
  by_cases hp : (maxPct : Int) * (l.eps.length : Int) ≤ l.nEj * 100
  · rw [if_pos hp]
    exact .inl ⟨rfl, rfl, rfl, hevs _ rfl⟩
  rw [if_neg hp]
  by_cases hd : l.draws.headD 0 % 100 < a.enf
  · rw [if_pos hd]
    simp only [ejectEp, hf]
    exact .inr { out := ho, found := ⟨e, hf, hej⟩, below := hp, eps := rfl, nEj := rfl,
                 cmds := by rw [swsOf, hf], evs := by rw [ejIds_append]; rfl }
  · rw [if_neg hd]
    exact .inl ⟨rfl, rfl, rfl, hevs _ rfl⟩

theorem algStep_ids {k : AlgK} {a : Alg} {maxPct : Nat} {ts : Int} {out : Nat → Bool} {l : Loop} {id : Nat}
    (hout : out id = true → id ∈ idsOf l.eps) : idsOf (algStep k a maxPct ts out l id).eps = idsOf l.eps := by
  rcases algStep_cases k a maxPct ts out l id hout with h | h
  · rw [h.eps]
  · rw [h.eps]; exact idsOf_map (fun x => (setEj_sameRest ts id x).id) _

theorem outSet_mem {k : AlgK} {eps : List Ep} {a : Alg} {j : Nat} (h : outSet k eps a j = true) : j ∈ idsOf eps := by
  apply findEp_isSome.mp
  unfold outSet at h
  split at h
  · cases h
  · next hf => rw [hf]; rfl

theorem outSet_isOut {k : AlgK} {eps : List Ep} {a : Alg} {j : Nat} {w : Ep} (hf : findEp eps j = some w)
    (h : outSet k eps a j = true) : isOut k eps a w = true := by
  rwa [outSet, hf] at h

theorem runAlg_induction {P : Loop → Prop} {k : AlgK} {a : Alg} {maxPct : Nat} {ts : Int} {l : Loop}
    (hstep : ∀ l' id, (∀ j, outSet k l.eps a j = true → j ∈ idsOf l'.eps) → P l' →
      P (algStep k a maxPct ts (outSet k l.eps a) l' id))
    (order : List Nat) (h : P l) : P (runAlg k a maxPct ts order l) :=
  (List.foldlRecOn (motive := fun l' => (∀ j, outSet k l.eps a j = true → j ∈ idsOf l'.eps) ∧ P l') order _
    ⟨fun _ => outSet_mem, h⟩
    fun l' hl id _ => ⟨fun j hj => algStep_ids (hl.1 id) ▸ hl.1 j hj, hstep l' id hl.1 hl.2⟩).2

/-- `l` is `l0` after `ejectEndpoint` for the ids `js`, in this order, each of them accepted by `ok`
    and not ejected in `l0` -/
structure Ejects (ts : Int) (ok : Nat → Prop) (l0 l : Loop) (js : List Nat) : Prop where
  eps : l.eps = l0.eps.map (applyEj ts js)
  cmds : l.cmds = l0.cmds ++ js.flatMap fun j => (swsOf l0.eps j).map fun x => (x, true)
  evs : ejIds l.evs = ejIds l0.evs ++ js
  ok : ∀ j ∈ js, ok j
  fresh : ∀ j ∈ js, ∃ e, findEp l0.eps j = some e ∧ e.ej = none

theorem Ejects.refl (ts : Int) (ok : Nat → Prop) (l : Loop) : Ejects ts ok l l [] :=
  { eps := (map_applyEj_nil ts l.eps).symm, cmds := (List.append_nil _).symm, evs := (List.append_nil _).symm,
    ok := nofun, fresh := nofun }

theorem Ejects.step {ts : Int} {ok : Nat → Prop} {l0 l : Loop} {js : List Nat} (h : Ejects ts ok l0 l js)
    (k : AlgK) (a : Alg) (maxPct : Nat) (out : Nat → Bool) (id : Nat)
    (hout : out id = true → id ∈ idsOf l.eps) (hok : out id = true → ok id) :
    ∃ js', Ejects ts ok l0 (algStep k a maxPct ts out l id) js' := by
  rcases algStep_cases k a maxPct ts out l id hout with hs | he
  · exact ⟨js, { h with eps := hs.eps ▸ h.eps, cmds := hs.cmds ▸ h.cmds, evs := hs.evs ▸ h.evs }⟩
  · obtain ⟨e, hf, hej⟩ := he.found
    refine ⟨js ++ [id], ?_⟩
    constructor
    case eps =>
      rw [he.eps, h.eps, List.map_map]
      exact List.map_congr_left fun x _ => (applyEj_append ts js [id] x).symm
    case cmds =>
      rw [he.cmds, h.cmds, h.eps, swsOf_map_applyEj, List.append_assoc, List.flatMap_append, List.flatMap_singleton]
    case evs => rw [he.evs, h.evs, List.append_assoc]
    case ok =>
      intro j hj
      rcases List.mem_append.mp hj with hj | hj
      · exact h.ok j hj
      · exact List.mem_singleton.mp hj ▸ hok he.out
    case fresh =>
      intro j hj
      rcases List.mem_append.mp hj with hj | hj
      · exact h.fresh j hj
      · -- the entry found in `l` is not ejected; it is the entry of `l0` after the ejections so far
        cases List.mem_singleton.mp hj
        rw [h.eps, findEp_map fun x => (applyEj_sameRest ts js x).id] at hf
        obtain ⟨e0, hf0, rfl⟩ := Option.map_eq_some_iff.mp hf
        rw [Ep.ejected, applyEj_ej] at hej
        split at hej
        · cases hej
        · exact ⟨e0, hf0, Option.not_isSome_iff_eq_none.mp (by simp [hej])⟩

theorem Ejects.runAlg {ts : Int} {ok : Nat → Prop} {l0 l : Loop} {js : List Nat} (h : Ejects ts ok l0 l js)
    (k : AlgK) (a : Alg) (maxPct : Nat) (order : List Nat) (hok : ∀ j, outSet k l.eps a j = true → ok j) :
    ∃ js', Ejects ts ok l0 (runAlg k a maxPct ts order l) js' :=
  runAlg_induction (P := fun l' => ∃ js', Ejects ts ok l0 l' js')
    (fun _ id hout ⟨_, h'⟩ => h'.step k a maxPct _ id (hout id) (hok id)) order ⟨js, h⟩

theorem trueCount_applyEj_le (ts : Int) (js : List Nat) (eps : List Ep) (hn : (idsOf eps).Nodup)
    (hj : ∀ j ∈ js, j ∈ idsOf eps) : trueCount (eps.map (applyEj ts js)) ≤ trueCount eps + js.length := by
  induction js generalizing eps with
  | nil => simp [map_applyEj_nil]
  | cons j js ih =>
    have hids := idsOf_map (fun x => (setEj_sameRest ts j x).id) eps
    obtain ⟨e, he, hid⟩ := List.mem_map.mp (hj j List.mem_cons_self)
    have h1 := trueCount_setEj ts j eps hn e he hid
    have h2 := ih (eps.map (setEj ts j)) (hids ▸ hn) fun k hk => hids ▸ hj k (List.mem_cons_of_mem _ hk)
    rw [List.map_map] at h2
    rw [List.length_cons]
    split at h1 <;> exact Nat.le_trans h2 (by omega)

structure Counted (eps : List Ep) (n : Int) : Prop where
  nodup : (idsOf eps).Nodup
  cnt : (trueCount eps : Int) = n

abbrev LoopInv (l : Loop) : Prop := Counted l.eps l.nEj

theorem algStep_inv (k : AlgK) (a : Alg) (maxPct : Nat) (ts : Int) (out : Nat → Bool) (l : Loop) (id : Nat)
    (hout : ∀ j, out j = true → j ∈ idsOf l.eps) (hi : LoopInv l) : LoopInv (algStep k a maxPct ts out l id) := by
  refine ⟨algStep_ids (hout id) ▸ hi.nodup, ?_⟩
  rcases algStep_cases k a maxPct ts out l id (hout id) with h | h
  · rw [h.eps, h.nEj]; exact hi.cnt
  · obtain ⟨e, hf, hej⟩ := h.found
    rw [h.eps, h.nEj, trueCount_setEj ts id l.eps hi.nodup e (findEp_some hf).1 (findEp_some hf).2, hej, ← hi.cnt]
    rfl

/-! ### the criteria only look at ids and buckets -/

theorem SameRest.rv {x y : Ep} (h : SameRest x y) : y.rv = x.rv := by simp [Ep.rv, h.inS, h.inF]

theorem SameRest.rate {x y : Ep} (h : SameRest x y) : rate y = rate x := by
  simp [GrpcModel.Outlier.rate, h.rv, h.inS]

section
variable {f : Ep → Ep} (hf : ∀ x, SameRest x (f x))
include hf

theorem considered_map (eps : List Ep) (vol : Nat) : considered (eps.map f) vol = (considered eps vol).map f := by
  simp only [considered, List.filter_map, Function.comp_def, (hf _).rv]

theorem mean_map (l : List Ep) : mean (l.map f) = mean l := by
  simp only [mean, List.map_map, List.length_map, Function.comp_def, (hf _).rate]

theorem variance_map (l : List Ep) : variance (l.map f) = variance l := by
  simp only [variance, mean_map hf, List.map_map, List.length_map, Function.comp_def, (hf _).rate]

theorem belowMean_map (l : List Ep) (factor : Nat) (e : Ep) : belowMean (l.map f) factor (f e) = belowMean l factor e := by
  simp only [belowMean, mean_map hf, variance_map hf, (hf e).rate]

theorem isOut_map (k : AlgK) (eps : List Ep) (a : Alg) (e : Ep) : isOut k (eps.map f) a (f e) = isOut k eps a e := by
  cases k <;>
    simp only [isOut, srOut, fpOut, considered_map hf, List.length_map, belowMean_map hf, (hf _).rv, (hf e).inF,
      List.all_map, Function.comp_def]

theorem outSet_map (k : AlgK) (eps : List Ep) (a : Alg) (j : Nat) : outSet k (eps.map f) a j = outSet k eps a j := by
  unfold outSet
  rw [findEp_map (fun x => (hf x).id)]
  cases findEp eps j with
  | none => rfl
  | some e => exact isOut_map hf k eps a e

end

def swapped (s : St) : List Ep := s.eps.map Ep.swap

def srLoop (c : Cfg) (s : St) (oS d : List Nat) : Loop :=
  match c.sr with
  | some a => runAlg .sr a c.maxPct s.now oS { eps := swapped s, nEj := s.nEj, draws := d }
  | none => { eps := swapped s, nEj := s.nEj, draws := d }

def algsLoop (c : Cfg) (s : St) (oS oF d : List Nat) : Loop :=
  match c.fp with
  | some a => runAlg .fp a c.maxPct s.now oF (srLoop c s oS d)
  | none => srLoop c s oS d

theorem fireCore_eq (c : Cfg) (s : St) (oS oF d : List Nat) :
    fireCore c s oS oF d =
      let l2 := algsLoop c s oS oF d
      let u := unejPass c s.now l2.eps
      ({ s with timerStart := some s.now, eps := u.1, nEj := l2.nEj - u.2.1, timer := some (s.now + c.interval) },
       l2.evs, l2.cmds ++ u.2.2) := rfl

abbrev startLoop (s : St) (d : List Nat) : Loop := { eps := swapped s, nEj := s.nEj, draws := d }

def cfgAlg (c : Cfg) : AlgK → Option Alg
  | .sr => c.sr
  | .fp => c.fp

/-- A run of the timer is one loop per configured algorithm, success rate first. -/
theorem algsLoop_induction {P : Loop → Prop} {c : Cfg} {s : St} {d : List Nat} (h0 : P (startLoop s d))
    (hrun : ∀ k a order l, cfgAlg c k = some a → P l → P (runAlg k a c.maxPct s.now order l)) (oS oF : List Nat) :
    P (srLoop c s oS d) ∧ P (algsLoop c s oS oF d) := by
  have h1 : P (srLoop c s oS d) := by
    unfold srLoop
    cases hsr : c.sr with
    | none => exact h0
    | some a => exact hrun .sr a oS _ hsr h0
  refine ⟨h1, ?_⟩
  unfold algsLoop
  cases hfp : c.fp with
  | none => exact h1
  | some a => exact hrun .fp a oF _ hfp h1

/-- `j` satisfies the criterion of a configured algorithm on the counts swapped in by this run -/
def Crit (c : Cfg) (s : St) (j : Nat) : Prop := ∃ k a, cfgAlg c k = some a ∧ outSet k (swapped s) a j = true

/-- A later loop evaluates its criterion after the ejections of the earlier one; they do not change it. -/
theorem algsLoop_spec (c : Cfg) (s : St) (oS oF d : List Nat) :
    ∃ js, Ejects s.now (Crit c s) (startLoop s d) (algsLoop c s oS oF d) js :=
  (algsLoop_induction (P := fun l => ∃ js, Ejects s.now (Crit c s) (startLoop s d) l js) ⟨[], .refl _ _ _⟩
    (fun k a order _ hk ⟨js, h⟩ => h.runAlg k a c.maxPct order fun j hj =>
      ⟨k, a, hk, by rwa [h.eps, outSet_map (applyEj_sameRest s.now js)] at hj⟩) oS oF).2

/-- identity and ejection state of an endpoint entry are kept (call counts and wrappers may change) -/
structure KeepEj (x y : Ep) : Prop where
  id : y.id = x.id
  gen : y.gen = x.gen
  ej : y.ej = x.ej
  mult : y.mult = x.mult

theorem KeepEj.refl (x : Ep) : KeepEj x x := ⟨rfl, rfl, rfl, rfl⟩
theorem KeepEj.trans {x y z : Ep} (a : KeepEj x y) (b : KeepEj y z) : KeepEj x z :=
  ⟨b.id.trans a.id, b.gen.trans a.gen, b.ej.trans a.ej, b.mult.trans a.mult⟩

/-- what ties an endpoint entry to its wrappers -/
structure EpSkel (e f : Ep) : Prop where
  id : f.id = e.id
  gen : f.gen = e.gen
  sws : f.sws = e.sws

theorem EpSkel.refl (e : Ep) : EpSkel e e := ⟨rfl, rfl, rfl⟩

/-- the same entries in the same order, each with its identity and ejection state -/
def EjKept (eps eps' : List Ep) : Prop := ∃ g : Ep → Ep, (∀ x, KeepEj x (g x)) ∧ eps' = eps.map g

theorem EjKept.map (eps : List Ep) (g : Ep → Ep) (h : ∀ x, KeepEj x (g x)) : EjKept eps (eps.map g) := ⟨g, h, rfl⟩

theorem EjKept.refl (eps : List Ep) : EjKept eps eps := ⟨id, KeepEj.refl, (List.map_id eps).symm⟩

theorem EjKept.trans {a b c : List Ep} : EjKept a b → EjKept b c → EjKept a c
  | ⟨g1, k1, e1⟩, ⟨g2, k2, e2⟩ => ⟨g2 ∘ g1, fun x => (k1 x).trans (k2 (g1 x)), by rw [e2, e1, List.map_map]⟩

theorem EjKept.ids {eps eps' : List Ep} : EjKept eps eps' → idsOf eps' = idsOf eps
  | ⟨_, k, e⟩ => e ▸ idsOf_map (fun x => (k x).id) eps

theorem EjKept.trueCount {eps eps' : List Ep} : EjKept eps eps' → trueCount eps' = trueCount eps
  | ⟨_, k, e⟩ => e ▸ trueCount_map (fun x => (k x).ej) eps

theorem EjKept.length {eps eps' : List Ep} (h : EjKept eps eps') : eps'.length = eps.length := by
  obtain ⟨g, k, e⟩ := h; rw [e, List.length_map]

theorem EjKept.exists_before {eps eps' : List Ep} (h : EjKept eps eps') {y : Ep} (hy : y ∈ eps') : ∃ x ∈ eps, KeepEj x y := by
  obtain ⟨g, k, rfl⟩ := h
  obtain ⟨x, hx, rfl⟩ := List.mem_map.mp hy
  exact ⟨x, hx, k x⟩

theorem EjKept.exists_after {eps eps' : List Ep} : EjKept eps eps' → ∀ {x : Ep}, x ∈ eps → ∃ y ∈ eps', KeepEj x y
  | ⟨g, k, e⟩, x, hx => ⟨g x, e ▸ List.mem_map_of_mem hx, k x⟩

/-- `childUpdate` is a sequence of `shutScw`s followed by a sequence of `newScw`s. -/
theorem childUpdate_induction {P : St → Prop} (hshut : ∀ s x, P s → P (shutScw s x).1)
    (hnew : ∀ s id, P s → P (newScw s id)) {s : St} (ids : List Nat) (h : P s) : P (childUpdate s ids).1 := by
  unfold childUpdate
  refine List.foldlRecOn ids _ ?_ fun acc ha id _ => ?_
  · exact List.foldlRecOn (motive := fun acc : St × List Dl => P acc.1) _ _ h fun acc ha w _ => hshut _ _ ha
  · split
    · exact ha
    · exact hnew _ _ ha

/-- what identifies a wrapper and attaches it to an endpoint entry -/
structure Skel (w v : Scw) : Prop where
  serial : v.serial = w.serial
  addr : v.addr = w.addr
  ep : v.ep = w.ep
  dead : v.dead = w.dead

/-- while the wrapper is ejected, the child's current health listener has seen nothing or
    TRANSIENT_FAILURE -/
def ScwOK (w : Scw) : Prop := w.ejected = true → w.hl = true → (w.last = none ∨ w.last = some 3)

/-- what the invariants read of a state -/
structure Core where
  eps : List Ep
  scws : List Scw
  nEj : Int
  nextSerial : Nat
  nextGen : Nat

def core (s : St) : Core := ⟨s.eps, s.scws, s.nEj, s.nextSerial, s.nextGen⟩

/-- health/connectivity bookkeeping on a wrapper: it delivers nothing to the health listener of a wrapper that is
    ejected (it forgets what was delivered, or leaves that and the listener as they are) -/
structure Bookkept (w v : Scw) : Prop where
  skel : Skel w v
  ejected : v.ejected = w.ejected
  quiet : w.ejected = true → v.last = none ∨ (v.last = w.last ∧ v.hl = w.hl)

/-- The elementary changes that every operation but a run of the timer and the part of an update
    under b.mu is made of: fields no invariant reads, call counts, one wrapper's health/connectivity
    bookkeeping, a new sub-connection, a sub-connection shut down. -/
inductive Small : St → St → Prop
  | other {s t : St} (h : core t = core s) : Small s t
  | counts (s : St) (f : Ep → Ep) (hf : ∀ x, KeepEj x (f x) ∧ EpSkel x (f x)) : Small s { s with eps := s.eps.map f }
  | scw (s : St) (serial : Nat) (f : Scw → Scw) (hf : ∀ w, Bookkept w (f w)) :
      Small s { s with scws := updScw s.scws serial f }
  | new (s : St) (id : Nat) : Small s (newScw s id)
  | shut (s : St) (w1 : Scw) (hw1 : w1 ∈ s.scws) : Small s
      { s with scws := updScw s.scws w1.serial fun w => { w with dead := true, hl := false, last := none, raw := some 4 },
               eps := s.eps.map fun x => if x.id = w1.addr ∧ some x.gen = w1.ep
                 then { x with sws := x.sws.filter (· ≠ w1.serial) } else x }

theorem Small.refl (s : St) : Small s s := .other rfl

theorem shutScw_small (s : St) (serial : Nat) : Small s (shutScw s serial).1 := by
  unfold shutScw
  split
  · exact .refl s
  next w1 hf =>
  split
  · exact .refl s
  · cases show w1.serial = serial by simpa using List.find?_some hf
    exact .shut s w1 (List.mem_of_find?_eq_some hf)

def plainOp : Op → Bool
  | .update _ _ => false
  | .fire _ _ _ => false
  | _ => true

theorem plain_small (s : St) (op : Op) (h : plainOp op = true) : Small s (step s op) := by
  cases op with
  | update c ids => cases h
  | fire a b c => cases h
  | calls a ns nf =>
    rw [step]
    fun_cases calls s a ns nf
    -- the last branch alone changes the state: a live wrapper under a picker that counts, the call results go to its endpoint
    case case6 => exact .counts s _ fun x => by split <;> exact ⟨⟨rfl, rfl, rfl, rfl⟩, rfl, rfl, rfl⟩
    all_goals exact .refl s
  | sc a st =>
    rw [step]
    fun_cases scUpdate s a st
    case case3 => exact .scw s a _ fun w => ⟨⟨rfl, rfl, rfl, rfl⟩, rfl, fun _ => .inl rfl⟩
    all_goals exact .refl s
  | health a st =>
    rw [step]
    fun_cases healthUpdate s a st
    -- a live wrapper that listens: the health state is recorded; it reaches the child only while the wrapper is not ejected
    case case4 =>
      refine .scw s a _ fun w => ?_
      split
      · exact ⟨⟨rfl, rfl, rfl, rfl⟩, rfl, fun _ => .inr ⟨rfl, rfl⟩⟩
      · next he => exact ⟨⟨rfl, rfl, rfl, rfl⟩, rfl, fun he' => absurd he' he⟩
    all_goals exact .refl s
  | newsc a =>
    rw [step, childNewSc]; split
    · exact .refl s
    · exact .new s a
  | rmsc a =>
    rw [step, childRmSc]; split
    · exact .refl s
    · exact shutScw_small s a
  | childstate a => rw [step, childState]; split <;> exact .other rfl
  | quiet b => exact .other rfl
  | advance d => exact .other rfl

theorem Small.ejKept {s t : St} (h : Small s t) : EjKept s.eps t.eps := by
  cases h with
  | other h =>
    have he : t.eps = s.eps := congrArg Core.eps h
    exact he ▸ .refl _
  | counts f hf => exact .map _ f fun x => (hf x).1
  | scw => exact .refl _
  | new => exact .map _ _ fun x => by split <;> exact ⟨rfl, rfl, rfl, rfl⟩
  | shut => exact .map _ _ fun x => by split <;> exact ⟨rfl, rfl, rfl, rfl⟩

theorem Small.nEj {s t : St} (h : Small s t) : t.nEj = s.nEj := by
  cases h with
  | other h => exact congrArg Core.nEj h
  | _ => rfl

theorem insertEp_perm (e : Ep) (l : List Ep) : (insertEp e l).Perm (e :: l) := by
  induction l with
  | nil => exact .refl _
  | cons x xs ih =>
    unfold insertEp
    split
    · exact .refl _
    · exact (ih.cons x).trans (.swap e x xs)

/-- entries created by `newEndpointInfo()` -/
structure Fresh (x : Ep) : Prop where
  ej : x.ej = none
  mult : x.mult = 0
  sws : x.sws = []

structure Added (g0 g1 : Nat) (x : Ep) : Prop extends Fresh x where
  ge : g0 ≤ x.gen
  lt : x.gen < g1

/-- the add loop so far: the old entries and those added, with generation numbers from `g0` on -/
structure AddInv (eps0 : List Ep) (g0 : Nat) (acc : List Ep × Nat) : Prop where
  le : g0 ≤ acc.2
  perm : ∃ news : List Ep, acc.1.Perm (news ++ eps0) ∧ ∀ x ∈ news, Added g0 acc.2 x
  nodup : (idsOf eps0).Nodup → (idsOf acc.1).Nodup

theorem addEps_spec (ids : List Nat) (eps : List Ep) (gen : Nat) : AddInv eps gen (addEps ids eps gen) := by
  refine List.foldlRecOn ids _ ⟨Nat.le_refl _, ⟨[], .refl _, nofun⟩, id⟩ fun acc h id _ => ?_
  split
  · exact h
  next hf =>
  obtain ⟨news, hp, hfresh⟩ := h.perm
  have hperm := insertEp_perm (newEp id acc.2) acc.1
  refine ⟨Nat.le_succ_of_le h.le, ⟨newEp id acc.2 :: news, hperm.trans (hp.cons _), ?_⟩, fun hn => ?_⟩
  · intro x hx
    rcases List.mem_cons.mp hx with rfl | hx
    · exact ⟨⟨rfl, rfl, rfl⟩, h.le, Nat.lt_succ_self _⟩
    · exact { hfresh x hx with lt := Nat.lt_succ_of_lt (hfresh x hx).lt }
  · rw [idsOf, (hperm.map (·.id)).nodup_iff]
    exact List.nodup_cons.mpr ⟨fun hm => hf (findEp_isSome.mpr hm), h.nodup hn⟩

/-- the new entries are not ejected, so they do not count -/
theorem addEps_countP {p : Ep → Bool} (hp : ∀ x, p x = true → x.ejected = true) (ids : List Nat) (eps : List Ep) (gen : Nat) :
    (addEps ids eps gen).1.countP p = eps.countP p := by
  obtain ⟨news, hperm, hfresh⟩ := (addEps_spec ids eps gen).perm
  rw [hperm.countP_eq, List.countP_append, Nat.add_eq_right, List.countP_eq_zero]
  intro x hx h
  have := hp x h
  rw [Ep.ejected, (hfresh x hx).ej] at this
  cases this

/-- the endpoint list after the add/remove loops of UpdateClientConnState -/
def updEps (s : St) (ids : List Nat) : List Ep :=
  (addEps ids s.eps s.nextGen).1.filter fun e => ids.contains e.id

def remEps (s : St) (ids : List Nat) : List Ep :=
  (addEps ids s.eps s.nextGen).1.filter fun e => !ids.contains e.id

theorem updEps_nodup (s : St) (ids : List Nat) (h : (idsOf s.eps).Nodup) : (idsOf (updEps s ids)).Nodup :=
  nodup_keys_filter ((addEps_spec ids s.eps s.nextGen).nodup h) _

theorem updEps_mem (s : St) (ids : List Nat) {y : Ep} (hy : y ∈ updEps s ids) :
    ids.contains y.id = true ∧
    (y ∈ s.eps ∨ Added s.nextGen (addEps ids s.eps s.nextGen).2 y) := by
  obtain ⟨hy, hc⟩ := List.mem_filter.mp hy
  obtain ⟨news, hp, hfresh⟩ := (addEps_spec ids s.eps s.nextGen).perm
  exact ⟨hc, (List.mem_append.mp (hp.mem_iff.mp hy)).symm.imp_right (hfresh y)⟩

theorem updEps_keep (s : St) (ids : List Nat) {x : Ep} (hx : x ∈ s.eps) (hc : ids.contains x.id = true) : x ∈ updEps s ids := by
  obtain ⟨news, hp, _⟩ := (addEps_spec ids s.eps s.nextGen).perm
  exact List.mem_filter.mpr ⟨hp.mem_iff.mpr (List.mem_append_right _ hx), hc⟩

theorem trueCount_updEps (s : St) (ids : List Nat) :
    trueCount (updEps s ids) = s.eps.countP fun e => e.ejected && ids.contains e.id := by
  rw [trueCount_eq_countP, updEps, List.countP_filter, addEps_countP fun x h => (Bool.and_eq_true_iff.mp h).1]

theorem updEps_count_le (s : St) (ids : List Nat) : trueCount (updEps s ids) ≤ trueCount s.eps := by
  rw [trueCount_updEps, trueCount_eq_countP]
  exact List.countP_mono_left fun x _ h => (Bool.and_eq_true_iff.mp h).1

theorem updEps_count_eq (s : St) (ids : List Nat) (h : ∀ x ∈ s.eps, x.ejected = true → ids.contains x.id = true) :
    trueCount (updEps s ids) = trueCount s.eps := by
  rw [trueCount_updEps, trueCount_eq_countP]
  exact List.countP_congr fun x hx => ⟨fun hh => (Bool.and_eq_true_iff.mp hh).1, fun hh => Bool.and_eq_true_iff.mpr ⟨hh, h x hx hh⟩⟩

theorem updEps_count_split (s : St) (ids : List Nat) :
    trueCount (updEps s ids) + trueCount (remEps s ids) = trueCount s.eps := by
  simp only [trueCount_eq_countP, updEps, remEps]
  rw [← List.countP_eq_countP_filter_add, addEps_countP fun _ => id]

theorem updateCore_cfg (s : St) (c : Cfg) (ids : List Nat) : (updateCore s c ids).1.cfg = some c := by
  unfold updateCore
  cases c.noop
  · cases s.timerStart <;> rfl
  · rfl

/-- what the update does to a kept endpoint: un-ejected with multiplier 0 by a no-op config, ejection
    state kept otherwise -/
structure Reset (noop : Bool) (e f : Ep) : Prop where
  skel : EpSkel e f
  ej : f.ej = if noop then none else e.ej
  mult : f.mult = if noop then 0 else e.mult

/-- What the part of UpdateClientConnState under b.mu returns (`r`): the endpoints are those of
    `updEps`, reset or kept; the removed ones leave the counter; only a no-op config queues
    (un-ejection) updates. -/
structure UpdateCore (s : St) (noop : Bool) (ids : List Nat) (r : St × List Cmd) : Prop where
  eps : ∃ m : Ep → Ep, r.1.eps = (updEps s ids).map m ∧ ∀ e, Reset noop e (m e)
  nEj : r.1.nEj = s.nEj - (trueCount (remEps s ids) : Int) - (if noop then (trueCount (updEps s ids) : Int) else 0)
  cmds : r.2 = if noop then ((updEps s ids).filter Ep.ejected).flatMap (fun e => e.sws.map fun x => (x, false)) else []
  scws : r.1.scws = s.scws
  nextSerial : r.1.nextSerial = s.nextSerial
  nextGen : r.1.nextGen = (addEps ids s.eps s.nextGen).2

theorem updateCore_spec (s : St) (c : Cfg) (ids : List Nat) : UpdateCore s c.noop ids (updateCore s c ids) := by
  unfold updateCore
  simp only [onNoop]
  cases c.noop
  · rw [if_neg Bool.false_ne_true]
    cases s.timerStart
    · exact { eps := ⟨Ep.clear, rfl, fun _ => ⟨⟨rfl, rfl, rfl⟩, rfl, rfl⟩⟩, nEj := (Int.sub_zero _).symm,
              cmds := rfl, scws := rfl, nextSerial := rfl, nextGen := rfl }
    · exact { eps := ⟨id, (List.map_id _).symm, fun _ => ⟨⟨rfl, rfl, rfl⟩, rfl, rfl⟩⟩, nEj := (Int.sub_zero _).symm,
              cmds := rfl, scws := rfl, nextSerial := rfl, nextGen := rfl }
  · rw [if_pos rfl]
    exact { eps := ⟨_, rfl, fun _ => ⟨⟨rfl, rfl, rfl⟩, rfl, rfl⟩⟩, nEj := rfl,
            cmds := rfl, scws := rfl, nextSerial := rfl, nextGen := rfl }

/-- the state after the part of UpdateClientConnState that runs under b.mu and after the
    un-ejection updates it queued have been handled -/
def stage1 (s : St) (c : Cfg) (ids : List Nat) : St :=
  { (updateCore s c ids).1 with scws := (applyCmds (updateCore s c ids).1.scws (updateCore s c ids).2).1 }

/-- an update after the part under b.mu: the child's reaction (`childUpdate`), then the picker
    bookkeeping, which no invariant reads -/
theorem update_induction {P : St → Prop} (hsmall : ∀ s t, Small s t → P s → P t) (s : St) (c : Cfg) (ids : List Nat)
    (h : P (stage1 s c ids)) : P (update s c ids).1 := by
  have ht := childUpdate_induction (fun t x => hsmall _ _ (shutScw_small t x)) (fun t id => hsmall _ _ (.new t id)) ids h
  unfold update
  unfold stage1 at ht
  simp only []
  generalize (childUpdate _ ids).1 = t at ht ⊢
  split <;> split <;> exact hsmall t _ (.other rfl) ht

theorem update_kept (s : St) (c : Cfg) (ids : List Nat) : EjKept (updateCore s c ids).1.eps (update s c ids).1.eps :=
  update_induction (P := fun t => EjKept (updateCore s c ids).1.eps t.eps) (fun _ _ hs h => h.trans hs.ejKept) s c ids (.refl _)

structure Updated (s : St) (c : Cfg) (ids : List Nat) (y : Ep) : Prop where
  listed : ids.contains y.id = true
  noop : c.noop = true → y.ej = none ∧ y.mult = 0
  old : y.ej ≠ none → ∃ x ∈ s.eps, x.id = y.id ∧ x.ej = y.ej ∧ x.mult = y.mult

theorem update_mem (s : St) (c : Cfg) (ids : List Nat) {y : Ep} (hy : y ∈ (update s c ids).1.eps) : Updated s c ids y := by
  obtain ⟨z, hz, kz⟩ := (update_kept s c ids).exists_before hy
  obtain ⟨m, hm, hmm⟩ := (updateCore_spec s c ids).eps
  rw [hm] at hz
  obtain ⟨u, hu, rfl⟩ := List.mem_map.mp hz
  obtain ⟨hc, hor⟩ := updEps_mem s ids hu
  have hid : y.id = u.id := kz.id.trans (hmm u).skel.id
  have hej : y.ej = if c.noop then none else u.ej := kz.ej.trans (hmm u).ej
  have hmult : y.mult = if c.noop then 0 else u.mult := kz.mult.trans (hmm u).mult
  refine ⟨hid ▸ hc, fun hn => by simp [hej, hmult, hn], fun hne => ?_⟩
  cases hn : c.noop
  · rw [hn] at hej hmult
    rcases hor with hmem | hfresh
    · exact ⟨u, hmem, hid.symm, hej.symm, hmult.symm⟩
    · exact absurd (hej.trans hfresh.ej) hne
  · exact absurd (by rw [hej, hn]; rfl) hne

theorem update_keep (s : St) (c : Cfg) (ids : List Nat) (hn : c.noop = false) {x : Ep} (hx : x ∈ s.eps)
    (hc : ids.contains x.id = true) : ∃ y ∈ (update s c ids).1.eps, KeepEj x y := by
  obtain ⟨m, hm, hmm⟩ := (updateCore_spec s c ids).eps
  obtain ⟨y, hy, ky⟩ := (update_kept s c ids).exists_after (hm ▸ List.mem_map_of_mem (updEps_keep s ids hx hc))
  have hr := hmm x
  rw [hn] at hr
  exact ⟨y, hy, .trans ⟨hr.skel.id, hr.skel.gen, hr.ej, hr.mult⟩ ky⟩

/-- the last loop of intervalTimerAlgorithm on one endpoint `e` -/
structure UnejStep (c : Cfg) (now : Int) (e : Ep) : Prop where
  flag : (unejStep c now e).2 = true ↔ ∃ ts, e.ej = some ts ∧ now > ts + ejectionTime c e.mult
  ej : (unejStep c now e).1.ej = if (unejStep c now e).2 then none else e.ej
  mult : e.ej ≠ none → (unejStep c now e).1.mult = e.mult
  skel : EpSkel e (unejStep c now e).1

theorem unejStep_spec (c : Cfg) (now : Int) (e : Ep) : UnejStep c now e := by
  cases he : e.ej with
  | none =>
    -- not ejected: at most the multiplier goes down
    obtain ⟨m, hu⟩ : ∃ m, unejStep c now e = ({ e with mult := m }, false) := by
      unfold unejStep
      split
      · split <;> exact ⟨_, rfl⟩
      · next h => cases he.symm.trans h
    constructor <;> rw [hu]
    case flag => exact ⟨nofun, fun ⟨_, h, _⟩ => nomatch he.symm.trans h⟩
    case ej => rfl
    case mult => exact fun h => absurd he h
    case skel => exact ⟨rfl, rfl, rfl⟩
  | some ts =>
    have hu : unejStep c now e =
        if now > ts + ejectionTime c e.mult then ({ e with ej := none }, true) else (e, false) := by
      rw [unejStep, he]
    by_cases hd : now > ts + ejectionTime c e.mult
    · rw [if_pos hd] at hu
      constructor <;> rw [hu]
      case flag => exact ⟨fun _ => ⟨ts, he, hd⟩, fun _ => rfl⟩
      case ej => rfl
      case mult => exact fun _ => rfl
      case skel => exact ⟨rfl, rfl, rfl⟩
    · rw [if_neg hd] at hu
      constructor <;> rw [hu]
      case flag => exact ⟨nofun, fun ⟨_, h, hgt⟩ => absurd (Option.some.inj (he.symm.trans h) ▸ hgt) hd⟩
      case ej => rfl
      case mult => exact fun _ => rfl
      case skel => exact ⟨rfl, rfl, rfl⟩

theorem unejPass_eps (c : Cfg) (now : Int) (eps : List Ep) :
    (unejPass c now eps).1 = eps.map fun e => (unejStep c now e).1 := by
  simp [unejPass, List.map_map, Function.comp_def]

theorem idsOf_unejPass (c : Cfg) (now : Int) (eps : List Ep) : idsOf (unejPass c now eps).1 = idsOf eps := by
  rw [unejPass_eps]; exact idsOf_map (fun x => (unejStep_spec c now x).skel.id) eps

theorem trueCount_unejPass (c : Cfg) (now : Int) (eps : List Ep) :
    (trueCount (unejPass c now eps).1 : Int) + (unejPass c now eps).2.1 = trueCount eps := by
  rw [unejPass_eps, trueCount_eq_countP, trueCount_eq_countP]
  simp only [unejPass, List.filter_map, List.length_map, ← List.countP_eq_length_filter, Function.comp_def]
  norm_cast
  induction eps with
  | nil => rfl
  | cons x xs ih =>
    have hx : (if (unejStep c now x).1.ejected then 1 else 0) + (if (unejStep c now x).2 then 1 else 0)
        = (if x.ejected then 1 else 0) := by
      have hu := unejStep_spec c now x
      rw [Ep.ejected, Ep.ejected, hu.ej]
      cases hf : (unejStep c now x).2
      · simp
      · obtain ⟨ts, hts, _⟩ := hu.flag.mp hf
        simp [hts]
    simp only [List.map_cons, List.countP_cons]
    omega

theorem fire_eq {s : St} {c : Cfg} (hc : s.cfg = some c) (oS oF d : List Nat) :
    let l2 := algsLoop c s oS oF d
    let u := unejPass c s.now l2.eps
    (fire s oS oF d).1 = { s with timerStart := some s.now, eps := u.1, nEj := l2.nEj - u.2.1, timer := some (s.now + c.interval),
                                  scws := (applyCmds s.scws (l2.cmds ++ u.2.2)).1 } := by
  unfold fire
  split
  · next h => cases hc.symm.trans h
  · next h => cases hc.symm.trans h; rfl

theorem fire_evs {s : St} {c : Cfg} (hc : s.cfg = some c) (oS oF d : List Nat) :
    (fire s oS oF d).2.1.evs = (algsLoop c s oS oF d).evs := by
  unfold fire; rw [hc]; rfl

theorem fire_nocfg (s : St) (hc : s.cfg = none) (oS oF d : List Nat) : (fire s oS oF d).1 = s := by
  unfold fire; rw [hc]

theorem fire_eps {s : St} {c : Cfg} (hc : s.cfg = some c) (oS oF d : List Nat) :
    ∃ js, Ejects s.now (Crit c s) (startLoop s d) (algsLoop c s oS oF d) js ∧
      (fire s oS oF d).1.eps = s.eps.map fun x => (unejStep c s.now (applyEj s.now js x.swap)).1 := by
  obtain ⟨js, h⟩ := algsLoop_spec c s oS oF d
  refine ⟨js, h, ?_⟩
  rw [fire_eq hc oS oF d]
  show (unejPass _ _ _).1 = _
  rw [unejPass_eps, h.eps]
  simp only [swapped, List.map_map]
  rfl

theorem fire_unej (s : St) (c : Cfg) (hc : s.cfg = some c) (oS oF d : List Nat) {z : Ep}
    (hz : z ∈ (algsLoop c s oS oF d).eps) : (unejStep c s.now z).1 ∈ (fire s oS oF d).1.eps := by
  rw [fire_eq hc oS oF d]
  show _ ∈ (unejPass _ _ _).1
  rw [unejPass_eps]
  exact List.mem_map_of_mem hz

inductive Reach : St → Prop
  | init : Reach GrpcModel.Outlier.init
  | step {s : St} (op : Op) : Reach s → Reach (step s op)

abbrev Inv (s : St) : Prop := Counted s.eps s.nEj

theorem idsOf_swapped (s : St) : idsOf (swapped s) = idsOf s.eps := idsOf_map (f := Ep.swap) (fun _ => rfl) s.eps

theorem trueCount_swapped (s : St) : trueCount (swapped s) = trueCount s.eps := trueCount_map (f := Ep.swap) (fun _ => rfl) s.eps

theorem findEp_swapped {s : St} (hn : (idsOf s.eps).Nodup) {x : Ep} (hx : x ∈ s.eps) : findEp (swapped s) x.id = some x.swap :=
  findEp_of_mem (idsOf_swapped s ▸ hn) (List.mem_map_of_mem (f := Ep.swap) hx)

theorem Inv.loop {s : St} (h : Inv s) (d : List Nat) : LoopInv (startLoop s d) :=
  ⟨idsOf_swapped s ▸ h.nodup, trueCount_swapped s ▸ h.cnt⟩

theorem fire_entry {s : St} (hn : (idsOf s.eps).Nodup) {c : Cfg} (hc : s.cfg = some c) (oS oF d : List Nat) {x y : Ep}
    (hx : x ∈ s.eps) (hy : y ∈ (fire s oS oF d).1.eps) (hid : y.id = x.id) :
    ∃ js, Ejects s.now (Crit c s) (startLoop s d) (algsLoop c s oS oF d) js ∧
      y = (unejStep c s.now (applyEj s.now js x.swap)).1 := by
  obtain ⟨js, h, heps⟩ := fire_eps hc oS oF d
  rw [heps] at hy
  obtain ⟨x', hx', rfl⟩ := List.mem_map.mp hy
  cases eq_of_nodup_map hn hx' hx
    ((applyEj_sameRest s.now js x'.swap).id.symm.trans ((unejStep_spec ..).skel.id.symm.trans hid))
  exact ⟨js, h, rfl⟩

theorem algsLoop_inv (c : Cfg) (s : St) (h : Inv s) (oS oF d : List Nat) : LoopInv (algsLoop c s oS oF d) :=
  (algsLoop_induction (h.loop d)
    (fun _ _ order _ _ hl => runAlg_induction (fun l id => algStep_inv _ _ _ _ _ l id) order hl) oS oF).2

theorem inv_fire {s : St} {c : Cfg} (hc : s.cfg = some c) (h : Inv s) (oS oF d : List Nat) : Inv (fire s oS oF d).1 := by
  have hl := algsLoop_inv c s h oS oF d
  rw [fire_eq hc oS oF d]
  refine ⟨(idsOf_unejPass ..).symm ▸ hl.nodup, ?_⟩
  have h3 := trueCount_unejPass c s.now (algsLoop c s oS oF d).eps
  have := hl.cnt
  dsimp only
  omega

theorem inv_stage1 (s : St) (c : Cfg) (ids : List Nat) (h : Inv s) : Inv (stage1 s c ids) := by
  obtain ⟨m, hm, hmm⟩ := (updateCore_spec s c ids).eps
  have hn := (updateCore_spec s c ids).nEj
  have hsplit := updEps_count_split s ids
  have hcnt := h.cnt
  refine ⟨?_, ?_⟩
  · rw [stage1, hm, idsOf_map fun e => (hmm e).skel.id]
    exact updEps_nodup s ids h.nodup
  · rw [stage1, hm, hn]
    cases hnoop : c.noop
    · rw [trueCount_map fun e => by rw [(hmm e).ej, hnoop]; rfl]
      simp only [Bool.false_eq_true, if_false]; omega
    · have : trueCount ((updEps s ids).map m) = 0 := trueCount_eq_zero fun x hx => by
        obtain ⟨e, _, rfl⟩ := List.mem_map.mp hx
        rw [(hmm e).ej, hnoop]; rfl
      rw [this]; simp only [if_true]; omega

/-- An invariant has four obligations: the initial state, the elementary changes, the part of an update under b.mu with
    its un-ejection updates handled, and a run of the timer with a config present. -/
theorem reach_induction {P : St → Prop} (h0 : P GrpcModel.Outlier.init) (hsmall : ∀ s t, Small s t → P s → P t)
    (hcore : ∀ s c ids, P s → P (stage1 s c ids))
    (hfire : ∀ s c, s.cfg = some c → ∀ oS oF d, P s → P (fire s oS oF d).1) {s : St} (h : Reach s) : P s := by
  induction h with
  | init => exact h0
  | @step s op _ ih =>
    cases op with
    | update c ids => exact update_induction hsmall s c ids (hcore s c ids ih)
    | fire oS oF d =>
      -- without a config (no update yet) a run of the timer does nothing
      cases hc : s.cfg with
      | none => rw [step, fire_nocfg s hc]; exact ih
      | some c => exact hfire s c hc oS oF d ih
    | _ => exact hsmall _ _ (plain_small s _ rfl) ih

theorem inv_init : Inv GrpcModel.Outlier.init := ⟨List.nodup_nil, rfl⟩

theorem Small.inv {s t : St} (hs : Small s t) (h : Inv s) : Inv t :=
  ⟨hs.ejKept.ids ▸ h.nodup, by rw [hs.ejKept.trueCount, hs.nEj]; exact h.cnt⟩

theorem reach_inv {s : St} (h : Reach s) : Inv s :=
  reach_induction inv_init (fun _ _ => Small.inv) inv_stage1 (fun _ _ hc oS oF d h => inv_fire hc h oS oF d) h

/-- the loop states that occur while intervalTimerAlgorithm runs in a reachable state -/
inductive InFire : Loop → Prop
  | start {s : St} (hr : Reach s) (d : List Nat) : InFire { eps := swapped s, nEj := s.nEj, draws := d }
  | step {l : Loop} (h : InFire l) (k : AlgK) (a : Alg) (maxPct : Nat) (ts : Int) (out : Nat → Bool) (id : Nat)
      (hout : ∀ j, out j = true → j ∈ idsOf l.eps) : InFire (algStep k a maxPct ts out l id)

theorem inFire_inv {l : Loop} (h : InFire l) : LoopInv l := by
  induction h with
  | start hr d => exact (reach_inv hr).loop d
  | step _ k a maxPct ts out id hout ih => exact algStep_inv k a maxPct ts out _ id hout ih

end GrpcProofs.Lemmas.Outlier
