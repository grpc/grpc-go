/-
C39 (priority policy): the handlers one by one.  `Base` collects what every handler preserves
whatever the priorities are: distinct names, `ChildOK` for every child, and the link to the balancer
group.  It reads the two keyed lists through `findChild` / `findSb`, name by name; a handler that
changes them at one name (`SetAt`) has to re-establish it at that name only (`Base.setAt`).  On a state
with `Base` (hence distinct child names) stop / start / switchToChild act on the children as pointwise
maps (`stopF`, `startF`, `switchF`): `Acts`.
-/
import GrpcModel.Model.Priority
import GrpcProofs.Lemmas.Basic
namespace GrpcProofs.Lemmas.Priority
open GrpcModel.Priority Basic

abbrev names (cs : List Child) : List Nat := cs.map (·.name)

section Keyed
variable {α : Type} {f : α → Nat} {l l' l'' : List α} {n : Nat}

theorem nodup_keys_cons {b : α} (h : (l.map f).Nodup) (hb : f b ∉ l.map f) (hp : l'.Perm (b :: l)) : (l'.map f).Nodup :=
  ((hp.map f).nodup_iff).mpr (List.nodup_cons.mpr ⟨hb, h⟩)

theorem find_filter {q : α → Bool} {k : Nat → Bool} (hq : ∀ a, q a = k (f a)) (m : Nat) :
    (l.filter q).find? (f · = m) = if k m then l.find? (f · = m) else none := by
  rw [List.find?_filter]
  cases hk : k m with
  | true => exact congrArg (List.find? · l) (funext fun a => by by_cases e : f a = m <;> simp [e, hq, hk])
  | false => exact List.find?_eq_none.mpr fun a _ => by by_cases e : f a = m <;> simp [e, hq, hk]

theorem find_perm_cons {b : α} (hp : l'.Perm (b :: l)) (hn : (l.map f).Nodup) (hb : f b ∉ l.map f) (m : Nat) :
    l'.find? (f · = m) = if m = f b then some b else l.find? (f · = m) := by
  have hn' := nodup_keys_cons hn hb hp
  split
  · next e => subst e; exact find_of_mem hn' (hp.mem_iff.mpr List.mem_cons_self)
  · next e =>
    cases hf : l.find? (f · = m) with
    | none =>
      refine find_none_iff.mpr fun hm => ?_
      rcases List.mem_cons.mp ((hp.map f).mem_iff.mp hm) with h | h
      · exact e h
      · exact find_none_iff.mp hf h
    | some a =>
      obtain ⟨ha, rfl⟩ := find_some hf
      exact find_of_mem hn' (hp.mem_iff.mpr (List.mem_cons_of_mem _ ha))

theorem exists_mem_iff_find (h : (l.map f).Nodup) (n : Nat) (p : α → Prop) :
    (∃ a ∈ l, f a = n ∧ p a) ↔ ∃ a, l.find? (f · = n) = some a ∧ p a := by
  constructor
  · rintro ⟨a, ha, rfl, hp⟩; exact ⟨a, find_of_mem h ha, hp⟩
  · rintro ⟨a, ha, hp⟩; exact ⟨a, (find_some ha).1, (find_some ha).2, hp⟩

/-- `l'` is `l` with the entry of key `n` set to `o` (changed, removed or added) -/
def SetAt (f : α → Nat) (n : Nat) (o : Option α) (l l' : List α) : Prop :=
  (l.map f).Nodup → (l'.map f).Nodup ∧ ∀ m, l'.find? (f · = m) = if m = n then o else l.find? (f · = m)

theorem SetAt.refl : SetAt f n (l.find? (f · = n)) l l :=
  fun h => ⟨h, fun m => by split <;> simp [*]⟩

theorem SetAt.modify {o : Option α} (ho : l.find? (f · = n) = o) {g : α → α} (hg : ∀ a, f (g a) = f a) :
    SetAt f n (o.map g) l (l.map fun a => if f a = n then g a else a) := by
  subst ho
  exact fun h => ⟨by rwa [keys_map fun a => by split; exact hg a; rfl], fun m => find_modify hg m⟩

theorem SetAt.erase : SetAt f n none l (l.filter (f · ≠ n)) :=
  fun h => ⟨nodup_keys_filter h _, fun m => by
    rw [find_filter (k := (· ≠ n)) fun _ => rfl]; by_cases e : m = n <;> simp [e]⟩

theorem SetAt.insert {b : α} (hp : l'.Perm (b :: l)) (hb : f b = n) (hf : l.find? (f · = n) = none) :
    SetAt f n (some b) l l' := by
  subst hb
  exact fun h => ⟨nodup_keys_cons h (find_none_iff.mp hf) hp, find_perm_cons hp h (find_none_iff.mp hf)⟩

theorem SetAt.trans {o o' : Option α} (h : SetAt f n o l l') (h' : SetAt f n o' l' l'') : SetAt f n o' l l'' :=
  fun hn => ⟨(h' (h hn).1).1, fun m => by rw [(h' (h hn).1).2, (h hn).2]; split <;> rfl⟩

end Keyed

theorem split_unique {α : Type} {l a b a' b' : List α} {x : α} (hn : l.Nodup) (h1 : l = a ++ x :: b) (h2 : l = a' ++ x :: b') :
    a = a' ∧ b = b' := by
  subst h1
  induction a generalizing a' with
  | nil =>
    cases a' with
    | nil => simp at h2; exact ⟨rfl, h2⟩
    | cons y ys =>
      simp only [List.nil_append, List.cons_append, List.cons.injEq] at h2
      obtain ⟨rfl, h3⟩ := h2
      have := (List.nodup_cons.mp hn).1
      rw [h3] at this; simp at this
  | cons z zs ih =>
    cases a' with
    | nil =>
      simp only [List.nil_append, List.cons_append, List.cons.injEq] at h2
      obtain ⟨rfl, h3⟩ := h2
      have := (List.nodup_cons.mp hn).1
      simp at this
    | cons y ys =>
      simp only [List.cons_append, List.cons.injEq] at h2
      obtain ⟨rfl, h3⟩ := h2
      obtain ⟨i1, i2⟩ := ih (List.nodup_cons.mp hn).2 h3
      exact ⟨by rw [i1], i2⟩

theorem findChild_some {s : St} {n : Nat} {c : Child} (h : findChild s n = some c) : c ∈ s.children ∧ c.name = n :=
  find_some h

theorem findChild_of_mem {s : St} (h : (names s.children).Nodup) {c : Child} (hc : c ∈ s.children) :
    findChild s c.name = some c :=
  find_of_mem h hc

theorem findChild_none_iff {s : St} {n : Nat} : findChild s n = none ↔ n ∉ names s.children :=
  find_none_iff

def mapChildren (s : St) (f : Child → Child) : St := { s with children := s.children.map f }

theorem findChild_map {s t : St} {f : Child → Child} (hf : ∀ c, (f c).name = c.name) (ht : t.children = s.children.map f) (n : Nat) :
    findChild t n = (findChild s n).map f := by
  unfold findChild
  rw [ht]; exact find_map hf n

theorem names_map {cs : List Child} {g : Child → Child} (hg : ∀ c, (g c).name = c.name) : names (cs.map g) = names cs :=
  keys_map hg

def resetChild (c : Child) : Child := { c with started := false, st := initState, reportedTF := false, timer := none }

def stopF (n : Nat) (c : Child) : Child := if c.name = n ∧ c.started = true then resetChild c else c

theorem stopF_name (n : Nat) (c : Child) : (stopF n c).name = c.name := by
  unfold stopF; split <;> rfl

theorem eq_of_findChild {s : St} (hn : (names s.children).Nodup) {n : Nat} {c x : Child} (hf : findChild s n = some c)
    (hx : x ∈ s.children) (hxn : x.name = n) : x = c :=
  eq_of_nodup_map hn hx (findChild_some hf).1 (hxn.trans (findChild_some hf).2.symm)

/-- `stop` and `start` edit child `n` when its `started` flag is `b` and do nothing otherwise; under
    distinct names both outcomes are the one map "edit the children named `n` whose flag is `b`". -/
theorem modChild_guard {s : St} (hn : (names s.children).Nodup) {n : Nat} {b : Bool} {g : Child → Child} {c : Child}
    (hf : findChild s n = some c) (hs : c.started = b) :
    (modChild s n g).children = s.children.map fun x => if x.name = n ∧ x.started = b then g x else x := by
  refine List.map_congr_left fun x hx => ?_
  by_cases e : x.name = n
  · rw [if_pos e, if_pos ⟨e, by rw [eq_of_findChild hn hf hx e]; exact hs⟩]
  · rw [if_neg e, if_neg fun h => e h.1]

theorem map_guard_of_not {s : St} (hn : (names s.children).Nodup) {n : Nat} {b : Bool} {g : Child → Child}
    (hc : ∀ c, findChild s n = some c → c.started = !b) :
    s.children = s.children.map fun x => if x.name = n ∧ x.started = b then g x else x :=
  (map_eq_self fun x hx => if_neg fun h => by cases b <;> cases (hc x (h.1 ▸ findChild_of_mem hn hx)).symm.trans h.2).symm

/-- `childBalancer.stop`: the sub-balancer leaves the group at once, or moves to the group's cache -/
theorem stopChild_cases (s : St) (n : Nat) (imm : Bool) :
    stopChild s n imm = s ∧ (∀ c, findChild s n = some c → c.started = false) ∨
    (∃ c, findChild s n = some c ∧ c.started = true) ∧ ∃ sbs evs,
      stopChild s n imm = { s with children := (modChild s n resetChild).children, sbs := sbs, evs := evs } ∧
      (sbs = s.sbs.filter (·.name ≠ n) ∨
       ∃ d, sbs = s.sbs.map fun b => if b.name = n then { b with cachedUntil := some d } else b) := by
  unfold stopChild
  cases hf : findChild s n with
  | none => exact Or.inl ⟨rfl, fun _ hc => nomatch hc⟩
  | some c =>
    dsimp only
    cases hs : c.started with
    | false => exact Or.inl ⟨rfl, fun _ hc => Option.some.inj hc ▸ hs⟩
    | true =>
      refine Or.inr ⟨⟨c, rfl, hs⟩, ?_⟩
      cases imm with
      | true => exact ⟨_, _, rfl, Or.inl rfl⟩
      | false => exact ⟨_, _, rfl, Or.inr ⟨_, rfl⟩⟩

def startF (now : Int) (n : Nat) (c : Child) : Child :=
  if c.name = n ∧ c.started = false then { c with started := true, timer := some (c.timer.getD (now + initTimeout)) } else c

theorem startF_name (now : Int) (n : Nat) (c : Child) : (startF now n c).name = c.name := by
  unfold startF; split <;> rfl

/-- `childBalancer.start` builds a sub-balancer (after closing a cached one of another type) or takes the
    cached one back into the group -/
theorem startChild_cases (s : St) (n : Nat) :
    startChild s n = s ∧ (∀ c, findChild s n = some c → c.started = true) ∨
    ∃ c, findChild s n = some c ∧ c.started = false ∧ ∃ sbs queue evs,
      startChild s n = { s with
        children := (modChild s n fun c => { c with started := true, timer := some (c.timer.getD (s.now + initTimeout)) }).children,
        sbs := sbs, queue := queue, evs := evs } ∧
      (findSb s n = none ∧ sbs = insertSb ⟨n, c.typ, none, none⟩ s.sbs ∨
       (∃ b, findSb s n = some b) ∧ sbs = s.sbs.map (fun b => if b.name = n then { b with cachedUntil := none } else b) ∨
       sbs = insertSb ⟨n, c.typ, none, none⟩ (s.sbs.filter (·.name ≠ n))) := by
  unfold startChild
  cases hf : findChild s n with
  | none => exact Or.inl ⟨rfl, fun _ hc => nomatch hc⟩
  | some c =>
    dsimp only
    cases hs : c.started with
    | true => exact Or.inl ⟨rfl, fun _ hc => Option.some.inj hc ▸ hs⟩
    | false =>
      refine Or.inr ⟨c, rfl, hs, ?_⟩
      rw [if_neg Bool.false_ne_true]
      dsimp only [findSb, modChild]
      cases hb : s.sbs.find? (·.name = n) with
      | none => exact ⟨_, _, _, rfl, Or.inl ⟨rfl, rfl⟩⟩
      | some b =>
        dsimp only
        by_cases ht : b.typ = c.typ
        · rw [if_pos ht]; exact ⟨_, _, _, rfl, Or.inr (Or.inl ⟨⟨b, rfl⟩, rfl⟩)⟩
        · rw [if_neg ht]; exact ⟨_, _, _, rfl, Or.inr (Or.inr rfl)⟩

def stopAllF (lower : List Nat) (c : Child) : Child := if c.name ∈ lower ∧ c.started = true then resetChild c else c

theorem stopAllF_name (lower : List Nat) (c : Child) : (stopAllF lower c).name = c.name := by
  unfold stopAllF; split <;> rfl

/-- what `switchToChild` does to the children: lower priorities are stopped, the chosen child is
    started if it was not -/
def switchF (now : Int) (c : Child) (rest : List Nat) (x : Child) : Child :=
  if c.started then stopAllF rest x else startF now c.name (stopAllF rest x)

theorem switchF_name (now : Int) (c : Child) (rest : List Nat) (x : Child) : (switchF now c rest x).name = x.name := by
  unfold switchF; split
  · exact stopAllF_name rest x
  · rw [startF_name, stopAllF_name]

theorem switchF_other {now : Int} {c x : Child} {rest : List Nat} (hne : x.name ≠ c.name) (hni : x.name ∉ rest) :
    switchF now c rest x = x := by
  simp [switchF, stopAllF, startF, hne, hni]

theorem switchF_lower {now : Int} {c x : Child} {rest : List Nat} (hne : x.name ≠ c.name) (hin : x.name ∈ rest) :
    (switchF now c rest x).started = false := by
  unfold switchF stopAllF startF
  by_cases h1 : x.started = true <;> by_cases h2 : c.started = true <;> simp [hin, hne, h1, h2, resetChild]

theorem switchF_self {now : Int} {c : Child} {rest : List Nat} (hni : c.name ∉ rest) :
    switchF now c rest c = if c.started then c else { c with started := true, timer := some (c.timer.getD (now + initTimeout)) } := by
  cases hcs : c.started <;> simp [switchF, stopAllF, startF, hni, hcs]

/-- syncPriority switches to the first priority whose child is not started, or usable, or the last -/
theorem syncFrom_cases (s : St) (upd : Option Nat) (rest : List Nat) :
    syncFrom s upd rest = s ∧ (rest ≠ [] → ∃ n ∈ rest, findChild s n = none) ∨
    ∃ pre n post c, rest = pre ++ n :: post ∧ findChild s n = some c ∧ pick c post.isEmpty = true ∧
      (∀ a ∈ pre, ∀ ca, findChild s a = some ca → ca.started = true ∧ usable ca = false) ∧
      syncFrom s upd rest = switchTo (if s.inUse ≠ some n ∨ upd = some n then sendUp s c.st else s) c post := by
  fun_induction syncFrom s upd rest with
  | case1 => exact Or.inl ⟨rfl, fun h => absurd rfl h⟩
  | case2 n rest' hf ih =>
    -- `n` has no child: passed over
    rcases ih with ⟨he', -⟩ | ⟨pre, m, post, c, rfl, hm, hp, hpre, he'⟩
    · exact Or.inl ⟨he', fun _ => ⟨n, List.mem_cons_self, hf⟩⟩
    · refine Or.inr ⟨n :: pre, m, post, c, rfl, hm, hp, fun a ha ca hca => ?_, he'⟩
      rcases List.mem_cons.mp ha with rfl | ha
      · exact nomatch hf.symm.trans hca
      · exact hpre a ha ca hca
  | case3 n rest' c hf hp => exact Or.inr ⟨[], n, rest', c, rfl, hf, hp, fun _ h => (nomatch h), rfl⟩
  | case4 n rest' c hf hp ih =>
    -- `n`'s child is started, unusable and not the last: passed over
    have hp' : (c.started = true ∧ usable c = false) ∧ rest' ≠ [] := by simpa [pick] using hp
    rcases ih with ⟨he', hnone⟩ | ⟨pre, m, post, c', rfl, hm, hp2, hpre, he'⟩
    · refine Or.inl ⟨he', fun _ => ?_⟩
      obtain ⟨k, hk, hkf⟩ := hnone hp'.2
      exact ⟨k, List.mem_cons_of_mem _ hk, hkf⟩
    · refine Or.inr ⟨n :: pre, m, post, c', rfl, hm, hp2, fun a ha ca hca => ?_, he'⟩
      rcases List.mem_cons.mp ha with rfl | ha
      · exact Option.some.inj (hf.symm.trans hca) ▸ hp'.1
      · exact hpre a ha ca hca

/-- a stopped child is reset, and the init timer is armed only while the child has not reported
    TRANSIENT_FAILURE since it was last READY/IDLE -/
structure ChildOK (c : Child) : Prop where
  st    : c.started = false → c.st = initState
  timer : c.started = false → c.timer = none
  notTF : c.started = false → c.reportedTF = false
  tf    : c.reportedTF = true → c.timer = none

theorem childOK_reset (c : Child) : ChildOK (resetChild c) := ⟨fun _ => rfl, fun _ => rfl, fun _ => rfl, fun _ => rfl⟩

theorem ChildOK.of_started {c : Child} (hs : c.started = true) (tf : c.reportedTF = true → c.timer = none) : ChildOK c :=
  have ns {α} (hh : c.started = false) : α := nomatch hs.symm.trans hh
  ⟨ns, ns, ns, tf⟩

theorem applyState_name_started (now : Int) (c : Child) (p : PState) :
    (applyState now c p).name = c.name ∧ (applyState now c p).started = c.started := by
  simp only [applyState, apply_ite Child.name, apply_ite Child.started, ite_self, and_self]

theorem childOK_applyState (now : Int) {c : Child} (p : PState) (h : ChildOK c) (hs : c.started = true) :
    ChildOK (applyState now c p) := by
  refine .of_started ((applyState_name_started now c p).2.trans hs) ?_
  unfold applyState; dsimp only
  by_cases h1 : p.conn = 2 ∨ p.conn = 0
  · rw [if_pos h1]; exact fun hr => nomatch hr
  rw [if_neg h1]
  by_cases h2 : p.conn = 3
  · rw [if_pos h2]; exact fun _ => rfl
  rw [if_neg h2]
  split
  · split
    · next hc =>
      -- the timer is armed only for a child that has not reported a failure
      have : c.reportedTF = false := by simpa using hc.1
      exact fun hr => absurd (this.symm.trans hr) Bool.false_ne_true
    · exact h.tf
  · exact h.tf

structure Base (s : St) : Prop where
  cn : (names s.children).Nodup
  sn : (s.sbs.map (·.name)).Nodup
  ok : ∀ n c, findChild s n = some c → ChildOK c
  /-- a child is started exactly when the balancer group holds an active sub-balancer for it -/
  sb : ∀ n, (∃ b, findSb s n = some b ∧ b.cachedUntil = none) ↔ ∃ c, findChild s n = some c ∧ c.started = true

theorem Base.congr {s t : St} (h : Base s) (hc : t.children = s.children) (hs : t.sbs = s.sbs) : Base t := by
  have e1 : findChild t = findChild s := by unfold findChild; rw [hc]
  have e2 : findSb t = findSb s := by unfold findSb; rw [hs]
  exact ⟨hc ▸ h.cn, hs ▸ h.sn, e1 ▸ h.ok, e1 ▸ e2 ▸ h.sb⟩

/-- `Base` speaks of each name by itself: after a change at one name it has to be checked there only -/
theorem Base.setAt {s t : St} (h : Base s) {n : Nat} {oc : Option Child} {ob : Option Sb}
    (hc : SetAt (·.name) n oc s.children t.children) (hs : SetAt (·.name) n ob s.sbs t.sbs)
    (ok : ∀ c, oc = some c → ChildOK c)
    (sb : (∃ b, ob = some b ∧ b.cachedUntil = none) ↔ ∃ c, oc = some c ∧ c.started = true) : Base t := by
  obtain ⟨cn, hc⟩ := hc h.cn
  obtain ⟨sn, hs⟩ := hs h.sn
  refine ⟨cn, sn, fun m c => ?_, fun m => ?_⟩
  · rw [show findChild t m = _ from hc m]; split
    · exact ok c
    · exact h.ok m c
  · rw [show findChild t m = _ from hc m, show findSb t m = _ from hs m]; split
    · exact sb
    · exact h.sb m

theorem Base.filterKids {s : St} (h : Base s) (k : Nat → Bool)
    (hk : ∀ m c, findChild s m = some c → c.started = true → k m = true) :
    Base { s with children := s.children.filter fun c => k c.name } := by
  have hfc : ∀ m, findChild { s with children := s.children.filter fun c => k c.name } m = if k m then findChild s m else none :=
    find_filter fun _ => rfl
  refine ⟨nodup_keys_filter h.cn _, h.sn, fun m c => ?_, fun m => (h.sb m).trans ?_⟩ <;> rw [hfc] <;> cases e : k m
  · exact fun e => nomatch e
  · exact h.ok m c
  · exact ⟨fun ⟨c, hc, hs⟩ => absurd ((hk m c hc hs).symm.trans e) (by decide), fun ⟨_, e, _⟩ => nomatch e⟩
  · exact Iff.rfl

theorem Base.sb_mem {s : St} (h : Base s) (n : Nat) :
    (∃ b ∈ s.sbs, b.name = n ∧ b.cachedUntil = none) ↔ (∃ c ∈ s.children, c.name = n ∧ c.started = true) :=
  ((exists_mem_iff_find h.sn n _).trans (h.sb n)).trans (exists_mem_iff_find h.cn n _).symm

theorem insertChild_perm (c : Child) (l : List Child) : (insertChild c l).Perm (c :: l) := by
  -- by the branches of `insertChild`: empty list / `c` goes in front / `c` goes further down
  fun_induction insertChild c l with
  | case1 => exact List.Perm.refl _
  | case2 => exact List.Perm.refl _
  | case3 x xs _ ih => exact (List.Perm.cons x ih).trans (List.Perm.swap c x xs)

theorem insertSb_perm (c : Sb) (l : List Sb) : (insertSb c l).Perm (c :: l) := by
  fun_induction insertSb c l with
  | case1 => exact List.Perm.refl _
  | case2 => exact List.Perm.refl _
  | case3 x xs _ ih => exact (List.Perm.cons x ih).trans (List.Perm.swap c x xs)

/-- what `stop`, `start` and `switchToChild` do to a state with `Base`: they keep `Base`, map the children by `f`, and do not
    write the other fields the selection reads (they write `sbs` and the logs) -/
structure Acts (f : Child → Child) (s t : St) : Prop where
  base : Base t
  kids : t.children = s.children.map f
  prios : t.prios = s.prios
  inUse : t.inUse = s.inUse
  lastUp : t.lastUp = s.lastUp
  now : t.now = s.now

theorem Acts.trans {f g : Child → Child} {a b c : St} (h : Acts f a b) (h' : Acts g b c) : Acts (g ∘ f) a c :=
  ⟨h'.base, by rw [h'.kids, h.kids, List.map_map], h'.prios.trans h.prios, h'.inUse.trans h.inUse, h'.lastUp.trans h.lastUp,
    h'.now.trans h.now⟩

theorem Acts.congr {f g : Child → Child} {s t : St} (h : Acts f s t) (e : ∀ c, f c = g c) : Acts g s t :=
  { h with kids := h.kids.trans (List.map_congr_left fun c _ => e c) }

theorem stopChild_spec {s : St} (h : Base s) (n : Nat) (imm : Bool) : Acts (stopF n) s (stopChild s n imm) := by
  rcases stopChild_cases s n imm with ⟨he, hc⟩ | ⟨⟨c, hf, hs⟩, _, _, he, hsb⟩ <;> rw [he]
  · exact ⟨h, map_guard_of_not h.cn hc, rfl, rfl, rfl, rfl⟩
  · refine ⟨?_, modChild_guard h.cn hf hs, rfl, rfl, rfl, rfl⟩
    have key : ∀ {ob sbs evs}, SetAt (·.name) n ob s.sbs sbs → (∀ b, ob = some b → b.cachedUntil ≠ none) →
        Base { s with children := (modChild s n resetChild).children, sbs := sbs, evs := evs } := fun hs hb =>
      h.setAt (SetAt.modify hf fun _ => rfl) hs (fun _ e => Option.some.inj e ▸ childOK_reset c)
        (iff_of_false (fun ⟨b, e, hn⟩ => hb b e hn) (fun ⟨_, e, hn⟩ => by cases e; cases hn))
    rcases hsb with rfl | ⟨d, rfl⟩
    · exact key SetAt.erase fun _ e => nomatch e
    · refine key (SetAt.modify rfl fun _ => rfl) fun b e => ?_
      obtain ⟨_, _, rfl⟩ := Option.map_eq_some_iff.mp e
      exact fun hn => nomatch hn

theorem startChild_spec {s : St} (h : Base s) (n : Nat) : Acts (startF s.now n) s (startChild s n) := by
  rcases startChild_cases s n with ⟨he, hc⟩ | ⟨c, hf, hcs, _, _, _, he, hsb⟩ <;> rw [he]
  · exact ⟨h, map_guard_of_not h.cn hc, rfl, rfl, rfl, rfl⟩
  · refine ⟨?_, modChild_guard h.cn hf hcs, rfl, rfl, rfl, rfl⟩
    have key : ∀ {b sbs queue evs}, SetAt (·.name) n (some b) s.sbs sbs → b.cachedUntil = none → Base { s with
          children := (modChild s n fun c => { c with started := true, timer := some (c.timer.getD (s.now + initTimeout)) }).children,
          sbs := sbs, queue := queue, evs := evs } := fun hs hb =>
      h.setAt (SetAt.modify hf fun _ => rfl) hs
        -- the timer is armed for a child that was stopped, hence has not reported a failure
        (fun _ e => Option.some.inj e ▸
          .of_started rfl fun hr => absurd (((h.ok n c hf).notTF hcs).symm.trans hr) Bool.false_ne_true)
        (iff_of_true ⟨_, rfl, hb⟩ ⟨_, rfl, rfl⟩)
    have hp := fun l => insertSb_perm ⟨n, c.typ, none, none⟩ l
    rcases hsb with ⟨hb, rfl⟩ | ⟨⟨b, hb⟩, rfl⟩ | rfl
    · exact key (SetAt.insert (hp _) rfl hb) rfl
    · exact key (SetAt.modify hb fun _ => rfl) rfl
    · exact key (SetAt.erase.trans (SetAt.insert (hp _) rfl ((SetAt.erase h.sn).2 n |>.trans (if_pos rfl)))) rfl

theorem stopAll_spec (imm : Bool) {s : St} (h : Base s) (l : List Nat) :
    Acts (stopAllF l) s (l.foldl (fun s n => stopChild s n imm) s) := by
  induction l generalizing s with
  | nil => exact ⟨h, (map_eq_self fun c _ => by simp [stopAllF]).symm, rfl, rfl, rfl, rfl⟩
  | cons n rest ih =>
    have hst := stopChild_spec h n imm
    refine (hst.trans (ih hst.base)).congr fun c => ?_
    simp only [Function.comp, stopAllF, stopF]
    by_cases h1 : c.name = n
    · by_cases h2 : c.started = true
      · simp [h1, h2, resetChild]
      · simp [h1, h2]
    · by_cases h2 : c.name ∈ rest <;> simp [h1, h2]

theorem switchTo_spec {s : St} (h : Base s) (c : Child) (rest : List Nat) :
    Acts (switchF s.now c rest) { s with inUse := some c.name } (switchTo s c rest) := by
  unfold switchTo
  have h1 : Acts (stopAllF rest) s (stopLower s rest) := stopAll_spec false h rest
  dsimp only
  cases hcs : c.started with
  | true =>
    have h2 : Acts (switchF s.now c rest) s (stopLower s rest) := h1.congr fun x => by simp [switchF, hcs]
    split
    · next hu => exact { h2 with inUse := hu.1 }
    · exact { h2 with base := h2.base.congr rfl rfl, inUse := rfl }
  | false =>
    simp only [Bool.false_eq_true, and_false, if_false, Bool.not_false, if_true]
    have h2 : Acts (stopAllF rest) { s with inUse := some c.name } { stopLower s rest with inUse := some c.name } :=
      { h1 with base := h1.base.congr rfl rfl, inUse := rfl }
    refine (h2.trans (startChild_spec h2.base c.name)).congr fun x => ?_
    show startF (stopLower s rest).now c.name (stopAllF rest x) = switchF s.now c rest x
    rw [h1.now]; simp [switchF, hcs]

theorem modChild_base {s : St} (h : Base s) (n : Nat) (f : Child → Child)
    (hf : ∀ c, (f c).name = c.name ∧ (f c).started = c.started)
    (hok : ∀ c, findChild s n = some c → ChildOK c → ChildOK (f c)) : Base (modChild s n f) := by
  refine h.setAt (SetAt.modify rfl fun c => (hf c).1) SetAt.refl (fun c' e => ?_) ((h.sb n).trans ?_)
  · obtain ⟨c, hc, rfl⟩ := Option.map_eq_some_iff.mp e
    exact hok c hc (h.ok n c hc)
  · show _ ↔ ∃ c, (findChild s n).map f = some c ∧ _
    cases findChild s n with
    | none => simp
    | some c => simp [(hf c).2]

theorem cacheExpire_base {s : St} (h : Base s) (n : Nat) {b : Sb} (hb : findSb s n = some b) (hc : b.cachedUntil.isSome) :
    Base (cacheExpire s n) := by
  refine h.setAt SetAt.refl SetAt.erase (h.ok n) (iff_of_false (fun ⟨_, e, _⟩ => nomatch e) fun hs => ?_)
  -- were the child started, the entry found for `n` would be active; it is the cached one
  obtain ⟨b', hb', hn⟩ := (h.sb n).mpr hs
  rw [hb] at hb'; cases hb'; rw [hn] at hc; cases hc

/-- the balancer group records the state a child reports -/
theorem setLast_base {s : St} (h : Base s) (n : Nat) (p : PState) (k : Nat) :
    Base { s with nextPk := k, sbs := s.sbs.map fun b => if b.name = n then { b with last := some p } else b } := by
  refine h.setAt SetAt.refl (SetAt.modify rfl fun _ => rfl) (h.ok n) (Iff.trans ?_ (h.sb n))
  show (∃ b, (findSb s n).map _ = some b ∧ _) ↔ _
  cases findSb s n <;> simp

theorem updChild_base {s : St} (h : Base s) (nt : Nat × Nat) :
    Base (updChild s nt) ∧ ∀ m, m ∈ names (updChild s nt).children ↔ m ∈ names s.children ∨ m = nt.1 := by
  unfold updChild
  cases hf : findChild s nt.1 with
  | none =>
    -- a new, not started child: no active sub-balancer can exist for its name
    have hp := insertChild_perm ⟨nt.1, nt.2, false, initState, false, none⟩ s.children
    refine ⟨h.setAt (SetAt.insert hp rfl hf) SetAt.refl (fun _ e => Option.some.inj e ▸ ⟨fun _ => rfl, fun _ => rfl, fun _ => rfl, fun hr => nomatch hr⟩)
      (iff_of_false (fun ha => ?_) fun ⟨_, e, hs⟩ => by cases e; cases hs), fun m => ?_⟩
    · obtain ⟨c, hc, -⟩ := (h.sb nt.1).mp ha
      rw [hf] at hc; cases hc
    · show m ∈ names (insertChild _ s.children) ↔ _
      rw [(hp.map (·.name)).mem_iff, List.map_cons, List.mem_cons, or_comm]
  | some c =>
    dsimp only
    obtain ⟨s1, hs1, hb1, hn1⟩ : ∃ s1 : St,
        s1 = (if c.typ ≠ nt.2 then modChild (stopChild s nt.1 true) nt.1 fun c => { c with typ := nt.2 } else s) ∧
        Base s1 ∧ names s1.children = names s.children := by
      refine ⟨_, rfl, ?_⟩
      split
      · have hst := stopChild_spec h nt.1 true
        refine ⟨modChild_base hst.base nt.1 _ (fun _ => ⟨rfl, rfl⟩) fun _ _ hx => ⟨hx.st, hx.timer, hx.notTF, hx.tf⟩, ?_⟩
        show names (List.map _ (stopChild s nt.1 true).children) = _
        rw [names_map fun x => by split <;> rfl, hst.kids, names_map (stopF_name nt.1)]
      · exact ⟨h, rfl⟩
    rw [← hs1]
    have key : ∀ t : St, t.children = s1.children → t.sbs = s1.sbs →
        Base t ∧ ∀ m, m ∈ names t.children ↔ m ∈ names s.children ∨ m = nt.1 := by
      intro t hc hs
      refine ⟨hb1.congr hc hs, fun m => ?_⟩
      rw [hc, hn1]
      exact ⟨Or.inl, fun hm => hm.elim id fun e => e ▸ (findChild_some hf).2 ▸ List.mem_map_of_mem (findChild_some hf).1⟩
    cases findChild s1 nt.1 with
    | none => exact key _ rfl rfl
    | some c' =>
      dsimp only
      cases c'.started <;> exact key _ rfl rfl

theorem foldl_updChild_base (kids : List (Nat × Nat)) {s : St} (h : Base s) : Base (kids.foldl updChild s) ∧
    ∀ m, m ∈ names (kids.foldl updChild s).children ↔ m ∈ names s.children ∨ m ∈ kids.map (·.1) := by
  induction kids generalizing s with
  | nil => exact ⟨h, fun m => by simp⟩
  | cons nt rest ih =>
    obtain ⟨h1, h2⟩ := updChild_base h nt
    obtain ⟨i1, i2⟩ := ih h1
    refine ⟨i1, fun m => ?_⟩
    rw [List.foldl_cons, i2, h2, List.map_cons, List.mem_cons, or_assoc]

theorem dropChildren_base {s : St} (h : Base s) (keep : List Nat) : Base (dropChildren s keep) ∧
    ∀ m, m ∈ names (dropChildren s keep).children ↔ m ∈ names s.children ∧ m ∈ keep := by
  unfold dropChildren; dsimp only
  generalize hg : (s.children.filter fun c => !keep.contains c.name).map (·.name) = gone
  have hst := stopAll_spec true h gone
  generalize gone.foldl (fun s n => stopChild s n true) s = t at hst
  refine ⟨hst.base.filterKids keep.contains fun m c' hc' hs' => ?_, fun m => ?_⟩
  · -- a child that is still started was not among those stopped, so it is kept
    rw [findChild_map (stopAllF_name gone) hst.kids] at hc'
    obtain ⟨x, hx, rfl⟩ := Option.map_eq_some_iff.mp hc'
    obtain ⟨hxm, rfl⟩ := findChild_some hx
    unfold stopAllF at hs'; split at hs'
    · cases hs'
    · next hc =>
      cases hk : keep.contains x.name with
      | true => rfl
      | false => exact absurd ⟨hg ▸ List.mem_map_of_mem (List.mem_filter.mpr ⟨hxm, by rw [hk]; rfl⟩), hs'⟩ hc
  · show m ∈ names (t.children.filter _) ↔ _
    rw [← show names t.children = names s.children by rw [hst.kids, names_map (stopAllF_name gone)]]
    simp only [names, List.mem_map, List.mem_filter, List.contains_iff_mem]
    constructor
    · rintro ⟨c, ⟨hc, hk⟩, rfl⟩; exact ⟨⟨c, hc, rfl⟩, hk⟩
    · rintro ⟨⟨c, hc, rfl⟩, hk⟩; exact ⟨c, ⟨hc, hk⟩, rfl⟩

theorem drain_inv {P : St → Prop} (hq : ∀ s q, P s → P { s with queue := q }) (hh : ∀ s n p, P s → P (handleChild s n p))
    (fuel : Nat) {s : St} (h : P s) : P (drain fuel s) := by
  -- by the branches of `drain`: out of fuel / queue empty / one queued state handled
  fun_induction drain fuel s with
  | case1 => exact h
  | case2 => exact h
  | case3 k s n p rest _ ih => exact ih (hh _ _ _ (hq s _ h))

theorem dispatch_cases (s : St) (n : Nat) :
    dispatch s n = s ∨ ∃ d, d ≤ s.now ∧ dispatch s n = { s with pending := s.pending ++ [(n, d)] } := by
  unfold dispatch
  split
  · exact Or.inl rfl
  · split
    · exact Or.inl rfl
    · split
      · next h => exact Or.inr ⟨_, h.1, rfl⟩
      · exact Or.inl rfl

/-- the oldest waiting callback leaves the queue, and acts (as `timerFire`) exactly when the child still
    has the timer it was dispatched for -/
theorem runCallback_cases (s : St) :
    s.pending = [] ∧ runCallback s = s ∨
    ∃ n d rest, s.pending = (n, d) :: rest ∧
      ((∃ c, findChild s n = some c ∧ c.timer = some d) ∧ runCallback s = timerFire { s with pending := rest } n ∨
       (∀ c, findChild s n = some c → c.timer ≠ some d) ∧ runCallback s = { s with pending := rest }) := by
  unfold runCallback
  cases hp : s.pending with
  | nil => exact .inl ⟨rfl, rfl⟩
  | cons x rest =>
    obtain ⟨n, d⟩ := x
    refine .inr ⟨n, d, rest, rfl, ?_⟩
    dsimp only
    -- `findChild` does not read `pending`: `hf` is an equation about `findChild s n` as well
    cases hf : findChild { s with pending := rest } n with
    | none => exact .inr ⟨fun _ e => (nomatch (hf : findChild s n = none).symm.trans e), rfl⟩
    | some c =>
      by_cases ht : c.timer = some d
      · exact .inl ⟨⟨c, hf, ht⟩, if_pos ht⟩
      · exact .inr ⟨fun _ e => Option.some.inj ((hf : findChild s n = _).symm.trans e) ▸ ht, if_neg ht⟩

/-- a config the xDS tree can produce: distinct priorities, one child per priority name -/
def ValidCfg (prios : List Nat) (kids : List (Nat × Nat)) : Prop :=
  prios.Nodup ∧ ∀ n ∈ prios, n ∈ kids.map (·.1)

def validOp : Op → Prop
  | .update prios kids => ValidCfg prios kids
  | _ => True

inductive Reach : St → Prop
  | init : Reach GrpcModel.Priority.init
  | step {s : St} (op : Op) (hv : validOp op) : Reach s → Reach (step s op)

end GrpcProofs.Lemmas.Priority
