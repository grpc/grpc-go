import GrpcProofs.Lemmas.RetryLoopOps
import GrpcProofs.Lemmas.RetryLoopDone
import GrpcProofs.Lemmas.RetryLoopConcurrent
