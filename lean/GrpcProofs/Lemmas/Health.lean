/-
The health server's streams.  A stream is a one-place channel (`slot`) that SetServingStatus overwrites, and a
loop that takes the value out, skips it if it equals `lastSent`, and sends it otherwise.  The invariant is per
stream (`StreamInv`): what was sent has no two equal neighbours (`noDup2`) and is a subsequence of the statuses
the service had (`hist`, ghost), and the service's current status is either in the channel or was sent last.
SetServingStatus, Shutdown and Resume are one broadcast (`bcast`).
-/
import GrpcModel.Model.Health
namespace GrpcProofs.Lemmas.Health
open GrpcModel.Health

def noDup2 : List Int → Prop
  | a :: b :: t => a ≠ b ∧ noDup2 (b :: t)
  | _ => True

theorem noDup2_append_singleton (l : List Int) (v : Int) :
    noDup2 (l ++ [v]) ↔ noDup2 l ∧ l.getLast? ≠ some v := by
  induction l with
  | nil => simp [noDup2]
  | cons a t ih =>
    cases t with
    | nil => simp [noDup2]
    | cons b t' =>
      have : (a :: b :: t') ++ [v] = a :: b :: (t' ++ [v]) := rfl
      rw [this]
      simp only [noDup2]
      have ih' : noDup2 (b :: (t' ++ [v])) ↔ noDup2 (b :: t') ∧ (b :: t').getLast? ≠ some v := ih
      rw [ih']
      simp [List.getLast?_cons_cons, and_assoc]

/-- what the stream has been given so far: delivered messages plus the one Send is working on -/
def out (x : Watcher) : List Int := x.log ++ x.sending.toList

theorem noDup2_log {x : Watcher} (h : noDup2 (out x)) : noDup2 x.log := by
  cases hs : x.sending with
  | none => simpa [out, hs] using h
  | some v => exact ((noDup2_append_singleton _ v).1 (by simpa [out, hs] using h)).1

/-- rules whose arguments are in the domain of the statement: statuses are enum values (>= 0) -/
def Rule.valid : Rule → Prop
  | .set _ v => 0 ≤ v
  | _ => True

inductive ReachV : St → Prop
  | init : ReachV init
  | step {s t : St} (r : Rule) : ReachV s → Rule.valid r → apply s r = some t → ReachV t

theorem ReachV.reach {s : St} (h : ReachV s) : Reach s := by
  induction h with
  | init => exact .init
  | step r _ _ st ih => exact .step r ih st

/-- The invariant of one stream; `c` is the current status of its service.  A live stream is tied to `c` in one
    of two ways: the status waits in the channel (`slotCur`), or the channel is empty and `c` is what was sent
    last (`idleCur`); `lastE`/`lastN` say that `lastSent` is the end of `out`, or the sentinel -1. -/
structure StreamInv (x : Watcher) (c : Int) : Prop where
  chain   : noDup2 (out x)
  sub     : (out x ++ x.slot.toList).Sublist x.hist
  lastE   : x.alive = true → out x = [] → x.lastSent = -1
  lastN   : x.alive = true → ∀ v, (out x).getLast? = some v → x.lastSent = v
  slotCur : x.alive = true → ∀ v, x.slot = some v → v = c
  idleCur : x.alive = true → x.slot = none → x.lastSent = c

structure Inv (s : St) : Prop where
  nnMap  : ∀ k v, s.statusMap k = some v → 0 ≤ v
  down   : s.shutdown = true → ∀ k v, s.statusMap k = some v → v = NOT_SERVING
  stream : ∀ i, i < s.nw → StreamInv (s.w i) (cur s (s.w i).svc)

theorem cur_nonneg {s : St} (h : Inv s) (svc : Nat) : 0 ≤ cur s svc := by
  unfold cur
  cases hm : s.statusMap svc with
  | none => simp [SERVICE_UNKNOWN]
  | some v => simpa using h.nnMap svc v hm

theorem inv_init : Inv init := by
  constructor
  · intro k v h; simp only [init] at h; split at h <;> simp [SERVING] at h; omega
  · intro h; simp [init] at h
  · intro i h; simp [init] at h

namespace StreamInv
variable {x : Watcher} {c v : Int} (h : StreamInv x c)
include h

theorem congr {c' : Int} (hc : x.alive = true → c' = c) : StreamInv x c' :=
  { h with slotCur := fun ha u hu => (h.slotCur ha u hu).trans (hc ha).symm
           idleCur := fun ha hs => (h.idleCur ha hs).trans (hc ha).symm }

/-- setServingStatusLocked: the channel now holds `v`, the new current status -/
theorem put : StreamInv (put x v) v where
  chain := h.chain
  sub := ((List.sublist_append_left _ _).trans h.sub).append (List.Sublist.refl _)
  lastE := h.lastE
  lastN := h.lastN
  slotCur _ _ hu := (Option.some.inj hu).symm
  idleCur _ := nofun

theorem recvSkip (ha : x.alive = true) (hv : x.slot = some v) (he : x.lastSent = v) :
    StreamInv { x with slot := none } c where
  chain := h.chain
  sub := by simpa [out] using (List.sublist_append_left _ _).trans h.sub
  lastE := h.lastE
  lastN := h.lastN
  slotCur _ _ := nofun
  idleCur _ _ := he.trans (h.slotCur ha v hv)

/-- recv of a new status: stream.Send(v) starts; `v` differs from the end of `out` because that is `lastSent` -/
theorem recvSend (ha : x.alive = true) (hs : x.sending = none) (hv : x.slot = some v) (hne : x.lastSent ≠ v) :
    StreamInv { x with slot := none, lastSent := v, sending := some v } c where
  chain := by
    have ho : out x = x.log := by simp [out, hs]
    exact (noDup2_append_singleton _ _).2 ⟨ho ▸ h.chain, fun hl => hne (h.lastN ha v (ho ▸ hl))⟩
  sub := by simpa [out, hs, hv] using h.sub
  lastE _ hout := by simp [out] at hout
  lastN _ u hu := by simpa [out] using hu
  slotCur _ _ := nofun
  idleCur _ _ := h.slotCur ha v hv

/-- stream.Send(v) returned: `out` is the same list -/
theorem sendOk (hv : x.sending = some v) : StreamInv { x with sending := none, log := x.log ++ [v] } c := by
  have ho : out { x with sending := none, log := x.log ++ [v] } = out x := by simp [out, hv]
  exact { chain := ho ▸ h.chain, sub := by rw [ho]; exact h.sub, lastE := fun ha => ho ▸ h.lastE ha,
          lastN := fun ha => ho ▸ h.lastN ha, slotCur := h.slotCur, idleCur := h.idleCur }

/-- Watch returns: a dead stream keeps only the facts about its lists -/
theorem leave : StreamInv { x with alive := false, sending := none } c where
  chain := by simpa [out] using noDup2_log h.chain
  sub := by
    refine List.Sublist.trans ?_ h.sub
    simp only [out, List.append_assoc, Option.toList]
    exact List.Sublist.append (List.Sublist.refl _) (List.sublist_append_right _ _)
  lastE := nofun
  lastN := nofun
  slotCur := nofun
  idleCur := nofun

end StreamInv

/-- SetServingStatus, Shutdown and Resume as one move: every service selected by `sel` gets status `v`, and
    setServingStatusLocked tells every registered stream of such a service. -/
def bcast (s : St) (sel : Nat → Prop) [DecidablePred sel] (v : Int) : St :=
  { s with statusMap := fun k => if sel k then some v else s.statusMap k,
           w := fun i => if (s.w i).alive ∧ sel (s.w i).svc then put (s.w i) v else s.w i }

theorem setAll_eq (s : St) (v : Int) : setAll s v = bcast s (fun k => (s.statusMap k).isSome) v := by
  simp only [setAll, bcast]
  congr 1
  funext k
  split <;> rename_i h
  · obtain ⟨u, hu⟩ := Option.isSome_iff_exists.mp h
    rw [hu]; rfl
  · rw [Option.not_isSome_iff_eq_none.mp h]; rfl

section Rules
variable {s t : St} {i svc : Nat} {v : Int}

theorem apply_set : apply s (.set svc v) = some t ↔
    (s.shutdown = true ∧ t = s) ∨ (s.shutdown = false ∧ t = bcast s (· = svc) v) := by
  simp only [apply]; split
  · next h => simp [h, eq_comm]
  · next h =>
    exact ⟨fun e => .inr ⟨Bool.eq_false_iff.2 h, (Option.some.inj e).symm⟩,
           fun | .inl ⟨hs, _⟩ => absurd hs h | .inr ⟨_, e⟩ => e ▸ rfl⟩

theorem apply_watch : apply s (.watch svc) = some t ↔
    t = { s with nw := s.nw + 1,
                 w := setW s.w s.nw { svc := svc, slot := some (cur s svc), lastSent := -1, sending := none,
                                      log := [], alive := true, hist := [cur s svc] } } := by
  simp only [apply, Option.some.injEq, eq_comm]

theorem apply_recv : apply s (.recv i) = some t ↔
    i < s.nw ∧ (s.w i).alive = true ∧ (s.w i).sending = none ∧ ∃ v, (s.w i).slot = some v ∧
      t = { s with w := setW s.w i (if (s.w i).lastSent = v then { s.w i with slot := none }
                                     else { s.w i with slot := none, lastSent := v, sending := some v }) } := by
  simp only [apply]; split
  · next hg =>
    cases hs : (s.w i).slot with
    | none => simp
    | some u => simp only [hg, true_and, Option.some.injEq, exists_eq_left']; split <;> simp [eq_comm]
  · next hg => exact iff_of_false nofun fun ⟨a, b, c, _⟩ => hg ⟨a, b, c⟩

theorem apply_sendOk : apply s (.sendOk i) = some t ↔
    i < s.nw ∧ (s.w i).alive = true ∧ ∃ v, (s.w i).sending = some v ∧
      t = { s with w := setW s.w i { s.w i with sending := none, log := (s.w i).log ++ [v] } } := by
  simp only [apply]; split
  · next hg => cases hs : (s.w i).sending <;> simp [hg, eq_comm]
  · next hg => exact iff_of_false nofun fun ⟨a, b, _⟩ => hg ⟨a, b⟩

theorem apply_leave : apply s (.leave i) = some t ↔
    i < s.nw ∧ (s.w i).alive = true ∧ t = { s with w := setW s.w i { s.w i with alive := false, sending := none } } := by
  simp only [apply]; split
  · next hg => simp [hg, eq_comm]
  · next hg => exact iff_of_false nofun fun ⟨a, b, _⟩ => hg ⟨a, b⟩

end Rules

theorem inv_setW {s : St} (h : Inv s) {i : Nat} {x : Watcher} (hx : StreamInv x (cur s x.svc)) :
    Inv { s with w := setW s.w i x } := by
  refine ⟨h.nnMap, h.down, fun j (hj : j < s.nw) => ?_⟩
  simp only [setW]
  split
  · exact hx
  · exact h.stream j hj

theorem bcast_at (s : St) (sel : Nat → Prop) [DecidablePred sel] (v : Int) (b : Bool) (i : Nat) :
    let t : St := { bcast s sel v with shutdown := b }
    (t.w i = put (s.w i) v ∧ cur t (s.w i).svc = v) ∨
    (t.w i = s.w i ∧ ((s.w i).alive = true → cur t (s.w i).svc = cur s (s.w i).svc)) := by
  simp only [bcast]
  by_cases hc : (s.w i).alive = true ∧ sel (s.w i).svc
  · exact .inl ⟨if_pos hc, by simp [cur, hc.2]⟩
  · exact .inr ⟨if_neg hc, fun ha => by simp [cur, show ¬ sel (s.w i).svc from fun e => hc ⟨ha, e⟩]⟩

/-- a broadcast keeps the invariant; one that shuts down must reach every registered service with NOT_SERVING -/
theorem inv_bcast {s : St} {sel : Nat → Prop} [DecidablePred sel] {v : Int} (hv : 0 ≤ v) (b : Bool)
    (hb : b = true → v = NOT_SERVING ∧ ∀ k, (s.statusMap k).isSome → sel k) (h : Inv s) :
    Inv { bcast s sel v with shutdown := b } := by
  refine ⟨fun k u hk => ?_, fun hd k u hk => ?_, fun i hi => ?_⟩
  · simp only [bcast] at hk
    split at hk
    · cases hk; exact hv
    · exact h.nnMap k u hk
  · simp only [bcast] at hk
    split at hk
    · cases hk; exact (hb hd).1
    · exact absurd ((hb hd).2 k (by rw [hk]; rfl)) ‹_›
  · rcases bcast_at s sel v b i with ⟨e, hc⟩ | ⟨e, hc⟩ <;> rw [e]
    · exact (h.stream i hi).put.congr fun _ => hc
    · exact (h.stream i hi).congr hc

theorem bcast_hist (s : St) (sel : Nat → Prop) [DecidablePred sel] (v : Int) (b : Bool) (i : Nat)
    (ha : (({ bcast s sel v with shutdown := b } : St).w i).alive = true) :
    let t : St := { bcast s sel v with shutdown := b }
    ((t.w i).hist = (s.w i).hist ∧ cur t (t.w i).svc = cur s (s.w i).svc) ∨
    (t.w i).hist = (s.w i).hist ++ [cur t (t.w i).svc] := by
  intro t
  rcases bcast_at s sel v b i with ⟨e, hc⟩ | ⟨e, hc⟩ <;> rw [show t.w i = _ from e]
  · exact .inr (congrArg (_ ++ [·]) hc.symm)
  · exact .inl ⟨rfl, hc (e ▸ ha)⟩

theorem step_inv {s t : St} (r : Rule) (hv : Rule.valid r) (h : Inv s) (st : apply s r = some t) : Inv t := by
  cases r with
  | set svc v =>
    rcases apply_set.1 st with ⟨_, rfl⟩ | ⟨hs, rfl⟩
    · exact h
    · exact inv_bcast hv s.shutdown (fun hd => by rw [hs] at hd; cases hd) h
  | shutdown => cases st; rw [setAll_eq]; exact inv_bcast (by decide) true (fun _ => ⟨rfl, fun _ hk => hk⟩) h
  | resume => cases st; rw [setAll_eq]; exact inv_bcast (by decide) false nofun h
  | watch svc =>
    obtain rfl := apply_watch.1 st
    refine ⟨h.nnMap, h.down, fun i (hi : i < s.nw + 1) => ?_⟩
    simp only [setW]
    split
    · -- the fresh stream: nothing sent, the current status waits in the channel
      exact { chain := trivial, sub := List.Sublist.refl _, lastE := fun _ _ => rfl, lastN := fun _ _ => nofun,
              slotCur := fun _ _ hu => (Option.some.inj hu).symm, idleCur := fun _ => nofun }
    · exact h.stream i (by omega)
  | recv i =>
    obtain ⟨hi, ha, hs, v, hv, rfl⟩ := apply_recv.1 st
    refine inv_setW h ?_
    split
    · exact (h.stream i hi).recvSkip ha hv ‹_›
    · exact (h.stream i hi).recvSend ha hs hv ‹_›
  | sendOk i =>
    obtain ⟨hi, _, v, hv, rfl⟩ := apply_sendOk.1 st
    exact inv_setW h ((h.stream i hi).sendOk hv)
  | leave i =>
    obtain ⟨hi, _, rfl⟩ := apply_leave.1 st
    exact inv_setW h (h.stream i hi).leave

/-- what a stream's own steps (Watch's registration, recv, sendOk, leave) leave alone -/
structure Kept (s t : St) : Prop where
  statusMap : t.statusMap = s.statusMap
  shutdown  : t.shutdown = s.shutdown
  old       : ∀ i, i < s.nw → (t.w i).hist = (s.w i).hist ∧ (t.w i).svc = (s.w i).svc

/-- The side conditions say that `r` is one of the stream's rules; for a rule that is written out they hold by
    themselves. -/
theorem apply_stream {s t : St} {r : Rule} (st : apply s r = some t) (h1 : ∀ svc v, r ≠ .set svc v := by nofun)
    (h2 : r ≠ .shutdown := by nofun) (h3 : r ≠ .resume := by nofun) : Kept s t := by
  have one {j : Nat} {x : Watcher} (e1 : x.hist = (s.w j).hist) (e2 : x.svc = (s.w j).svc) :
      Kept s { s with w := setW s.w j x } := by
    refine ⟨rfl, rfl, fun i _ => ?_⟩
    show (setW s.w j x i).hist = _ ∧ (setW s.w j x i).svc = _
    unfold setW; split
    · next e => exact e ▸ ⟨e1, e2⟩
    · exact ⟨rfl, rfl⟩
  cases r with
  | set svc v => exact absurd rfl (h1 svc v)
  | shutdown => exact absurd rfl h2
  | resume => exact absurd rfl h3
  | watch svc =>
    obtain rfl := apply_watch.1 st
    exact ⟨rfl, rfl, fun i hi => by simp [setW, Nat.ne_of_lt hi]⟩
  | recv j => obtain ⟨_, _, _, v, _, rfl⟩ := apply_recv.1 st; apply one <;> split <;> rfl
  | sendOk j => obtain ⟨_, _, v, _, rfl⟩ := apply_sendOk.1 st; exact one rfl rfl
  | leave j => obtain ⟨_, _, rfl⟩ := apply_leave.1 st; exact one rfl rfl

theorem reach_inv {s : St} (h : ReachV s) : Inv s := by
  induction h with
  | init => exact inv_init
  | step r _ hv st ih => exact step_inv r hv ih st

end GrpcProofs.Lemmas.Health
