/-
GrpcModel.Retry for C19 / C18.  `shouldRetry` is taken apart once, as the relation `SR` between the stage it reaches
and its result with what is known there (`sr_spec`); what the properties say about a decision is read off its cases.
The rest is arithmetic: the throttler's tokens stay in range, the backoff delay lies in its band up to the int64
conversion, and the bounds of the duration parser.
-/
import GrpcModel.Model.Retry
import GrpcProofs.Lemmas.Basic
import Mathlib.Tactic.Linarith
import Mathlib.Tactic.Positivity
import Mathlib.Tactic.NormNum
import Mathlib.Algebra.Order.Floor.Ring
import Mathlib.Data.Rat.Floor
namespace GrpcProofs.Lemmas.Retry
open GrpcModel.Retry

def InRange (t : Throttler) : Prop := 0 ≤ t.tokens ∧ t.tokens ≤ t.max

theorem throttle_tokens (t : Throttler) : t.throttle.1.tokens = max (t.tokens - 1) 0 := by
  unfold Throttler.throttle
  by_cases h : t.tokens - 1 < 0
  · simp [h, max_eq_right (le_of_lt h)]
  · simp [h, max_eq_left (not_lt.mp h)]

theorem throttle_fields (t : Throttler) :
    t.throttle.1.max = t.max ∧ t.throttle.1.thresh = t.thresh ∧ t.throttle.1.ratio = t.ratio := by
  simp [Throttler.throttle]

theorem throttle_result (t : Throttler) : t.throttle.2 = decide (t.throttle.1.tokens ≤ t.thresh) := by
  simp [Throttler.throttle]

theorem success_tokens (t : Throttler) : t.success.tokens = min (t.tokens + t.ratio) t.max := by
  unfold Throttler.success
  by_cases h : t.tokens + t.ratio > t.max
  · simp [h, min_eq_right (le_of_lt h)]
  · simp [h, min_eq_left (not_lt.mp h)]

theorem success_fields (t : Throttler) :
    t.success.max = t.max ∧ t.success.thresh = t.thresh ∧ t.success.ratio = t.ratio := by
  simp [Throttler.success]

theorem throttle_inRange (t : Throttler) (h : InRange t) : InRange t.throttle.1 := by
  obtain ⟨h0, h1⟩ := h
  refine ⟨?_, ?_⟩
  · rw [throttle_tokens]; exact le_max_right _ _
  · rw [throttle_tokens, (throttle_fields t).1]
    exact max_le (by linarith) (le_trans h0 h1)

theorem success_inRange (t : Throttler) (h : InRange t) (hr : 0 ≤ t.ratio) : InRange t.success := by
  obtain ⟨h0, h1⟩ := h
  refine ⟨?_, ?_⟩
  · rw [success_tokens]; exact le_min (by linarith) (le_trans h0 h1)
  · rw [success_tokens, (success_fields t).1]; exact min_le_right _ _

theorem run_inRange (ops : List ThrOp) (t : Throttler) (h : InRange t) (hr : 0 ≤ t.ratio) :
    InRange (t.run ops) ∧ (t.run ops).max = t.max ∧ (t.run ops).ratio = t.ratio ∧ (t.run ops).thresh = t.thresh := by
  induction ops generalizing t with
  | nil => exact ⟨h, rfl, rfl, rfl⟩
  | cons o ops ih =>
    cases o with
    | failure =>
      have f := throttle_fields t
      have := ih t.throttle.1 (throttle_inRange t h) (by rw [f.2.2]; exact hr)
      simpa [Throttler.run, f.1, f.2.1, f.2.2] using this
    | success =>
      have f := success_fields t
      have := ih t.success (success_inRange t h hr) (by rw [f.2.2]; exact hr)
      simpa [Throttler.run, f.1, f.2.1, f.2.2] using this

/-- the decision and the state after the throttler was charged (stage `charged pb`). -/
def chargedResult (rp : Policy) (cs : CS) (pb : Pushback) (r : Rat) : CS × Decision :=
  if (throttleOpt cs.throttler).2 then ({ cs with throttler := (throttleOpt cs.throttler).1 }, .noRetry)
  else if cs.numRetries + 1 ≥ rp.maxAttempts then ({ cs with throttler := (throttleOpt cs.throttler).1 }, .exhausted)
  else match pb with
    | .ms n => ({ cs with throttler := (throttleOpt cs.throttler).1, sincePushback := 0 }, .backoff (pushbackDur n) true)
    | _ => ({ cs with throttler := (throttleOpt cs.throttler).1, sincePushback := cs.sincePushback + 1 },
            .backoff (backoffDur rp cs.sincePushback r) false)

/-- what is known once `shouldRetry` has reached stage `charged pb` with policy `rp` -/
structure Charged (dis : Bool) (pol : Option Policy) (cs : CS) (a : Attempt) (pb : Pushback) (rp : Policy) : Prop where
  pol : pol = some rp
  code : rp.codes.contains a.code = true
  noAbort : pb ≠ .abort
  pushback : pb = (if a.hasStream then parsePushback a.pushback else .absent)
  unfinished : cs.finished = false
  uncommitted : cs.committed = false
  noDrop : a.drop = false
  enabled : dis = false
  trailersOnly : a.hasStream = true → a.trailersOnly = true

/-- what `shouldRetry` can do, by the stage it reaches, with what is known when it does -/
inductive SR (dis : Bool) (pol : Option Policy) (cs : CS) (a : Attempt) (r : Rat) : Stage → CS × Decision → Prop
  | refused : SR dis pol cs a r .early (cs, .noRetry)
  | transparent : cs.finished = false → cs.committed = false → a.drop = false →
      (a.hasStream = false ∧ a.allowTransparent = true ∨
       cs.firstAttempt = true ∧ a.hasStream = true ∧ a.unprocessed = true) → SR dis pol cs a r .early (cs, .transparent)
  | abort : SR dis pol cs a r .abortPushback ({ cs with throttler := (throttleOpt cs.throttler).1 }, .noRetry)
  | notRetryable : SR dis pol cs a r .notRetryable (cs, .noRetry)
  | charged (rp : Policy) (pb : Pushback) : Charged dis pol cs a pb rp →
      SR dis pol cs a r (.charged pb) (chargedResult rp cs pb r)

theorem sr_spec (dis : Bool) (pol : Option Policy) (cs : CS) (a : Attempt) (r : Rat) :
    SR dis pol cs a r (stage dis pol cs a) (shouldRetry dis pol cs a r) := by
  have hlive : ¬(cs.finished || cs.committed || a.drop) = true →
      cs.finished = false ∧ cs.committed = false ∧ a.drop = false := by
    simp only [Bool.or_eq_true, not_or, Bool.not_eq_true]; exact fun h => ⟨h.1.1, h.1.2, h.2⟩
  -- `stage` asks `shouldRetry`'s questions in `shouldRetry`'s order, so the answers each of its branches has reduce
  -- `shouldRetry` as far: `early` 1-5 (done, the two transparent retries, retries disabled, headers received),
  -- `abortPushback` 6, `notRetryable` 7-8 (no policy, code not in it), `charged` 9
  fun_cases stage dis pol cs a <;> simp only [shouldRetry, *, Bool.false_eq_true, ↓reduceIte]
  case case1 | case4 | case5 => exact .refused
  case case2 h1 h2 => exact .transparent (hlive h1).1 (hlive h1).2.1 (hlive h1).2.2 (Or.inl (by simpa using h2))
  case case3 h1 _ h3 => exact .transparent (hlive h1).1 (hlive h1).2.1 (hlive h1).2.2 (Or.inr (by simpa using h3))
  -- the pushback `pb` is a local definition of the branch, the test on it in `shouldRetry` is written out
  case case6 => rw [if_pos ‹_›]; exact .abort
  case case7 | case8 => rw [if_neg ‹_›]; exact .notRetryable
  case case9 h1 _ _ _ h5 pb h6 rp h7 =>
    rw [if_neg h6]
    -- what is left of `shouldRetry` is `chargedResult rp cs pb r` unfolded
    exact .charged rp pb
      { pol := rfl, code := by simpa using h7, noAbort := h6, pushback := rfl, unfinished := (hlive h1).1,
        uncommitted := (hlive h1).2.1, noDrop := (hlive h1).2.2, enabled := rfl, trailersOnly := by simpa using h5 }

theorem stage_charged (dis : Bool) (pol : Option Policy) (cs : CS) (a : Attempt) (r : Rat) (pb : Pushback)
    (hs : stage dis pol cs a = .charged pb) :
    ∃ rp, Charged dis pol cs a pb rp ∧ shouldRetry dis pol cs a r = chargedResult rp cs pb r := by
  have h := sr_spec dis pol cs a r
  rw [hs] at h
  generalize shouldRetry dis pol cs a r = res at h ⊢
  cases h with
  | charged rp _ hc => exact ⟨rp, hc, rfl⟩

theorem sr_abort (dis : Bool) (pol : Option Policy) (cs : CS) (a : Attempt) (r : Rat)
    (hs : stage dis pol cs a = .abortPushback) :
    shouldRetry dis pol cs a r = ({ cs with throttler := (throttleOpt cs.throttler).1 }, .noRetry) := by
  have h := sr_spec dis pol cs a r
  rw [hs] at h
  generalize shouldRetry dis pol cs a r = res at h ⊢
  cases h with
  | abort => rfl

theorem sr_cs (dis : Bool) (pol : Option Policy) (cs : CS) (a : Attempt) (r : Rat) :
    (shouldRetry dis pol cs a r).1 =
      { cs with
        throttler := if (stage dis pol cs a).charges then (throttleOpt cs.throttler).1 else cs.throttler
        sincePushback := retriesSincePushback cs.sincePushback [(shouldRetry dis pol cs a r).2] } := by
  have h := sr_spec dis pol cs a r
  generalize stage dis pol cs a = s, shouldRetry dis pol cs a r = res at h ⊢
  cases h with
  | refused => rfl
  | transparent => rfl
  | abort => rfl
  | notRetryable => rfl
  | charged rp pb =>
    simp only [chargedResult, Stage.charges, if_true]
    split_ifs
    · rfl
    · rfl
    · cases pb <;> rfl

theorem sr_throttler (dis : Bool) (pol : Option Policy) (cs : CS) (a : Attempt) (r : Rat) :
    (shouldRetry dis pol cs a r).1.throttler =
      if (stage dis pol cs a).charges then (throttleOpt cs.throttler).1 else cs.throttler := by
  rw [sr_cs]

theorem sr_sincePushback (dis : Bool) (pol : Option Policy) (cs : CS) (a : Attempt) (r : Rat) :
    (shouldRetry dis pol cs a r).1.sincePushback =
      retriesSincePushback cs.sincePushback [(shouldRetry dis pol cs a r).2] := by
  rw [sr_cs]

/-- fields of the bookkeeping that `shouldRetry` never writes (all it writes: `sr_cs`) -/
structure SrKeeps (cs cs' : CS) : Prop where
  numRetries : cs'.numRetries = cs.numRetries
  finished : cs'.finished = cs.finished
  committed : cs'.committed = cs.committed

theorem sr_keeps (dis : Bool) (pol : Option Policy) (cs : CS) (a : Attempt) (r : Rat) :
    SrKeeps cs (shouldRetry dis pol cs a r).1 := by
  rw [sr_cs]; exact ⟨rfl, rfl, rfl⟩

theorem sr_open (dis : Bool) (pol : Option Policy) (cs : CS) (a : Attempt) (r : ℚ)
    (h : (shouldRetry dis pol cs a r).2 ≠ .noRetry) : cs.finished = false ∧ cs.committed = false := by
  have hsr := sr_spec dis pol cs a r
  generalize stage dis pol cs a = s, shouldRetry dis pol cs a r = res at hsr h
  cases hsr with
  | refused | abort | notRetryable => exact absurd rfl h
  | transparent hf hc => exact ⟨hf, hc⟩
  | charged rp pb hch => exact ⟨hch.unfinished, hch.uncommitted⟩

theorem chargedResult_decision (rp : Policy) (cs : CS) (pb : Pushback) (r : ℚ) :
    ((chargedResult rp cs pb r).2 = .noRetry ↔ (throttleOpt cs.throttler).2 = true) ∧
    (chargedResult rp cs pb r).2 ≠ .transparent := by
  unfold chargedResult
  split_ifs with h1
  · simp [h1]
  · simp [h1]
  · cases pb <;> simp [h1]

/-- what is known when `shouldRetry` answers with the timed retry `backoff dur fp` -/
structure Timed (dis : Bool) (pol : Option Policy) (cs : CS) (a : Attempt) (r : ℚ) (dur : Int) (fp : Bool)
    (pb : Pushback) (rp : Policy) : Prop where
  charged : Charged dis pol cs a pb rp
  notThrottled : (throttleOpt cs.throttler).2 = false
  room : cs.numRetries + 1 < rp.maxAttempts
  delay : Decision.backoff dur fp = (match pb with
    | .ms n => .backoff (pushbackDur n) true
    | _ => .backoff (backoffDur rp cs.sincePushback r) false)

theorem sr_backoff_conditions (dis : Bool) (pol : Option Policy) (cs : CS) (a : Attempt) (r : ℚ) (dur : Int) (fp : Bool)
    (h : (shouldRetry dis pol cs a r).2 = .backoff dur fp) : ∃ pb rp, Timed dis pol cs a r dur fp pb rp := by
  have hsr := sr_spec dis pol cs a r
  generalize stage dis pol cs a = s, shouldRetry dis pol cs a r = res at hsr h
  cases hsr with
  | refused | transparent | abort | notRetryable => cases h
  | charged rp pb hc =>
    unfold chargedResult at h
    split_ifs at h with h1 h2
    exact ⟨pb, rp, hc, by simpa using h1, by omega, by rw [← h]; cases pb <;> rfl⟩

theorem sr_transparent_conditions (dis : Bool) (pol : Option Policy) (cs : CS) (a : Attempt) (r : ℚ)
    (h : (shouldRetry dis pol cs a r).2 = .transparent) :
    cs.finished = false ∧ cs.committed = false ∧ a.drop = false ∧
    ((a.hasStream = false ∧ a.allowTransparent = true) ∨
     (cs.firstAttempt = true ∧ a.hasStream = true ∧ a.unprocessed = true)) := by
  have hsr := sr_spec dis pol cs a r
  generalize stage dis pol cs a = s, shouldRetry dis pol cs a r = res at hsr h
  cases hsr with
  | refused | abort | notRetryable => cases h
  | transparent hf hc hd hx => exact ⟨hf, hc, hd, hx⟩
  | charged rp pb => exact absurd h (chargedResult_decision rp cs pb r).2

theorem afterDecision_sincePushback (cs : CS) (d : Decision) : (afterDecision cs d).sincePushback = cs.sincePushback := by
  cases d <;> rfl

theorem runAttempts_sincePushback (dis : Bool) (pol : Option Policy) (as : List (Attempt × Rat)) (cs : CS) :
    (runAttempts dis pol cs as).1.sincePushback =
      retriesSincePushback cs.sincePushback (runAttempts dis pol cs as).2 := by
  induction as generalizing cs with
  | nil => rfl
  | cons ar rest ih =>
    obtain ⟨a, r⟩ := ar
    have h1 := sr_sincePushback dis pol cs a r
    unfold runAttempts
    cases hd : (shouldRetry dis pol cs a r) with
    | mk cs' d =>
      rw [hd] at h1
      simp only at h1 ⊢
      cases d with
      | noRetry => simpa [retriesSincePushback] using h1
      | exhausted => simpa [retriesSincePushback] using h1
      | transparent =>
        simp only
        rw [ih]
        simp only [retriesSincePushback, afterDecision_sincePushback] at h1 ⊢
        rw [h1]
      | backoff dur fp =>
        simp only
        rw [ih]
        cases fp <;> simp only [retriesSincePushback, afterDecision_sincePushback] at h1 ⊢ <;> rw [h1]

theorem toInt64_of_nonneg (x : ℚ) (h0 : 0 ≤ x) (hlt : x < 9223372036854775808) :
    toInt64 x = ⌊x⌋ := by
  unfold toInt64
  have hx : ¬ x < 0 := not_lt.mpr h0
  have hf : Rat.floor x = ⌊x⌋ := rfl
  have h1 : ⌊x⌋ ≤ 9223372036854775807 := by
    have : ⌊x⌋ < 9223372036854775808 := by
      apply Int.floor_lt.mpr; exact_mod_cast hlt
    omega
  have h2 : 0 ≤ ⌊x⌋ := Int.floor_nonneg.mpr h0
  simp only [hx, if_false, hf, maxInt64, minInt64]
  rw [if_neg]; omega

theorem toInt64_overflow (x : ℚ) (h : 9223372036854775808 ≤ x) : toInt64 x = minInt64 := by
  unfold toInt64
  have hx : ¬ x < 0 := by linarith
  have hf : Rat.floor x = ⌊x⌋ := rfl
  have h1 : (9223372036854775808 : ℤ) ≤ ⌊x⌋ := by
    apply Int.le_floor.mpr; exact_mod_cast h
  simp only [hx, if_false, hf, maxInt64, minInt64]
  rw [if_pos]; left; omega

theorem jittered_band (base r : ℚ) (hb : 0 ≤ base) (hr0 : 0 ≤ r) (hr1 : r < 1) :
    4 / 5 * base ≤ jittered base r ∧ jittered base r ≤ 6 / 5 * base := by
  unfold jittered
  constructor
  · rw [mul_comm (4 / 5 : ℚ) base]
    exact mul_le_mul_of_nonneg_left (le_add_of_nonneg_right (mul_nonneg (by norm_num) hr0)) hb
  · rw [mul_comm (6 / 5 : ℚ) base]
    refine mul_le_mul_of_nonneg_left ?_ hb
    linarith

theorem backoff_band (base r : ℚ) (hb : 0 ≤ base) (hr0 : 0 ≤ r) (hr1 : r < 1)
    (hfit : 6 / 5 * base < 9223372036854775808) :
    (4 / 5 * base - 1 < (toInt64 (jittered base r) : ℚ)) ∧ ((toInt64 (jittered base r) : ℚ) ≤ 6 / 5 * base) ∧
    (⌊4 / 5 * base⌋ ≤ toInt64 (jittered base r)) := by
  obtain ⟨hj0, hj1⟩ := jittered_band base r hb hr0 hr1
  have hnn : 0 ≤ jittered base r := le_trans (mul_nonneg (by norm_num) hb) hj0
  rw [toInt64_of_nonneg _ hnn (lt_of_le_of_lt hj1 hfit)]
  exact ⟨lt_of_le_of_lt (sub_le_sub_right hj0 1) (Int.sub_one_lt_floor _), le_trans (Int.floor_le _) hj1,
    Int.floor_le_floor hj0⟩

/-- the delay lies in the band of its base, up to rounding down and the cap at MaxInt64 of the saturating conversion -/
theorem backoffDur_band (p : Policy) (k : Nat) (r : ℚ) (hb : 0 ≤ backoffBase p k) (hr0 : 0 ≤ r) (hr1 : r < 1) :
    min ⌊4 / 5 * backoffBase p k⌋ maxInt64 ≤ backoffDur p k r ∧
    (backoffDur p k r : ℚ) ≤ 6 / 5 * backoffBase p k ∧ 0 ≤ backoffDur p k r ∧ backoffDur p k r ≤ maxInt64 := by
  obtain ⟨hj0, hj1⟩ := jittered_band (backoffBase p k) r hb hr0 hr1
  have hnn : 0 ≤ jittered (backoffBase p k) r := le_trans (mul_nonneg (by norm_num) hb) hj0
  unfold backoffDur
  simp only
  split_ifs with hlt
  · rw [toInt64_of_nonneg _ hnn hlt]
    refine ⟨le_trans (min_le_left _ _) (Int.floor_le_floor hj0), le_trans (Int.floor_le _) hj1,
      Int.floor_nonneg.mpr hnn, ?_⟩
    · have : ⌊jittered (backoffBase p k) r⌋ < 9223372036854775808 := by
        apply Int.floor_lt.mpr; exact_mod_cast hlt
      unfold maxInt64; omega
  · have hge : (9223372036854775808 : ℚ) ≤ jittered (backoffBase p k) r := not_lt.mp hlt
    refine ⟨min_le_right _ _, ?_, by unfold maxInt64; omega, le_refl _⟩
    have : ((maxInt64 : ℤ) : ℚ) ≤ 9223372036854775808 := by unfold maxInt64; norm_num
    exact le_trans this (le_trans hge hj1)

theorem pushbackDur_spec (n : Int) (h0 : 0 ≤ n) : pushbackDur n = min (1000000 * n) maxInt64 := by
  unfold pushbackDur
  have hdiv : (9223372036854775807 : Int) / 1000000 = 9223372036854 := by norm_num
  rw [hdiv]
  split_ifs with h
  · have : 1000000 * n ≤ maxInt64 := by unfold maxInt64; omega
    rw [min_eq_left this]
    unfold wrap64; omega
  · have : maxInt64 ≤ 1000000 * n := by unfold maxInt64; omega
    rw [min_eq_right this]

theorem isDigit_bound (b : UInt8) (h : isDigit b = true) : b.toNat - 48 ≤ 9 := by
  unfold isDigit at h
  simp only [Bool.and_eq_true, decide_eq_true_eq] at h
  have h2 : b ≤ 57 := h.2
  have : b.toNat ≤ 57 := by exact UInt8.le_iff_toNat_le.mp h2
  omega

theorem digitsVal_lt (ds : List UInt8) (h : ds.all isDigit = true) : digitsVal ds < 10 ^ ds.length := by
  have := Basic.foldl_digits_lt ds 0 fun b hb => isDigit_bound b (List.all_eq_true.1 h b hb)
  simpa [digitsVal] using this

theorem parseInt64_abs_lt (s : List UInt8) (v : Int) (h : parseInt64 s = some v) : v.natAbs < 10 ^ s.length := by
  revert h
  fun_cases parseInt64 s
  -- a value is returned after a `-` sign (4) and after `+` or none (6); the digits `ds` are `s` or its tail
  case case4 ds _ hd _ _ heq | case6 _ ds heq _ hd _ _ _ =>
    rintro ⟨⟩
    have hlen : ds.length ≤ s.length := by split at heq <;> (injection heq with h1 h2; subst h2; simp)
    have hp : 10 ^ ds.length ≤ 10 ^ s.length := Nat.pow_le_pow_right (by norm_num) hlen
    have hv := digitsVal_lt ds (by simpa using hd)
    omega
  all_goals nofun

theorem durClamp_range (sec ns : Int) (h1 : -1000000000 < ns) (h2 : ns < 1000000000) :
    minInt64 ≤ durClamp sec ns ∧ durClamp sec ns ≤ maxInt64 := by
  unfold durClamp maxInt64 minInt64
  split_ifs with a b
  · omega
  · omega
  · omega

theorem durNanos_bound (hf : Bool) (frac : List UInt8) (ns : Int) (d : Bool) (h : durNanos hf frac = some (ns, d)) :
    -1000000000 < ns ∧ ns < 1000000000 := by
  unfold durNanos at h
  split_ifs at h with h1 h2
  · split at h
    · cases h
    next v hv =>
      injection h with h; injection h with h _; subst h
      have hb := parseInt64_abs_lt frac v hv
      have hl : frac.length ≤ 9 := by omega
      have hpow : (10:ℕ) ^ frac.length * 10 ^ (9 - frac.length) = 10 ^ 9 := by
        rw [← pow_add]; congr 1; omega
      have hpos : 0 < (10:ℕ) ^ (9 - frac.length) := by positivity
      have hmul : v.natAbs * 10 ^ (9 - frac.length) < 10 ^ 9 := by
        rw [← hpow]; exact Nat.mul_lt_mul_of_pos_right hb hpos
      have habs : (v * 10 ^ (9 - frac.length)).natAbs < 10 ^ 9 := by
        rw [Int.natAbs_mul]; simpa [Int.natAbs_pow] using hmul
      omega
  · injection h with h; injection h with h _; subst h; omega

theorem parseDuration_range (s : List UInt8) (d : Int) (h : parseDuration s = some d) :
    minInt64 ≤ d ∧ d ≤ maxInt64 := by
  revert h
  fun_cases parseDuration s
  -- the last branch alone returns a value; `ns'` is the nanoseconds with the sign put back
  case case6 ns d2 hns _ _ ns' =>
    rintro ⟨⟩
    have hb := durNanos_bound _ _ ns d2 hns
    apply durClamp_range <;> simp only [ns'] <;> split <;> omega
  all_goals nofun

end GrpcProofs.Lemmas.Retry
