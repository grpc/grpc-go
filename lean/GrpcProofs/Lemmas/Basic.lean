/-
Facts about lists, bit vectors and `if` that do not depend on any model and that the lemma files of several properties use.
-/
namespace GrpcProofs.Lemmas.Basic

universe u v
variable {α : Type u} {β : Type v}

theorem eq_of_nodup_map {f : α → β} {l : List α} (h : (l.map f).Nodup) {a b : α}
    (ha : a ∈ l) (hb : b ∈ l) (hab : f a = f b) : a = b := by
  induction l with
  | nil => cases ha
  | cons x xs ih =>
    rw [List.map_cons, List.nodup_cons] at h
    rcases List.mem_cons.mp ha with rfl | ha' <;> rcases List.mem_cons.mp hb with rfl | hb'
    · rfl
    · exact absurd (hab ▸ List.mem_map_of_mem hb') h.1
    · exact absurd (hab ▸ List.mem_map_of_mem ha') h.1
    · exact ih h.2 ha' hb'

theorem nodup_snoc {l : List α} {x : α} (h : l.Nodup) (hx : x ∉ l) : (l ++ [x]).Nodup :=
  List.nodup_append.mpr ⟨h, List.pairwise_singleton _ x, fun _ ha _ hb e => hx (List.mem_singleton.mp hb ▸ e ▸ ha)⟩

theorem nodup_map_snoc {f : α → β} {l : List α} {x : α} (h : (l.map f).Nodup) (hx : ∀ y ∈ l, f y ≠ f x) :
    ((l ++ [x]).map f).Nodup := by
  rw [List.map_append]
  exact nodup_snoc h fun hm => let ⟨y, hy, e⟩ := List.mem_map.mp hm; hx y hy e

theorem lookup_mem [BEq α] [LawfulBEq α] {l : List (α × β)} {k : α} {v : β} (h : l.lookup k = some v) :
    (k, v) ∈ l := by
  obtain ⟨l₁, l₂, rfl, _⟩ := List.lookup_eq_some_iff.1 h
  exact List.mem_append_right _ List.mem_cons_self

theorem foldl_inv {P : β → Prop} {f : β → α → β} (hf : ∀ b a, P b → P (f b a)) (l : List α) {b : β}
    (hb : P b) : P (l.foldl f b) :=
  List.foldlRecOn l f hb fun b hb a _ => hf b a hb

theorem map_eq_self {g : α → α} {l : List α} (h : ∀ a ∈ l, g a = a) : l.map g = l := by
  rw [List.map_congr_left h, List.map_id']

/-! keyed lists: `l : List α` read through `key : α → κ`; an entry is found by `find? (key · = k)` and changed by
`map fun x => if key x = k then f x else x` -/
section Keyed
variable {κ : Type v} {key : α → κ} {l : List α} {k : κ}

theorem keys_map {g : α → α} (hg : ∀ a, key (g a) = key a) : (l.map g).map key = l.map key := by
  rw [List.map_map]; exact List.map_congr_left fun a _ => hg a

theorem nodup_keys_filter (h : (l.map key).Nodup) (q : α → Bool) : ((l.filter q).map key).Nodup :=
  List.Nodup.sublist (List.Sublist.map _ List.filter_sublist) h

theorem countP_map_key (h : (l.map key).Nodup) {a : α} (ha : a ∈ l) {g : α → α}
    (hg : ∀ x, key x ≠ key a → g x = x) (p : α → Bool) :
    (l.map g).countP p + (if p a then 1 else 0) = l.countP p + (if p (g a) then 1 else 0) := by
  induction l with
  | nil => cases ha
  | cons x xs ih =>
    rw [List.map_cons, List.nodup_cons] at h
    rw [List.map_cons, List.countP_cons, List.countP_cons]
    rcases List.mem_cons.mp ha with rfl | ha'
    · rw [map_eq_self fun y hy => hg y fun e => h.1 (e ▸ List.mem_map_of_mem hy)]
      omega
    · rw [hg x fun e => h.1 (e ▸ List.mem_map_of_mem ha')]
      have := ih h.2 ha'
      omega

theorem filter_key_eq_find [BEq κ] [LawfulBEq κ] (h : l.Pairwise fun a b => key a ≠ key b) (k : κ) :
    l.filter (key · == k) = (l.find? (key · == k)).toList := by
  induction l with
  | nil => rfl
  | cons x rest ih =>
    rw [List.pairwise_cons] at h
    rw [List.filter_cons, List.find?_cons]
    by_cases hx : key x = k
    · have : rest.filter (key · == k) = [] :=
        List.filter_eq_nil_iff.mpr fun y hy hv => h.1 y hy (hx.trans (beq_iff_eq.mp hv).symm)
      simp [hx, this]
    · have : (key x == k) = false := beq_eq_false_iff_ne.mpr hx
      simp only [this, ih h.2]; rfl

variable [DecidableEq κ]

theorem find_some {a : α} (h : l.find? (key · = k) = some a) : a ∈ l ∧ key a = k :=
  ⟨List.mem_of_find?_eq_some h, by simpa using List.find?_some h⟩

theorem find_none_iff : l.find? (key · = k) = none ↔ k ∉ l.map key := by
  rw [List.find?_eq_none]
  simp only [decide_eq_true_eq, List.mem_map, not_exists, not_and]

theorem find_of_mem (h : (l.map key).Nodup) {a : α} (ha : a ∈ l) : l.find? (key · = key a) = some a := by
  cases hf : l.find? (key · = key a) with
  | none => exact absurd (List.mem_map_of_mem ha) (find_none_iff.mp hf)
  | some b => rw [eq_of_nodup_map h (find_some hf).1 ha (find_some hf).2]

theorem find_map {g : α → α} (hg : ∀ a, key (g a) = key a) (m : κ) :
    (l.map g).find? (key · = m) = (l.find? (key · = m)).map g := by
  rw [List.find?_map]
  congr 2; funext a; simp [hg a]

theorem find_map_key (key : α → κ) (l : List α) (k k' : κ) (f : α → α) (hid : ∀ y, key (f y) = key y) :
    (l.map fun x => if key x = k then f x else x).find? (key · = k') =
      (l.find? (key · = k')).map fun x => if key x = k then f x else x :=
  find_map (fun a => by split <;> simp [hid]) k'

theorem find_modify {f : α → α} (hid : ∀ y, key (f y) = key y) (m : κ) :
    (l.map fun x => if key x = k then f x else x).find? (key · = m) =
      if m = k then (l.find? (key · = k)).map f else l.find? (key · = m) := by
  refine (find_map_key key l k m f hid).trans ?_
  -- the entry found for `m` has key `m`
  split
  next e => subst e; exact Option.map_congr fun a ha => if_pos (find_some ha).2
  next e => exact (Option.map_congr fun a ha => if_neg ((find_some ha).2 ▸ e)).trans Option.map_id'

theorem find_map_hit (key : α → κ) (f : α → α) (hid : ∀ y, key (f y) = key y) {x : α}
    (h : l.find? (key · = k) = some x) :
    (l.map fun x => if key x = k then f x else x).find? (key · = k) = some (f x) := by
  rw [find_modify hid k, if_pos rfl, h]; rfl

end Keyed

theorem lt_of_getElem? {l : List α} {i : Nat} {a : α} (h : l[i]? = some a) : i < l.length :=
  (List.getElem?_eq_some_iff.1 h).1

theorem getElem?_set_of_some {l : List α} {i j : Nat} {a b : α} (h : l[i]? = some a) :
    (l.set i b)[j]? = if i = j then some b else l[j]? := by
  rw [List.getElem?_set, if_pos (lt_of_getElem? h)]

theorem countP_range (p : Nat → Bool) (n a b : Nat) (hp : ∀ r < n, (p r = true ↔ a ≤ r ∧ r < b)) :
    (List.range n).countP p = min b n - a := by
  induction n with
  | zero => simp
  | succ n ih =>
    rw [List.range_succ, List.countP_append, ih fun r hr => hp r (by omega), List.countP_singleton]
    have := hp n (by omega)
    by_cases h : a ≤ n ∧ n < b
    · rw [if_pos (this.mpr h)]; omega
    · rw [if_neg (mt this.mp h)]; omega

theorem foldl_digits_lt (ds : List UInt8) (a : Nat) (hd : ∀ b ∈ ds, b.toNat - 48 ≤ 9) :
    ds.foldl (fun a b => a * 10 + (b.toNat - 48)) a < (a + 1) * 10 ^ ds.length := by
  induction ds generalizing a with
  | nil => simp
  | cons b t ih =>
    have r := hd b List.mem_cons_self
    have := ih (a * 10 + (b.toNat - 48)) fun c hc => hd c (List.mem_cons_of_mem _ hc)
    simp only [List.foldl_cons, List.length_cons]
    have h2 : (a * 10 + (b.toNat - 48) + 1) * 10 ^ t.length ≤ (a + 1) * 10 ^ (t.length + 1) := by
      rw [Nat.pow_succ, Nat.mul_comm (10 ^ t.length) 10, ← Nat.mul_assoc]
      exact Nat.mul_le_mul_right _ (by omega)
    omega

/-! two bit vectors compared on their top bits, the way a CIDR prefix is matched -/

theorem contains_iff_shr {w : Nat} (a b : BitVec w) (k : Nat) :
    ((a ^^^ b) >>> k == 0#w) = true ↔ a >>> k = b >>> k := by
  rw [beq_iff_eq, BitVec.ushiftRight_xor_distrib, BitVec.xor_eq_zero_iff]

theorem shift_xor_zero_iff {w : Nat} (a b : BitVec w) (n : Nat) (hn : n ≤ w) :
    ((a ^^^ b) >>> (w - n) == 0#w) = true ↔ ∀ i, i < n → a.getMsbD i = b.getMsbD i := by
  rw [contains_iff_shr]
  -- both sides say that the bits at positions w-n, …, w-1 agree
  constructor
  · intro h i hi
    have := congrArg (fun x => x.getLsbD (n - 1 - i)) h
    simp only [BitVec.getLsbD_ushiftRight] at this
    rw [show w - n + (n - 1 - i) = w - 1 - i by omega] at this
    simp only [BitVec.getMsbD, this]
  · intro h
    apply BitVec.eq_of_getLsbD_eq
    intro i hi
    rw [BitVec.getLsbD_ushiftRight, BitVec.getLsbD_ushiftRight]
    by_cases hlt : w - n + i < w
    · have := h (n - 1 - i) (by omega)
      simp only [BitVec.getMsbD, show n - 1 - i < w by omega, decide_true, Bool.true_and] at this
      rwa [show w - 1 - (n - 1 - i) = w - n + i by omega] at this
    · rw [BitVec.getLsbD_of_ge a _ (by omega), BitVec.getLsbD_of_ge b _ (by omega)]

section ite
variable {α : Sort u} {c : Prop} [Decidable c] {a b x : α}

/-- the usual case: the then-branch is another constructor than `x` -/
theorem of_ite_eq (h : (if c then a else b) = x) (ha : a ≠ x := by nofun) : ¬c ∧ b = x :=
  iteInduction (motive := (· = x → ¬c ∧ b = x)) (fun _ h => absurd h ha) (fun hc h => ⟨hc, h⟩) h

end ite

end GrpcProofs.Lemmas.Basic
