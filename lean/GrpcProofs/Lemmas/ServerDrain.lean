import GrpcModel.Model.ServerDrain
import GrpcProofs.Lemmas.Basic
/-!
Lemmas about `GrpcModel.ServerDrain` (server half of C14).

`core s` is the part of the state the drain properties talk about; `CStep` lists everything a single
critical section can do to it; `core_step` shows that every event is a sequence of `CStep`s; the
invariants are then proved on `Core` alone.
-/
namespace GrpcProofs.Lemmas.ServerDrain
open GrpcModel.ServerDrain Basic

def ids (s : State) : List Nat := s.streams.map (·.id)

structure Core where
  max : Nat                 -- t.maxStreamID
  ts : TState
  fin : Option Nat          -- id chosen by the final GOAWAY of a graceful drain
  dr : List Nat             -- HEADERS silently dropped
  pend : Option Nat         -- reader inside operateHeaders (holds maxStreamMu)
  err : Bool                -- an error GOAWAY was handled
  ids : List Nat            -- streams handed to a handler

def core (s : State) : Core :=
  { max := s.maxStreamID, ts := s.tstate, fin := s.finalGoAway, dr := s.dropped, pend := s.hdrPending,
    err := s.errGoAway, ids := ids s }

inductive CStep : Core → Core → Prop
  | hdrA (c : Core) (p : Nat) : c.pend = none → c.max < p → CStep c { c with max := p, pend := some p }
  | accept (c : Core) (p : Nat) : c.pend = some p → c.ts = .reachable → CStep c { c with pend := none, ids := c.ids ++ [p] }
  | drop (c : Core) (p : Nat) : c.pend = some p → c.ts ≠ .reachable → CStep c { c with pend := none, dr := c.dr ++ [p] }
  | finalG (c : Core) : c.pend = none → c.ts ≠ .closing →
      CStep c { c with ts := .draining, fin := match c.fin with | some n => some n | none => some c.max }
  | finalE (c : Core) : c.pend = none → c.ts ≠ .closing → CStep c { c with ts := .draining, err := true }
  | closing (c : Core) : CStep c { c with ts := .closing }

inductive CSteps : Core → Core → Prop
  | refl (c : Core) : CSteps c c
  | tail {a b c : Core} : CSteps a b → CStep b c → CSteps a c

theorem CSteps.one {a b : Core} (h : CStep a b) : CSteps a b := .tail (.refl a) h

theorem CSteps.trans {a b c : Core} (h1 : CSteps a b) (h2 : CSteps b c) : CSteps a c := by
  induction h2 with
  | refl => exact h1
  | tail _ st ih => exact .tail ih st

theorem CSteps.of_eq {a b : Core} (h : b = a) : CSteps a b := by rw [h]; exact .refl a

theorem core_put (s : State) (it : Item) : core (s.put it) = core s := by
  unfold State.put; split <;> rfl

theorem core_updStream (s : State) (sid : Nat) (f : SStrm → SStrm) (hf : ∀ x, (f x).id = x.id) :
    core (s.updStream sid f) = core s := by
  simp only [core, State.updStream, ids]
  congr 1
  apply keys_map
  intro x; split <;> simp [hf]

/-! The handlers are trees of `if`s over record updates of a 26-field state, and most branches write no core
field.  Each handler is taken apart by `fun_cases` (one goal per branch, the call already reduced); a branch that
writes no core field closes by `rfl`, one that ends in a helper by the helper's equation. -/

theorem core_ite {p : Prop} [Decidable p] {a b : State} {c : Core} (ha : core a = c) (hb : core b = c) :
    core (if p then a else b) = c := iteInduction (motive := (core · = c)) (fun _ => ha) fun _ => hb

theorem core_loopyExit (s : State) (b : Bool) : core (s.loopyExit b).1 = core s := by
  fun_cases State.loopyExit s b
  · rfl
  · exact core_ite rfl rfl
  · rfl

theorem core_afterCleanup (s : State) (id : Nat) (rst : Bool) (code : Nat) :
    core (s.afterCleanup id rst code).1 = core s := by
  fun_cases State.afterCleanup s id rst code
  · exact core_loopyExit ..
  · exact (core_loopyExit ..).trans (core_ite rfl rfl)
  · exact core_ite rfl rfl

theorem core_afterFinalFlush (s : State) (r : Bool) : core (s.afterFinalFlush r).1 = core s := by
  fun_cases State.afterFinalFlush s r
  · exact core_loopyExit ..
  · rfl

theorem core_close (s : State) (h : s.tstate ≠ .closing) : core s.close = { core s with ts := .closing } := by
  unfold State.close
  simp only [h, if_false]
  simp only [core, State.finish, ids]
  congr 1
  apply keys_map
  intro x; split <;> rfl

theorem cs_close (s : State) : CSteps (core s) (core s.close) := by
  by_cases h : s.tstate = .closing
  · unfold State.close; simp only [h, if_true]; exact .refl _
  · rw [core_close s h]; exact .one (.closing _)

theorem cs_readerExit (s : State) : CSteps (core s) (core s.readerExit) := by
  fun_cases State.readerExit s
  · exact .refl _
  · exact cs_close s

theorem cs_hdrA (s : State) (sid : Nat) : CSteps (core s) (core (s.hdrA sid)) := by
  fun_cases State.hdrA s sid
  · exact .refl _
  · exact .of_eq (core_put ..)
  · next h0 hlegal =>
    have hp : s.hdrPending = none := by
      cases h : s.hdrPending <;> simp_all
    have hlt : s.maxStreamID < sid := by simp at hlegal; omega
    exact .one (CStep.hdrA (core s) sid hp hlt)

theorem cs_hdrB (s : State) : CSteps (core s) (core s.hdrB) := by
  fun_cases State.hdrB s
  · exact .refl _
  · next sid hp _ hn => exact .one (CStep.drop (core s) sid hp hn)
  · next sid hp _ hr _ _ =>
    have hr' : s.tstate = .reachable := by simpa using hr
    refine .trans (.one (CStep.accept (core s) sid hp hr')) (.of_eq ((core_put ..).trans ?_))
    simp +zetaDelta [core, ids]

theorem cs_finalChosen (s : State) (cc : Bool) (hp : s.hdrPending = none) (hc : s.tstate ≠ .closing) :
    CSteps (core s) (core (s.finalChosen cc)) := by
  fun_cases State.finalChosen s cc
  · exact .one (CStep.finalE (core s) hp hc)
  · exact .one (CStep.finalG (core s) hp hc)

theorem cs_loopyStep (s : State) : CSteps (core s) (core s.loopyStep.1) := by
  -- a GOAWAY item is handled only while the reader is outside `operateHeaders`
  have final (rest : List Item) (hu : Bool) (code : Nat) (cc : Bool)
      (hblk : ¬((Item.goAway hu code cc).isGoAway && s.hdrPending.isSome) = true) (hcl : s.tstate ≠ .closing) :
      CSteps (core s) (core (({ s with cbuf := rest }).finalChosen cc)) :=
    cs_finalChosen { s with cbuf := rest } cc (by simpa [Item.isGoAway] using hblk) hcl
  fun_cases State.loopyStep s
  -- exited or blocked; queue empty; GOAWAY waiting for `maxStreamMu`; register; trailers of an unknown stream;
  -- ping ack written; heads-up GOAWAY written
  case case1 | case2 | case3 | case4 | case5 | case10 | case13 => exact .refl _
  -- the item meets a dead connection, or a GOAWAY meets a closing transport
  case case6 | case9 | case11 | case12 => exact .of_eq (core_loopyExit ..)
  case case7 => exact .of_eq ((core_afterCleanup ..).trans (core_ite rfl (core_updStream _ _ _ fun _ => rfl)))
  case case8 => exact .of_eq (core_afterCleanup ..)
  -- the final GOAWAY: connection dead / blocked in its Flush / flushed.  `T` is the state `finalChosen` returns;
  -- while it is visible as a stuck `if`, comparing it with its updates field by field unfolds it at every field
  case case14 => exact (final _ _ _ _ ‹_› ‹_›).trans (.of_eq (core_loopyExit ..))
  case case15 =>
    rename_i T _ _ _ _ _ _ _
    have h : CSteps (core s) (core T) := final _ _ _ _ ‹_› ‹_›
    clear_value T
    exact h
  case case16 =>
    rename_i T _ _ _ _ _ _ _ _
    have h : CSteps (core s) (core T) := final _ _ _ _ ‹_› ‹_›
    clear_value T
    exact h.trans (.of_eq (core_afterFinalFlush ..))

theorem core_step (s : State) (e : Ev) : CSteps (core s) (core (step s e).1) := by
  cases e <;> simp only [step]
  case hdr sid => exact (cs_hdrA s sid).trans (cs_hdrB _)
  case hdrA sid => exact cs_hdrA ..
  case hdrB => exact cs_hdrB ..
  case loopy => exact cs_loopyStep ..
  case readerErr => exact cs_readerExit ..
  case close => exact cs_close ..
  case hold | peerGone | tick => exact .refl _
  case drain =>
    refine .of_eq ?_
    fun_cases State.drain s
    · rfl
    · exact core_put ..
  case pingAck d => exact .of_eq (by fun_cases State.onPingAck s d <;> rfl)
  case ping d =>
    refine .of_eq ?_
    fun_cases State.onPing s d
    · rfl
    · exact core_put ..
  case rst sid =>
    refine .of_eq ?_
    fun_cases State.onRST s sid
    · rfl
    · exact core_put ..
    · exact core_put ..
    · exact (core_put ..).trans (core_updStream _ _ _ fun _ => rfl)
  case finish sid =>
    refine .of_eq ?_
    fun_cases State.finishStream s sid
    · rfl
    · rfl
    · rfl
    · exact (core_put ..).trans (core_updStream _ _ _ fun _ => rfl)
  case flush => exact .of_eq (by fun_cases State.loopyFlush s <;> rfl)
  case loopyAbort =>
    refine .of_eq ?_
    fun_cases State.loopyAbort s
    · rfl
    · exact core_loopyExit ..
    · rfl
  case waiterFire =>
    refine .of_eq ?_
    fun_cases State.waiterFire s
    · rfl
    · rfl
    · exact core_put ..
    · rfl
  case closeTimerFire => exact .of_eq (by fun_cases State.closeTimerFire s <;> rfl)
  case release =>
    refine .of_eq ?_
    fun_cases State.release s
    · rfl
    · rfl
    · exact core_loopyExit ..
    · exact core_afterFinalFlush ..

theorem core_run (s : State) (es : List Ev) : CSteps (core s) (core (run s es)) := by
  induction es generalizing s with
  | nil => exact .refl _
  | cons e es ih => exact (core_step s e).trans (ih _)

structure CInv (c : Core) : Prop where
  /-- accepted ids never exceed `maxStreamID` -/
  le : ∀ i ∈ c.ids, i ≤ c.max
  /-- the final GOAWAY's id covers every accepted stream, and the transport is no longer `reachable` -/
  fin : ∀ n, c.fin = some n → c.ts ≠ .reachable ∧ n ≤ c.max ∧ ∀ i ∈ c.ids, i ≤ n
  /-- a HEADERS frame the reader is working on carries an id above the final GOAWAY's -/
  pend : ∀ p, c.pend = some p → p = c.max ∧ ∀ n, c.fin = some n → n < p
  /-- … and so does every stream that was dropped silently (unless an error GOAWAY tore the connection down) -/
  drop : c.err = false → ∀ n, c.fin = some n → ∀ d ∈ c.dr, n < d
  /-- nothing is dropped before the final GOAWAY id is chosen, unless `Close` ran first -/
  early : c.err = false → c.fin = none → c.ts ≠ .closing → c.dr = []
  /-- `draining` is entered only by a final-GOAWAY handler -/
  drn : c.err = false → c.ts = .draining → c.fin.isSome = true

theorem cinv_init : CInv (core init) := by
  constructor <;> simp [core, init, ids]

theorem CInv.fin_of {a b : Core} (h : CInv a) (hf : b.fin = a.fin) (hm : b.max = a.max) (hi : b.ids = a.ids)
    (ht : a.ts ≠ .reachable → b.ts ≠ .reachable) :
    ∀ n, b.fin = some n → b.ts ≠ .reachable ∧ n ≤ b.max ∧ ∀ i ∈ b.ids, i ≤ n := by
  intro n hn
  rw [hf] at hn
  rw [hm, hi]
  exact (h.fin n hn).imp_left ht

theorem cinv_cstep {a b : Core} (h : CInv a) (st : CStep a b) : CInv b := by
  cases st with
  | hdrA p hp hlt =>
    exact { h with
      le := fun i hi => Nat.le_trans (h.le i hi) (Nat.le_of_lt hlt)
      fin := fun n hn =>
        have ⟨hts, hmax, hids⟩ := h.fin n hn
        ⟨hts, Nat.le_trans hmax (Nat.le_of_lt hlt), hids⟩
      pend := fun q hq => by
        cases hq
        exact ⟨rfl, fun n hn => have ⟨_, hmax, _⟩ := h.fin n hn; Nat.lt_of_le_of_lt hmax hlt⟩ }
  | accept p hp hr =>
    -- only a `reachable` transport accepts, and then no final GOAWAY id has been chosen
    exact { h with
      le := fun i hi => by
        rcases List.mem_append.mp hi with hi | hi
        · exact h.le i hi
        · cases List.mem_singleton.mp hi; exact Nat.le_of_eq (h.pend p hp).1
      fin := fun n hn => absurd hr (h.fin n hn).1
      pend := nofun }
  | drop p hp hn =>
    exact { h with
      pend := nofun
      drop := fun he n hf d hd => by
        rcases List.mem_append.mp hd with hd | hd
        · exact h.drop he n hf d hd
        · cases List.mem_singleton.mp hd; exact (h.pend p hp).2 n hf
      early := fun he hf hc => by
        -- fin = none, not closing, not reachable: draining without a final GOAWAY is impossible
        exfalso
        cases hts : a.ts with
        | reachable => exact hn hts
        | closing => exact hc hts
        | draining =>
          have := h.drn he hts
          rw [hf] at this
          cases this }
  | finalG hp hc =>
    -- the id chosen is the old one, or `max`, which covers every accepted stream (`le`); nothing was dropped before
    -- the first choice (`early`)
    cases hf0 : a.fin with
    | some m =>
      exact { h with
        fin := h.fin_of hf0.symm rfl rfl fun _ => nofun
        pend := fun q hq => nomatch hp.symm.trans hq
        drop := fun he n hf => h.drop he n (hf0.trans hf)
        early := fun _ hf => nomatch hf
        drn := fun _ _ => rfl }
    | none =>
      exact { h with
        fin := fun n hn => by cases hn; exact ⟨nofun, Nat.le_refl _, h.le⟩
        pend := fun q hq => nomatch hp.symm.trans hq
        drop := fun he n _ d hd => by rw [h.early he hf0 hc] at hd; cases hd
        early := fun _ hf => nomatch hf
        drn := fun _ _ => rfl }
  | finalE hp hc =>
    exact { h with
      fin := h.fin_of rfl rfl rfl fun _ => nofun
      drop := nofun
      early := nofun
      drn := nofun }
  | closing =>
    exact { h with
      fin := h.fin_of rfl rfl rfl fun _ => nofun
      early := fun _ _ hc => absurd rfl hc
      drn := fun _ => nofun }

theorem CSteps.preserves {P : Core → Prop} (hstep : ∀ {a b}, P a → CStep a b → P b) {a b : Core} (h : P a)
    (st : CSteps a b) : P b := by
  induction st with
  | refl => exact h
  | tail _ s1 ih => exact hstep ih s1

theorem cinv_csteps {a b : Core} (h : CInv a) (st : CSteps a b) : CInv b := st.preserves cinv_cstep h

theorem frozen_cstep {a b : Core} (hn : a.ts ≠ .reachable) (st : CStep a b) : b.ids = a.ids ∧ b.ts ≠ .reachable := by
  cases st with
  | hdrA | drop => exact ⟨rfl, hn⟩
  | accept p hp hr => exact absurd hr hn
  | finalG | finalE | closing => exact ⟨rfl, by simp⟩

theorem frozen_csteps {a b : Core} (hn : a.ts ≠ .reachable) (st : CSteps a b) : b.ids = a.ids ∧ b.ts ≠ .reachable :=
  st.preserves (P := fun c => c.ids = a.ids ∧ c.ts ≠ .reachable)
    (fun h s1 => (frozen_cstep h.2 s1).imp_left (·.trans h.1)) ⟨rfl, hn⟩

end GrpcProofs.Lemmas.ServerDrain
