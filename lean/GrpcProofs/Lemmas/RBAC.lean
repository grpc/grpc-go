import GrpcModel.Model.RBAC
namespace GrpcProofs.Lemmas.RBAC
open GrpcModel.RBAC

theorem hasSub_iff (sub : Str) : ∀ s : Str, hasSub sub s = true ↔ sub <:+: s
  | [] => by simp [hasSub]
  | c :: t => by
    simp only [hasSub, Bool.or_eq_true, List.isPrefixOf_iff_prefix, hasSub_iff sub t, List.infix_cons_iff]

theorem permList_all_eq (r : Request) : (l : PermList) → l.all r = l.toList.all (Perm.eval r)
  | .nil => rfl
  | .cons p t => by cases h : p.eval r <;> simp [PermList.all, PermList.toList, h, permList_all_eq r t]

theorem permList_any_eq (r : Request) : (l : PermList) → l.any r = l.toList.any (Perm.eval r)
  | .nil => rfl
  | .cons p t => by cases h : p.eval r <;> simp [PermList.any, PermList.toList, h, permList_any_eq r t]

theorem prinList_all_eq (r : Request) (l : PrinList) : l.all r = l.toList.all (Prin.eval r) := by
  match l with
  | .nil => rfl
  | .cons p t => cases h : p.eval r <;> simp [PrinList.all, PrinList.toList, h, prinList_all_eq r t]

theorem prinList_any_eq (r : Request) : (l : PrinList) → l.any r = l.toList.any (Prin.eval r)
  | .nil => rfl
  | .cons p t => by cases h : p.eval r <;> simp [PrinList.any, PrinList.toList, h, prinList_any_eq r t]

theorem permList_toList_ofList (l : List Perm) : (PermList.ofList l).toList = l := by
  induction l with
  | nil => rfl
  | cons p t ih => simp [PermList.ofList, PermList.toList, ih]

theorem prinList_toList_ofList (l : List Prin) : (PrinList.ofList l).toList = l := by
  induction l with
  | nil => rfl
  | cons p t ih => simp [PrinList.ofList, PrinList.toList, ih]

theorem policy_matches_eq_spec (r : Request) (p : Policy) : p.matches r = Spec.policyMatches r p := by
  simp [Policy.matches, Spec.policyMatches, permList_any_eq, prinList_any_eq]

theorem findMatch_eq_spec (r : Request) (e : Engine) : e.findMatch r = e.policies.any (Spec.policyMatches r) := by
  unfold Engine.findMatch
  congr 1
  funext p
  exact policy_matches_eq_spec r p

theorem engineRejects_eq (r : Request) (e : Engine) :
    Spec.engineRejects r e =
      match e.action with
      | .allow => !e.findMatch r
      | .deny => e.findMatch r
      | .log => false := by
  rw [Spec.engineRejects, ← findMatch_eq_spec]; rfl

theorem chainLoop_eq_spec (r : Request) (c : Chain) : chainLoop r c = Spec.decision c r := by
  induction c with
  | nil => simp [chainLoop, Spec.decision, Spec.allowed]
  | cons e t ih =>
    simp only [chainLoop, Spec.decision, Spec.allowed, List.any_cons, engineRejects_eq]
    simp only [Spec.decision, Spec.allowed] at ih
    cases ha : e.action <;> cases hm : e.findMatch r <;> simp [ih]

theorem isAuthorized_eq (c : Chain) (r : Request) :
    isAuthorized c r = if r.wellFormed then Spec.decision c r else .internal := by
  rw [isAuthorized, chainLoop_eq_spec]
  cases r.wellFormed <;> rfl

end GrpcProofs.Lemmas.RBAC
