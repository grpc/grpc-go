import GrpcModel.Model.RLSCache
import GrpcProofs.Lemmas.Basic
/-! The data cache of C41 (model: GrpcModel/Model/RLSCache.lean).  `WF`: the LRU list holds the keys of the entries, once
    each, and `currentSize` is the sum of their sizes.  The loop of resize is followed forwards: after `j` rounds the
    cache is `evictPrefix dc j` (`delete_evictPrefix`), and most of its `LoopSpec` is read off that one equation.
    `run_wf` and `resizeLoop_spec` are what C41 reads. -/
namespace GrpcProofs.Lemmas.RLSCache
open GrpcModel.RLSCache Basic

def sizeAt (en : Nat → Option Entry) (k : Nat) : Int := ((en k).map (·.size)).getD 0

def sumOver (f : Nat → Int) (l : List Nat) : Int := (l.map f).sum

theorem sumSizes_eq (dc : DC) : sumSizes dc = sumOver (sizeAt dc.entries) dc.lru := rfl

theorem sumOver_cons (f : Nat → Int) (a : Nat) (l : List Nat) : sumOver f (a :: l) = f a + sumOver f l := by
  simp [sumOver]

theorem sumOver_append (f : Nat → Int) (l m : List Nat) : sumOver f (l ++ m) = sumOver f l + sumOver f m := by
  simp [sumOver]

theorem sumOver_congr (f g : Nat → Int) (l : List Nat) (h : ∀ k ∈ l, f k = g k) : sumOver f l = sumOver g l :=
  congrArg List.sum (List.map_congr_left h)

theorem sumOver_erase (f : Nat → Int) (l : List Nat) (k : Nat) (hk : k ∈ l) :
    sumOver f (l.erase k) = sumOver f l - f k := by
  induction l with
  | nil => cases hk
  | cons a t ih =>
    by_cases e : a = k
    · subst e; simp [sumOver_cons]; omega
    · have hk' : k ∈ t := by
        rcases List.mem_cons.mp hk with h | h
        · exact absurd h.symm e
        · exact h
      have : (a :: t).erase k = a :: t.erase k := by simp [e]
      rw [this, sumOver_cons, sumOver_cons, ih hk']; omega

theorem sumOver_setE (en : Nat → Option Entry) (key : Nat) (v : Option Entry) (l : List Nat) (h : key ∉ l) :
    sumOver (sizeAt (setE en key v)) l = sumOver (sizeAt en) l := by
  apply sumOver_congr
  intro k hk
  have : k ≠ key := fun e => h (e ▸ hk)
  simp [sizeAt, setE, this]

structure WF (dc : DC) : Prop where
  nodup : dc.lru.Nodup
  keys  : ∀ k, (dc.entries k).isSome ↔ k ∈ dc.lru
  size  : dc.currentSize = sumSizes dc

theorem WF.frame {dc dc' : DC} (h : WF dc) (hl : dc'.lru = dc.lru) (he : dc'.entries = dc.entries)
    (hc : dc'.currentSize = dc.currentSize) : WF dc' := by
  refine ⟨hl ▸ h.nodup, fun k => by rw [he, hl]; exact h.keys k, ?_⟩
  rw [hc, h.size, sumSizes_eq, sumSizes_eq, he, hl]

theorem wf_new (n : Int) : WF (newDataCache n) := by
  constructor <;> simp [newDataCache, sumSizes]

theorem delete_wf {dc : DC} {key : Nat} {e : Entry} (h : WF dc) (he : dc.entries key = some e) :
    WF (deleteAndCleanup dc key e) := by
  have hk : key ∈ dc.lru := (h.keys key).mp (by simp [he])
  refine ⟨h.nodup.erase key, ?_, ?_⟩
  · intro k
    simp only [deleteAndCleanup, setE]
    rw [h.nodup.mem_erase_iff]
    by_cases c : k = key
    · simp [c]
    · simp [c, h.keys k]
  · simp only [deleteAndCleanup, sumSizes_eq]
    rw [h.size, sumSizes_eq]
    rw [sumOver_setE _ _ _ _ (fun hm => (h.nodup.mem_erase_iff.mp hm).1 rfl), sumOver_erase _ _ _ hk]
    simp [sizeAt, he]

/-- what one run of resize's loop does, in terms of the LRU order it started from: `k` entries are evicted;
    `minimal`: after fewer evictions the cache was still too large; `same`: the loop leaves `maxSize` and `shutdown`
    to its caller -/
structure LoopSpec (now : Nat) (size : Int) (dc r : DC) (k : Nat) : Prop where
  wf      : WF r
  kle     : k ≤ dc.lru.length
  lru     : r.lru = dc.lru.drop k
  cur     : r.currentSize = dc.currentSize - sumOver (sizeAt dc.entries) (dc.lru.take k)
  gone    : ∀ x ∈ dc.lru.take k, (∃ e, dc.entries x = some e ∧ e.earliestEvict ≤ now) ∧ r.entries x = none
  kept    : ∀ x, x ∉ dc.lru.take k → r.entries x = dc.entries x
  stop    : r.currentSize ≤ size ∨ r.lru = [] ∨
              ∃ h e, r.lru.head? = some h ∧ r.entries h = some e ∧ e.earliestEvict > now
  minimal : ∀ j, j < k → dc.currentSize - sumOver (sizeAt dc.entries) (dc.lru.take j) > size
  same    : r.maxSize = dc.maxSize ∧ r.shutdown = dc.shutdown

def evictPrefix (dc : DC) (k : Nat) : DC :=
  { dc with lru := dc.lru.drop k,
            entries := fun x => if x ∈ dc.lru.take k then none else dc.entries x,
            currentSize := dc.currentSize - sumOver (sizeAt dc.entries) (dc.lru.take k) }

theorem evictPrefix_zero (dc : DC) : evictPrefix dc 0 = dc := by
  simp [evictPrefix, sumOver]

theorem evictPrefix_entries_some {dc : DC} {j x : Nat} {e : Entry} (he : (evictPrefix dc j).entries x = some e) :
    dc.entries x = some e := by
  simp only [evictPrefix] at he
  split at he
  · cases he
  · exact he

theorem delete_evictPrefix {dc : DC} {j key : Nat} {e : Entry} (hk : dc.lru[j]? = some key)
    (he : (evictPrefix dc j).entries key = some e) :
    deleteAndCleanup (evictPrefix dc j) key e = evictPrefix dc (j + 1) := by
  obtain ⟨hj, rfl⟩ := List.getElem?_eq_some_iff.mp hk
  simp only [deleteAndCleanup, evictPrefix, List.take_add_one, hk, sumOver_append]
  congr 1
  · have : sumOver (sizeAt dc.entries) [dc.lru[j]] = e.size := by
      simp [sumOver, sizeAt, evictPrefix_entries_some he]
    rw [Option.toList_some, this, Int.sub_sub]
  · rw [List.drop_eq_getElem_cons hj, List.erase_cons_head]
  · funext x
    simp only [setE, List.mem_append, Option.toList_some, List.mem_singleton]
    by_cases c : x = dc.lru[j] <;> simp [c]

theorem loopSpec_evictPrefix {now : Nat} {size : Int} {dc : DC} {k : Nat} (h : WF (evictPrefix dc k))
    (hk : k ≤ dc.lru.length)
    (hg : ∀ x ∈ dc.lru.take k, ∃ e, dc.entries x = some e ∧ e.earliestEvict ≤ now)
    (hm : ∀ j, j < k → (evictPrefix dc j).currentSize > size)
    (hs : (evictPrefix dc k).currentSize ≤ size ∨ (evictPrefix dc k).lru = [] ∨
          ∃ h e, (evictPrefix dc k).lru.head? = some h ∧ (evictPrefix dc k).entries h = some e ∧
            e.earliestEvict > now) :
    LoopSpec now size dc (evictPrefix dc k) k :=
  { wf := h, kle := hk, lru := rfl, cur := rfl, gone := fun x hx => ⟨hg x hx, if_pos hx⟩,
    kept := fun _ hx => if_neg hx, stop := hs, minimal := hm, same := ⟨rfl, rfl⟩ }

/-- the loop, started after `j` evictions each of which it would have made -/
theorem resizeLoop_evictPrefix (now : Nat) (size : Int) (dc : DC) (fuel j : Nat) (bc : Bool)
    (h : WF (evictPrefix dc j)) (hj : j ≤ dc.lru.length) (hl : dc.lru.length < fuel + j)
    (hg : ∀ x ∈ dc.lru.take j, ∃ e, dc.entries x = some e ∧ e.earliestEvict ≤ now)
    (hm : ∀ i, i < j → (evictPrefix dc i).currentSize > size) :
    ∃ k, LoopSpec now size dc (resizeLoop now size fuel (evictPrefix dc j) bc).1 k := by
  generalize hd : evictPrefix dc j = d at h ⊢
  -- each way out of the loop is a disjunct of `LoopSpec.stop`; a round that is made adds what it tested to `hg`, `hm`
  fun_induction resizeLoop now size fuel d bc generalizing j
  case case1 => omega                       -- out of fuel
  case case2 hn =>                          -- `lru` is empty
    subst hd; exact ⟨j, loopSpec_evictPrefix h hj hg hm (.inr (.inl (List.head?_eq_none_iff.mp hn)))⟩
  case case3 key hh hn =>                   -- the head of `lru` without an entry: `WF.keys` rules it out
    have := (h.keys key).mpr (List.mem_of_mem_head? hh)
    simp [hn] at this
  case case4 key hh e he hev =>             -- too recent to be evicted
    subst hd; exact ⟨j, loopSpec_evictPrefix h hj hg hm (.inr (.inr ⟨key, e, hh, he, hev⟩))⟩
  case case5 hc key hh e he hev _ ih =>     -- one more eviction
    subst hd
    have hk : dc.lru[j]? = some key := List.head?_drop ▸ hh
    refine ih (j + 1) (List.getElem?_eq_some_iff.mp hk).1 (by omega) (fun x hx => ?_) (fun i hi => ?_)
      (delete_evictPrefix hk he).symm (delete_wf h he)
    · rw [List.take_add_one, hk, List.mem_append, Option.toList_some, List.mem_singleton] at hx
      rcases hx with hx | rfl
      · exact hg x hx
      · exact ⟨e, evictPrefix_entries_some he, Nat.le_of_not_lt hev⟩
    · rcases Nat.lt_succ_iff_lt_or_eq.mp hi with hi | rfl
      · exact hm i hi
      · exact hc
  case case6 hc =>                          -- small enough
    subst hd; exact ⟨j, loopSpec_evictPrefix h hj hg hm (.inl (Int.not_lt.mp hc))⟩

theorem resizeLoop_spec (now : Nat) (size : Int) (fuel : Nat) (dc : DC) (bc : Bool) (h : WF dc)
    (hl : dc.lru.length < fuel) : ∃ k, LoopSpec now size dc (resizeLoop now size fuel dc bc).1 k := by
  have := resizeLoop_evictPrefix now size dc fuel 0 bc
  rw [evictPrefix_zero] at this
  exact this h (Nat.zero_le _) hl (fun x hx => by simp at hx) (fun i hi => by omega)

theorem resize_wf {dc : DC} (now : Nat) (n : Int) (h : WF dc) : WF (resize dc now n).1 := by
  unfold resize
  split
  · exact h
  · obtain ⟨k, sp⟩ := resizeLoop_spec now n (dc.lru.length + 1) dc false h (by omega)
    exact sp.wf.frame rfl rfl rfl

theorem evictExpired_wf {dc : DC} (now : Nat) (h : WF dc) : WF (evictExpired dc now).1 := by
  unfold evictExpired
  split
  · exact h
  · refine foldl_inv (P := fun acc : DC × Bool => WF acc.1) (fun acc k h => ?_) dc.lru h
    cases he : acc.1.entries k with
    | none => exact h
    | some e =>
      simp only []
      split
      · exact delete_wf h he
      · exact h

theorem addEntry_wf {dc : DC} (now key : Nat) (e : Entry) (h : WF dc) (hk : dc.entries key = none) :
    WF (addEntry dc now key e).1 := by
  unfold addEntry
  split
  · exact h
  · split
    · exact h
    · have hn : key ∉ dc.lru := fun hm => by have := (h.keys key).mpr hm; simp [hk] at this
      have w1 : WF { dc with entries := setE dc.entries key (some e), currentSize := dc.currentSize + e.size,
                             lru := dc.lru ++ [key] } := by
        refine ⟨?_, ?_, ?_⟩
        · exact nodup_snoc h.nodup hn
        · intro k
          simp only [setE, List.mem_append, List.mem_singleton]
          by_cases c : k = key
          · simp [c]
          · simp [c, h.keys k]
        · simp only [sumSizes_eq, sumOver_append]
          rw [h.size, sumSizes_eq]
          rw [sumOver_setE _ _ _ _ hn]
          simp [sumOver, sizeAt, setE]
      simp only []
      split
      · exact resize_wf now _ w1
      · exact w1

theorem getEntry_wf {dc : DC} (key : Nat) (h : WF dc) : WF (getEntry dc key).1 := by
  unfold getEntry
  split
  · exact h
  · cases he : dc.entries key with
    | none => exact h
    | some e =>
      simp only []
      have hk : key ∈ dc.lru := (h.keys key).mp (by simp [he])
      refine ⟨?_, ?_, ?_⟩
      · exact nodup_snoc (h.nodup.erase key) fun ha => (h.nodup.mem_erase_iff.mp ha).1 rfl
      · intro k
        simp only [List.mem_append, List.mem_singleton, h.nodup.mem_erase_iff]
        rw [h.keys k]
        by_cases c : k = key
        · simp [c, hk]
        · simp [c]
      · simp only [sumSizes_eq, sumOver_append]
        rw [h.size, sumSizes_eq, sumOver_erase _ _ _ hk]
        simp [sumOver]

theorem updateEntrySize_wf {dc : DC} (key : Nat) (n : Int) (h : WF dc) : WF (updateEntrySize dc key n) := by
  unfold updateEntrySize
  cases he : dc.entries key with
  | none => exact h
  | some e =>
    simp only []
    have hk : key ∈ dc.lru := (h.keys key).mp (by simp [he])
    refine ⟨h.nodup, ?_, ?_⟩
    · intro k
      simp only [setE]
      by_cases c : k = key
      · simp [c, hk]
      · simp [c, h.keys k]
    · simp only [sumSizes_eq]
      rw [h.size, sumSizes_eq]
      -- split both sums at `key`
      have s1 := sumOver_erase (sizeAt dc.entries) dc.lru key hk
      have s2 := sumOver_erase (sizeAt (setE dc.entries key (some { e with size := n }))) dc.lru key hk
      have s3 := sumOver_setE dc.entries key (some { e with size := n }) (dc.lru.erase key)
        (fun hm => (h.nodup.mem_erase_iff.mp hm).1 rfl)
      have a1 : sizeAt dc.entries key = e.size := by simp [sizeAt, he]
      have a2 : sizeAt (setE dc.entries key (some { e with size := n })) key = n := by simp [sizeAt, setE]
      omega

theorem removeEntry_wf {dc : DC} (key : Nat) (h : WF dc) : WF (removeEntry dc key) := by
  unfold removeEntry
  cases he : dc.entries key with
  | none => exact h
  | some e => exact delete_wf h he

theorem resetBackoff_wf {dc : DC} (h : WF dc) : WF (resetBackoff dc).1 := by
  unfold resetBackoff
  split
  · exact h
  · refine ⟨h.nodup, ?_, ?_⟩
    · intro k; simp only []; rw [← h.keys k]; cases dc.entries k <;> simp
    · simp only [sumSizes_eq]
      rw [h.size, sumSizes_eq]
      apply sumOver_congr
      intro k _
      simp only [sizeAt]
      cases dc.entries k with
      | none => rfl
      | some e => simp only [Option.map]; split <;> rfl

theorem stop_wf {dc : DC} (h : WF dc) : WF (stop dc) := by
  unfold stop
  suffices hd : WF (dc.lru.foldl (fun acc key => match acc.entries key with
      | some e => deleteAndCleanup acc key e
      | none => acc) dc) from hd.frame rfl rfl rfl
  refine foldl_inv (fun acc k h => ?_) dc.lru h
  cases he : acc.entries k with
  | none => exact h
  | some e => exact delete_wf h he

/-- the operations of the cache, with the clock reading they see -/
inductive COp
  | add (now key : Nat) (e : Entry)
  | get (key : Nat)
  | resize (now : Nat) (n : Int)
  | evict (now : Nat)
  | upd (key : Nat) (n : Int)
  | rm (key : Nat)
  | rbo
  | stop

def cstep (dc : DC) : COp → DC
  | .add now key e => (addEntry dc now key e).1
  | .get key => (getEntry dc key).1
  | .resize now n => (resize dc now n).1
  | .evict now => (evictExpired dc now).1
  | .upd key n => updateEntrySize dc key n
  | .rm key => removeEntry dc key
  | .rbo => (resetBackoff dc).1
  | .stop => stop dc

/-- the caller contract: addEntry is only called for keys that are not in the cache -/
def okOp (dc : DC) : COp → Prop
  | .add _ key _ => dc.entries key = none
  | _ => True

def runOK : DC → List COp → Prop
  | _, [] => True
  | dc, o :: t => okOp dc o ∧ runOK (cstep dc o) t

theorem cstep_wf {dc : DC} (o : COp) (h : WF dc) (ok : okOp dc o) : WF (cstep dc o) := by
  cases o with
  | add now key e => exact addEntry_wf now key e h ok
  | get key => exact getEntry_wf key h
  | resize now n => exact resize_wf now n h
  | evict now => exact evictExpired_wf now h
  | upd key n => exact updateEntrySize_wf key n h
  | rm key => exact removeEntry_wf key h
  | rbo => exact resetBackoff_wf h
  | stop => exact stop_wf h

theorem run_wf (ops : List COp) {dc : DC} (h : WF dc) (ok : runOK dc ops) : WF (ops.foldl cstep dc) := by
  induction ops generalizing dc with
  | nil => exact h
  | cons o t ih => exact ih (cstep_wf o h ok.1) ok.2

end GrpcProofs.Lemmas.RLSCache
