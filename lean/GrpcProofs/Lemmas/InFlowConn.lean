import GrpcModel.Model.InFlowConn
import GrpcProofs.Lemmas.InFlow
/-! C04, all streams of a transport together with `initialWindowSize`: `CInv` is the stream invariant `FInv` of every open stream,
lifted by `cstep_inv` from `step_finv`, `step_bdp` and `finv_init`. -/
namespace GrpcProofs.Lemmas.InFlowConn
open GrpcModel.InFlow GrpcModel.InFlowConn GrpcModel.Generated GrpcProofs.Lemmas.InFlow

/-- every open stream satisfies the per-stream invariant and its configured window is the connection's
    current initial window -/
structure CInv (c : Conn) : Prop where
  iwsMax : c.iws ≤ 2147483647
  each : ∀ e ∈ c.streams, FInv false e.2 ∧ e.2.g.cfg = c.iws

theorem cinv_init (l : Nat) (h : l ≤ 2147483647) : CInv (Conn.init l) :=
  { iwsMax := h, each := nofun }

theorem next_cfg (g : Ghost) (op : Op) (out : Out) (h : isBdp op = false) : (g.next op out).cfg = g.cfg := by
  cases op with
  | data size pad => cases out <;> cases pad <;> rfl
  | pad p =>
    cases out with
    | wu w =>
      show (match g.inflight with | some (s, p) => _ | none => g).cfg = g.cfg
      split <;> rfl
    | _ => rfl
  | req n | read k => cases out <;> rfl
  | bdp n => cases h

theorem step_cfg (s : State) (op : Op) (h : isBdp op = false) : (step s op).1.g.cfg = s.g.cfg := by
  rw [step_eq]
  exact next_cfg s.g op _ h

theorem bdp_legal (st : State) (n : Nat) (hi : FInv false st) (h1 : st.g.cfg ≤ n) (h2 : n ≤ fcBdpLimit) :
    st.g.legal false st.f.delta (.bdp n) = true := by
  simp only [Ghost.legal, hi.alive, Bool.not_false, Bool.true_and, Bool.and_eq_true, decide_eq_true_eq,
    Bool.true_or]
  exact ⟨⟨h1, h2⟩, trivial⟩

theorem stepEntry_some {id : Nat} {op : Op} {e e' : Nat × State} (h : stepEntry id op e = some e') :
    e' = e ∨ (e.1 = id ∧ (step e.2 op).2 ≠ .rejected ∧ e' = (e.1, (step e.2 op).1)) := by
  unfold stepEntry at h
  split at h
  · next hid =>
    split at h
    · cases h
    · next hrej => exact .inr ⟨hid, hrej, (Option.some.inj h).symm⟩
  · exact .inl (Option.some.inj h).symm

theorem cstep_inv (c : Conn) (op : COp) (hi : CInv c) (hl : clegal c op = true) : CInv (cstep c op) := by
  cases op with
  | openS id =>
    simp only [cstep]
    split
    · exact hi
    · refine { iwsMax := hi.iwsMax, each := ?_ }
      intro e hmem
      simp only [List.mem_append, List.mem_singleton] at hmem
      rcases hmem with h | h
      · exact hi.each e h
      · subst h; exact ⟨finv_init false c.iws hi.iwsMax, rfl⟩
  | sop id op =>
    simp only [clegal, Bool.and_eq_true, Bool.not_eq_true', List.all_eq_true, Bool.or_eq_true,
      bne_iff_ne, ne_eq] at hl
    obtain ⟨⟨hnb, _⟩, hall⟩ := hl
    refine { iwsMax := hi.iwsMax, each := ?_ }
    intro e' hmem
    simp only [cstep, List.mem_filterMap] at hmem
    obtain ⟨e, hin, hse⟩ := hmem
    obtain ⟨hf, hc⟩ := hi.each e hin
    rcases stepEntry_some hse with rfl | ⟨hid, hrej, rfl⟩
    · exact ⟨hf, hc⟩
    · exact ⟨step_finv false e.2 op hf ((hall e hin).resolve_left (absurd hid)) hrej, (step_cfg _ _ hnb).trans hc⟩
  | bdp n =>
    simp only [clegal, Bool.and_eq_true, decide_eq_true_eq] at hl
    obtain ⟨hge, hle⟩ := hl
    have hle' : n ≤ 16777216 := by rw [c_bdp] at hle; exact hle
    refine { iwsMax := by simp only [cstep]; omega, each := ?_ }
    intro e' hmem
    simp only [cstep, List.mem_map] at hmem
    obtain ⟨e, hin, hse⟩ := hmem
    subst hse
    obtain ⟨hf, hc⟩ := hi.each e hin
    exact ⟨step_bdp false e.2 n hf (bdp_legal e.2 n hf (hc ▸ hge) hle), rfl⟩
  | closeS id =>
    refine { iwsMax := hi.iwsMax, each := ?_ }
    intro e hmem
    simp only [cstep, List.mem_filter] at hmem
    exact hi.each e hmem.1

theorem crun_inv (c : Conn) (ops : List COp) (hi : CInv c) (hl : clegalRun c ops = true) :
    CInv (crun c ops) := by
  induction ops generalizing c with
  | nil => exact hi
  | cons o os ih =>
    simp only [clegalRun, Bool.and_eq_true] at hl
    exact ih _ (cstep_inv c o hi hl.1) hl.2

theorem crun_append (c : Conn) (a b : List COp) : crun c (a ++ b) = crun (crun c a) b := by
  induction a generalizing c with
  | nil => rfl
  | cons o os ih => simp only [List.cons_append, crun, ih]

theorem clegalRun_append (c : Conn) (a b : List COp) :
    clegalRun c (a ++ b) = (clegalRun c a && clegalRun (crun c a) b) := by
  induction a generalizing c with
  | nil => simp [clegalRun, crun]
  | cons o os ih => simp only [List.cons_append, clegalRun, crun, ih, Bool.and_assoc]

end GrpcProofs.Lemmas.InFlowConn
