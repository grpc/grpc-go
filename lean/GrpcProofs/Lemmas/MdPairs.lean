/-
User metadata as it goes on the wire: the flat list of (key, raw value) pairs `sentPairs`, one header field each, with
reserved names left out. What a receiver finds under a key is stated on that list (`valsFor`), for the client's loop
(Lemmas/Status.lean) as for the server's (Lemmas/MdWire.lean), and read back in terms of the metadata the sender was
given (`valsAll`).
-/
import GrpcModel.Model.MdWire
namespace GrpcProofs.Lemmas.MdWire
open GrpcModel.Headers GrpcModel.MdWire GrpcModel
open GrpcModel.Base64 (Bytes)

/-- The (key, raw value) pairs that leave the client as user metadata fields, in wire order. -/
def sentPairs (md : MD) (added : List (Bytes × Bytes)) : List (Bytes × Bytes) :=
  (md.flatMap fun kv => if isReservedHeader kv.1 then [] else kv.2.map fun v => (kv.1, v)) ++
  (added.flatMap fun p => if isReservedHeader (lower p.1) then [] else [(lower p.1, p.2)])

def encPair (p : Bytes × Bytes) : Field := (p.1, encodeMetadataHeader p.1 p.2)

theorem userFields_eq (md : MD) (added : List (Bytes × Bytes)) :
    userFields md added = (sentPairs md added).map encPair := by
  unfold userFields sentPairs fieldsFromMD
  rw [List.map_append]
  congr 1
  · induction md with
    | nil => rfl
    | cons kv rest ih =>
      simp only [List.flatMap_cons, List.map_append, ih]
      congr 1
      split <;> simp [encPair, List.map_map, Function.comp_def]
  · induction added with
    | nil => rfl
    | cons p rest ih =>
      simp only [List.flatMap_cons, List.map_append, ih]
      congr 1
      split <;> simp [encPair]

/-- What the server writes (headers and trailers go through `appendHeaderFieldsFromMD`). -/
theorem fieldsFromMD_eq (md : MD) : fieldsFromMD md = (sentPairs md []).map encPair :=
  (List.append_nil _).symm.trans (userFields_eq md [])

theorem mem_sentPairs {md : MD} {added : List (Bytes × Bytes)} {p : Bytes × Bytes} (hp : p ∈ sentPairs md added) :
    isReservedHeader p.1 = false ∧ ((∃ vs, (p.1, vs) ∈ md ∧ p.2 ∈ vs) ∨ ∃ q ∈ added, p = (lower q.1, q.2)) := by
  simp only [sentPairs, List.mem_append, List.mem_flatMap] at hp
  rcases hp with ⟨kv, hkv, h⟩ | ⟨q, hq, h⟩ <;> split at h
  · cases h
  · next hr => obtain ⟨v, hv, rfl⟩ := List.mem_map.mp h; exact ⟨by simpa using hr, .inl ⟨kv.2, hkv, hv⟩⟩
  · cases h
  · next hr => cases List.mem_singleton.mp h; exact ⟨by simpa using hr, .inr ⟨q, hq, rfl⟩⟩

theorem sentPairs_nonreserved (md : MD) (added : List (Bytes × Bytes)) :
    ∀ p ∈ sentPairs md added, isReservedHeader p.1 = false :=
  fun _ hp => (mem_sentPairs hp).1

def valsFor (ps : List (Bytes × Bytes)) (key : Bytes) : List Bytes := (ps.filter fun p => p.1 = key).map (·.2)

theorem valsFor_cons (p : Bytes × Bytes) (t : List (Bytes × Bytes)) (key : Bytes) :
    valsFor (p :: t) key = (if p.1 = key then [p.2] else []) ++ valsFor t key := by
  by_cases e : p.1 = key <;> simp [valsFor, e]

theorem valsFor_nil_of_absent (ps : List (Bytes × Bytes)) (key : Bytes) (h : ∀ p ∈ ps, p.1 ≠ key) : valsFor ps key = [] := by
  unfold valsFor
  rw [List.map_eq_nil_iff, List.filter_eq_nil_iff]
  intro p hp
  simp [h p hp]

/-- All values under `key` of an MD that may repeat a key; for a proper map it is `mdGet` (`valsAll_eq_mdGet`). -/
def valsAll (md : MD) (key : Bytes) : List Bytes := (md.filter fun kv => kv.1 = key).flatMap (·.2)

theorem valsAll_cons (kv : Bytes × List Bytes) (md : MD) (key : Bytes) :
    valsAll (kv :: md) key = (if kv.1 = key then kv.2 else []) ++ valsAll md key := by
  by_cases e : kv.1 = key <;> simp [valsAll, e]

theorem valsAll_of_absent {md : MD} {key : Bytes} (h : ∀ kv ∈ md, kv.1 ≠ key) : valsAll md key = [] := by
  rw [valsAll, List.filter_eq_nil_iff.2 fun kv hkv => by simpa using h kv hkv]; rfl

theorem valsFor_sentPairs (md : MD) (added : List (Bytes × Bytes)) (key : Bytes) (hk : isReservedHeader key = false) :
    valsFor (sentPairs md added) key = valsAll md key ++ ((added.filter fun p => lower p.1 = key).map (·.2)) := by
  unfold valsFor sentPairs valsAll
  rw [List.filter_append, List.map_append]
  congr 1
  · induction md with
    | nil => rfl
    | cons kv rest ih =>
      simp only [List.flatMap_cons, List.filter_append, List.map_append, ih, List.filter_cons]
      by_cases e : kv.1 = key
      · simp [e, hk, List.filter_map, Function.comp_def]
      · cases hr : isReservedHeader kv.1 <;> simp [e, List.filter_map, Function.comp_def]
  · induction added with
    | nil => rfl
    | cons p rest ih =>
      simp only [List.flatMap_cons, List.filter_append, List.map_append, ih, List.filter_cons]
      by_cases e : lower p.1 = key
      · simp [e, hk]
      · cases hr : isReservedHeader (lower p.1) <;> simp [e]

theorem valsFor_sentPairs_nil (md : MD) {key : Bytes} (hk : isReservedHeader key = false) :
    valsFor (sentPairs md []) key = valsAll md key := by
  rw [valsFor_sentPairs md [] key hk, List.filter_nil, List.map_nil, List.append_nil]

end GrpcProofs.Lemmas.MdWire
