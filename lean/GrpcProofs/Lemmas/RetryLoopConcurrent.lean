/-
SendMsg and RecvMsg used concurrently (`St.opSendRecv`, C18): the receiver runs — and may replace the
attempt — while the sender sits between its transport write and its return into `withRetry`; the replay
invariant survives because the sender re-runs its op when it finds `a != cs.attempt`.
-/
import GrpcProofs.Lemmas.RetryLoopReplay
namespace GrpcProofs.Lemmas.RetryLoop
open GrpcModel.Retry GrpcModel.RetryLoop GrpcProofs.Lemmas.Retry

/-- two steps in a row, the second from whatever the first leaves pending -/
theorem RInvAfter.then {st s1 s2 : St} {o1 o2 o : Res} {pb pc : List Wire} (h1 : RInvAfter st s1 o1 pb pc)
    (h2 : ∀ pc', RInv s1 pb pc' → RInvAfter s1 s2 o2 pb pc') (ho1 : o1 = .outOfFuel → o = .outOfFuel)
    (ho2 : o2 = .outOfFuel → o = .outOfFuel) : RInvAfter st s2 o pb pc := by
  cases h1 with
  | outOfFuel hf => exact .outOfFuel (ho1 hf)
  | same hi hl =>
    cases h2 pc hi with
    | outOfFuel hf => exact .outOfFuel (ho2 hf)
    | same hi2 hl2 => exact .same hi2 (hl2.trans hl)
    | fresh hi2 hl2 => exact .fresh hi2 (by omega)
  | fresh hi hl =>
    cases h2 pb hi with
    | outOfFuel hf => exact .outOfFuel (ho2 hf)
    | same hi2 hl2 | fresh hi2 hl2 => exact .fresh hi2 (by omega)

theorem opRecv_rinv_amb (fuel : Nat) (st : St) (hst : st.started = true) (pb pc : List Wire) (h : RInv st pb pc) :
    RInvAfter st (st.opRecv fuel).1 (st.opRecv fuel).2.1 pb pc := by
  simp only [St.opRecv]
  exact (withRetry_rinv fuel st .recv hst pb pc h).then (o2 := .ok)
    (fun pc' hi => have ⟨hi', hl⟩ := (endRecv_ended _ _).rinv pb pc' hi; .same hi' hl) id nofun

theorem opRecvW_rinv_amb (fuel : Nat) (st : St) (hst : st.started = true) (pb pc : List Wire) (h : RInv st pb pc) :
    RInvAfter st (st.opRecvW fuel).1 (st.opRecvW fuel).2.1 pb pc ∧ (st.opRecvW fuel).1.started = true := by
  have h1 := opRecv_rinv_amb fuel st hst pb pc h
  have hs1 := (opRecv_reach fuel st).frame.started.trans hst
  refine ⟨?_, (opRecvW_reach fuel st).frame.started.trans hst⟩
  rcases opRecvW_cases fuel st with ⟨e1, e2⟩ | ⟨n, hn, e1, e2⟩
  · rw [e1, e2]; exact h1
  · rw [e1]
    exact h1.then (fun pc' hi => opRecv_rinv_amb fuel _ hs1 pb pc' hi) (by rw [hn]; exact nofun) e2.mpr

theorem endSend_started (st : St) (res : Res) : (st.endSend res).started = st.started :=
  (endSend_ended st res).reach.frame.started

theorem opRecvW_good (fuel : Nat) (st : St) (h : Good st) :
    (st.opRecvW fuel).2.1 = .outOfFuel ∨ Good (st.opRecvW fuel).1 := by
  obtain ⟨h1, hs⟩ := opRecvW_rinv_amb fuel st h.started [] [] h.rinv
  exact h1.good hs

/-- the sender after it re-acquired the lock, given what the receiver left behind -/
theorem resumeSend_good (fuel : Nat) (s0 s1 r1 : St) (size : Nat) (out : Res)
    (hamb : RInvAfter s1 r1 out (s0.pendOf (.send size)) []) (hstr : r1.started = true)
    (hseqr : r1.seq = s0.seq) (hcsr : r1.clientStreams = s0.clientStreams) :
    out = .outOfFuel ∨ (r1.resumeSend fuel s1.curIdx size).2.1 = .outOfFuel ∨ Good (r1.resumeSend fuel s1.curIdx size).1 := by
  unfold St.resumeSend
  cases hamb with
  | outOfFuel hf => exact Or.inl hf
  | same hi hl =>
    right; right
    have hidx : ¬ (r1.curIdx ≠ s1.curIdx) := by simp only [St.curIdx, ne_eq, not_not]; exact hl
    simp only [hidx, if_false]
    exact ⟨(onSuccess_rinv s0 r1 (.send size) [] [] hseqr hcsr (by rw [List.append_nil]; exact hi)).1,
      by rw [(onSuccess_reach _ _).frame.started]; exact hstr⟩
  | fresh hi hl =>
    right
    have hidx : r1.curIdx ≠ s1.curIdx := by simp only [St.curIdx, ne_eq]; omega
    rw [if_pos hidx]
    have hp : r1.pendOf (.send size) = s0.pendOf (.send size) := pendOf_congr s0 _ _ hseqr hcsr
    rcases withRetry_good fuel r1 (.send size) hstr (by rw [hp]; exact hi) with hf | hg
    · exact Or.inl hf
    · exact Or.inr hg

theorem recvAgain_good (fuel : Nat) (s4 : St) (rR : Res) (h : Good s4) :
    (s4.recvAgain fuel rR).2.1 = .outOfFuel ∨ Good (s4.recvAgain fuel rR).1 := by
  unfold St.recvAgain
  split_ifs
  · exact opRecvW_good fuel s4 h
  · exact Or.inr h

theorem opSendRecvWindow_good (fuel : Nat) (s0 : St) (size : Nat)
    (hi0 : RInv s0 (s0.pendOf (.send size)) (s0.pendOf (.send size))) (hs0 : s0.started = true) :
    (s0.opSendRecvWindow fuel size).2.1 = .outOfFuel ∨ (s0.opSendRecvWindow fuel size).2.2.1 = .outOfFuel ∨
    Good (s0.opSendRecvWindow fuel size).1 := by
  obtain ⟨hsame, hok, _⟩ := applyOp_rinv (st1 := (s0.applyOp (.send size)).1) (raw := (s0.applyOp (.send size)).2.1)
    (ev := (s0.applyOp (.send size)).2.2) rfl [] [] (by simpa using hi0)
  have hi1 := settle_rinv _ _ _ (show RInv _ (s0.pendOf (.send size)) [] by simpa using hok)
  have hst1 : (s0.applyOp (.send size)).1.settle.started = true := by
    rw [(Move.settle _).frame.started, hsame.started]; exact hs0
  obtain ⟨hamb, hstr⟩ := opRecvW_rinv_amb fuel _ hst1 _ [] hi1
  have hfr := (opRecvW_reach fuel (s0.applyOp (.send size)).1.settle).frame
  have hseqr : ((s0.applyOp (.send size)).1.settle.opRecvW fuel).1.seq = s0.seq := by
    rw [hfr.seq, (Move.settle _).frame.seq, hsame.seq]
  have hcsr : ((s0.applyOp (.send size)).1.settle.opRecvW fuel).1.clientStreams = s0.clientStreams := by
    rw [hfr.cstr, (Move.settle _).frame.cstr, hsame.cstr]
  have hres := resumeSend_good fuel s0 (s0.applyOp (.send size)).1.settle _ size _ hamb hstr hseqr hcsr
  simp only [St.opSendRecvWindow]
  rcases hres with hf | hf | hg
  · exact Or.inr (Or.inl (by rw [hf]; rfl))
  · exact Or.inl hf
  · rcases recvAgain_good fuel _ ((s0.applyOp (.send size)).1.settle.opRecvW fuel).2.1 ((endSend_ended _ _).good hg) with hf2 | hg2
    · exact Or.inr (Or.inl hf2)
    · exact Or.inr (Or.inr hg2)

theorem opSendRecv_good (fuel : Nat) (st : St) (size : Nat) (h : Good st) :
    (st.opSendRecv fuel size).2.1 = .outOfFuel ∨ (st.opSendRecv fuel size).2.2.1 = .outOfFuel ∨
    Good (st.opSendRecv fuel size).1 := by
  by_cases hseq : (st.sentLast ∨ !st.clientStreams ∨ (st.beginSend size).cs.committed ∨ (st.beginSend size).curDead)
  · -- nothing interleaves: SendMsg, then RecvMsg
    simp only [St.opSendRecv, hseq, if_true]
    obtain ⟨e1, e2⟩ := opSendW_opSend fuel st size
    rcases opSend_good fuel st size h with hf | hg
    · exact Or.inl (e2.mpr hf)
    · rw [← e1] at hg
      rcases opRecvW_good fuel _ hg with hf | hg2
      · exact Or.inr (Or.inl hf)
      · exact Or.inr (Or.inr hg2)
  · simp only [St.opSendRecv, hseq, if_false]
    obtain ⟨hi0, hs0⟩ := beginSend_rinv st size h
    exact opSendRecvWindow_good fuel _ size hi0 hs0

end GrpcProofs.Lemmas.RetryLoop
