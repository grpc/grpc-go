/-
For C53 (mem.Buffer reference counting; model in GrpcModel/Model/MemBuffer.lean). The invariant `InvO` is
read entry by entry (`Ok`) and carried from one heap to the next by a single lemma (`inv_transfer`); the
changes a primitive makes to the heap of structs (`Move`) are instances of it. Every exported operation is
a composition (`Prims`, `prims_step`) of such moves, which leave the memories alone, and of changes to
memories, which leave the heap alone. The invariant and the constancy of memory bytes (`Keep`) are each one
induction over that relation.
-/
import GrpcModel.Model.MemBuffer
import GrpcProofs.Lemmas.Basic
namespace GrpcProofs.Lemmas.MemBuffer
open GrpcModel.MemBuffer

def InvO (objs : List Obj) : Prop :=
  (∀ (i : Nat) (o : Obj), objs[i]? = some o →
     o.root < objs.length ∧ o.refs = o.own + o.kids.length ∧
     (o.root = i → o.puts = if o.refs = 0 then 1 else 0) ∧
     (o.root ≠ i → o.kids = [] ∧ o.puts = 0 ∧
        ∃ r : Obj, objs[o.root]? = some r ∧ r.root = o.root ∧ (0 < o.refs → i ∈ r.kids))) ∧
  (∀ (r : Nat) (ro : Obj), objs[r]? = some ro → ro.kids.Nodup ∧
     ∀ k ∈ ro.kids, k ≠ r ∧ ∃ ko : Obj, objs[k]? = some ko ∧ ko.root = r ∧ 0 < ko.refs)

theorem inv_nil : InvO [] := by
  constructor <;> intro i o h <;> simp at h

theorem getElem?_append_singleton {α} {objs : List α} {x : α} {j : Nat} :
    (objs ++ [x])[j]? = if j = objs.length then some x else objs[j]? := by
  by_cases hj : j = objs.length
  · rw [if_pos hj, hj, List.getElem?_concat_length]
  · rw [if_neg hj, List.getElem?_append]
    split
    · rfl
    · rw [List.getElem?_eq_none (by simp; omega), List.getElem?_eq_none (by omega)]

/-- `k` is a live view of root `r` in the heap `objs` (`C53.LiveView` is this on a state's heap). -/
abbrev LiveKid (objs : List Obj) (r k : Nat) : Prop :=
  k ≠ r ∧ ∃ ko : Obj, objs[k]? = some ko ∧ ko.root = r ∧ 0 < ko.refs

theorem LiveKid.of_same {objs objs' : List Obj} {r k : Nat} (h : LiveKid objs r k)
    (hsame : ∀ ko, objs[k]? = some ko → objs'[k]? = some ko) : LiveKid objs' r k :=
  let ⟨hne, ko, hko, hroot, hlive⟩ := h
  ⟨hne, ko, hsame ko hko, hroot, hlive⟩

/-- What `InvO` says of a view `o` at index `i` (an entry whose root pointer is another index). -/
structure ViewOk (objs : List Obj) (i : Nat) (o : Obj) : Prop where
  kids : o.kids = []
  puts : o.puts = 0
  root : ∃ r : Obj, objs[o.root]? = some r ∧ r.root = o.root ∧ (0 < o.refs → i ∈ r.kids)

/-- What `InvO` says of the entry `o` at index `i`; `o.root < objs.length` follows from the rest. -/
structure Ok (objs : List Obj) (i : Nat) (o : Obj) : Prop where
  bal : o.refs = o.own + o.kids.length
  puts : o.root = i → o.puts = if o.refs = 0 then 1 else 0
  view : o.root ≠ i → ViewOk objs i o
  nodup : o.kids.Nodup
  kids : ∀ k ∈ o.kids, LiveKid objs i k

theorem ok_of_inv {objs : List Obj} (h : InvO objs) {i : Nat} {o : Obj} (hi : objs[i]? = some o) : Ok objs i o :=
  have ⟨_, bal, puts, view⟩ := h.1 i o hi
  have ⟨nodup, kids⟩ := h.2 i o hi
  ⟨bal, puts, fun hr => have ⟨vkids, vputs, vroot⟩ := view hr; ⟨vkids, vputs, vroot⟩, nodup, kids⟩

theorem kid_not_root {objs : List Obj} (h : InvO objs) {r k : Nat} {ro ko : Obj}
    (hr : objs[r]? = some ro) (hk : k ∈ ro.kids) (hko : objs[k]? = some ko) : ko.root = r ∧ k ≠ r := by
  obtain ⟨hne, ko', hko', hroot, _⟩ := (ok_of_inv h hr).kids k hk
  cases hko.symm.trans hko'
  exact ⟨hroot, hne⟩

theorem inv_of_ok {objs : List Obj} (h : ∀ i o, objs[i]? = some o → Ok objs i o) : InvO objs := by
  refine ⟨fun i o hi => ⟨?_, (h i o hi).bal, (h i o hi).puts,
      fun hr => ⟨((h i o hi).view hr).kids, ((h i o hi).view hr).puts, ((h i o hi).view hr).root⟩⟩,
    fun i o hi => ⟨(h i o hi).nodup, (h i o hi).kids⟩⟩
  by_cases hr : o.root = i
  · exact hr ▸ Basic.lt_of_getElem? hi
  · obtain ⟨r, hR, _⟩ := ((h i o hi).view hr).root
    exact Basic.lt_of_getElem? hR

/-- Entry `ko` at index `k` persists as `ko'`: same root pointer, and, the indices in `D` aside
    (which die, or leave a kids list), it keeps its kids and stays alive. -/
structure Persists (D : Nat → Prop) (k : Nat) (ko ko' : Obj) : Prop where
  root : ko'.root = ko.root
  kids : ∀ j ∈ ko.kids, ¬ D j → j ∈ ko'.kids
  live : ¬ D k → 0 < ko.refs → 0 < ko'.refs

theorem Persists.same (D : Nat → Prop) (k : Nat) (ko : Obj) : Persists D k ko ko :=
  { root := rfl, kids := fun _ hj _ => hj, live := fun _ hp => hp }

/-- `D` holds the indices that die or leave a kids list: an old entry that `D` touches neither itself nor
    among its kids keeps its `Ok`; the new and the changed entries are shown `Ok` in `objs'` from scratch. -/
theorem inv_transfer {objs objs' : List Obj} (h : InvO objs) (D : Nat → Prop)
    (pers : ∀ k ko, objs[k]? = some ko → ∃ ko', objs'[k]? = some ko' ∧ Persists D k ko ko')
    (fields : ∀ j o, objs'[j]? = some o →
      (objs[j]? = some o ∧ ¬ D j ∧ ∀ k ∈ o.kids, ¬ D k) ∨ Ok objs' j o) : InvO objs' := by
  refine inv_of_ok fun j o hj => ?_
  rcases fields j o hj with ⟨hold, hDj, hDk⟩ | hf
  · have ok := ok_of_inv h hold
    refine { ok with view := fun hr => ?_, kids := fun k hk => ?_ }
    · have v := ok.view hr
      obtain ⟨r, hR, rroot, rmem⟩ := v.root
      obtain ⟨r', hR', pr⟩ := pers _ r hR
      exact { v with root := ⟨r', hR', pr.root.trans rroot, fun hp => pr.kids j (rmem hp) hDj⟩ }
    · obtain ⟨hne, ko, hko, kroot, klive⟩ := ok.kids k hk
      obtain ⟨ko', hko', pk⟩ := pers k ko hko
      exact ⟨hne, ko', hko', pk.root.trans kroot, pk.live (hDk k hk) klive⟩
  · exact hf

/-- `hc`: the entry stays as alive as it was and keeps `puts`; or it is a root, which may die (nothing lists
    a root as a kid), with `puts` set accordingly. -/
theorem inv_update {objs : List Obj} (h : InvO objs) {i : Nat} {o o' : Obj} (hi : objs[i]? = some o)
    (hroot : o'.root = o.root) (hkids : o'.kids = o.kids) (hbal : o'.refs = o'.own + o'.kids.length)
    (hc : o'.puts = o.puts ∧ (o.refs = 0 ↔ o'.refs = 0) ∨
      o.root = i ∧ o'.puts = if o'.refs = 0 then 1 else 0) :
    InvO (objs.set i o') := by
  have ok := ok_of_inv h hi
  -- only a root may die here, and a root is in no kids list
  refine inv_transfer h (fun k => k = i ∧ o.root = i) (fun k ko hk => ?_) (fun j oj hj => ?_)
  · rw [Basic.getElem?_set_of_some hi]
    by_cases hik : i = k
    · subst hik; cases hi.symm.trans hk
      rw [if_pos rfl]
      refine ⟨o', rfl, { root := hroot, kids := fun j hj _ => hkids ▸ hj, live := fun hD hp => ?_ }⟩
      rcases hc with ⟨_, hl⟩ | ⟨hr, _⟩
      · omega
      · exact absurd ⟨rfl, hr⟩ hD
    · rw [if_neg hik]; exact ⟨ko, hk, .same ..⟩
  · rw [Basic.getElem?_set_of_some hi] at hj
    by_cases hij : i = j
    · subst hij; rw [if_pos rfl] at hj; cases hj
      refine .inr
        { bal := hbal, puts := fun hr => ?_, view := fun hr => ?_,
          nodup := hkids ▸ ok.nodup, kids := fun k hk => ?_ }
      · rcases hc with ⟨hp, hl⟩ | ⟨_, hp⟩
        · rw [hp, ok.puts (hroot ▸ hr)]; simp only [hl]
        · exact hp
      · rw [hroot] at hr
        have v := ok.view hr
        obtain ⟨r, hR, rroot, rmem⟩ := v.root
        rcases hc with ⟨hp, hl⟩ | ⟨hr', _⟩
        · refine { kids := hkids ▸ v.kids, puts := hp ▸ v.puts,
                   root := ⟨r, ?_, hroot ▸ rroot, fun hp' => rmem (by omega)⟩ }
          rw [hroot, Basic.getElem?_set_of_some hi, if_neg (Ne.symm hr)]; exact hR
        · exact absurd hr' hr
      · have hk' := ok.kids k (hkids ▸ hk)
        exact hk'.of_same fun ko hko => by rw [Basic.getElem?_set_of_some hi, if_neg (Ne.symm hk'.1)]; exact hko
    · rw [if_neg hij] at hj
      refine .inl ⟨hj, fun hD => hij hD.1.symm, fun k hk hD => ?_⟩
      exact hij (hD.2.symm.trans (kid_not_root h hj (hD.1 ▸ hk) hi).1)

/-- a fresh root (NewBuffer) -/
theorem inv_append_root {objs : List Obj} (h : InvO objs) (off n m : Nat) :
    InvO (objs ++ [⟨1, off, n, objs.length, m, 1, [], 0⟩]) := by
  refine inv_transfer h (fun _ => False) (fun k ko hk => ?_) (fun j oj hj => ?_)
  · rw [getElem?_append_singleton, if_neg (Nat.ne_of_lt (Basic.lt_of_getElem? hk))]
    exact ⟨ko, hk, .same ..⟩
  · rw [getElem?_append_singleton] at hj
    by_cases hjl : j = objs.length
    · rw [if_pos hjl] at hj; cases hj; subst hjl
      exact .inr
        { bal := rfl, puts := fun _ => rfl, view := fun hr => absurd rfl hr,
          nodup := List.nodup_nil, kids := fun _ hk => nomatch hk }
    · rw [if_neg hjl] at hj
      exact .inl ⟨hj, id, fun _ _ => id⟩

/-- a view of a live root (`newView`): nothing dies; only the root, which gains a reference and a kid, and the
    new entry are checked afresh -/
theorem inv_append_view {objs : List Obj} (h : InvO objs) {R : Nat} {r : Obj} (hR : objs[R]? = some r)
    (hroot : r.root = R) (hlive : 0 < r.refs) (off len : Nat) :
    InvO ((objs.set R { r with refs := r.refs + 1, kids := objs.length :: r.kids }) ++
      [⟨1, off, len, R, 0, 1, [], 0⟩]) := by
  have look : ∀ j, (objs.set R { r with refs := r.refs + 1, kids := objs.length :: r.kids } ++
      [⟨1, off, len, R, 0, 1, [], 0⟩])[j]? = if j = objs.length then some ⟨1, off, len, R, 0, 1, [], 0⟩ else
        if R = j then some { r with refs := r.refs + 1, kids := objs.length :: r.kids } else objs[j]? :=
    fun j => by rw [getElem?_append_singleton, List.length_set, Basic.getElem?_set_of_some hR]
  have ok := ok_of_inv h hR
  have hRlt := Nat.ne_of_lt (Basic.lt_of_getElem? hR)
  refine inv_transfer h (fun _ => False) (fun k ko hk => ?_) (fun j oj hj => ?_)
  · rw [look, if_neg (Nat.ne_of_lt (Basic.lt_of_getElem? hk))]
    by_cases hRk : R = k
    · subst hRk; cases hR.symm.trans hk
      rw [if_pos rfl]
      exact ⟨_, rfl,
        { root := rfl, kids := fun j hj _ => List.mem_cons_of_mem _ hj, live := fun _ _ => Nat.succ_pos _ }⟩
    · rw [if_neg hRk]; exact ⟨ko, hk, .same ..⟩
  · rw [look] at hj
    by_cases hjl : j = objs.length
    · rw [if_pos hjl] at hj; cases hj; subst hjl
      -- the new entry: a view without kids whose root lists it
      refine .inr
        { bal := rfl, puts := fun hr => absurd hr hRlt,
          view := fun _ =>
            { kids := rfl, puts := rfl,
              root := ⟨{ r with refs := r.refs + 1, kids := objs.length :: r.kids }, ?_, hroot,
                fun _ => List.mem_cons_self⟩ },
          nodup := List.nodup_nil, kids := fun _ hk => nomatch hk }
      rw [look, if_neg hRlt, if_pos rfl]
    · rw [if_neg hjl] at hj
      by_cases hRj : R = j
      · subst hRj; rw [if_pos rfl] at hj; cases hj
        -- the root: alive before and after; its new kid is a fresh index, in no kids list so far
        refine .inr
          { bal := ?_, puts := fun _ => ?_, view := fun hr => absurd hroot hr,
            nodup := List.nodup_cons.2 ⟨fun hin => ?_, ok.nodup⟩, kids := fun k hk => ?_ }
        · have := ok.bal; simp only [List.length_cons]; omega
        · have := ok.puts hroot
          rw [if_neg (by omega)] at this
          rw [if_neg (Nat.succ_ne_zero _)]; exact this
        · obtain ⟨_, ko, hk', _⟩ := ok.kids _ hin
          exact Nat.lt_irrefl _ (Basic.lt_of_getElem? hk')
        · rcases List.mem_cons.1 hk with rfl | hk
          · exact ⟨Ne.symm hRlt, _, by rw [look, if_pos rfl], rfl, Nat.one_pos⟩
          · have hk' := ok.kids k hk
            exact hk'.of_same fun ko hko => by
              rw [look, if_neg (Nat.ne_of_lt (Basic.lt_of_getElem? hko)), if_neg (Ne.symm hk'.1)]; exact hko
      · rw [if_neg hRj] at hj
        exact .inl ⟨hj, id, fun _ _ => id⟩

/-- a view's last reference goes: its root loses one reference (and is returned to the pool if that
    was the last) -/
theorem inv_unlink_view {objs : List Obj} (h : InvO objs) {i : Nat} {o r r' : Obj} (hi : objs[i]? = some o)
    (hview : o.root ≠ i) (hrefs : o.refs = 1) (hR : objs[o.root]? = some r)
    (hroot' : r'.root = r.root) (hown' : r'.own = r.own) (hkids' : r'.kids = r.kids.erase i)
    (hrefs' : r'.refs = r.refs - 1) (hputs' : r'.puts = if r.refs - 1 = 0 then 1 else 0) :
    InvO ((objs.set i { o with refs := 0, own := o.own - 1, kids := [] }).set o.root r') := by
  have look : ∀ j, ((objs.set i { o with refs := 0, own := o.own - 1, kids := [] }).set o.root r')[j]? =
      if o.root = j then some r' else if i = j then some { o with refs := 0, own := o.own - 1, kids := [] }
        else objs[j]? :=
    fun j => by rw [Basic.getElem?_set_of_some (by rw [Basic.getElem?_set_of_some hi, if_neg (Ne.symm hview)]; exact hR), Basic.getElem?_set_of_some hi]
  have oko := ok_of_inv h hi
  have okr := ok_of_inv h hR
  have ov := oko.view hview
  obtain ⟨r0, hr0, rroot, rmem⟩ := ov.root
  cases hR.symm.trans hr0
  have imem : i ∈ r.kids := rmem (hrefs ▸ Nat.one_pos)
  -- the view dies and leaves its root's kids; the root may die too, and is in no kids list
  refine inv_transfer h (fun k => k = i ∨ k = o.root) (fun k ko hk => ?_) (fun j oj hj => ?_)
  · rw [look]
    by_cases hRk : o.root = k
    · subst hRk; cases hR.symm.trans hk
      rw [if_pos rfl]
      exact ⟨r', rfl,
        { root := hroot', live := fun hD => absurd (.inr rfl) hD,
          kids := fun j hj hD => hkids' ▸ (List.mem_erase_of_ne fun e => hD (.inl e)).2 hj }⟩
    · rw [if_neg hRk]
      by_cases hik : i = k
      · subst hik; cases hi.symm.trans hk
        rw [if_pos rfl]
        exact ⟨_, rfl,
          { root := rfl, kids := fun j hj => absurd (ov.kids ▸ hj) List.not_mem_nil,
            live := fun hD => absurd (.inl rfl) hD }⟩
      · rw [if_neg hik]; exact ⟨ko, hk, .same ..⟩
  · rw [look] at hj
    by_cases hRj : o.root = j
    · subst hRj; rw [if_pos rfl] at hj; cases hj
      refine .inr
        { bal := ?_, puts := fun _ => by rw [hputs', hrefs'], view := fun hr => absurd (hroot'.trans rroot) hr,
          nodup := hkids' ▸ okr.nodup.erase i, kids := fun k hk => ?_ }
      · have := okr.bal
        have := List.length_pos_of_mem imem
        rw [hrefs', hown', hkids', List.length_erase_of_mem imem]; omega
      · obtain ⟨hki, hk⟩ := okr.nodup.mem_erase_iff.1 (hkids' ▸ hk)
        have hk' := okr.kids k hk
        exact hk'.of_same fun ko hko => by rw [look, if_neg (Ne.symm hk'.1), if_neg (Ne.symm hki)]; exact hko
    · rw [if_neg hRj] at hj
      by_cases hij : i = j
      · subst hij; rw [if_pos rfl] at hj; cases hj
        refine .inr
          { bal := ?_, puts := fun hr => absurd hr hview,
            view := fun _ => { kids := rfl, puts := ov.puts, root := ⟨r', ?_, hroot'.trans rroot, nofun⟩ },
            nodup := List.nodup_nil, kids := fun _ hk => nomatch hk }
        · have := oko.bal; rw [ov.kids] at this; simp only [List.length_nil] at this ⊢; omega
        · rw [look, if_pos rfl]
      · rw [if_neg hij] at hj
        refine .inl ⟨hj, fun hD => hD.elim (hij ∘ Eq.symm) (hRj ∘ Eq.symm), fun k hk hD => ?_⟩
        rcases hD with rfl | rfl
        · exact hRj (kid_not_root h hj hk hi).1
        · exact hRj (rroot.symm.trans (kid_not_root h hj hk hR).1)

theorem objs_poolPut (st : St) (m : Nat) : (poolPut st m).1.objs = st.objs := by
  unfold poolPut; split <;> rfl

theorem root_live_puts {objs : List Obj} (h : InvO objs) {R : Nat} {r : Obj} (hR : objs[R]? = some r)
    (hroot : r.root = R) (hlive : r.refs ≠ 0) : r.puts = 0 := by
  rw [(ok_of_inv h hR).puts hroot, if_neg hlive]

theorem live_root {objs : List Obj} (h : InvO objs) {i : Nat} {o : Obj} (hi : objs[i]? = some o)
    (hlive : 0 < o.refs) :
    ∃ r, objs[o.root]? = some r ∧ r.root = o.root ∧ 0 < r.refs ∧ r.puts = 0 ∧ (o.root ≠ i → i ∈ r.kids) := by
  by_cases hroot : o.root = i
  · exact ⟨o, hroot ▸ hi, rfl, hlive, root_live_puts h hi hroot (by omega), absurd hroot⟩
  · obtain ⟨r, hR, rroot, rmem⟩ := ((ok_of_inv h hi).view hroot).root
    -- a live view is among its root's kids, so the root's counter is positive too
    have := (ok_of_inv h hR).bal
    have := List.length_pos_of_mem (rmem hlive)
    exact ⟨r, hR, rroot, by omega, root_live_puts h hR rroot (by omega), fun _ => rmem hlive⟩

/-- What a primitive does to the heap of structs, with the checks the code makes before it. -/
inductive Move (objs : List Obj) : List Obj → Prop
  /-- `Ref` -/
  | ref {i : Nat} {o : Obj} : objs[i]? = some o → o.refs ≠ 0 →
      Move objs (objs.set i { o with refs := o.refs + 1, own := o.own + 1 })
  /-- another window of the same entry -/
  | window {i : Nat} {o : Obj} (off len : Nat) : objs[i]? = some o →
      Move objs (objs.set i { o with off := off, len := len })
  /-- `NewBuffer`: a fresh root -/
  | root (n m : Nat) : Move objs (objs ++ [⟨1, 0, n, objs.length, m, 1, [], 0⟩])
  /-- a new view of the root `r` of `o` -/
  | view {b : Nat} {o r : Obj} (off len : Nat) : objs[b]? = some o → o.refs ≠ 0 → objs[o.root]? = some r →
      r.refs ≠ 0 → Move objs (objs.set o.root { r with refs := r.refs + 1, kids := objs.length :: r.kids } ++
        [⟨1, off, len, o.root, 0, 1, [], 0⟩])
  /-- `Free`: one reference of several goes -/
  | unref {i : Nat} {o : Obj} : objs[i]? = some o → o.own ≠ 0 → 1 < o.refs →
      Move objs (objs.set i { o with refs := o.refs - 1, own := o.own - 1 })
  /-- `Free`: the root's last reference goes (its memory is then Put) -/
  | freeRoot {i : Nat} {o : Obj} : objs[i]? = some o → o.own ≠ 0 → o.refs = 1 → o.root = i →
      Move objs (objs.set i { o with refs := 0, own := o.own - 1, kids := [], puts := o.puts + 1 })
  /-- `Free`: a view's last reference goes and its root `r` loses one of several -/
  | freeView {i : Nat} {o r : Obj} : objs[i]? = some o → o.own ≠ 0 → o.refs = 1 → o.root ≠ i →
      objs[o.root]? = some r → 1 < r.refs →
      Move objs ((objs.set i { o with refs := 0, own := o.own - 1, kids := [] }).set o.root
        { r with refs := r.refs - 1, kids := r.kids.erase i })
  /-- `Free`: a view's last reference goes and it was the root's last too (its memory is then Put) -/
  | freeViewRoot {i : Nat} {o r : Obj} : objs[i]? = some o → o.own ≠ 0 → o.refs = 1 → o.root ≠ i →
      objs[o.root]? = some r → r.refs = 1 →
      Move objs ((objs.set i { o with refs := 0, own := o.own - 1, kids := [] }).set o.root
        { r with refs := 0, kids := [], puts := r.puts + 1 })

theorem inv_move {objs objs' : List Obj} (h : InvO objs) (mv : Move objs objs') : InvO objs' := by
  have ofView : ∀ {i : Nat} {o r : Obj}, objs[i]? = some o → o.refs = 1 → o.root ≠ i → objs[o.root]? = some r →
      i ∈ r.kids ∧ r.refs = r.own + r.kids.length ∧ r.puts = 0 := by
    intro i o r hi hone hroot hR
    obtain ⟨r0, hR0, _, _, rputs, rmem⟩ := live_root h hi (by omega)
    cases hR.symm.trans hR0
    exact ⟨rmem hroot, (ok_of_inv h hR).bal, rputs⟩
  cases mv with
  | ref hi h0 =>
    have := (ok_of_inv h hi).bal
    exact inv_update h hi (hroot := rfl) (hkids := rfl) (hbal := by simp only []; omega) (.inl ⟨rfl, by simp [h0]⟩)
  | window off len hi =>
    exact inv_update h hi (hroot := rfl) (hkids := rfl) (hbal := (ok_of_inv h hi).bal) (.inl ⟨rfl, Iff.rfl⟩)
  | root n m => exact inv_append_root h 0 n m
  | view off len hb h0 hR _ =>
    obtain ⟨r', hr', hroot, hlive, _⟩ := live_root h hb (Nat.pos_of_ne_zero h0)
    cases hR.symm.trans hr'
    exact inv_append_view h hR hroot hlive off len
  | unref hi hown h1 =>
    have := (ok_of_inv h hi).bal
    exact inv_update h hi (hroot := rfl) (hkids := rfl) (hbal := by simp only []; omega)
      (.inl ⟨rfl, by simp only []; omega⟩)
  | @freeRoot i o hi hown hone hroot =>
    have := (ok_of_inv h hi).bal
    -- the last reference is the client's: there are no kids
    have ⟨hown1, hlen⟩ : o.own = 1 ∧ o.kids.length = 0 := by omega
    have hk := List.eq_nil_of_length_eq_zero hlen
    refine inv_update h hi (hroot := rfl) (hkids := hk.symm) (hbal := by simp [hown1]) (.inr ⟨hroot, ?_⟩)
    rw [root_live_puts h hi hroot (by rw [hone]; exact Nat.one_ne_zero)]; rfl
  | freeView hi hown hone hroot hR hr1 =>
    obtain ⟨_, _, rputs⟩ := ofView hi hone hroot hR
    refine inv_unlink_view h hi hroot hone hR (hroot' := rfl) (hown' := rfl) (hkids' := rfl) (hrefs' := rfl) ?_
    rw [if_neg (Nat.sub_ne_zero_of_lt hr1)]; exact rputs
  | @freeViewRoot i o r hi hown hone hroot hR hrone =>
    obtain ⟨imem, ra2, rputs⟩ := ofView hi hone hroot hR
    -- the root's last reference was this view: it is the only kid
    have hk : r.kids.erase i = [] :=
      List.eq_nil_of_length_eq_zero (by rw [List.length_erase_of_mem imem]; omega)
    refine inv_unlink_view h hi hroot hone hR (hroot' := rfl) (hown' := rfl) (hkids' := hk.symm)
      (hrefs' := by simp [hrone]) ?_
    rw [rputs, hrone]; rfl

variable {N : Nat}

def Keep (N : Nat) (a b : St) : Prop :=
  ∀ m < N, ∀ x : Mem, a.mems[m]? = some x → ∃ x' : Mem, b.mems[m]? = some x' ∧ x'.bytes = x.bytes

theorem keep_refl (st : St) : Keep N st st := fun _ _ x h => ⟨x, h, rfl⟩

theorem keep_trans {a b c : St} (h1 : Keep N a b) (h2 : Keep N b c) : Keep N a c := fun m hN x hm =>
  let ⟨y, hy, e1⟩ := h1 m hN x hm
  let ⟨z, hz, e2⟩ := h2 m hN y hy
  ⟨z, hz, e2.trans e1⟩

theorem keep_of_mems {a b : St} (he : b.mems = a.mems) : Keep N a b := fun _ _ x hm => ⟨x, he ▸ hm, rfl⟩

theorem keep_poolGet {a st : St} (h : Keep N a st) (n : Nat) (c : Bytes) : Keep N a (poolGet st n c).1 :=
  keep_trans h fun _ _ x hm => ⟨x, (List.getElem?_append_left (Basic.lt_of_getElem? hm)).trans hm, rfl⟩

theorem keep_poolPut {a st : St} (h : Keep N a st) (m : Nat) : Keep N a (poolPut st m).1 := by
  refine keep_trans h ?_
  unfold poolPut
  split
  · rename_i y hm
    intro k _ x hk
    by_cases hmk : m = k
    · subst hmk
      cases hm.symm.trans hk
      exact ⟨_, List.getElem?_set_self (Basic.lt_of_getElem? hk), rfl⟩
    · exact ⟨x, (List.getElem?_set_ne hmk).trans hk, rfl⟩
  · exact keep_refl st

/-- `b` comes from `a` by heap moves, which leave the memories alone (`heap`), and by changes of memories,
    which leave the heap of structs alone: the pool's Get and Put, and (`frame`) whatever keeps the memories
    below `N`: pure bookkeeping (`Step.frame`), and `ReadAll` filling the array it has just got from the
    pool, which lies at or above the number `N` of memories it started with. -/
inductive Prims (N : Nat) : St → St → Prop
  | refl (st : St) : Prims N st st
  | trans {a b c : St} : Prims N a b → Prims N b c → Prims N a c
  | heap {st st' : St} : Move st.objs st'.objs → st'.mems = st.mems → Prims N st st'
  | poolGet (st : St) (n : Nat) (c : Bytes) : Prims N st (poolGet st n c).1
  | poolPut (st : St) (m : Nat) : Prims N st (poolPut st m).1
  | frame {st st' : St} : st'.objs = st.objs → (∀ m < N, st'.mems[m]? = st.mems[m]?) → Prims N st st'

theorem inv_prims {a b : St} (p : Prims N a b) (h : InvO a.objs) : InvO b.objs := by
  induction p with
  | refl => exact h
  | trans _ _ ih1 ih2 => exact ih2 (ih1 h)
  | heap mv _ => exact inv_move h mv
  | poolGet => exact h
  | poolPut => rw [objs_poolPut]; exact h
  | frame ho _ => exact ho ▸ h

theorem keep_prims {a b : St} (p : Prims N a b) : Keep N a b := by
  induction p with
  | refl st => exact keep_refl st
  | trans _ _ ih1 ih2 => exact keep_trans ih1 ih2
  | heap _ hm => exact keep_of_mems hm
  | poolGet => exact keep_poolGet (keep_refl _) _ _
  | poolPut => exact keep_poolPut (keep_refl _) _
  | frame _ hm => exact fun m hN x hx => ⟨x, (hm m hN).trans hx, rfl⟩

theorem acquire_eq {st st' : St} {i : Nat} (ha : acquire st i = some st') :
    ∃ o, st.objs[i]? = some o ∧ o.refs ≠ 0 ∧
      st' = setObj st i { o with refs := o.refs + 1, own := o.own + 1 } := by
  unfold acquire at ha
  cases hi : st.objs[i]? with
  | none => rw [hi] at ha; cases ha
  | some o =>
    rw [hi] at ha
    obtain ⟨h0, ha⟩ := Option.ite_none_left_eq_some.1 ha
    cases ha; exact ⟨o, rfl, h0, rfl⟩

theorem prims_acquire {st st' : St} {i : Nat} (ha : acquire st i = some st') : Prims N st st' := by
  obtain ⟨o, hi, h0, rfl⟩ := acquire_eq ha
  exact .heap (.ref hi h0) rfl

theorem prims_narrow (st : St) (i off len : Nat) : Prims N st (narrow st i off len) := by
  unfold narrow
  split
  · rename_i o hi
    exact .heap (.window off len hi) rfl
  · exact .refl _

theorem prims_newBuffer (st : St) (m n : Nat) : Prims N st (newBuffer st m n).1 := by
  unfold newBuffer
  split
  · exact .refl _
  · split
    · exact .refl _
    · exact .heap (.root n m) rfl

theorem prims_newView {st st' : St} {b off len id : Nat} (hv : newView st b off len = some (st', id)) :
    Prims N st st' := by
  unfold newView at hv
  cases hb : st.objs[b]? with
  | none => rw [hb] at hv; cases hv
  | some o =>
    rw [hb] at hv
    obtain ⟨ho0, hv⟩ := Option.ite_none_left_eq_some.1 hv
    cases hr : st.objs[o.root]? with
    | none => rw [hr] at hv; cases hv
    | some r =>
      rw [hr] at hv
      obtain ⟨hr0, hv⟩ := Option.ite_none_left_eq_some.1 hv
      cases hv; exact .heap (.view off len hb ho0 hr hr0) rfl

theorem prims_release {st st' : St} {i : Nat} {evs : List Ev} (hr : release st i = some (st', evs)) :
    Prims N st st' := by
  unfold release at hr
  cases hi : st.objs[i]? with
  | none => rw [hi] at hr; cases hr
  | some o =>
    rw [hi] at hr
    obtain ⟨h0, hr⟩ := Option.ite_none_left_eq_some.1 hr
    obtain ⟨hown, hr⟩ := Option.ite_none_left_eq_some.1 hr
    by_cases h1 : o.refs > 1
    · rw [if_pos h1] at hr; cases hr; exact .heap (.unref hi hown h1) rfl
    rw [if_neg h1] at hr
    have hone : o.refs = 1 := by omega
    by_cases hroot : o.root = i
    · rw [if_pos hroot] at hr; cases hr
      refine .trans ?_ (.poolPut ..)
      exact .heap (.freeRoot hi hown hone hroot) rfl
    rw [if_neg hroot] at hr
    dsimp only at hr
    rw [show (setObj st i { o with refs := 0, own := o.own - 1, kids := [] }).objs[o.root]? = st.objs[o.root]?
      from List.getElem?_set_ne (Ne.symm hroot)] at hr
    cases hR : st.objs[o.root]? with
    | none => rw [hR] at hr; cases hr
    | some r =>
      rw [hR] at hr
      obtain ⟨hr0, hr⟩ := Option.ite_none_left_eq_some.1 hr
      by_cases hr1 : r.refs > 1
      · rw [if_pos hr1] at hr; cases hr; exact .heap (.freeView hi hown hone hroot hR hr1) rfl
      · rw [if_neg hr1] at hr; cases hr
        refine .trans ?_ (.poolPut ..)
        exact .heap (.freeViewRoot hi hown hone hroot hR (by omega)) rfl

theorem prims_refVal {st st' : St} {v : Val} (hr : refVal st v = some st') : Prims N st st' := by
  cases v with
  | buf i => exact prims_acquire hr
  | nil => cases hr
  | _ => cases hr; exact .refl _

theorem prims_freeVal {st st' : St} {v : Val} {evs : List Ev} (hr : freeVal st v = some (st', evs)) :
    Prims N st st' := by
  cases v with
  | buf i => exact prims_release hr
  | nil => cases hr
  | _ => cases hr; exact .refl _

theorem prims_sliceVal {st st' : St} {v v' : Val} {s e : Nat} (hr : sliceVal st v s e = some (st', v')) :
    Prims N st st' := by
  cases v with
  | buf i =>
    simp only [sliceVal] at hr
    cases hi : st.objs[i]? with
    | none => rw [hi] at hr; cases hr
    | some o =>
      rw [hi] at hr
      obtain ⟨_, hr⟩ := Option.ite_none_left_eq_some.1 hr
      obtain ⟨_, hr⟩ := Option.ite_none_left_eq_some.1 hr
      by_cases h1 : e - s = 0
      · rw [if_pos h1] at hr; cases hr; exact .refl _
      rw [if_neg h1] at hr
      by_cases h2 : e - s = o.len
      · rw [if_pos h2] at hr
        obtain ⟨s1, ha, he⟩ := Option.map_eq_some_iff.1 hr
        cases he; exact prims_acquire ha
      · rw [if_neg h2] at hr
        obtain ⟨p, hv, he⟩ := Option.map_eq_some_iff.1 hr
        cases he; exact prims_newView hv
  | sl arr n => cases (Option.ite_none_right_eq_some.1 hr).2; exact .refl _
  | empty => cases (Option.ite_none_right_eq_some.1 hr).2; exact .refl _
  | nil => cases hr

theorem prims_splitVal {st st' : St} {v l r : Val} {n : Nat} (hr : splitVal st v n = some (st', l, r)) :
    Prims N st st' := by
  cases v with
  | buf i =>
    simp only [splitVal] at hr
    cases hi : st.objs[i]? with
    | none => rw [hi] at hr; cases hr
    | some o =>
      rw [hi] at hr
      obtain ⟨p, hv, he⟩ := Option.map_eq_some_iff.1 (Option.ite_none_left_eq_some.1 hr).2
      cases he; exact .trans (prims_newView hv) (prims_narrow ..)
  | sl arr len => cases (Option.ite_none_right_eq_some.1 hr).2; exact .refl _
  | empty => cases hr; exact .refl _
  | nil => cases hr

theorem prims_readVal {st st' : St} {v rest : Val} {n : Nat} {b : Bytes} {evs : List Ev}
    (hr : readVal st v n = some (st', b, rest, evs)) : Prims N st st' := by
  cases v with
  | buf i =>
    simp only [readVal] at hr
    cases hi : st.objs[i]? with
    | none => rw [hi] at hr; cases hr
    | some o =>
      rw [hi] at hr
      obtain ⟨_, hr⟩ := Option.ite_none_left_eq_some.1 hr
      by_cases hc : min n o.len = o.len
      · rw [if_pos hc] at hr
        obtain ⟨p, hrel, he⟩ := Option.map_eq_some_iff.1 hr
        cases he; exact prims_release hrel
      · rw [if_neg hc] at hr; cases hr; exact prims_narrow ..
  | sl arr len =>
    simp only [readVal] at hr
    split at hr <;> (cases hr; exact .refl _)
  | empty => cases hr; exact .refl _
  | nil => cases hr

theorem prims_copyVal (st : St) (data : Bytes) : Prims N st (copyVal st data).1 := by
  unfold copyVal
  split
  · exact .refl _
  · exact .trans (.poolGet ..) (prims_newBuffer ..)

theorem prims_refAll {st st' : St} {vs : List Val} (hr : refAll st vs = some st') : Prims N st st' := by
  induction vs generalizing st with
  | nil => cases hr; exact .refl _
  | cons v t ih =>
    obtain ⟨s1, h1, h2⟩ := Option.bind_eq_some_iff.1 hr
    exact .trans (prims_refVal h1) (ih h2)

theorem prims_freeAll {st st' : St} {vs : List Val} {evs : List Ev} (hr : freeAll st vs = some (st', evs)) :
    Prims N st st' := by
  induction vs generalizing st evs with
  | nil => cases hr; exact .refl _
  | cons v t ih =>
    obtain ⟨p, h1, h2⟩ := Option.bind_eq_some_iff.1 hr
    obtain ⟨q, h3, he⟩ := Option.map_eq_some_iff.1 h2
    cases he; exact .trans (prims_freeVal h1) (ih h3)

theorem prims_matToBuf {st st' : St} {vs : List Val} {v : Val} {evs : List Ev}
    (hr : matToBuf st vs = some (st', v, evs)) : Prims N st st' := by
  unfold matToBuf at hr
  split at hr
  next w =>
    obtain ⟨s1, h1, he⟩ := Option.map_eq_some_iff.1 hr
    cases he; exact prims_refVal h1
  next =>
    cases hd : dataAll st vs with
    | none => simp only [hd] at hr; cases hr
    | some d =>
      simp only [hd] at hr
      by_cases h0 : d.length = 0
      · rw [if_pos h0] at hr; cases hr; exact .refl _
      · rw [if_neg h0] at hr; cases hr; exact .trans (.poolGet ..) (prims_newBuffer ..)

theorem prims_freeFirst {st st' : St} {r r' : Rd} {evs : List Ev} {b : Bool}
    (hr : freeFirstIfEmpty st r = some (st', r', evs, b)) : Prims N st st' := by
  unfold freeFirstIfEmpty at hr
  cases hdata : r.data with
  | nil => simp only [hdata] at hr; cases hr; exact .refl _
  | cons v t =>
    cases hl : lenOf st v with
    | none => simp only [hdata, hl] at hr; cases hr
    | some l =>
      simp only [hdata, hl] at hr
      by_cases hidx : r.idx ≠ l
      · rw [if_pos hidx] at hr; cases hr; exact .refl _
      · rw [if_neg hidx] at hr
        obtain ⟨q, hq, he⟩ := Option.map_eq_some_iff.1 hr
        cases he; exact prims_freeVal hq

theorem prims_rdRead (fuel : Nat) {st st' : St} {r r' : Rd} {n : Nat} {acc b : Bytes} {evs evs' : List Ev}
    (hr : rdRead fuel st r n acc evs = some (st', r', b, evs')) : Prims N st st' := by
  fun_induction rdRead fuel st r n acc evs
  · cases hr; exact .refl _   -- out of fuel
  · cases hr; exact .refl _   -- nothing asked for, or nothing left
  -- a chunk is taken from the first buffer, which is freed if used up
  case case7 hff ih => exact .trans (prims_freeFirst hff) (ih hr)
  all_goals cases hr          -- the branches that fail

theorem prims_rdDiscard (fuel : Nat) {st st' : St} {r r' : Rd} {n n' : Nat} {evs evs' : List Ev}
    (hr : rdDiscard fuel st r n evs = some (st', r', n', evs')) : Prims N st st' := by
  fun_induction rdDiscard fuel st r n evs
  · cases hr; exact .refl _   -- out of fuel
  · cases hr; exact .refl _   -- nothing asked for, or nothing left
  case case6 hf ih => exact .trans (prims_freeVal hf) (ih hr)   -- the first buffer is used up and freed
  case case7 ih => exact ih hr                                  -- the first buffer still has bytes
  all_goals cases hr          -- the branches that fail

theorem prims_rdSkip (fuel : Nat) {st st' : St} {r r' : Rd} {evs evs' : List Ev}
    (hr : rdSkip fuel st r evs = some (st', r', evs')) : Prims N st st' := by
  fun_induction rdSkip fuel st r evs
  · cases hr; exact .refl _   -- out of fuel
  · cases hr                  -- `freeFirstIfEmpty` fails
  · next hff ih => exact .trans (prims_freeFirst hff) (ih hr)   -- an exhausted buffer freed: again
  · next hff _ => cases hr; exact prims_freeFirst hff

theorem prims_rdByte {st st' : St} {r r' : Rd} {b : Option UInt8} {evs : List Ev}
    (hr : rdByte st r = some (st', r', b, evs)) : Prims N st st' := by
  unfold rdByte at hr
  by_cases hlen : r.len = 0
  · rw [if_pos hlen] at hr; cases hr; exact .refl _
  rw [if_neg hlen] at hr
  cases hsk : rdSkip (r.data.length + 1) st r [] with
  | none => simp only [hsk] at hr; cases hr
  | some q =>
    obtain ⟨st1, r1, e1⟩ := q
    simp only [hsk] at hr
    cases hdata : r1.data with
    | nil => simp only [hdata] at hr; cases hr
    | cons v t =>
      cases hd : dataOf st1 v with
      | none => simp only [hdata, hd] at hr; cases hr
      | some d =>
        simp only [hdata, hd] at hr
        cases hb : d[r1.idx]? with
        | none => simp only [hb] at hr; cases hr
        | some x =>
          simp only [hb] at hr
          obtain ⟨q, hq, he⟩ := Option.map_eq_some_iff.1 hr
          cases he; exact .trans (prims_rdSkip _ hsk) (prims_freeFirst hq)

theorem prims_step {st st' : St} (hs : Step st st') : Prims st.mems.length st st' := by
  cases hs with
  | frame ho hm => exact .frame ho fun _ _ => by rw [hm]
  | newbuf n c k => exact .trans (.poolGet ..) (prims_newBuffer ..)
  | copy data => exact prims_copyVal ..
  | ref hr => exact prims_refVal hr
  | free hr => exact prims_freeVal hr
  | slice hr => exact prims_sliceVal hr
  | split hr => exact prims_splitVal hr
  | read hr => exact prims_readVal hr
  | mattobuf hr => exact prims_matToBuf hr
  | reader hr => exact prims_refAll hr
  | close hr => exact prims_freeAll hr
  | rread hr => exact prims_rdRead _ hr
  | rdiscard hr => exact prims_rdDiscard _ hr
  | rbyte hr => exact prims_rdByte hr
  | @readall _ _ r _ _ _ hr =>
    unfold readAll at hr
    by_cases hbig : r.len ≥ GrpcModel.Generated.readAllBufSize
    · rw [if_pos hbig] at hr; cases hr
    rw [if_neg hbig] at hr
    dsimp only at hr
    split at hr
    next => cases hr
    next st1 r1 bytes evs1 hrd =>
      have p1 := Prims.trans (N := st.mems.length) (.poolGet ..) (prims_rdRead _ hrd)
      by_cases hnone : bytes.length = 0
      · rw [if_pos hnone] at hr; cases hr
        exact .trans p1 (.poolPut ..)
      · rw [if_neg hnone] at hr; cases hr
        -- the array filled is the one just got: its index is the number of memories at the start
        refine .trans p1 (.trans (.frame ?_ fun m hm => ?_) (prims_newBuffer ..))
        · split <;> rfl
        · split
          · exact List.getElem?_set_ne (by simp only [poolGet]; omega)
          · rfl

theorem inv_step {st st' : St} (h : InvO st.objs) (hs : Step st st') : InvO st'.objs :=
  inv_prims (prims_step hs) h

theorem keep_step {st st' : St} (hs : Step st st') : Keep st.mems.length st st' := keep_prims (prims_step hs)

theorem inv_reach {st : St} (h : Reach st) : InvO st.objs := by
  induction h with
  | init => exact inv_nil
  | step _ hs ih => exact inv_step ih hs

end GrpcProofs.Lemmas.MemBuffer
