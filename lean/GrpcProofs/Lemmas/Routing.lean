import GrpcModel.Model.Routing
import GrpcProofs.Lemmas.Basic
namespace GrpcProofs.Lemmas.Routing
open GrpcModel.Matchers GrpcModel.Routing

theorem accWeights_length (s : Nat) (ws : List Nat) : (accWeights s ws).length = ws.length := by
  induction ws generalizing s with
  | nil => rfl
  | cons w ws ih => simp [accWeights, ih]

/-- Stated for accumulation from any offset `s`, counting only the draws `≥ s`: then the head takes the draws in
    `[s, s + w)`, and for a later item the count is the same statement about the tail at offset `s + w`. -/
theorem count_search (ws : List Nat) : ∀ (s i n : Nat), i < ws.length → s + ws.sum ≤ n →
    (List.range n).countP (fun r => decide (s ≤ r ∧ searchAcc r (accWeights s ws) = i)) = ws[i]! := by
  induction ws with
  | nil => intro s i n hi; simp at hi
  | cons w ws ih =>
    intro s i n hi hn
    simp only [List.sum_cons] at hn
    cases i with
    | zero =>
      rw [Basic.countP_range _ n s (s + w) fun r _ => by
        simp only [accWeights, searchAcc, decide_eq_true_eq]; split <;> omega]
      simp; omega
    | succ j =>
      rw [List.getElem!_cons_succ, ← ih (s + w) j n (by simpa using hi) (by omega)]
      refine List.countP_congr fun r _ => ?_
      simp only [accWeights, searchAcc, decide_eq_true_eq]
      -- a draw below `s + w` is the head's; any other is searched in the tail, one index further
      by_cases h : s + w > r
      · rw [if_pos h]; omega
      · rw [if_neg h]; omega

/-! `FindBestMatchingVirtualHost` walks the domains once and remembers one of them. What it computes depends on nothing
about domains: `m` says which elements are candidates, `gt a b` that `a` beats `b`, and all that is used of `gt` is that
it is asymmetric and that "does not beat" is transitive. -/
section FirstBest
variable {α : Type} (m : α → Bool) (gt : α → α → Bool)

def keepBest (o : Option α) (x : α) : Option α := if m x && o.all (gt x ·) then some x else o

/-- `p` is the first candidate of `l` that no candidate beats. -/
def FirstBest (l : List α) (p : α) : Prop :=
  ∃ pre post, l = pre ++ p :: post ∧ m p = true ∧
    (∀ q ∈ pre, m q = true → gt p q = true) ∧ (∀ q ∈ post, m q = true → gt q p = false)

/-- What the remembered element says about the elements walked so far. -/
def Seen (l : List α) : Option α → Prop
  | none => ∀ q ∈ l, m q = false
  | some p => FirstBest m gt l p

variable {m gt} (asymm : ∀ a b, gt a b = true → gt b a = false)
include asymm

/-- The first best candidate is what the executable specification looks for. -/
theorem firstBest_find {l : List α} {p : α} (h : FirstBest m gt l p) :
    (l.filter m).find? (fun p => (l.filter m).all fun q => !gt q p) = some p := by
  obtain ⟨pre, post, rfl, hm, hpre, hpost⟩ := h
  have hms : (pre ++ p :: post).filter m = pre.filter m ++ p :: post.filter m := by
    rw [List.filter_append, List.filter_cons_of_pos hm]
  rw [List.find?_eq_some_iff_append]
  refine ⟨?_, _, _, hms, fun q hq => ?_⟩
  · simp only [hms, List.all_eq_true, List.mem_append, List.mem_cons, List.mem_filter, Bool.not_eq_eq_eq_not,
      Bool.not_true]
    rintro r (⟨h, hm'⟩ | rfl | ⟨h, hm'⟩)
    · exact asymm _ _ (hpre r h hm')
    · exact Bool.eq_false_iff.mpr fun h => by rw [asymm r r h] at h; cases h
    · exact hpost r h hm'
  · obtain ⟨hq1, hq2⟩ := List.mem_filter.mp hq
    simp only [Bool.not_eq_eq_eq_not, Bool.not_true, List.all_eq_false]
    exact ⟨p, by simp [hms], by simp [hpre q hq1 hq2]⟩

theorem firstBest_unique {l : List α} {p p' : α} (h : FirstBest m gt l p) (h' : FirstBest m gt l p') : p = p' :=
  Option.some.inj ((firstBest_find asymm h).symm.trans (firstBest_find asymm h'))

variable (ntrans : ∀ a b c, gt a c = true → gt a b = true ∨ gt b c = true)
include ntrans

theorem seen_keepBest {l : List α} {o : Option α} (h : Seen m gt l o) (x : α) :
    Seen m gt (l ++ [x]) (keepBest m gt o x) := by
  unfold keepBest
  split
  next hx =>
    -- `x` is a candidate and beats the remembered one, hence every candidate walked so far
    rw [Bool.and_eq_true] at hx
    refine ⟨l, [], rfl, hx.1, fun q hq hmq => ?_, nofun⟩
    match o, h, hx.2 with
    | none, h, _ => rw [h q hq] at hmq; cases hmq
    | some p, ⟨pre, post, hl, _, hpre, hpost⟩, hb =>
      rw [Option.all_some] at hb
      rw [hl] at hq
      rcases List.mem_append.mp hq with hq | hq
      · exact (ntrans x q p hb).resolve_right (by rw [asymm p q (hpre q hq hmq)]; nofun)
      · rcases List.mem_cons.mp hq with rfl | hq
        · exact hb
        · exact (ntrans x q p hb).resolve_right (by rw [hpost q hq hmq]; nofun)
  next hx =>
    match o, h with
    | none, h =>
      intro q hq
      rcases List.mem_append.mp hq with hq | hq
      · exact h q hq
      · rw [List.mem_singleton.mp hq]; simpa using hx
    | some p, ⟨pre, post, hl, hm, hpre, hpost⟩ =>
      refine ⟨pre, post ++ [x], by simp [hl], hm, hpre, fun q hq hmq => ?_⟩
      rcases List.mem_append.mp hq with hq | hq
      · exact hpost q hq hmq
      · rw [List.mem_singleton.mp hq] at hmq ⊢; simpa [hmq] using hx

theorem seen_foldl (l : List α) : Seen m gt l (l.foldl (keepBest m gt) none) := by
  suffices ∀ (l done : List α) (o : Option α), Seen m gt done o → Seen m gt (done ++ l) (l.foldl (keepBest m gt) o) from
    this l [] none nofun
  intro l
  induction l with
  | nil => intro done o h; simpa using h
  | cons x l ih =>
    intro done o h
    have := ih (done ++ [x]) _ (seen_keepBest asymm ntrans h x)
    simpa using this

theorem foldl_keepBest_none (l : List α) : l.foldl (keepBest m gt) none = none ↔ ∀ q ∈ l, m q = false := by
  have h : Seen m gt l _ := seen_foldl asymm ntrans l
  constructor
  · intro hn; rwa [hn] at h
  · intro hall
    cases hf : l.foldl (keepBest m gt) none with
    | none => rfl
    | some p =>
      rw [hf] at h
      obtain ⟨pre, post, rfl, hm, _⟩ := h
      rw [hall p (by simp)] at hm; cases hm

theorem foldl_keepBest_eq_find (l : List α) :
    l.foldl (keepBest m gt) none = (l.filter m).find? (fun p => (l.filter m).all fun q => !gt q p) := by
  have h : Seen m gt l _ := seen_foldl asymm ntrans l
  cases hf : l.foldl (keepBest m gt) none with
  | none =>
    rw [hf] at h
    rw [List.filter_eq_nil_iff.mpr fun q hq => by simp [h q hq]]; rfl
  | some p => rw [hf] at h; exact (firstBest_find asymm h).symm

theorem foldl_keepBest_some (l : List α) (p : α) :
    l.foldl (keepBest m gt) none = some p ↔ FirstBest m gt l p := by
  refine ⟨fun hf => ?_, fun h => ?_⟩
  · have h : Seen m gt l _ := seen_foldl asymm ntrans l
    rwa [hf] at h
  · rw [foldl_keepBest_eq_find asymm ntrans, firstBest_find asymm h]

end FirstBest

theorem rank_eq (t : DomainMatchType) : t.rank = Spec.rank t := by
  cases t <;> decide

theorem rank_inj {a b : DomainMatchType} (h : Spec.rank a = Spec.rank b) : a = b := by
  cases a <;> cases b <;> simp [Spec.rank] at h <;> rfl

theorem rank_pos {t : DomainMatchType} (h : t ≠ .invalid) : 1 ≤ Spec.rank t := by
  cases t <;> simp [Spec.rank] at *

theorem matches_valid {d host : Str} (h : domainMatches d host = true) : matchTypeForDomain d ≠ .invalid := by
  intro hi; simp [domainMatches, hi] at h

theorem better_def (q p : Str) : Spec.better q p = true ↔
    Spec.rank (matchTypeForDomain q) > Spec.rank (matchTypeForDomain p) ∨
    (Spec.rank (matchTypeForDomain q) = Spec.rank (matchTypeForDomain p) ∧ q.length > p.length) := by
  simp [Spec.better]

theorem better_false (q p : Str) : Spec.better q p = false ↔
    ¬ (Spec.rank (matchTypeForDomain q) > Spec.rank (matchTypeForDomain p) ∨
    (Spec.rank (matchTypeForDomain q) = Spec.rank (matchTypeForDomain p) ∧ q.length > p.length)) := by
  rw [← better_def]; simp

theorem better_asymm {a b : Str} (h : Spec.better a b = true) : Spec.better b a = false := by
  rw [better_false]; have := (better_def a b).mp h; omega

theorem better_irrefl (a : Str) : Spec.better a a = false := by
  rw [better_false]; omega

/-- "not better" is "at most as good" in the lexicographic order of rank and length, which is transitive -/
theorem better_ntrans (a b c : Str) (h : Spec.better a c = true) : Spec.better a b = true ∨ Spec.better b c = true := by
  simp only [better_def] at *; omega

/-- the empty pattern stands for "nothing chosen yet" -/
theorem better_nil {d : Str} (h : matchTypeForDomain d ≠ .invalid) : Spec.better d [] = true := by
  have := rank_pos h
  rw [better_def]; exact .inl this

/-- the comparison `stepDomain` makes against the stored type and length of pattern `pat` -/
theorem keepsStored_eq_not_better (pat d : Str) :
    ((matchTypeForDomain pat).betterThan (matchTypeForDomain d) ||
      (decide (matchTypeForDomain pat = matchTypeForDomain d) && decide (pat.length ≥ d.length))) =
    !Spec.better d pat := by
  rw [Bool.eq_iff_iff]
  simp only [DomainMatchType.betterThan, rank_eq, Bool.or_eq_true, Bool.and_eq_true, decide_eq_true_eq,
    Bool.not_eq_true', better_false]
  by_cases hr : Spec.rank (matchTypeForDomain pat) = Spec.rank (matchTypeForDomain d)
  · simp only [rank_inj hr, true_and]; omega
  · have : matchTypeForDomain pat ≠ matchTypeForDomain d := fun h => hr (h ▸ rfl)
    simp only [this, false_and, or_false]; omega

theorem stepDomain_none (host : Str) (st : Best) (vh : Nat) (d : Str) :
    stepDomain host st vh d = none ↔ matchTypeForDomain d = .invalid := by
  unfold stepDomain
  by_cases h : matchTypeForDomain d = .invalid
  · simp [h]
  · simp only [h, if_false, iff_false]
    split <;> simp

theorem loop_none (host : Str) : ∀ (rest : List (Nat × Str)) (st : Best),
    loopDomains host st rest = none ↔ ∃ p ∈ rest, matchTypeForDomain p.2 = .invalid
  | [], st => by simp [loopDomains]
  | (vh, d) :: rest, st => by
    simp only [loopDomains]
    cases hs : stepDomain host st vh d with
    | none => simp [(stepDomain_none host st vh d).mp hs]
    | some st1 =>
      have hv : matchTypeForDomain d ≠ .invalid := fun h => by
        rw [(stepDomain_none host st vh d).mpr h] at hs; cases hs
      simp [loop_none host rest st1, hv]

abbrev cand (host : Str) (q : Nat × Str) : Bool := domainMatches q.2 host
abbrev beats (a b : Nat × Str) : Bool := Spec.better a.2 b.2

-- Stated over pairs: given as lambdas at the call they are very slow to unify with `gt`.
theorem beats_asymm (a b : Nat × Str) : beats a b = true → beats b a = false := better_asymm

theorem beats_ntrans (a b c : Nat × Str) : beats a c = true → beats a b = true ∨ beats b c = true :=
  better_ntrans a.2 b.2 c.2

/-- The loop state that remembers pair `o`: its owner, and type and length of its pattern (of `[]`, which is
    invalid, when nothing is remembered). -/
def remembering (o : Option (Nat × Str)) : Best :=
  ⟨o.map (·.1), matchTypeForDomain ((o.map (·.2)).getD []), ((o.map (·.2)).getD []).length⟩

theorem stepDomain_remembering (host : Str) (o : Option (Nat × Str)) (vh : Nat) (d : Str)
    (hv : matchTypeForDomain d ≠ .invalid) :
    stepDomain host (remembering o) vh d = some (remembering (keepBest (cand host) beats o (vh, d))) := by
  have hb : Spec.better d ((o.map (·.2)).getD []) = o.all (beats (vh, d) ·) := by
    cases o with
    | none => exact better_nil hv
    | some p => rfl
  -- `dsimp`, so that the `Decidable` instances inside lose their `(remembering o).typ` too
  dsimp only [stepDomain, remembering]
  rw [if_neg hv, keepsStored_eq_not_better, hb]
  unfold keepBest cand
  cases domainMatches d host <;> cases o.all (beats (vh, d) ·) <;> rfl

theorem loopDomains_remembering (host : Str) : ∀ (l : List (Nat × Str)) (o : Option (Nat × Str)),
    (∀ p ∈ l, matchTypeForDomain p.2 ≠ .invalid) →
    loopDomains host (remembering o) l = some (remembering (l.foldl (keepBest (cand host) beats) o))
  | [], o, _ => rfl
  | (vh, d) :: l, o, hv => by
    rw [loopDomains, stepDomain_remembering host o vh d (hv _ (List.mem_cons_self ..))]
    exact loopDomains_remembering host l _ fun p hp => hv p (List.mem_cons_of_mem _ hp)

theorem findBestVHost_none_of_invalid (host : Str) (vhs : List (List Str)) :
    (∃ p ∈ domainPairs vhs, matchTypeForDomain p.2 = .invalid) → findBestVHost host vhs = none := by
  intro h
  unfold findBestVHost
  rw [(loop_none host (domainPairs vhs) Best.init).mpr h]

theorem findBestVHost_of_valid (host : Str) (vhs : List (List Str))
    (hvalid : ∀ p ∈ domainPairs vhs, matchTypeForDomain p.2 ≠ .invalid) :
    findBestVHost host vhs = ((domainPairs vhs).foldl (keepBest (cand host) beats) none).map (·.1) := by
  rw [findBestVHost, show Best.init = remembering none from rfl, loopDomains_remembering host _ _ hvalid]; rfl

theorem findBestVHost_eq_spec (host : Str) (vhs : List (List Str)) : findBestVHost host vhs = Spec.bestVHost host vhs := by
  rw [Spec.bestVHost]
  split
  next h =>
    have ⟨p, hp, hi⟩ := List.any_eq_true.mp h
    exact findBestVHost_none_of_invalid host vhs ⟨p, hp, beq_iff_eq.mp hi⟩
  next h =>
    rw [findBestVHost_of_valid host vhs fun p hp hi => h (List.any_eq_true.mpr ⟨p, hp, beq_iff_eq.mpr hi⟩),
      foldl_keepBest_eq_find beats_asymm beats_ntrans]

/-- give every route its own draw `τ[j]`; the code consumes, in order, the draws of the routes that reach their
    fraction matcher. -/
def drawsUsed (method : Str) (md : MD) : List Route → List Nat → List Nat
  | [], _ => []
  | _ :: _, [] => []
  | r :: rs, t :: τ => if r.needsDraw method md then t :: drawsUsed method md rs τ else drawsUsed method md rs τ

theorem matchWith_of_not_needsDraw (strict : Bool) (r : Route) (method : Str) (md : MD) (t : Nat)
    (h : r.needsDraw method md = false) : r.matchWith strict method md t = r.staticMatch method md := by
  unfold Route.needsDraw at h
  unfold Route.matchWith
  cases hs : r.staticMatch method md
  · simp
  · cases hf : r.fraction with
    | none => simp
    | some f => simp [hs, hf] at h

theorem firstMatch_eq_findIdx (strict : Bool) (method : Str) (md : MD) :
    ∀ (routes : List Route) (τ : List Nat), τ.length = routes.length →
      firstMatch strict method md routes (drawsUsed method md routes τ) =
        (List.zip routes τ).findIdx? (fun rt => rt.1.matchWith strict method md rt.2)
  | [], _, _ => by simp [firstMatch]
  | r :: rs, [], h => by simp at h
  | r :: rs, t :: τ, h => by
    have ih := firstMatch_eq_findIdx strict method md rs τ (by simpa using h)
    simp only [List.zip_cons_cons, List.findIdx?_cons, drawsUsed]
    by_cases hn : r.needsDraw method md = true
    · simp only [hn, if_true, firstMatch]
      by_cases hm : r.matchWith strict method md t = true
      · simp [hm]
      · simp only [hm, Bool.false_eq_true, if_false, ih]
    · have hn' : r.needsDraw method md = false := by simpa using hn
      have hmw := matchWith_of_not_needsDraw strict r method md t hn'
      simp only [hn', Bool.false_eq_true, if_false, firstMatch, hmw]
      by_cases hs : r.staticMatch method md = true
      · simp [hs]
      · simp only [hs, Bool.false_eq_true, if_false, ih]

def applies (v : Str → List Str) : HashPolicy → Bool
  | .channelID _ => true
  | .header n _ => !hasSuffixBin n && !(v n).isEmpty

def isTerminal : HashPolicy → Bool
  | .channelID t => t
  | .header _ t => t

/-- what a policy that applies mixes into the hash -/
def policyHash (hashFn : Str → UInt64) (c : UInt64) (v : Str → List Str) : HashPolicy → UInt64
  | .channelID _ => c
  | .header n _ => hashFn (joinComma (v n))

theorem hashLoop_nil (hashFn : Str → UInt64) (c : UInt64) (v : Str → List Str) (h : UInt64) (g : Bool) :
    hashLoop hashFn c v [] h g = (h, g) := rfl

theorem hashLoop_cons (hashFn : Str → UInt64) (c : UInt64) (v : Str → List Str) (p : HashPolicy)
    (rest : List HashPolicy) (h : UInt64) (g : Bool) :
    hashLoop hashFn c v (p :: rest) h g =
      if applies v p then
        if isTerminal p then (rotl1 h ^^^ policyHash hashFn c v p, true)
        else hashLoop hashFn c v rest (rotl1 h ^^^ policyHash hashFn c v p) true
      else hashLoop hashFn c v rest h g := by
  cases p with
  | channelID t => rfl
  | header n t =>
    have ha : applies v (.header n t) = (!hasSuffixBin n && !(v n).isEmpty) := rfl
    rw [hashLoop, ha]
    dsimp only
    cases hasSuffixBin n <;> cases (v n).isEmpty <;> rfl

theorem hashLoop_congr (hashFn : Str → UInt64) (c : UInt64) (v v' : Str → List Str) :
    ∀ (ps : List HashPolicy) (h : UInt64) (g : Bool),
      (∀ n t, HashPolicy.header n t ∈ ps → hasSuffixBin n = false → v n = v' n) →
      hashLoop hashFn c v ps h g = hashLoop hashFn c v' ps h g
  | [], _, _, _ => rfl
  | p :: rest, h, g, hv => by
    have ih := fun h g => hashLoop_congr hashFn c v v' rest h g fun n t hm => hv n t (List.mem_cons_of_mem _ hm)
    -- whether `p` applies, and what it mixes in if it does, depend on `v` only at a header name that is not "-bin"
    have hp : applies v p = applies v' p ∧ (applies v p = true → policyHash hashFn c v p = policyHash hashFn c v' p) := by
      cases p with
      | channelID t => exact ⟨rfl, fun _ => rfl⟩
      | header n t =>
        cases hb : hasSuffixBin n
        · simp only [applies, policyHash, hv n t (List.mem_cons_self ..) hb, implies_true, and_self]
        · simp [applies, hb]
    rw [hashLoop_cons, hashLoop_cons, ← hp.1]
    split
    · rw [← hp.2 ‹_›, ih]
    · exact ih _ _

theorem hashLoop_terminal_cuts (hashFn : Str → UInt64) (c : UInt64) (v : Str → List Str) (p : HashPolicy)
    (hp : applies v p = true) (ht : isTerminal p = true) (ps2 ps2' : List HashPolicy) :
    ∀ (ps1 : List HashPolicy) (h : UInt64) (g : Bool),
      hashLoop hashFn c v (ps1 ++ p :: ps2) h g = hashLoop hashFn c v (ps1 ++ p :: ps2') h g
  | [], h, g => by simp only [List.nil_append, hashLoop_cons, hp, ht, if_true]
  | q :: ps1, h, g => by
    have ih := hashLoop_terminal_cuts hashFn c v p hp ht ps2 ps2' ps1
    simp only [List.cons_append, hashLoop_cons, ih]

theorem lookup_filter (g : Str → Bool) (k : Str) (hk : g k = true) :
    ∀ md : MD, lookupMD (md.filter fun (kv : Str × List Str) => g kv.1) k = lookupMD md k
  | [] => rfl
  | (a, b) :: es => by
    have ih := lookup_filter g k hk es
    unfold lookupMD at ih ⊢
    by_cases hka : k = a
    · subst hka
      simp [hk]
    · have hne : (k == a) = false := by simpa using hka
      rw [List.filter_cons]
      split <;> simp only [List.lookup_cons, hne, ih]

end GrpcProofs.Lemmas.Routing
