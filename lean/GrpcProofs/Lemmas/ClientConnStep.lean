import GrpcProofs.Lemmas.ClientConnInv
/-!
Every event of the client transport model preserves `Mono` and `Inv`, and neither the reader goroutine nor `Close`
ever steps back.

`Good s0 s` says all of this of a state `s` reached from `s0`.  `Good.x`: the primitive `x` of the model leads to a `Good`
successor.  With these each handler is walked once, along its definition; `mono_step`, `inv_step` and what C11 needs of the
order of `Close`'s phases (`Good.pastSelect`, `Good.timer`) are projections of `good_step` / `good_run`.
-/
namespace GrpcProofs.Lemmas.ClientConn
open GrpcModel.ClientConn

/-- how far `Close` has got -/
def closeRank : CloseP → Nat
  | .none => 0
  | .waitWriter _ => 1
  | .waitReader => 2
  | .done => 3

theorem two_le_closeRank {p : CloseP} : 2 ≤ closeRank p ↔ p = .waitReader ∨ p = .done := by
  cases p <;> simp [closeRank]

/-- What every step of the model does, said of a state `s` reached from `s0`.  `inv` is an implication so that the invariant
of the state a handler started from stays available all along the handler: the non-gRPC code it read from a stream record at
the start is a legal code because of it. -/
structure Good (s0 s : State) : Prop where
  mono : Mono s0 s
  inv : Inv s0 → Inv s
  /-- the reader goroutine, once returned, stays so -/
  rd : s0.readerDone = true → s.readerDone = true
  /-- once started, `Close` stays where it is (its timer is not armed again) or gets further -/
  cp : s0.tstate = .closing → s.closeP = s0.closeP ∨ closeRank s0.closeP < closeRank s.closeP

/-- the error handed to `closeStream` is a gRPC status code (hypothesis `he` of `Inv.closeStream`) -/
theorem legal_some {c : Nat} (h : c ≤ 16) : ∀ k, some c = some k → k ≤ 16 := fun _ hk => Option.some.inj hk ▸ h

theorem legal_none : ∀ k, (none : Option Nat) = some k → k ≤ 16 := fun _ hk => nomatch hk

theorem ite_le {c : Prop} [Decidable c] {a b n : Nat} (ha : a ≤ n) (hb : b ≤ n) : (if c then a else b) ≤ n := by
  split <;> assumption

namespace Good
variable {s0 s : State}

theorem refl (s : State) : Good s s := ⟨.refl s, id, id, fun _ => .inl rfl⟩

theorem trans {a b c : State} (h1 : Good a b) (h2 : Good b c) : Good a c where
  mono := h1.mono.trans h2.mono
  inv h := h2.inv (h1.inv h)
  rd h := h2.rd (h1.rd h)
  cp hc := by
    rcases h1.cp hc with e1 | l1 <;> rcases h2.cp (h1.mono.closing hc) with e2 | l2
    · exact .inl (e2.trans e1)
    · exact .inr (e1 ▸ l2)
    · exact .inr (e2 ▸ l1)
    · exact .inr (Nat.lt_trans l1 l2)

theorem pastSelect (h : Good s0 s) (hc : s0.tstate = .closing) (hp : s0.closeP = .waitReader ∨ s0.closeP = .done) :
    s.closeP = .waitReader ∨ s.closeP = .done := by
  rcases h.cp hc with e | l
  · rw [e]; exact hp
  · exact two_le_closeRank.mp (Nat.le_trans (two_le_closeRank.mpr hp) (Nat.le_of_lt l))

theorem timer {t : Nat} (h : Good s0 s) (hc : s0.tstate = .closing) (hn : s0.closeP ≠ .none) (ht : s.closeP = .waitWriter t) :
    s0.closeP = .waitWriter t := by
  rcases h.cp hc with e | l
  · exact e ▸ ht
  · rw [ht] at l
    cases hp : s0.closeP <;> simp_all [closeRank]

theorem next {s' : State} (h : Good s0 s) (hm : Mono s s') (hi : Inv s0 → Inv s → Inv s')
    (hrd : s'.readerDone = s.readerDone := by rfl) (hcp : s'.closeP = s.closeP := by rfl) : Good s0 s' where
  mono := h.mono.trans hm
  inv h0 := hi h0 (h.inv h0)
  rd h0 := hrd ▸ h.rd h0
  cp hc := hcp ▸ h.cp hc

theorem ite {c : Prop} [Decidable c] {a b : State} (ha : Good s0 a) (hb : Good s0 b) :
    Good s0 (if c then a else b) := by
  split <;> assumption

theorem ite' {c : Prop} [Decidable c] {a b : State} (ha : Good s0 a) (hb : ¬c → Good s0 b) :
    Good s0 (if c then a else b) := by
  split
  · exact ha
  · exact hb ‹_›

/-- for a handler that returns something along with the state: loopy's the frames written, `handleGoAway` and `goAwayKill`
whether they report a connection error -/
theorem ite₁ {α : Type} {c : Prop} [Decidable c] {a b : State × α} (ha : Good s0 a.1) (hb : Good s0 b.1) :
    Good s0 (if c then a else b).1 := by
  split <;> assumption

/-- bookkeeping outside the fields `Mono` and `Inv` read (checked once the new state is known) -/
theorem sameView {s' : State} (h : Good s0 s) (em : monoView s' = monoView s := by rfl)
    (ei : invView s' = invView s := by rfl) : Good s0 s' := by
  have e := ei
  simp only [invView, Prod.mk.injEq] at e
  obtain ⟨-, -, ecp, erd, -⟩ := e
  exact h.next (.of_view em) (fun _ hi => hi.of_view ei) erd ecp

/-- by default `f` is a record update that mentions none of the fields `Plain` lists -/
theorem updStream {i : Nat} {f : Strm → Strm} (h : Good s0 s)
    (hf : Plain f := by constructor <;> intro <;> rfl) : Good s0 (s.updStream i f) :=
  h.next (mono_updStream s i hf.safe) fun _ hi => hi.updStream i hf.isafe

theorem nonGRPC {i c l : Nat} (h : Good s0 s) (hc : Inv s0 → c ≤ 16) :
    Good s0 (s.updStream i fun x => { x with nonGRPC := some (c, l) }) :=
  -- of what `Safe` and `ISafe` read only `nonGRPC` changes: `ISafe`'s second alternative, a legal code
  h.next (mono_updStream s i fun _ => ⟨rfl, rfl, fun _ ht => ht⟩)
    fun h0 hi => hi.updStream i fun _ => ⟨rfl, rfl, rfl, Or.inr ⟨c, l, rfl, hc h0⟩⟩

theorem close_of_inv {i : Nat} {e : Option Nat} {st : Nat} {r : Bool} {c : Nat} (h : Good s0 s)
    (he : Inv s0 → ∀ k, e = some k → k ≤ 16) : Good s0 (s.closeStream i e st r c) := by
  obtain ⟨_, _, _, hs, -⟩ := closeStream_eq s i e st r c
  exact h.next ((Mono.refl s).closeStream ..) (fun h0 hi => hi.closeStream _ _ _ _ _ (he h0)) (by rw [hs]) (by rw [hs])

theorem close {i : Nat} {e : Option Nat} {st : Nat} {r : Bool} {c : Nat} (h : Good s0 s)
    (he : ∀ k, e = some k → k ≤ 16) : Good s0 (s.closeStream i e st r c) := h.close_of_inv fun _ => he

theorem cbuf {l : List Item} (h : Good s0 s) (hl : ∀ i id r c, Item.cleanup i id r c ∈ l → Item.cleanup i id r c ∈ s.cbuf) :
    Good s0 { s with cbuf := l } :=
  h.next .of_view fun _ hi => hi.cbuf l hl

theorem put {it : Item} (h : Good s0 s) (hit : ∀ i id r c, it ≠ Item.cleanup i id r c) : Good s0 (s.put it) := by
  rw [put_eq]
  refine h.cbuf fun i id r c hm => ?_
  split at hm
  · exact hm
  · rcases List.mem_append.mp hm with hm | hm
    · exact hm
    · exact absurd (List.mem_singleton.mp hm).symm (hit i id r c)

theorem updRpc {k : Nat} {f : Rpc → Rpc} (h : Good s0 s) (hf : RSafe f) : Good s0 (s.updRpc k f) :=
  h.next { Mono.refl s with rpc := (RMono.refl _).modify k hf } fun _ hi => hi.of_view

theorem orphan {i : Nat} (h : Good s0 s) : Good s0 (s.orphan i cUnavailable) :=
  h.next (mono_updStream s i (safe_orphanF _)) fun _ hi => hi.orphan i _ cUnavailable_le

/-- loopy's `cleanupStream.onWrite` for the item it found in the control buffer of `s0`: the stream leaves
`activeStreams`; it got its outcome before the item was queued, and has kept it -/
theorem deact {i id : Nat} {r : Bool} {c : Nat} (h : Good s0 s) (hm : Item.cleanup i id r c ∈ s0.cbuf) :
    Good s0 (s.updStream i deactF) :=
  h.next (mono_updStream s i safe_deactF) fun h0 hi => hi.modify i _ fun y hy => by
    obtain ⟨x, hx, hs⟩ := h0.cl i id r c hm
    obtain ⟨t, hxt⟩ := Option.isSome_iff_exists.mp hs
    obtain ⟨y', hy', -, hyt⟩ := h.mono.outcome hx hxt
    cases Option.some.inj (hy'.symm.trans hy)
    exact ⟨{ hi.strm hy with live := fun hn => by rw [show y.term = none from hn] at hyt; cases hyt }, fun hs => hs⟩

theorem toDraining (h : Good s0 s) (hc : s.tstate ≠ .closing) : Good s0 { s with tstate := TState.draining } :=
  h.next { Mono.refl s with notReach := fun _ => by simp, closing := fun hcl => absurd hcl hc, gaNew := Or.inl }
    fun _ hi => hi.toDraining hc

theorem goAwayFirst (h : Good s0 s) (code : Nat) (d : Bytes) (hc : s.tstate ≠ .closing) : Good s0 (s.goAwayFirst code d) := by
  obtain ⟨_, _, he⟩ := goAwayFirst_eq s code d
  rw [he]
  exact (h.toDraining hc).next { Mono.refl _ with ga := fun _ => rfl, gaNew := fun _ => Or.inr (by simp) } fun _ hi => hi.of_view

theorem closeP1 (h : Good s0 s) (e : Bool) : Good s0 (s.closeP1 e) := by
  by_cases hc : s.tstate = .closing
  · rw [closeP1_of_closing s e hc]; exact h
  · rw [closeP1_eq s e hc]
    refine h.trans { mono := { Mono.refl s with
      str := (SMono.refl _).map safe_snapF, notReach := fun _ => by simp, closing := fun _ => rfl, frozen := fun _ => ⟨rfl, by simp⟩,
      gaNew := Or.inl }, inv := fun h => ?_, rd := id, cp := fun hcl => absurd hcl hc }
    have hget : ∀ (j : Nat) (y : Strm), (s.streams.map snapF)[j]? = some y → ∃ x, s.streams[j]? = some x ∧ snapF x = y :=
      fun j y hy => Option.map_eq_some_iff.mp (List.getElem?_map .. ▸ hy)
    exact {
      cp := by simp
      rd := fun _ => rfl
      cd := by simp
      tm := fun tt htt => by cases htt; exact Nat.le_refl _
      -- a stream without outcome was in `activeStreams` (the transport was not closing), so it is in the snapshot
      live := fun i y hy ht => by
        obtain ⟨x, hx, rfl⟩ := hget i y hy
        exact ⟨fun hn => absurd rfl hn, fun _ => ⟨(h.live i x hx ht).1 hc, by simp⟩⟩
      cl := fun i id r cc hm => by
        have hm' : Item.cleanup i id r cc ∈ s.cbuf := by
          split at hm
          · exact hm
          · simpa using hm
        obtain ⟨x, hx, hs⟩ := h.cl i id r cc hm'
        exact ⟨snapF x, by simp [hx], hs⟩
      lg := fun i y tt hy ht => by
        obtain ⟨x, hx, rfl⟩ := hget i y hy
        exact h.lg i x tt hx ht
      ng := fun i y cc l hy hn => by
        obtain ⟨x, hx, rfl⟩ := hget i y hy
        exact h.ng i x cc l hx hn }

theorem readerExit (h : Good s0 s) : Good s0 s.readerExit := by
  cases hr : s.readerDone with
  | true => rw [readerExit_of_done s hr]; exact h
  | false =>
    rw [readerExit_eq s hr]
    have h1 := h.closeP1 true
    exact { mono := h1.mono.trans .of_view, inv := fun h0 => { h1.inv h0 with rd := fun _ => closeP1_tstate s true },
            rd := fun _ => rfl, cp := h1.cp }

theorem markVictims (h : Good s0 s) (id up : Nat) : Good s0 (s.markVictims id up) := by
  have hp : Plain fun x => if isVictim id up x then markF x else x := by
    constructor <;> intro x <;> split <;> rfl
  exact h.next { Mono.refl s with str := (SMono.refl _).map hp.safe, frozen := fun _ => ⟨rfl, by simp [State.markVictims]⟩ }
    fun _ hi => hi.pointwise (fun _ => _) (fun _ => List.getElem?_map ..) fun _ _ hx => hp.isafe.ok (hi.strm hx)

theorem closeWhere (h : Good s0 s) (p : Strm → Bool) (n : Nat) : Good s0 (closeWhere p s n) := by
  induction n with
  | zero => exact h
  | succ n ih =>
    rw [closeWhere_step]
    exact .ite (ih.close (legal_some cUnavailable_le)) ih

theorem register (h : Good s0 s) (k : Nat) (r : Rpc) (hr : s.tstate = .reachable) : Good s0 (s.register k r) := by
  unfold State.register
  simp only []
  obtain ⟨tk, ht⟩ := sendToken_eq { s with nextID := s.nextID + 2, streams := s.streams ++ [_], cbuf := s.cbuf ++ [Item.hdr s.streams.length s.nextID] }
  rw [ht]
  refine h.next ?_ fun _ h => ?_
  · exact { Mono.refl s with
      str := (SMono.refl _).append _, rpc := (RMono.refl _).modify k (rsafe_setSt _), frozen := fun hn => absurd hr hn }
  · refine Inv.of_view (Inv.cbuf (l := s.cbuf ++ [Item.hdr s.streams.length s.nextID]) (h.streams (s.streams ++ [_])
      (fun j y hy => ?_) fun j x hx hs => ⟨x, ?_, hs⟩) fun j id r' c hm => ?_)
    · -- `StrmOK` of every record: an old one is as it was; the new one is in `activeStreams` of a `reachable` transport
      by_cases hj : j < s.streams.length
      · rw [List.getElem?_append_left hj] at hy; exact h.strm hy
      · rw [List.getElem?_append_right (by omega)] at hy
        cases hjj : j - s.streams.length with
        | zero =>
          rw [hjj] at hy; cases hy
          exact { live := fun _ => ⟨fun _ => rfl, fun hc => by simp [hr] at hc⟩, lg := fun _ ht => (nomatch ht),
                  ng := fun _ _ hn => (nomatch hn) }
        | succ n => simp [hjj] at hy
    · -- a stream that had its outcome is still at its index
      rw [List.getElem?_append_left (Basic.lt_of_getElem? hx)]; exact hx
    · -- the item queued is no `cleanup`
      rcases List.mem_append.mp hm with hm | hm
      · exact hm
      · exact absurd hm (by simp)

theorem closeP2 (h : Good s0 s) : Good s0 s.closeP2 := by
  unfold State.closeP2
  split
  · rename_i t hp
    exact .ite (h.trans { mono := .of_view, rd := id, cp := fun _ => .inr (hp ▸ Nat.lt_succ_self 1), inv := fun hi => { hi with
      cp := by simp; exact hi.cp.mpr (by simp [hp])
      cd := fun _ => rfl
      tm := fun tt htt => by simp at htt
      live := fun i x hx ht => ⟨(hi.live i x hx ht).1, fun hc => ⟨((hi.live i x hx ht).2 hc).1, by simp⟩⟩ } }) h
  · exact h

/-- `Close` after `<-t.readerDone`: every stream of the snapshot gets its outcome; a stream outside the snapshot
had its outcome before (`Inv.live`), so none is left without -/
theorem closeP3 (h : Good s0 s) : Good s0 s.closeP3 := by
  unfold State.closeP3
  split
  · rename_i hp
    simp only [closeSnapshot_eq]
    have g1 := (Good.refl s).closeWhere (·.inSnapshot) s.streams.length
    refine .ite h (h.trans
      { mono := g1.mono.trans .of_view, rd := g1.rd, cp := fun _ => .inr (hp ▸ Nat.lt_succ_self 2), inv := fun hi => ?_ })
    · have hcl : s.tstate = .closing := hi.cp.mpr (by simp [hp])
      have h1 := g1.inv hi
      obtain ⟨l, q, cb, tk, heq⟩ := closeWhere_eq (·.inSnapshot) s s.streams.length
      have hdone : ∀ (i : Nat) (y : Strm), (ClientConn.closeWhere (·.inSnapshot) s s.streams.length).streams[i]? = some y →
          y.term ≠ none := by
        intro i y hy ht
        rw [closeWhere_get] at hy
        cases hx : s.streams[i]? with
        | none => simp [hx] at hy
        | some x =>
          simp only [Basic.lt_of_getElem? hx, if_true, hx, Option.map_some, Option.some.injEq] at hy
          subst hy
          by_cases hsn : x.inSnapshot = true
          · simp [hsn, closeF_term] at ht
          · exact hsn ((hi.live i x hx (by simpa [hsn] using ht)).2 hcl).1
      exact { h1 with
        cp := by simp; rw [heq]; exact hcl
        cd := fun _ => by show (ClientConn.closeWhere _ s _).ctxDone = true; rw [heq]; exact hi.cd (Or.inl hp)
        tm := fun tt htt => by simp at htt
        live := fun i y hy ht => absurd ht (hdone i y hy) }
  · exact h

theorem tick (h : Good s0 s) (ms : Nat) : Good s0 { s with now := s.now + ms } :=
  h.next .of_view fun _ hi => { hi with tm := fun t ht => Nat.le_trans (hi.tm t ht) (by simp only []; omega) }

end Good

theorem closeP2_pastSelect {s : State} (hn : s.closeP ≠ .none)
    (hen : ∀ t, s.closeP = .waitWriter t → s.lExited = true ∨ t ≤ s.now) :
    s.closeP2.closeP = .waitReader ∨ s.closeP2.closeP = .done := by
  unfold State.closeP2
  cases hp : s.closeP with
  | none => exact absurd hp hn
  | waitWriter t =>
    have : (s.lExited || decide (t ≤ s.now)) = true := by simpa using hen t hp
    simp [this]
  | waitReader => simp [hp]
  | done => simp [hp]

theorem good_operateHeaders (s : State) (sid : Nat) (es tr : Bool) (fs : List (Bytes × Bytes)) :
    Good s (s.operateHeaders sid es tr fs) := by
  unfold State.operateHeaders
  cases s.findActive sid with
  | none => exact .refl s
  | some i =>
  simp only []
  cases hstr : s.streams[i]? with
  | none => exact .refl s
  | some str =>
  simp only []
  -- `h1`: the state after the bookkeeping update, where the `if` tree starts.  Every leaf of the tree is `h1` followed by at most
  -- one `closeStream`, `nonGRPC` or record update; `hI` is the leaf that occurs five times, INTERNAL with RST_STREAM(PROTOCOL_ERROR).
  have h1 : Good s (s.updStream i fun x => { x with bytesReceived := true }) :=
    (Good.refl s).updStream
  generalize s.updStream i _ = s1 at h1 ⊢
  have hI := h1.close (i := i) (st := cInternal) (r := true) (c := h2Protocol) (legal_some cInternal_le)
  -- a second HEADERS without END_STREAM; a truncated header list
  refine .ite hI (.ite (h1.close (legal_some cInternal_le)) ?_)
  cases hng : str.nonGRPC with
  | some p =>
    -- found not to be gRPC by an earlier HEADERS: the code was read from the record at the start, so it is legal by `Inv` there
    exact .ite (h1.close_of_inv fun h0 => legal_some (h0.ng i str p.1 p.2 hstr hng)) h1
  | none =>
  simp only []
  cases scanFields _ fs with
  | none => exact h1.close (legal_some cUnknown_le)
  | some sc =>
  simp only []
  -- a gRPC response: header error; initial headers; trailers
  refine .ite ?_ (.ite hI (.ite (h1.updStream plain_hdrF) ((h1.updStream (plain_msgF _)).close legal_none)))
  -- not gRPC and no `:status`: INTERNAL, now (END_STREAM) or when the stream ends
  refine .ite (.ite hI (h1.nonGRPC fun _ => cInternal_le)) ?_
  cases parseIntBits 64 sc.httpStatus with
  | none => exact hI
  | some n =>
    -- 1xx is skipped (an error with END_STREAM); any other `:status` gives the code of `httpStatusConvTab`, now or when the stream ends
    have hc := httpToCode_le n _ cUnknown_le
    exact .ite (.ite hI h1) (.ite (h1.close (legal_some hc)) (h1.nonGRPC fun _ => hc))

theorem good_handleData (s : State) (sid size dl : Nat) (p es : Bool) : Good s (s.handleData sid size dl p es) := by
  unfold State.handleData
  have h0 : Good s (s.connOnData size) := .ite (Good.put (Good.refl s).sameView (by simp)) (Good.refl s).sameView
  generalize s.connOnData size = s0 at h0 ⊢
  simp only []
  cases s0.findActive sid with
  | none => exact h0
  | some i =>
  simp only []
  cases hstr : s0.streams[i]? with
  | none => exact h0
  | some str =>
  simp only []
  -- `h1`: the state after the window bookkeeping, where the `if` tree starts; every leaf is `h1` followed by record updates and at
  -- most one `closeStream`
  have h1 := h0.updStream (i := i) (f := fun x => { x with pd := if size > 0 then str.pd + size else str.pd })
  generalize s0.updStream i _ = s1 at h1 ⊢
  -- the stream's window is overrun
  refine .ite ((h1.updStream (plain_msgF _)).close legal_none) ?_
  cases hng : str.nonGRPC with
  | some q =>
    -- the body of a non-gRPC response: the code was read from the record at the start, so it is legal by `Inv` there
    have hq := fun hs => (h0.inv hs).ng i str q.1 q.2 hstr hng
    have h2 := h1.nonGRPC (i := i) (l := q.2 + min dl (GrpcModel.Generated.nonGRPCDataMaxLen - q.2)) hq
    refine .ite (h2.close_of_inv fun hs => legal_some (hq hs)) ?_
    cases fcOnRead (if size > 0 then str.pd + size else str.pd) str.pu size
    exact h2.updStream
  | none =>
    simp only []
    -- `X`: the state once the payload is accounted for (padding given back, bytes buffered), where `if es` starts
    generalize hX : (if size > 0 then _ else s1 : State) = X
    have h2 : Good s X := by
      subst hX
      refine .ite ?_ h1
      generalize hY : (if p = true then _ else s1 : State) = Y
      have h3 : Good s Y := by
        subst hY
        cases fcOnRead _ _ _
        exact .ite h1.updStream h1
      exact .ite h3.updStream h3
    exact .ite ((h2.updStream (plain_msgF _)).close legal_none) h2

theorem good_handleRST (s : State) (sid code : Nat) : Good s (s.handleRST sid code) := by
  unfold State.handleRST
  cases s.findActive sid with
  | none => exact .refl s
  | some i =>
  simp only []
  cases s.streams[i]? with
  | none => exact .refl s
  | some str =>
  simp only []
  have h1 : Good s (if code = h2RefusedStream then s.updStream i fun x => { x with unprocessed := true } else s) :=
    .ite (Good.refl s).updStream (.refl s)
  have hsc := rstToCode_le code _ cUnknown_le
  refine h1.close (legal_some (ite_le ?_ hsc))
  cases str.deadline with
  | none => exact hsc
  | some d => exact ite_le cDeadline_le hsc

theorem good_handleSettings (s : State) (ack : Bool) (ss : List (Nat × Nat)) : Good s (s.handleSettings ack ss) := by
  unfold State.handleSettings
  refine .ite (.refl s) (.ite (.refl s) ?_)
  simp only []
  refine Good.put ?_ (by simp)
  cases lastSetting ss 6 <;> cases lastSetting ss 3 <;> simp only []
  · exact .refl s
  · exact .ite (Good.refl s).sameView (Good.refl s).sameView
  · exact (Good.refl s).sameView
  · exact .ite (Good.refl s).sameView (Good.refl s).sameView

theorem good_goAwayKill (s : State) (id up : Nat) : Good s (s.goAwayKill id up).1 := by
  rw [goAwayKill_eq]
  have h1 : Good s ({ s with prevGoAwayID := id } : State) := (Good.refl s).sameView
  exact .ite₁ h1.sameView ((h1.markVictims id up).closeWhere _ _)

theorem good_handleGoAway (s : State) (id code : Nat) (d : Bytes) : Good s (s.handleGoAway id code d).1 := by
  unfold State.handleGoAway
  by_cases hc : s.tstate = .closing
  · rw [if_pos hc]; exact .refl s
  · rw [if_neg hc]
    -- rejected (even id); rejected (id above the previous GOAWAY's); a later GOAWAY; the first one
    refine .ite₁ (Good.refl s).sameView (.ite₁ (Good.refl s).sameView (.ite₁ (good_goAwayKill ..) ?_))
    exact Good.put (((Good.refl s).goAwayFirst code d hc).trans (good_goAwayKill ..)) (by simp)

theorem good_onFrame (s : State) (f : Frame) : Good s (s.onFrame f) := by
  unfold State.onFrame
  split
  · exact .refl s
  · cases f <;> simp only []
    · exact good_operateHeaders ..
    · exact good_handleData ..
    · exact good_handleRST ..
    · exact good_handleSettings ..
    · exact .ite (.refl s) ((Good.refl s).put (by simp))
    · exact .ite (good_handleGoAway ..).readerExit (good_handleGoAway ..)
    · exact (Good.refl s).put (by simp)
    · exact .refl s
    · cases s.findActive _ with
      | none => exact .refl s
      | some i => exact (Good.refl s).close (legal_some (rstToCode_le _ _ (Nat.zero_le _)))
    · exact (Good.refl s).readerExit

theorem good_orphanQueued {s0 s : State} (h : Good s0 s) (l : List Item) : Good s0 (s.orphanQueued l) := by
  fun_induction State.orphanQueued s l with
  | case1 => exact h
  | case2 s i _ rest ih => exact ih h.orphan   -- a queued HEADERS item
  | case3 s it rest _ ih => exact ih h

theorem good_loopyExit {s0 s : State} (h : Good s0 s) (c : Bool) : Good s0 (s.loopyExit c).1 := by
  have hf : ∀ {t : State}, Good s0 t → Good s0 t.finish := fun {t} ht => by
    unfold State.finish
    exact .ite ht (((good_orphanQueued ht t.cbuf).cbuf (l := []) fun _ _ _ _ hm => nomatch hm).sameView)
  unfold State.loopyExit
  exact .ite₁ h.sameView (hf (t := { s with wbuf := [], lBlocked := false, lExitPending := none }) h.sameView).sameView

theorem good_loopyStep (s : State) : Good s s.loopyStep.1 := by
  unfold State.loopyStep
  refine .ite₁ (.refl s) ?_
  cases hcb : s.cbuf with
  | nil => exact .refl s
  | cons it rest =>
    simp only []
    have h0 : Good s ({ s with cbuf := rest } : State) :=
      (Good.refl s).cbuf fun _ _ _ _ hx => hcb ▸ List.mem_cons_of_mem _ hx
    cases it with
    | hdr i id =>
      exact .ite₁ h0.orphan (.ite₁ (good_loopyExit h0.orphan _) (.ite₁ (good_loopyExit h0 _) h0.sameView))
    | cleanup i id r c =>
      simp only []
      -- `t`: after `onWrite` (the stream has left `activeStreams`, unless `Close` took the map); `t2`: its id is no longer
      -- established; `h3`: the RST_STREAM is written
      have h1 := Good.ite (c := ({ s with cbuf := rest } : State).tstate = TState.closing) h0
        (h0.deact (hcb ▸ List.mem_cons_self ..))
      generalize (if ({ s with cbuf := rest } : State).tstate = TState.closing then ({ s with cbuf := rest } : State)
          else ({ s with cbuf := rest } : State).updStream i deactF) = t at h1 ⊢
      have h2 : Good s ({ t with estd := t.estd.filter (· ≠ id) } : State) := h1.sameView
      generalize ({ t with estd := t.estd.filter (· ≠ id) } : State) = t2 at h2 ⊢
      have h3 : Good s (if r = true then t2.write (.R id c) else t2) := .ite h2.sameView h2
      exact .ite₁ (good_loopyExit h2 _) (.ite₁ (good_loopyExit h3 _) h3)
    | inGoAway =>
      have h2 : Good s ({ ({ s with cbuf := rest } : State) with lDraining := true } : State) := h0.sameView
      exact .ite₁ (good_loopyExit h2 _) h2
    | outGoAway => exact .ite₁ (good_loopyExit h0 _) (good_loopyExit h0.sameView _)
    | settingsAck => exact .ite₁ (good_loopyExit h0 _) h0.sameView
    | pingAck d => exact .ite₁ (good_loopyExit h0 _) h0.sameView
    | outWU a n => exact .ite₁ (good_loopyExit h0 _) h0.sameView
    | inWU => exact h0
    | data id => exact .ite₁ (.ite₁ (good_loopyExit h0 _) h0.sameView) h0

theorem good_tryNewStream {s0 s : State} (h : Good s0 s) (k : Nat) (first : Bool) : Good s0 (s.tryNewStream k first) := by
  unfold State.tryNewStream
  cases s.rpcs[k]? with
  | none => exact h
  | some r =>
    simp only []
    refine .ite (h.updRpc (rsafe_setSt _)) (.ite (h.updRpc (rsafe_setSt _)) (.ite ?_ ?_))
    · exact Good.updRpc (.ite h.sameView h) (rsafe_setSt _)
    · have h1 : Good s0 (if first = true then s else s.decWaiting).takeQuota := by
        refine Good.sameView (s := if first = true then s else s.decWaiting) (.ite h (h.sameView ?_)) rfl
        unfold State.decWaiting; rfl
      exact .ite' h1 fun hr => h1.register k r (Decidable.not_not.mp hr)

theorem good_wake (s : State) (k : Nat) (v : Via) : Good s (s.wake k v) := by
  unfold State.wake
  cases s.rpcs[k]? with
  | none => exact .refl s
  | some r =>
    simp only []
    cases r.st with
    | blocked ch =>
      simp only []
      cases v with
      | chan =>
        simp only []
        cases ch with
        | none => exact .refl s
        | some g =>
          exact .ite (good_tryNewStream (.refl s) k false)
            (.ite (good_tryNewStream (Good.refl s).sameView k false) (.refl s))
      | _ => exact .ite ((Good.refl s).updRpc (rsafe_setSt _)) (.refl s)
    | _ => exact .refl s

theorem good_newRPC (s : State) (r : Bool) (d : Option Nat) : Good s (s.newRPC r d) := by
  unfold State.newRPC
  exact good_tryNewStream (s := { s with rpcs := s.rpcs ++ [_] })
    ((Good.refl s).next { Mono.refl s with rpc := (RMono.refl _).append _ } fun _ hi => hi.of_view) _ true

theorem good_half (s : State) (k : Nat) : Good s (s.half k) := by
  unfold State.half
  split
  · split
    · exact .ite (.refl s) (Good.put (Good.updStream (.refl s)) (by simp))
    · exact .refl s
  · exact .refl s

theorem good_ctxFire (s : State) (k : Nat) : Good s (s.ctxFire k) := by
  unfold State.ctxFire
  cases s.rpcs[k]? with
  | none => exact .refl s
  | some r =>
    refine .ite (.refl s) ?_
    cases r.st with
    | opened i => exact (Good.refl s).close (legal_some (ite_le cCanceled_le cDeadline_le))
    | _ => exact .refl s

theorem good_appRead (s : State) (i : Nat) : Good s (s.appRead i) := by
  unfold State.appRead
  cases s.streams[i]? with
  | none => exact .refl s
  | some str =>
    simp only []
    refine .ite (.refl s) ?_
    cases (if str.pd = 0 then _ else _ : Nat × Nat)
    exact (Good.refl s).updStream

theorem good_loopyFlush (s : State) : Good s s.loopyFlush.1 := by
  unfold State.loopyFlush
  exact .ite₁ (.refl s) (.ite₁ (Good.refl s).sameView (.ite₁ (Good.refl s).sameView (Good.refl s).sameView))

theorem good_loopyAbort (s : State) : Good s s.loopyAbort.1 := by
  unfold State.loopyAbort
  exact .ite₁ (.refl s) (.ite₁ (good_loopyExit (Good.refl s).sameView _) (.refl s))

theorem good_release (s : State) : Good s s.release.1 := by
  unfold State.release
  refine .ite₁ (Good.refl s).sameView ?_
  cases ({ s with held := false } : State).lExitPending with
  | none => exact (Good.refl s).sameView
  | some c => exact good_loopyExit (Good.refl s).sameView c

theorem good_gracefulClose (s : State) : Good s s.gracefulClose := by
  unfold State.gracefulClose
  refine .ite' (.refl s) fun hr => ?_
  have h1 : Good s (({ s with tstate := TState.draining } : State).notify 0 0 false) :=
    ((Good.refl s).toDraining (by rw [Decidable.not_not.mp hr]; simp)).sameView
  exact .ite (h1.closeP1 true) (h1.put (by simp))

theorem good_step (s : State) (e : Ev) : Good s (step s e).1 := by
  cases e with
  | newRPC r d => exact good_newRPC ..
  | wake k v => exact good_wake ..
  | half k => exact good_half ..
  | cancel k => exact (Good.refl s).updRpc fun _ => ⟨fun _ _ h => h, fun _ h => h⟩
  | ctxFire k => exact good_ctxFire ..
  | appRead i => exact good_appRead ..
  | frame f => exact good_onFrame ..
  | loopy => exact good_loopyStep ..
  | flush => exact good_loopyFlush ..
  | loopyAbort => exact good_loopyAbort ..
  | hold => exact (Good.refl s).sameView
  | release => exact good_release ..
  | peerGone => exact (Good.refl s).sameView
  | gracefulClose => exact good_gracefulClose ..
  | close => exact (Good.refl s).closeP1 true
  | closeP2 => exact (Good.refl s).closeP2
  | closeP3 => exact (Good.refl s).closeP3
  | tick ms => exact (Good.refl s).tick ms

theorem good_run (s : State) (es : List Ev) : Good s (run s es) := by
  induction es generalizing s with
  | nil => exact .refl _
  | cons e es ih => exact (good_step s e).trans (ih _)

theorem mono_step (s : State) (e : Ev) : Mono s (step s e).1 := (good_step s e).mono

theorem mono_run (s : State) (es : List Ev) : Mono s (run s es) := (good_run s es).mono

theorem inv_step {s : State} (h : Inv s) (e : Ev) : Inv (step s e).1 := (good_step s e).inv h

theorem inv_run {s : State} (h : Inv s) (es : List Ev) : Inv (run s es) := (good_run s es).inv h

def Reach (s : State) : Prop := ∃ ec hs mc mh es, s = run (init ec hs mc mh) es

theorem run_append (t : State) (es0 es : List Ev) : run t (es0 ++ es) = run (run t es0) es := by
  induction es0 generalizing t with
  | nil => rfl
  | cons e es0 ih => exact ih _

theorem Reach.run {s : State} (h : Reach s) (es : List Ev) : Reach (run s es) := by
  obtain ⟨ec, a, b', c, es0, rfl⟩ := h
  exact ⟨ec, a, b', c, es0 ++ es, (run_append ..).symm⟩

theorem Reach.inv {s : State} (h : Reach s) : Inv s := by
  obtain ⟨ec, a, b', c, es, rfl⟩ := h
  exact inv_run (inv_init ..) es

theorem Reach.ga_notReachable {s : State} (h : Reach s) (hg : s.goAwayClosed = true) : s.tstate ≠ .reachable := by
  obtain ⟨ec, a, b', c, es, rfl⟩ := h
  exact (mono_run (init ec a b' c) es).ga_notReachable (by simp [init]) hg

end GrpcProofs.Lemmas.ClientConn
