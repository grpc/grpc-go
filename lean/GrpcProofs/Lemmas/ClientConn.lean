import GrpcModel.Model.ClientConn
/-!
`GrpcModel.ClientConn` (client HTTP/2 transport model), for C14 and C11.

`Mono s s'` : what can never be undone along any execution — a stream keeps its id and, once it has
a terminal outcome, that outcome; a transport that left `reachable` never returns and opens no
stream; a finished `NewStream` keeps its result.  The primitives of the model are given as record
equations (`put_eq`, `closeStream_eq`, `closeP1_eq`, …), with which `ClientConnStep` walks the handlers.
-/
namespace GrpcProofs.Lemmas.ClientConn
open GrpcModel.ClientConn

def Safe (f : Strm → Strm) : Prop :=
  ∀ x, (f x).id = x.id ∧ (f x).rpc = x.rpc ∧ (∀ t, x.term = some t → (f x).term = some t)

/-- no stream disappears, and each keeps its id, its RPC and an outcome it has -/
def SMono (l l' : List Strm) : Prop :=
  l.length ≤ l'.length ∧
  ∀ (i : Nat) (x : Strm), l[i]? = some x → ∃ y : Strm, l'[i]? = some y ∧ y.id = x.id ∧ y.rpc = x.rpc ∧ (∀ t, x.term = some t → y.term = some t)

theorem SMono.refl (l : List Strm) : SMono l l :=
  ⟨Nat.le_refl _, fun _ x h => ⟨x, h, rfl, rfl, fun _ h => h⟩⟩

theorem SMono.trans {a b c : List Strm} (h1 : SMono a b) (h2 : SMono b c) : SMono a c := by
  refine ⟨Nat.le_trans h1.1 h2.1, fun i x hx => ?_⟩
  obtain ⟨y, hy, e1, e2, e3⟩ := h1.2 i x hx
  obtain ⟨z, hz, f1, f2, f3⟩ := h2.2 i y hy
  exact ⟨z, hz, f1.trans e1, f2.trans e2, fun t ht => f3 t (e3 t ht)⟩

theorem SMono.modify {l0 l : List Strm} (h : SMono l0 l) (i : Nat) {f : Strm → Strm} (hf : Safe f) :
    SMono l0 (l.modify i f) := by
  refine SMono.trans h ⟨by simp, fun j x hx => ?_⟩
  rw [List.getElem?_modify, hx]
  by_cases hij : i = j
  · simp [hij]; exact hf x
  · simp [hij]

theorem SMono.append {l0 l : List Strm} (h : SMono l0 l) (t : List Strm) : SMono l0 (l ++ t) := by
  refine SMono.trans h ⟨by simp, fun j x hx => ⟨x, ?_, rfl, rfl, fun _ h => h⟩⟩
  rw [List.getElem?_append_left]
  · exact hx
  · exact (List.getElem?_eq_some_iff.mp hx).1

theorem SMono.map {l0 l : List Strm} (h : SMono l0 l) {f : Strm → Strm} (hf : Safe f) : SMono l0 (l.map f) := by
  refine SMono.trans h ⟨by simp, fun j x hx => ?_⟩
  simp [hx]; exact hf x

/-- a record update that leaves alone everything `Mono` and the invariant read of a stream -/
structure Plain (f : Strm → Strm) : Prop where
  id : ∀ x, (f x).id = x.id
  rpc : ∀ x, (f x).rpc = x.rpc
  term : ∀ x, (f x).term = x.term
  inActive : ∀ x, (f x).inActive = x.inActive
  inSnapshot : ∀ x, (f x).inSnapshot = x.inSnapshot
  nonGRPC : ∀ x, (f x).nonGRPC = x.nonGRPC

theorem Plain.safe {f : Strm → Strm} (h : Plain f) : Safe f :=
  fun x => ⟨h.id x, h.rpc x, fun _ ht => (h.term x).trans ht⟩

theorem plain_hdrF : Plain hdrF := by
  constructor <;> intro x <;> unfold hdrF <;> split <;> rfl

theorem plain_msgF (m : Bytes) : Plain (msgF m) := by
  constructor <;> intro x <;> unfold msgF <;> split <;> rfl

theorem plain_markF : Plain markF := by
  constructor <;> intro x <;> rfl

/-- the `swapState(streamDone)` winner records its outcome; a loser finds one -/
theorem closeF_term (e : Option Nat) (st : Nat) (x : Strm) :
    (closeF e st x).term = some (x.term.getD { err := e, status := some st }) := by
  unfold closeF
  cases h : x.term <;> simp [h]

theorem safe_closeF (e : Option Nat) (st : Nat) : Safe (closeF e st) := by
  intro x; unfold closeF; split <;> simp_all

theorem safe_orphanF (e : Nat) : Safe (orphanF e) := by
  intro x; unfold orphanF; split <;> simp_all

theorem safe_snapF : Safe snapF := fun _ => ⟨rfl, rfl, fun _ h => h⟩
theorem safe_markF : Safe markF := plain_markF.safe
theorem safe_deactF : Safe deactF := fun _ => ⟨rfl, rfl, fun _ h => h⟩

/-- a finished NewStream keeps its result -/
def RMono (l l' : List Rpc) : Prop :=
  l.length ≤ l'.length ∧
  ∀ (k : Nat) (r : Rpc), l[k]? = some r → ∃ r' : Rpc, l'[k]? = some r' ∧
    (∀ c b, r.st = .failed c b → r'.st = .failed c b) ∧ (∀ i, r.st = .opened i → r'.st = .opened i)

def RSafe (f : Rpc → Rpc) : Prop :=
  ∀ r, (∀ c b, r.st = .failed c b → (f r).st = .failed c b) ∧ (∀ i, r.st = .opened i → (f r).st = .opened i)

theorem RMono.refl (l : List Rpc) : RMono l l := ⟨Nat.le_refl _, fun _ r h => ⟨r, h, fun _ _ h => h, fun _ h => h⟩⟩

theorem RMono.trans {a b c : List Rpc} (h1 : RMono a b) (h2 : RMono b c) : RMono a c := by
  refine ⟨Nat.le_trans h1.1 h2.1, fun i x hx => ?_⟩
  obtain ⟨y, hy, e1, e2⟩ := h1.2 i x hx
  obtain ⟨z, hz, f1, f2⟩ := h2.2 i y hy
  exact ⟨z, hz, fun c b h => f1 c b (e1 c b h), fun j h => f2 j (e2 j h)⟩

theorem RMono.modify {l0 l : List Rpc} (h : RMono l0 l) (i : Nat) {f : Rpc → Rpc} (hf : RSafe f) :
    RMono l0 (l.modify i f) := by
  refine RMono.trans h ⟨by simp, fun j x hx => ?_⟩
  rw [List.getElem?_modify, hx]
  by_cases hij : i = j
  · exact ⟨f x, by simp [hij], hf x⟩
  · exact ⟨x, by simp [hij], fun _ _ h => h, fun _ h => h⟩

theorem RMono.append {l0 l : List Rpc} (h : RMono l0 l) (t : List Rpc) : RMono l0 (l ++ t) := by
  refine RMono.trans h ⟨by simp, fun j x hx => ⟨x, ?_, fun _ _ h => h, fun _ h => h⟩⟩
  rw [List.getElem?_append_left]
  · exact hx
  · exact (List.getElem?_eq_some_iff.mp hx).1

theorem rsafe_setSt (v : RpcSt) : RSafe (setSt v) := by
  intro r; unfold setSt; split <;> simp_all

/-- `s'` comes after `s`.  `frozen`: a transport that has left `reachable` allocates no id and opens no stream; `ga`, `gaNew`:
`goAwayClosed` is never lowered, and where it is raised the transport is not `reachable` afterwards. -/
structure Mono (s s' : State) : Prop where
  str : SMono s.streams s'.streams
  rpc : RMono s.rpcs s'.rpcs
  notReach : s.tstate ≠ .reachable → s'.tstate ≠ .reachable
  closing : s.tstate = .closing → s'.tstate = .closing
  frozen : s.tstate ≠ .reachable → s'.nextID = s.nextID ∧ s'.streams.length = s.streams.length
  ga : s.goAwayClosed = true → s'.goAwayClosed = true
  gaNew : s'.goAwayClosed = true → s.goAwayClosed = true ∨ s'.tstate ≠ .reachable

theorem Mono.refl (s : State) : Mono s s where
  str := SMono.refl _
  rpc := RMono.refl _
  notReach := id
  closing := id
  frozen _ := ⟨rfl, rfl⟩
  ga := id
  gaNew := Or.inl

theorem Mono.trans {a b c : State} (h1 : Mono a b) (h2 : Mono b c) : Mono a c where
  str := h1.str.trans h2.str
  rpc := h1.rpc.trans h2.rpc
  notReach h := h2.notReach (h1.notReach h)
  closing h := h2.closing (h1.closing h)
  frozen h :=
    have a1 := h1.frozen h
    have a2 := h2.frozen (h1.notReach h)
    ⟨a2.1.trans a1.1, a2.2.trans a1.2⟩
  ga h := h2.ga (h1.ga h)
  gaNew h := by
    rcases h2.gaNew h with hb | hc
    · rcases h1.gaNew hb with ha | hb'
      · exact Or.inl ha
      · exact Or.inr (h2.notReach hb')
    · exact Or.inr hc

theorem Mono.outcome {s s' : State} (h : Mono s s') {i : Nat} {x : Strm} {t : Term} (hx : s.streams[i]? = some x)
    (ht : x.term = some t) : ∃ y, s'.streams[i]? = some y ∧ y.id = x.id ∧ y.term = some t := by
  obtain ⟨y, hy, hid, -, hterm⟩ := h.str.2 i x hx
  exact ⟨y, hy, hid, hterm t ht⟩

theorem Mono.ids {s s' : State} (h : Mono s s') (hn : s.tstate ≠ .reachable) :
    s'.streams.map (·.id) = s.streams.map (·.id) := by
  apply List.ext_getElem?
  intro i
  simp only [List.getElem?_map]
  cases hx : s.streams[i]? with
  | none =>
    have hl := (h.frozen hn).2
    have : s'.streams[i]? = none := by
      rw [List.getElem?_eq_none_iff] at hx ⊢; omega
    simp [this]
  | some x =>
    obtain ⟨y, hy, hid, _⟩ := h.str.2 i x hx
    simp [hy, hid]

theorem Mono.ga_notReachable {s s' : State} (h : Mono s s') (h0 : s.goAwayClosed = true → s.tstate ≠ .reachable)
    (hg : s'.goAwayClosed = true) : s'.tstate ≠ .reachable :=
  (h.gaNew hg).elim (fun hs => h.notReach (h0 hs)) id

/-- What `Mono` reads of a state.  Most of what the handlers do is bookkeeping outside of it and of `invView`
(ClientConnInv); such a step is discharged by `monoView s' = monoView s`, which is `rfl` for a record update. -/
def monoView (s : State) := (s.streams, s.rpcs, s.tstate, s.nextID, s.goAwayClosed)

section proj
variable (s : State)

@[simp] theorem updStream_streams (i : Nat) (f : Strm → Strm) : (s.updStream i f).streams = s.streams.modify i f := rfl
@[simp] theorem updStream_rpcs (i : Nat) (f : Strm → Strm) : (s.updStream i f).rpcs = s.rpcs := rfl
@[simp] theorem updStream_tstate (i : Nat) (f : Strm → Strm) : (s.updStream i f).tstate = s.tstate := rfl
@[simp] theorem updStream_nextID (i : Nat) (f : Strm → Strm) : (s.updStream i f).nextID = s.nextID := rfl
@[simp] theorem updStream_ga (i : Nat) (f : Strm → Strm) : (s.updStream i f).goAwayClosed = s.goAwayClosed := rfl

@[simp] theorem updRpc_streams (i : Nat) (f : Rpc → Rpc) : (s.updRpc i f).streams = s.streams := rfl
@[simp] theorem updRpc_rpcs (i : Nat) (f : Rpc → Rpc) : (s.updRpc i f).rpcs = s.rpcs.modify i f := rfl
@[simp] theorem updRpc_tstate (i : Nat) (f : Rpc → Rpc) : (s.updRpc i f).tstate = s.tstate := rfl
@[simp] theorem updRpc_nextID (i : Nat) (f : Rpc → Rpc) : (s.updRpc i f).nextID = s.nextID := rfl
@[simp] theorem updRpc_ga (i : Nat) (f : Rpc → Rpc) : (s.updRpc i f).goAwayClosed = s.goAwayClosed := rfl

@[simp] theorem setMsg_streams (i : Nat) (x : Strm) (m : Bytes) : (s.setMsg i x m).streams = s.streams.modify i (msgF m) := rfl
@[simp] theorem setMsg_rpcs (i : Nat) (x : Strm) (m : Bytes) : (s.setMsg i x m).rpcs = s.rpcs := rfl
@[simp] theorem setMsg_tstate (i : Nat) (x : Strm) (m : Bytes) : (s.setMsg i x m).tstate = s.tstate := rfl
@[simp] theorem setMsg_nextID (i : Nat) (x : Strm) (m : Bytes) : (s.setMsg i x m).nextID = s.nextID := rfl
@[simp] theorem setMsg_ga (i : Nat) (x : Strm) (m : Bytes) : (s.setMsg i x m).goAwayClosed = s.goAwayClosed := rfl

@[simp] theorem orphan_streams (i e : Nat) : (s.orphan i e).streams = s.streams.modify i (orphanF e) := rfl
@[simp] theorem orphan_rpcs (i e : Nat) : (s.orphan i e).rpcs = s.rpcs := rfl
@[simp] theorem orphan_tstate (i e : Nat) : (s.orphan i e).tstate = s.tstate := rfl
@[simp] theorem orphan_nextID (i e : Nat) : (s.orphan i e).nextID = s.nextID := rfl
@[simp] theorem orphan_ga (i e : Nat) : (s.orphan i e).goAwayClosed = s.goAwayClosed := rfl

@[simp] theorem notify_streams (a b' : Nat) (c : Bool) : (s.notify a b' c).streams = s.streams := rfl
@[simp] theorem notify_rpcs (a b' : Nat) (c : Bool) : (s.notify a b' c).rpcs = s.rpcs := rfl
@[simp] theorem notify_tstate (a b' : Nat) (c : Bool) : (s.notify a b' c).tstate = s.tstate := rfl
@[simp] theorem notify_nextID (a b' : Nat) (c : Bool) : (s.notify a b' c).nextID = s.nextID := rfl
@[simp] theorem notify_ga (a b' : Nat) (c : Bool) : (s.notify a b' c).goAwayClosed = s.goAwayClosed := rfl

@[simp] theorem write_streams (w : Wire) : (s.write w).streams = s.streams := rfl
@[simp] theorem write_rpcs (w : Wire) : (s.write w).rpcs = s.rpcs := rfl
@[simp] theorem write_tstate (w : Wire) : (s.write w).tstate = s.tstate := rfl
@[simp] theorem write_nextID (w : Wire) : (s.write w).nextID = s.nextID := rfl
@[simp] theorem write_ga (w : Wire) : (s.write w).goAwayClosed = s.goAwayClosed := rfl

end proj

@[simp] theorem incWaiting_streams (s : State) : s.incWaiting.streams = s.streams := rfl
@[simp] theorem incWaiting_rpcs (s : State) : s.incWaiting.rpcs = s.rpcs := rfl
@[simp] theorem incWaiting_tstate (s : State) : s.incWaiting.tstate = s.tstate := rfl
@[simp] theorem incWaiting_nextID (s : State) : s.incWaiting.nextID = s.nextID := rfl
@[simp] theorem incWaiting_ga (s : State) : s.incWaiting.goAwayClosed = s.goAwayClosed := rfl
@[simp] theorem takeQuota_streams (s : State) : s.takeQuota.streams = s.streams := rfl
@[simp] theorem takeQuota_rpcs (s : State) : s.takeQuota.rpcs = s.rpcs := rfl
@[simp] theorem takeQuota_tstate (s : State) : s.takeQuota.tstate = s.tstate := rfl
@[simp] theorem takeQuota_nextID (s : State) : s.takeQuota.nextID = s.nextID := rfl
@[simp] theorem takeQuota_ga (s : State) : s.takeQuota.goAwayClosed = s.goAwayClosed := rfl

theorem updRpc_setSt_blocked {s : State} {k : Nat} {r : Rpc} {ch : Option Nat} (v : RpcSt) (hr : s.rpcs[k]? = some r)
    (hb : r.st = .blocked ch) : ∃ r', (s.updRpc k (setSt v)).rpcs[k]? = some r' ∧ r'.st = v :=
  ⟨setSt v r, by simp [hr], by simp [setSt, hb]⟩

theorem cUnavailable_eq : cUnavailable = 14 := by decide

theorem put_eq (s : State) (it : Item) :
    s.put it = { s with cbuf := if s.cbufClosed then s.cbuf else s.cbuf ++ [it] } := by
  unfold State.put; split <;> rfl

theorem sendToken_eq (s : State) : ∃ tk, s.sendToken = { s with token := tk } := by
  unfold State.sendToken; split
  · exact ⟨_, rfl⟩
  · exact ⟨s.token, rfl⟩

theorem modify_congr_at {α} (l : List α) (n : Nat) {f g : α → α} (h : ∀ x, l[n]? = some x → f x = g x) :
    l.modify n f = l.modify n g := by
  apply List.ext_getElem?
  intro j
  rw [List.getElem?_modify, List.getElem?_modify]
  cases hx : l[j]? with
  | none => rfl
  | some x =>
    by_cases hij : n = j
    · subst hij; simp [h x hx]
    · simp [hij]

theorem modify_eq_self {α} (l : List α) (n : Nat) {f : α → α} (h : ∀ x, l[n]? = some x → f x = x) : l.modify n f = l :=
  (modify_congr_at l n h).trans (List.modify_id n l)

/-- one equation for all cases: `closeF` is the identity on a stream that has its outcome, `modify` on a missing index -/
theorem closeStream_eq (s : State) (i : Nat) (e : Option Nat) (st : Nat) (r : Bool) (c : Nat) :
    ∃ q cb tk, s.closeStream i e st r c =
      { s with streams := s.streams.modify i (closeF e st), quota := q, cbuf := cb, token := tk } ∧
      (cb = s.cbuf ∨ ∃ x, s.streams[i]? = some x ∧ cb = s.cbuf ++ [.cleanup i x.id r c]) := by
  unfold State.closeStream
  split
  · -- no such stream
    rename_i h; exact ⟨_, _, _, by rw [modify_eq_self _ _ fun x hx => by rw [h] at hx; cases hx], .inl rfl⟩
  · rename_i str h
    split
    · -- a loser: the stream has its outcome
      rename_i hx
      exact ⟨_, _, _, by rw [modify_eq_self _ _ fun x hx' => by cases h.symm.trans hx'; simp [closeF, hx]], .inl rfl⟩
    · simp only []
      split
      · -- the winner, on a closed control buffer: nothing is queued
        exact ⟨_, _, _, rfl, .inl rfl⟩
      · obtain ⟨tk, ht⟩ := sendToken_eq { s.updStream i (closeF e st) with
          quota := (s.updStream i (closeF e st)).quota + 1,
          cbuf := (s.updStream i (closeF e st)).cbuf ++ [Item.cleanup i str.id r c] }
        exact ⟨_, _, tk, ht, .inr ⟨str, h, rfl⟩⟩

@[simp] theorem closeStream_streams (s : State) (i : Nat) (e : Option Nat) (st : Nat) (r : Bool) (c : Nat) :
    (s.closeStream i e st r c).streams = s.streams.modify i (closeF e st) := by
  obtain ⟨_, _, _, h, -⟩ := closeStream_eq s i e st r c; rw [h]

theorem Mono.of_fields {s0 s s' : State} (h : Mono s0 s) (hs : SMono s.streams s'.streams)
    (hl : s'.streams.length = s.streams.length) (h1 : RMono s.rpcs s'.rpcs) (h2 : s'.tstate = s.tstate)
    (h3 : s'.nextID = s.nextID) (h4 : s'.goAwayClosed = s.goAwayClosed) : Mono s0 s' := by
  exact h.trans
    { str := hs, rpc := h1, notReach := h2 ▸ id, closing := h2 ▸ id, frozen := fun _ => ⟨h3, hl⟩, ga := h4 ▸ id,
      gaNew := h4 ▸ h2 ▸ Or.inl }

theorem Mono.of_view {s s' : State} (e : monoView s' = monoView s := by rfl) : Mono s s' := by
  simp only [monoView, Prod.mk.injEq] at e
  obtain ⟨e1, e2, e3, e4, e5⟩ := e
  exact (Mono.refl s).of_fields (e1 ▸ SMono.refl _) (by rw [e1]) (e2 ▸ RMono.refl _) e3 e4 e5

theorem mono_updStream (s : State) (i : Nat) {f : Strm → Strm} (hf : Safe f) : Mono s (s.updStream i f) :=
  { Mono.refl s with str := (SMono.refl _).modify i hf, frozen := fun _ => ⟨rfl, by simp⟩ }

theorem Mono.closeStream {s0 s : State} (h : Mono s0 s) (i : Nat) (e : Option Nat) (st : Nat) (r : Bool) (c : Nat) :
    Mono s0 (s.closeStream i e st r c) := by
  obtain ⟨_, _, _, he, -⟩ := closeStream_eq s i e st r c
  rw [he]
  exact h.trans ((mono_updStream s i (safe_closeF e st)).trans .of_view)

theorem goAwayFirst_eq (s : State) (c : Nat) (d : Bytes) :
    ∃ rs oc, s.goAwayFirst c d = { s with reason := rs, goAwayClosed := true, tstate := .draining, onClose := oc } := by
  unfold State.goAwayFirst
  simp only []
  split
  · exact ⟨_, _, rfl⟩
  · rename_i hd
    have hd : s.tstate = .draining := Decidable.not_not.mp hd
    refine ⟨if (c = h2EnhanceYourCalm && d = b "too_many_pings") = true then 2 else 1, s.onClose, ?_⟩
    cases s; cases hd; rfl

theorem closeP1_eq (s : State) (e : Bool) (hc : s.tstate ≠ .closing) :
    s.closeP1 e =
      { s with
        tstate := .closing, streams := s.streams.map snapF,
        onClose := if s.tstate ≠ .draining then s.onClose ++ [(0, 0, e)] else s.onClose,
        cbuf := if s.cbufClosed then s.cbuf else s.cbuf ++ [.outGoAway], closeP := .waitWriter (s.now + 5000) } := by
  unfold State.closeP1
  rw [if_neg hc]
  simp only [put_eq, State.notify]
  split <;> rfl

theorem closeP1_of_closing (s : State) (e : Bool) (hc : s.tstate = .closing) : s.closeP1 e = s := by
  unfold State.closeP1; exact if_pos hc

theorem closeP1_tstate (s : State) (e : Bool) : (s.closeP1 e).tstate = .closing := by
  by_cases hc : s.tstate = .closing
  · rw [closeP1_of_closing s e hc]; exact hc
  · rw [closeP1_eq s e hc]

theorem readerExit_of_done (s : State) (h : s.readerDone = true) : s.readerExit = s := by
  unfold State.readerExit; exact if_pos h

/-- `Close` does not look at `readerDone` -/
theorem readerExit_eq (s : State) (h : s.readerDone = false) :
    s.readerExit = { s.closeP1 true with readerDone := true } := by
  unfold State.readerExit
  rw [if_neg (by simp [h])]
  by_cases hc : s.tstate = .closing
  · rw [closeP1_of_closing s true hc, closeP1_of_closing { s with readerDone := true } true hc]
  · rw [closeP1_eq s true hc, closeP1_eq { s with readerDone := true } true hc]

theorem readerExit_done (s : State) : s.readerExit.readerDone = true := by
  cases hr : s.readerDone with
  | true => rw [readerExit_of_done s hr]; exact hr
  | false => rw [readerExit_eq s hr]

theorem readerExit_tstate (s : State) (hn : s.readerDone = false) : s.readerExit.tstate = .closing := by
  rw [readerExit_eq s hn]; exact closeP1_tstate ..

theorem readerExit_get {s : State} {i : Nat} {x : Strm} (hx : s.streams[i]? = some x) :
    ∃ y, s.readerExit.streams[i]? = some y ∧ (y = x ∨ y = snapF x) := by
  cases hr : s.readerDone with
  | true => rw [readerExit_of_done s hr]; exact ⟨x, hx, .inl rfl⟩
  | false =>
    rw [readerExit_eq s hr]
    by_cases hc : s.tstate = .closing
    · rw [closeP1_of_closing s true hc]; exact ⟨x, hx, .inl rfl⟩
    · rw [closeP1_eq s true hc]; exact ⟨snapF x, by simp [hx], .inr rfl⟩

/-- `closeStream(stream, ErrConnClosing / errStreamDrain, false, ErrCodeNo, UNAVAILABLE, …)` for the streams at
indices `< n` that satisfy `p`: the common form of `closeVictims` and `closeSnapshot` -/
def closeWhere (p : Strm → Bool) (s : State) : Nat → State
  | 0 => s
  | n + 1 =>
    match (closeWhere p s n).streams[n]? with
    | some st => if p st then (closeWhere p s n).closeStream n (some cUnavailable) cUnavailable false h2No else closeWhere p s n
    | none => closeWhere p s n

theorem closeVictims_eq (s : State) (id up n : Nat) : s.closeVictims id up n = closeWhere (isVictim id up) s n := by
  induction n with
  | zero => rfl
  | succ n ih => simp only [State.closeVictims, closeWhere, ih]; cases (closeWhere (isVictim id up) s n).streams[n]? <;> rfl

theorem closeSnapshot_eq (s : State) (n : Nat) : s.closeSnapshot n = closeWhere (·.inSnapshot) s n := by
  induction n with
  | zero => rfl
  | succ n ih => simp only [State.closeSnapshot, closeWhere, ih]; cases (closeWhere (·.inSnapshot) s n).streams[n]? <;> rfl

theorem closeWhere_step (p : Strm → Bool) (s : State) (n : Nat) :
    closeWhere p s (n + 1) =
      if (closeWhere p s n).streams[n]?.any p = true then
        (closeWhere p s n).closeStream n (some cUnavailable) cUnavailable false h2No
      else closeWhere p s n := by
  rw [closeWhere]; cases (closeWhere p s n).streams[n]? <;> rfl

theorem closeWhere_eq (p : Strm → Bool) (s : State) (n : Nat) :
    ∃ l q cb tk, closeWhere p s n = { s with streams := l, quota := q, cbuf := cb, token := tk } := by
  induction n with
  | zero => exact ⟨_, _, _, _, rfl⟩
  | succ n ih =>
    obtain ⟨l, q, cb, tk, h⟩ := ih
    rw [closeWhere_step]
    split
    · obtain ⟨q', cb', tk', h', -⟩ := closeStream_eq (closeWhere p s n) n (some cUnavailable) cUnavailable false h2No
      exact ⟨_, q', cb', tk', by rw [h', h]⟩
    · exact ⟨l, q, cb, tk, h⟩

theorem closeWhere_succ (p : Strm → Bool) (s : State) (n : Nat) :
    (closeWhere p s (n + 1)).streams =
      (closeWhere p s n).streams.modify n fun x => if p x then closeF (some cUnavailable) cUnavailable x else x := by
  rw [closeWhere_step]
  split
  · rename_i hp
    rw [closeStream_streams]
    exact modify_congr_at _ _ fun x h => by rw [h] at hp; exact (if_pos hp).symm
  · rename_i hp
    exact (modify_eq_self _ _ fun x h => by rw [h] at hp; exact if_neg hp).symm

theorem closeWhere_get (p : Strm → Bool) (s : State) (n i : Nat) :
    (closeWhere p s n).streams[i]? =
      if i < n then (s.streams[i]?).map (fun x => if p x then closeF (some cUnavailable) cUnavailable x else x)
      else s.streams[i]? := by
  induction n generalizing i with
  | zero => rfl
  | succ n ih =>
    rw [closeWhere_succ, List.getElem?_modify, ih]
    by_cases hni : n = i
    · subst hni; simp
    · have : i < n + 1 ↔ i < n := by omega
      simp [hni, this]

theorem goAwayKill_eq (s : State) (id up : Nat) :
    s.goAwayKill id up =
      if s.activeCount = 0 then ({ s with prevGoAwayID := id, goAwayErrs := s.goAwayErrs + 1 }, true)
      else (closeWhere (isVictim id up) (({ s with prevGoAwayID := id } : State).markVictims id up) s.streams.length, false) := by
  unfold State.goAwayKill
  simp only [closeVictims_eq, beq_iff_eq]
  rfl


theorem decodeLoop_done (m : Bytes) (fuel i : Nat) (acc : Bytes) (hi : ¬i < m.length) :
    decodeLoop m (fuel + 1) i acc = some acc := by
  unfold decodeLoop; exact if_neg hi

/-- Every index the percent-decoder reads is in range (`none` = Go's index-out-of-range panic). -/
theorem decodeLoop_isSome (m : Bytes) : ∀ (fuel i : Nat) (acc : Bytes), (decodeLoop m fuel i acc).isSome = true := by
  intro fuel i acc
  fun_induction decodeLoop m fuel i acc with
  | case1 | case7 => rfl   -- out of fuel, or past the end
  | case2 _ i _ hi hn => exact absurd (List.getElem?_eq_none_iff.mp hn) (by omega)   -- msg[i] under `i < len(msg)`
  | case5 _ i _ _ _ _ hc hn =>
    -- msg[i+1:i+3] under `i + 2 < len(msg)`
    have h2 : i + 2 < m.length := by simp at hc; exact hc.2
    exact (hn _ _ (List.getElem?_eq_getElem (by omega)) (List.getElem?_eq_getElem h2)).elim
  | case3 | case4 | case6 => assumption   -- a round: `%XX` decoded, `%` kept as it is, any other byte

end GrpcProofs.Lemmas.ClientConn
