import GrpcModel.Model.ControlBuf
import GrpcProofs.Lemmas.Basic
/-! C16, controlBuffer throttling.  `Move` lists what a step can do, rule by rule (`step_move`); every
fact about one step is read off it.  The state facts rest on `Inv`, kept by every move: the channel
exists iff the queue holds `limit` throttled items, and a channel generation that is not the current
one has been closed, so a reader can only wait on a live channel.  The ledger theorems need no
invariant. -/
namespace GrpcProofs.Lemmas.ControlBuf
open GrpcModel.ControlBuf

structure Inv (s : St) : Prop where
  lim : 1 ≤ s.limit
  trfEq : s.closed = false → s.trf = throttledCount s.list
  chanIff : s.closed = false → (s.chan.isSome = true ↔ s.limit ≤ s.trf)
  closedClean : s.closed = true → s.chan = none ∧ s.list = []
  curOpen : ∀ g, s.chan = some g → g < s.nextGen ∧ g ∉ s.closedGens
  oldClosed : ∀ g, g < s.nextGen → s.chan ≠ some g → g ∈ s.closedGens
  closedOld : ∀ g ∈ s.closedGens, g < s.nextGen
  readersOld : ∀ p ∈ s.readers, p.2 < s.nextGen
  consumer : s.parked = true → s.wakeup = false → s.consumerWaiting = true ∧ s.list = []

theorem inv_init (limit : Nat) (h : 1 ≤ limit) : Inv (init limit) := by
  constructor <;> simp [init, throttledCount] <;> omega

theorem throttledCount_snoc (l : List Item) (it : Item) :
    throttledCount (l ++ [it]) = throttledCount l + (if it.throttled then 1 else 0) := by
  cases h : it.throttled <;> simp [throttledCount, List.filter_append, h]

theorem throttledCount_cons (h : Item) (l : List Item) :
    throttledCount (h :: l) = throttledCount l + (if h.throttled then 1 else 0) := by
  cases hh : h.throttled <;> simp [throttledCount, hh]

theorem closeGen_open {s : St} {g : Nat} (hg : g ∉ s.closedGens) :
    closeGen s g = (g :: s.closedGens, false) := by
  simp [closeGen, hg]

theorem step_put_open (s : St) (it : Item) (hc : s.closed = false) : step s (.put it) =
    (let s' := { s with list := s.list ++ [it], consumerWaiting := false, wakeup := s.consumerWaiting || s.wakeup }
     if it.throttled then
       if s.trf + 1 = s.limit then { s' with trf := s.trf + 1, chan := some s.nextGen, nextGen := s.nextGen + 1 }
       else { s' with trf := s.trf + 1 }
     else s', .putOk) := by
  simp only [step, hc]
  by_cases hl : s.trf + 1 = s.limit <;> cases s.consumerWaiting <;> cases it.throttled <;> simp [hl]

def hdrIds (l : List Item) : List Nat := (l.filter (·.hdr)).map (·.id)

theorem closeGen_panics {s : St} {g : Nat} : (closeGen s g).2 = true ↔ g ∈ s.closedGens := by
  by_cases hg : g ∈ s.closedGens <;> simp [closeGen, hg]

/-- `close(*ch)` would panic: the count is at the limit and no channel is stored, or the stored
    channel has been closed before. -/
def Stuck (s : St) : Prop :=
  (s.closed = false ∧ s.trf = s.limit ∧ s.chan = none) ∨ ∃ g, s.chan = some g ∧ g ∈ s.closedGens

/-- The steps that leave the state as it is, with the guard that selects each answer. -/
inductive Skip (s : St) : Op → Out → Prop
  | putErr {it} : s.closed = true → Skip s (.put it) .putErr
  | busy {b} : s.parked = true → Skip s (.get b) .busy
  | getErr {b} : s.closed = true → Skip s (.get b) .getErr
  | getNone : s.closed = false → s.list = [] → Skip s (.get false) .getNone
  | getPanic {b} : Stuck s → Skip s (.get b) .panic
  | notParked : s.parked = false → Skip s .wake .none
  | asleep : s.wakeup = false → s.done = false → Skip s .wake .blocked
  | noChan {r} : s.chan = none → Skip s (.thr1 r) .pass
  | noReader {r} : s.readers.lookup r = none → Skip s (.thr2 r) .none
  | blocked {r} : readerBlocked s r = true → Skip s (.thr2 r) .blocked
  | finished : s.closed = true → Skip s .finish .none
  | finPanic : Stuck s → Skip s .finish .panic

/-- What a step does: the guards that select the rule, the new state, the answer.  An accepted put
    and a successful get come in three kinds each: the item is not throttled; it is, and the count
    stays away from the limit; the count reaches the limit (a channel is made) or leaves it (the
    channel is closed).  `finish` closes the channel if there is one. -/
inductive Move (s : St) : Op → St × Out → Prop
  | skip {o out} : Skip s o out → Move s o (s, out)
  | put {it} : s.closed = false → it.throttled = false →
      Move s (.put it) ({ s with
        list := s.list ++ [it], consumerWaiting := false, wakeup := s.consumerWaiting || s.wakeup }, .putOk)
  | putThr {it} : s.closed = false → it.throttled = true → s.trf + 1 ≠ s.limit →
      Move s (.put it) ({ s with
        list := s.list ++ [it], consumerWaiting := false, wakeup := s.consumerWaiting || s.wakeup,
        trf := s.trf + 1 }, .putOk)
  | putFull {it} : s.closed = false → it.throttled = true → s.trf + 1 = s.limit →
      Move s (.put it) ({ s with
        list := s.list ++ [it], consumerWaiting := false, wakeup := s.consumerWaiting || s.wakeup,
        trf := s.trf + 1, chan := some s.nextGen, nextGen := s.nextGen + 1 }, .putOk)
  | park : s.parked = false → s.closed = false → s.list = [] →
      Move s (.get true) ({ s with consumerWaiting := true, parked := true }, .parkedNow)
  | got {b hd rest} : s.parked = false → s.closed = false → s.list = hd :: rest → hd.throttled = false →
      Move s (.get b) ({ s with list := rest }, .got hd)
  | gotThr {b hd rest} : s.parked = false → s.closed = false → s.list = hd :: rest → hd.throttled = true →
      s.trf ≠ s.limit → Move s (.get b) ({ s with list := rest, trf := s.trf - 1 }, .got hd)
  | gotFull {b hd rest g} : s.parked = false → s.closed = false → s.list = hd :: rest → hd.throttled = true →
      s.trf = s.limit → s.chan = some g → g ∉ s.closedGens →
      Move s (.get b) ({ s with
        list := rest, trf := s.trf - 1, chan := none, closedGens := g :: s.closedGens }, .got hd)
  | woke : s.parked = true → s.wakeup = true →
      Move s .wake ({ s with wakeup := false, parked := false }, .woke)
  | doneErr : s.parked = true → s.wakeup = false → s.done = true →
      Move s .wake ({ s with parked := false }, .doneErr)
  | load {r g} : s.chan = some g → Move s (.thr1 r) ({ s with readers := s.readers ++ [(r, g)] }, .loaded g)
  | pass {r g} : s.readers.lookup r = some g → g ∈ s.closedGens ∨ s.done = true →
      Move s (.thr2 r) ({ s with readers := s.readers.filter (·.1 ≠ r) }, .pass)
  | fin : s.closed = false → s.chan = none →
      Move s .finish ({ s with closed := true, list := [] }, .orphaned (hdrIds s.list))
  | finChan {g} : s.closed = false → s.chan = some g → g ∉ s.closedGens →
      Move s .finish ({ s with
        closed := true, list := [], chan := none, closedGens := g :: s.closedGens }, .orphaned (hdrIds s.list))
  | closeDone : Move s .closeDone ({ s with done := true }, .none)

theorem step_move (s : St) (o : Op) : Move s o (step s o) := by
  -- one goal per branch of `step`, numbered in the order of its text: `put` 1-2, `get` 3-11, `wake` 12-15, `thr1` 16-17,
  -- `thr2` 18-20, `finish` 21-24, `closeDone` 25; each is a rule of `Move`, given the guards on the way to the branch
  fun_cases step s o
  case case1 hc => exact .skip (.putErr hc)
  case case2 it hc _ _ _ s' =>
    -- the accepted put is left as `step` computes it (a chain of `let`s): `step_put_open` has its three outcomes
    rw [show (s', Out.putOk) = step s (.put it) by unfold step; rw [if_neg hc]]
    have hc := Bool.eq_false_iff.mpr hc
    rw [step_put_open s it hc]
    dsimp only
    split
    · next hth =>
      split
      · next hl => exact .putFull hc hth hl
      · next hl => exact .putThr hc hth hl
    · next hth => exact .put hc (Bool.eq_false_iff.mpr hth)
  case case3 hp => exact .skip (.busy hp)
  case case4 hc => exact .skip (.getErr hc)
  case case5 hp hc hnil => exact .park (Bool.eq_false_iff.mpr hp) (Bool.eq_false_iff.mpr hc) hnil
  case case6 hc hnil hb => cases Bool.eq_false_iff.mpr hb; exact .skip (.getNone (Bool.eq_false_iff.mpr hc) hnil)
  case case7 hc _ _ _ _ hlim hg => exact .skip (.getPanic (.inl ⟨Bool.eq_false_iff.mpr hc, hlim, hg⟩))
  case case8 g hg _ hm => exact .skip (.getPanic (.inr ⟨g, hg, closeGen_panics.mp hm⟩))
  case case9 hp hc _ _ hl _ hth hlim g hg c hm =>
    have hm := mt closeGen_panics.mpr hm
    rw [show c = _ from closeGen_open hm]
    exact .gotFull (Bool.eq_false_iff.mpr hp) (Bool.eq_false_iff.mpr hc) hl hth hlim hg hm
  case case10 hp hc _ _ hl _ hth hlim => exact .gotThr (Bool.eq_false_iff.mpr hp) (Bool.eq_false_iff.mpr hc) hl hth hlim
  case case11 hp hc _ _ hl _ hth =>
    exact .got (Bool.eq_false_iff.mpr hp) (Bool.eq_false_iff.mpr hc) hl (Bool.eq_false_iff.mpr hth)
  case case12 hp => exact .skip (.notParked (by simpa using hp))
  case case13 hp hw => exact .woke (by simpa using hp) hw
  case case14 hp hw hd => exact .doneErr (by simpa using hp) (Bool.eq_false_iff.mpr hw) hd
  case case15 hw hd => exact .skip (.asleep (Bool.eq_false_iff.mpr hw) (Bool.eq_false_iff.mpr hd))
  case case16 hg => exact .skip (.noChan hg)
  case case17 hg => exact .load hg
  case case18 hn => exact .skip (.noReader hn)
  case case19 hg hx => exact .pass hg (by simpa using hx)
  case case20 hg hx => exact .skip (.blocked (by simpa [readerBlocked, hg] using hx))
  case case21 hc => exact .skip (.finished hc)
  case case22 hc _ _ hg => exact .fin (Bool.eq_false_iff.mpr hc) hg
  case case23 g hg _ hm => exact .skip (.finPanic (.inr ⟨g, hg, closeGen_panics.mp hm⟩))
  case case24 hc _ _ g hg c hm =>
    have hm := mt closeGen_panics.mpr hm
    rw [show c = _ from closeGen_open hm]
    exact .finChan (Bool.eq_false_iff.mpr hc) hg hm
  case case25 => exact .closeDone

/-- At the limit the channel exists (`chanIff`), and the stored channel is open (`curOpen`): the
    `close(*ch)` of `getOnceLocked` and `finish` neither dereferences nil nor closes a closed channel. -/
theorem Inv.not_stuck {s : St} (h : Inv s) : ¬ Stuck s := by
  rintro (⟨hc, hlim, hn⟩ | ⟨g, hg, hm⟩)
  · have := (h.chanIff hc).mpr (Nat.le_of_eq hlim.symm)
    rw [hn] at this; cases this
  · exact (h.curOpen g hg).2 hm

theorem step_panic {s : St} {o : Op} (hp : (step s o).2 = .panic) : Stuck s := by
  have hm : Move s o ((step s o).1, (step s o).2) := step_move s o
  rw [hp] at hm
  generalize (step s o).1 = s' at hm
  cases hm with
  | skip hk =>
    cases hk with
    | getPanic hs | finPanic hs => exact hs

theorem Move.closes {s s' : St} {out : Out} (hm : Move s .finish (s', out)) (h : ¬ Stuck s) :
    s'.closed = true := by
  cases hm with
  | skip hk =>
    cases hk with
    | finished hc => exact hc
    | finPanic hs => exact absurd hs h
  | fin | finChan => rfl

theorem Move.passes {s s' : St} {r : Nat} {out : Out} (hm : Move s (.thr2 r) (s', out))
    (hb : readerBlocked s r = false) (hne : s.readers.lookup r ≠ none) : out = .pass := by
  cases hm with
  | skip hk =>
    cases hk with
    | noReader hn => exact absurd hn hne
    | blocked hb' => rw [hb] at hb'; cases hb'
  | pass => rfl

theorem Inv.closeChan {s : St} (h : Inv s) {g : Nat} (hg : s.chan = some g) :
    (∀ g', g' < s.nextGen → g' ∈ g :: s.closedGens) ∧ ∀ g' ∈ g :: s.closedGens, g' < s.nextGen := by
  refine ⟨fun g' hg' => ?_, fun g' hg' => ?_⟩
  · by_cases he : g' = g
    · exact he ▸ List.mem_cons_self
    · exact List.mem_cons_of_mem _ (h.oldClosed g' hg' fun hx => he (Option.some.inj (hg.symm.trans hx)).symm)
  · rcases List.mem_cons.mp hg' with rfl | hg'
    · exact (h.curOpen _ hg).1
    · exact h.closedOld g' hg'

theorem Inv.trf_cons {s : St} (h : Inv s) (hc : s.closed = false) {hd rest} (hl : s.list = hd :: rest) :
    s.trf = throttledCount rest + if hd.throttled then 1 else 0 := by
  rw [h.trfEq hc, hl, throttledCount_cons]

/-- The new state of every rule is `{ s with .. }`, so `{ h with .. }` re-proves exactly the fields
    of `Inv` that read a changed field of `s`; the others hold by unfolding. -/
theorem Move.inv {s s' : St} {o : Op} {out : Out} (hm : Move s o (s', out)) (h : Inv s) : Inv s' := by
  have off {p : Prop} (hc : s.closed = false) (hc' : s.closed = true) : p := absurd hc' (Bool.eq_false_iff.mp hc)
  have busy {p : Prop} (hp : s.parked = false) (hp' : s.parked = true) : p := absurd hp' (Bool.eq_false_iff.mp hp)
  have woken {it} (hp : s.parked = true) (hw : (s.consumerWaiting || s.wakeup) = false) :
      false = true ∧ s.list ++ [it] = [] :=
    have hw := Bool.or_eq_false_iff.mp hw
    absurd (h.consumer hp hw.2).1 (Bool.eq_false_iff.mp hw.1)
  cases hm with
  | skip => exact h
  | put hc hth =>
    exact { h with
      trfEq := fun _ => by simp only [throttledCount_snoc, hth, h.trfEq hc]; rfl
      closedClean := off hc
      consumer := woken }
  | putThr hc hth hl =>
    exact { h with
      trfEq := fun _ => by simp only [throttledCount_snoc, hth, if_true, h.trfEq hc]
      chanIff := fun _ => (h.chanIff hc).trans (show _ ↔ s.limit ≤ s.trf + 1 by omega)
      closedClean := off hc
      consumer := woken }
  | putFull hc hth hl =>
    have hnone : s.chan = none := by
      cases hch : s.chan with
      | none => rfl
      | some g => have := (h.chanIff hc).mp (by rw [hch]; rfl); omega
    exact { h with
      trfEq := fun _ => by simp only [throttledCount_snoc, hth, if_true, h.trfEq hc]
      chanIff := fun _ => ⟨fun _ => Nat.le_of_eq hl.symm, fun _ => rfl⟩
      closedClean := off hc
      curOpen := fun g hg => by
        cases hg
        exact ⟨Nat.lt_succ_self _, fun hm => Nat.lt_irrefl _ (h.closedOld _ hm)⟩
      oldClosed := fun g hg hne => h.oldClosed g
        (Nat.lt_of_le_of_ne (Nat.le_of_lt_succ hg) fun he => hne (he ▸ rfl)) (by rw [hnone]; nofun)
      closedOld := fun g hg => Nat.lt_succ_of_lt (h.closedOld g hg)
      readersOld := fun p hp => Nat.lt_succ_of_lt (h.readersOld p hp)
      consumer := woken }
  | park _ _ hnil => exact { h with consumer := fun _ _ => ⟨rfl, hnil⟩ }
  | got hp hc hl hth =>
    exact { h with
      trfEq := fun _ => by simpa [hth] using h.trf_cons hc hl
      closedClean := off hc
      consumer := busy hp }
  | @gotThr _ _ rest hp hc hl hth hlim =>
    have t : s.trf = throttledCount rest + 1 := by simpa [hth] using h.trf_cons hc hl
    exact { h with
      trfEq := fun _ => show s.trf - 1 = throttledCount rest by omega
      chanIff := fun _ => (h.chanIff hc).trans (show _ ↔ s.limit ≤ s.trf - 1 by omega)
      closedClean := off hc
      consumer := busy hp }
  | @gotFull _ _ rest _ hp hc hl hth hlim hg =>
    have t : s.trf = throttledCount rest + 1 := by simpa [hth] using h.trf_cons hc hl
    exact { h with
      trfEq := fun _ => show s.trf - 1 = throttledCount rest by omega
      chanIff := fun _ => show none.isSome = true ↔ s.limit ≤ s.trf - 1 from ⟨nofun, fun _ => by omega⟩
      closedClean := off hc
      curOpen := nofun
      oldClosed := fun g' hg' _ => (h.closeChan hg).1 g' hg'
      closedOld := (h.closeChan hg).2
      consumer := busy hp }
  | woke | doneErr => exact { h with consumer := nofun }
  | @load r g hg =>
    have hr : ∀ p ∈ s.readers ++ [(r, g)], p.2 < s.nextGen := fun p hp => by
      rcases List.mem_append.mp hp with hp | hp
      · exact h.readersOld p hp
      · cases List.mem_singleton.mp hp; exact (h.curOpen g hg).1
    exact { h with readersOld := hr }
  | pass => exact { h with readersOld := fun p hp => h.readersOld p (List.mem_filter.mp hp).1 }
  | fin _ hch =>
    exact { h with
      trfEq := nofun
      chanIff := nofun
      closedClean := fun _ => ⟨hch, rfl⟩
      consumer := fun hp hw => ⟨(h.consumer hp hw).1, rfl⟩ }
  | finChan _ hg =>
    exact { h with
      trfEq := nofun
      chanIff := nofun
      closedClean := fun _ => ⟨rfl, rfl⟩
      curOpen := nofun
      oldClosed := fun g' hg' _ => (h.closeChan hg).1 g' hg'
      closedOld := (h.closeChan hg).2
      consumer := fun hp hw => ⟨(h.consumer hp hw).1, rfl⟩ }
  | closeDone => exact { h with }

theorem run_inv (ops : List Op) (s : St) (h : Inv s) : Inv (run s ops).1 := by
  induction ops generalizing s with
  | nil => exact h
  | cons o os ih => exact ih _ ((step_move s o).inv h)

theorem Move.limit {s s' : St} {o : Op} {out : Out} (hm : Move s o (s', out)) : s'.limit = s.limit := by
  cases hm <;> rfl

theorem run_limit (ops : List Op) (s : St) : (run s ops).1.limit = s.limit := by
  induction ops generalizing s with
  | nil => rfl
  | cons o os ih => exact (ih _).trans (step_move s o).limit

theorem blocked_open_full (s : St) (h : Inv s) (r : Nat) (hb : readerBlocked s r = true) :
    s.closed = false ∧ s.done = false ∧ s.limit ≤ throttledCount s.list := by
  simp only [readerBlocked] at hb
  split at hb
  · next g hg =>
    simp at hb
    obtain ⟨hb1, hb2⟩ := hb
    have hmem : (r, g) ∈ s.readers := Basic.lookup_mem hg
    -- the generation the reader waits on is not closed, so it is the current one
    have hcur : s.chan = some g :=
      Decidable.byContradiction fun hne => hb1 (h.oldClosed g (h.readersOld _ hmem) hne)
    have hopen : s.closed = false := by
      cases hc : s.closed
      · rfl
      · rw [(h.closedClean hc).1] at hcur; cases hcur
    have h2 := (h.chanIff hopen).mp (by rw [hcur]; rfl)
    rw [h.trfEq hopen] at h2
    exact ⟨hopen, hb2, h2⟩
  · cases hb

/-- No lost wake-up: once fewer than `limit` throttled items are queued, or the buffer is closed
    (or `done` is closed), no reader is blocked — whichever generation it loaded, whenever. -/
theorem released (s : St) (h : Inv s) (hr : throttledCount s.list < s.limit ∨ s.closed = true ∨ s.done = true)
    (r : Nat) : readerBlocked s r = false := by
  cases hb : readerBlocked s r
  · rfl
  · obtain ⟨h1, h2, h3⟩ := blocked_open_full s h r hb
    rcases hr with hr | hr | hr
    · omega
    · simp [h1] at hr
    · simp [h2] at hr

theorem anyBlocked_open_full (s : St) (h : Inv s) (hb : anyBlocked s = true) :
    s.closed = false ∧ s.done = false ∧ s.limit ≤ throttledCount s.list := by
  simp only [anyBlocked, List.any_eq_true] at hb
  obtain ⟨p, _, hp⟩ := hb
  exact blocked_open_full s h p.1 hp

def MC (s : St) (m : Mon) : Prop := m = ⟨s.limit, s.list, s.closed, s.done⟩

theorem mc_init (limit : Nat) : MC (init limit) (Mon.init limit) := rfl

theorem readers_ok (s : St) (m : Mon) (h : Inv s) (hm : MC s m) (c : Nat) :
    m.readers (anyBlocked s) ≠ .viol c := by
  subst hm
  simp only [Mon.readers]
  cases hb : anyBlocked s
  · simp
  · obtain ⟨b1, b2, b3⟩ := anyBlocked_open_full _ h hb
    simp [b1, b2, Nat.not_lt.mpr b3]

theorem Move.mc {s s' : St} {m : Mon} {o : Op} {out : Out} (hs : Move s o (s', out)) (h : ¬ Stuck s)
    (hm : MC s m) :
    MC s' (Mon.step m o out).1 ∧ ∀ c, (Mon.step m o out).2 ≠ .viol c := by
  -- the monitor's state is `⟨s.limit, s.list, s.closed, s.done⟩`, so what `Mon.step` tests for an `(op, answer)` pair
  -- (`closeSeen`, the head of `queue`, the orphaned ids) is decided by the guards the rule with that answer carries
  -- (`*`), and its new state is the rule's new state read through `MC`; `panic`, the one answer that is a violation
  -- whatever the state, is given by the two `Stuck` skips only
  subst hm
  cases hs with
  | skip hk =>
    cases hk with
    | getPanic hs | finPanic hs => exact absurd hs h
    | _ => simp [Mon.step, MC, *]
  | _ => simp [Mon.step, MC, hdrIds, *]

theorem verdicts_ok (ops : List Op) (s : St) (m : Mon) (h : Inv s) (hm : MC s m) :
    ∀ v ∈ verdicts s m ops, ∀ c, v ≠ .viol c := by
  induction ops generalizing s m with
  | nil => simp [verdicts]
  | cons o os ih =>
    have h' := (step_move s o).inv h
    obtain ⟨s1, s2⟩ := (step_move s o).mc h.not_stuck hm
    intro v hv
    simp only [verdicts, List.mem_cons] at hv
    rcases hv with rfl | rfl | hv
    · exact s2
    · exact readers_ok _ _ h' s1
    · exact ih _ _ h' s1 v hv


/-- Ledger over a trace prefix: what the writer took so far followed by what is queued is exactly
    what was accepted; on close the queue becomes `dropped` and exactly its clientHeaders are orphaned. -/
def Ledger (s : St) (acc del : List Item) (orph : List Nat) : Prop :=
  (s.closed = false → del ++ s.list = acc ∧ orph = []) ∧
  (s.closed = true → ∃ dropped, del ++ dropped = acc ∧ orph = hdrIds dropped ∧ s.list = [])

/-- Only the rules that take, hand out or drop items touch the ledger; each of them needs the buffer open. -/
theorem step_ledger (s : St) (o : Op) (acc del : List Item) (orph : List Nat) (h : Ledger s acc del orph) :
    Ledger (step s o).1 (acc ++ acceptedOf [(o, (step s o).2)]) (del ++ deliveredOf [(o, (step s o).2)])
      (orph ++ orphanedOf [(o, (step s o).2)]) := by
  have hm := step_move s o
  generalize step s o = r at hm
  have same : Ledger s (acc ++ []) (del ++ []) (orph ++ []) := by simpa only [List.append_nil] using h
  cases hm with
  | skip hk => cases hk <;> exact same
  | put hc | putThr hc | putFull hc | got _ hc | gotThr _ hc | gotFull _ hc | fin hc | finChan hc =>
    obtain ⟨rfl, rfl⟩ := h.1 hc
    -- `putOk` appends the item to `acc` and to the queue, `got hd` moves the head of the queue to `del`,
    -- `orphaned` turns the queue into `dropped`
    simp [Ledger, acceptedOf, deliveredOf, orphanedOf, *]
  | _ => exact same

theorem acceptedOf_append (l₁ l₂ : List (Op × Out)) : acceptedOf (l₁ ++ l₂) = acceptedOf l₁ ++ acceptedOf l₂ := by
  induction l₁ using acceptedOf.induct <;> simp [acceptedOf, *]

theorem deliveredOf_append (l₁ l₂ : List (Op × Out)) : deliveredOf (l₁ ++ l₂) = deliveredOf l₁ ++ deliveredOf l₂ := by
  induction l₁ using deliveredOf.induct <;> simp [deliveredOf, *]

theorem orphanedOf_append (l₁ l₂ : List (Op × Out)) : orphanedOf (l₁ ++ l₂) = orphanedOf l₁ ++ orphanedOf l₂ := by
  induction l₁ using orphanedOf.induct <;> simp [orphanedOf, *]

theorem run_ledger (ops : List Op) (s : St) (acc del : List Item) (orph : List Nat) (h : Ledger s acc del orph) :
    Ledger (run s ops).1 (acc ++ acceptedOf (run s ops).2) (del ++ deliveredOf (run s ops).2)
      (orph ++ orphanedOf (run s ops).2) := by
  induction ops generalizing s acc del orph with
  | nil => simpa [run, acceptedOf, deliveredOf, orphanedOf] using h
  | cons o os ih =>
    have := ih _ _ _ _ (step_ledger s o acc del orph h)
    simp only [run]
    rw [← List.singleton_append, acceptedOf_append, deliveredOf_append, orphanedOf_append]
    simpa [List.append_assoc] using this

end GrpcProofs.Lemmas.ControlBuf
