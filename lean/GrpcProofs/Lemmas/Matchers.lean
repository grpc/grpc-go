import Mathlib.Data.List.Forall2
import GrpcModel.Model.Matchers
namespace GrpcProofs.Lemmas.Matchers
open GrpcModel.Matchers

/-- Two bytes are equal up to ASCII case: equal, or an upper-case ASCII letter (65..90) and its lower-case
    counterpart (+32), in either order. -/
def CaseEq (x y : Nat) : Prop := x = y ∨ (65 ≤ x ∧ x ≤ 90 ∧ y = x + 32) ∨ (65 ≤ y ∧ y ≤ 90 ∧ x = y + 32)

def FoldEq (a b : Str) : Prop := List.Forall₂ CaseEq a b

/-- `v` is the base-10 notation of the integer `n`: optional sign, at least one ASCII digit, nothing else. -/
def Decimal (v : Str) (n : Int) : Prop :=
  ∃ sign ds, v = sign ++ ds ∧ (sign = [] ∨ sign = [43] ∨ sign = [45]) ∧ ds ≠ [] ∧ (∀ d ∈ ds, 48 ≤ d ∧ d ≤ 57) ∧
    n = if sign = [45] then -(digitsVal ds : Int) else (digitsVal ds : Int)

/-- Meaning of a header matcher with an invert flag: the header is present, and the predicate on the comma-joined
    value holds exactly when invert is off. -/
def HeaderSem (md : MD) (key : Str) (invert : Bool) (P : Str → Prop) : Prop :=
  ∃ vs, lookupMD md key = some vs ∧ (P (joinComma vs) ↔ invert = false)

def SMSem (kind : SMKind) (pat : Str) (re : Re) (ignoreCase : Bool) (input : Str) : Prop :=
  match kind, ignoreCase with
  | .exact, false => input = pat
  | .exact, true => FoldEq input pat
  | .prefix, false => pat <+: input
  | .prefix, true => ∃ p r, input = p ++ r ∧ FoldEq p pat
  | .suffix, false => pat <:+ input
  | .suffix, true => ∃ r p, input = r ++ p ∧ FoldEq p pat
  | .contains, false => pat <:+: input
  | .contains, true => ∃ a p b, input = a ++ p ++ b ∧ FoldEq p pat
  | .regex, _ => re.matches input = true

def key : HeaderMatcher → Str
  | .exact k _ _ | .regex k _ _ | .range k _ _ _ | .present k _ | .prefix k _ _ | .suffix k _ _
  | .contains k _ _ | .string k _ _ => k

def isPresentKind : HeaderMatcher → Bool
  | .present _ _ => true
  | _ => false

def setInvert (i : Bool) : HeaderMatcher → HeaderMatcher
  | .exact k p _ => .exact k p i
  | .regex k r _ => .regex k r i
  | .range k a b _ => .range k a b i
  | .present k p => .present k p
  | .prefix k p _ => .prefix k p i
  | .suffix k p _ => .suffix k p i
  | .contains k p _ => .contains k p i
  | .string k s _ => .string k s i

theorem caseEq_symm {x y : Nat} (h : CaseEq x y) : CaseEq y x := h.imp Eq.symm Or.symm

theorem caseEqB_iff (x y : Nat) : Spec.caseEqB x y = true ↔ CaseEq x y := by
  simp only [Spec.caseEqB, Spec.isUpperB, CaseEq, Bool.or_eq_true, Bool.and_eq_true, beq_iff_eq, decide_eq_true_eq,
    or_assoc, and_assoc]

theorem lower_beq (x y : Nat) : (lowerB x == lowerB y) = Spec.caseEqB x y := by
  rw [Bool.eq_iff_iff, caseEqB_iff]
  simp only [beq_iff_eq, lowerB, CaseEq]
  split <;> split <;> omega

theorem lower_eq_iff (x y : Nat) : lowerB x = lowerB y ↔ CaseEq x y := by
  rw [← caseEqB_iff, ← lower_beq, beq_iff_eq]

theorem upper_beq (x y : Nat) : (upperB x == upperB y) = Spec.caseEqB x y := by
  rw [Bool.eq_iff_iff, caseEqB_iff]
  simp only [beq_iff_eq, upperB, CaseEq]
  split <;> split <;> omega

theorem caseEqB_comm (x y : Nat) : Spec.caseEqB x y = Spec.caseEqB y x := by
  rw [Bool.eq_iff_iff, caseEqB_iff, caseEqB_iff]; exact ⟨caseEq_symm, caseEq_symm⟩

theorem map_beq_eq_eqFold (f : Nat → Nat) (hf : ∀ x y, (f x == f y) = Spec.caseEqB x y) :
    ∀ a b : Str, (a.map f == b.map f) = Spec.eqFold a b
  | [], [] => by simp [Spec.eqFold]
  | [], _ :: _ => by simp [Spec.eqFold]
  | _ :: _, [] => by simp [Spec.eqFold]
  | x :: s, y :: t => by
    have ih := map_beq_eq_eqFold f hf s t
    have h1 := hf x y
    simp only [List.map_cons, Spec.eqFold, ← ih, ← h1]
    rw [Bool.eq_iff_iff]; simp

theorem map_isPrefixOf_eq_prefixFold (f : Nat → Nat) (hf : ∀ x y, (f x == f y) = Spec.caseEqB x y) :
    ∀ pat s : Str, (pat.map f).isPrefixOf (s.map f) = Spec.prefixFold pat s
  | [], _ => by simp [Spec.prefixFold]
  | _ :: _, [] => by simp [Spec.prefixFold]
  | p :: ps, c :: cs => by
    have ih := map_isPrefixOf_eq_prefixFold f hf ps cs
    simp only [List.map_cons, List.isPrefixOf, Spec.prefixFold, ih, hf]

theorem map_isSuffixOf_eq_suffixFold (f : Nat → Nat) (hf : ∀ x y, (f x == f y) = Spec.caseEqB x y)
    (pat s : Str) : (pat.map f).isSuffixOf (s.map f) = Spec.suffixFold pat s := by
  simp only [List.isSuffixOf, Spec.suffixFold, ← List.map_reverse, map_isPrefixOf_eq_prefixFold f hf]

theorem map_hasInfix_eq_infixFold (f : Nat → Nat) (hf : ∀ x y, (f x == f y) = Spec.caseEqB x y) (pat : Str) :
    ∀ s : Str, hasInfix (pat.map f) (s.map f) = Spec.infixFold pat s
  | [] => by simp [hasInfix, Spec.infixFold]
  | c :: t => by
    have ih := map_hasInfix_eq_infixFold f hf pat t
    have hp := map_isPrefixOf_eq_prefixFold f hf pat (c :: t)
    simp only [List.map_cons] at hp
    simp only [List.map_cons, hasInfix, Spec.infixFold, ih, hp]

theorem hasInfix_iff (pat : Str) : ∀ s : Str, hasInfix pat s = true ↔ pat <:+: s
  | [] => by simp [hasInfix, List.isEmpty_iff]
  | c :: t => by
    have ih := hasInfix_iff pat t
    simp only [hasInfix, Bool.or_eq_true, List.isPrefixOf_iff_prefix, ih]
    rw [List.infix_cons_iff]

/-! With ignore-case every operation of the specification is the plain operation on the lower-cased strings
(`map_*_eq_*Fold` at `lowerB`), and `FoldEq` is equality of the lower-cased strings; so what each operation means is
read off the plain operation: a prefix, suffix or infix of `s.map f` is the image of one of `s`. -/

theorem foldEq_iff_map (a b : Str) : FoldEq a b ↔ a.map lowerB = b.map lowerB := by
  have : CaseEq = fun x y => lowerB x = lowerB y := funext₂ fun x y => propext (lower_eq_iff x y).symm
  rw [FoldEq, this, ← List.forall₂_eq_eq_eq, List.forall₂_map_left_iff, List.forall₂_map_right_iff]

theorem eqFold_iff (a b : Str) : Spec.eqFold a b = true ↔ FoldEq a b := by
  rw [← map_beq_eq_eqFold lowerB lower_beq, beq_iff_eq, foldEq_iff_map]

theorem prefixFold_iff (pat s : Str) : Spec.prefixFold pat s = true ↔ ∃ p r, s = p ++ r ∧ FoldEq p pat := by
  simp only [← map_isPrefixOf_eq_prefixFold lowerB lower_beq, List.isPrefixOf_iff_prefix, List.prefix_map_iff, foldEq_iff_map]
  exact ⟨fun ⟨p, ⟨r, h⟩, hp⟩ => ⟨p, r, h.symm, hp.symm⟩, fun ⟨p, r, h, hp⟩ => ⟨p, ⟨r, h.symm⟩, hp.symm⟩⟩

theorem suffixFold_iff (pat s : Str) : Spec.suffixFold pat s = true ↔ ∃ r p, s = r ++ p ∧ FoldEq p pat := by
  simp only [← map_isSuffixOf_eq_suffixFold lowerB lower_beq, List.isSuffixOf_iff_suffix, List.suffix_map_iff, foldEq_iff_map]
  exact ⟨fun ⟨p, ⟨r, h⟩, hp⟩ => ⟨r, p, h.symm, hp.symm⟩, fun ⟨r, p, h, hp⟩ => ⟨p, ⟨r, h.symm⟩, hp.symm⟩⟩

theorem infixFold_iff (pat s : Str) : Spec.infixFold pat s = true ↔ ∃ a p b, s = a ++ p ++ b ∧ FoldEq p pat := by
  simp only [← map_hasInfix_eq_infixFold lowerB lower_beq, hasInfix_iff, List.infix_map_iff, foldEq_iff_map]
  exact ⟨fun ⟨p, ⟨a, b, h⟩, hp⟩ => ⟨a, p, b, h.symm, hp.symm⟩, fun ⟨a, p, b, h, hp⟩ => ⟨p, ⟨a, b, h.symm⟩, hp.symm⟩⟩

theorem joinComma_eq_intercalate : ∀ vs : List Str, joinComma vs = List.intercalate [44] vs
  | [] => by simp [joinComma, List.intercalate]
  | [a] => by simp [joinComma, List.intercalate]
  | a :: b :: t => by
    have ih := joinComma_eq_intercalate (b :: t)
    simp only [joinComma, List.intercalate] at ih ⊢
    simp [ih, List.intersperse]

theorem all_isDigit_iff (ds : Str) : ds.all isDigit = true ↔ ∀ d ∈ ds, 48 ≤ d ∧ d ≤ 57 := by
  simp [List.all_eq_true, isDigit]

theorem decMag_iff (neg : Bool) (ds : Str) (n : Int) :
    Spec.decMag neg ds = some n ↔ ds ≠ [] ∧ (∀ d ∈ ds, 48 ≤ d ∧ d ≤ 57) ∧
      n = if neg then -(digitsVal ds : Int) else (digitsVal ds : Int) := by
  simp only [Spec.decMag, Option.ite_none_right_eq_some, Option.some.injEq, Bool.and_eq_true, Bool.not_eq_true',
    List.isEmpty_eq_false_iff, all_isDigit_iff, and_assoc, @eq_comm _ n]

theorem decimal_iff (v : Str) (n : Int) : Spec.decimal v = some n ↔ Decimal v n := by
  unfold Decimal
  constructor
  · intro h
    unfold Spec.decimal at h
    split at h <;> obtain ⟨h1, h2, h3⟩ := (decMag_iff _ _ _).mp h
    · exact ⟨[43], _, rfl, by simp, h1, h2, by simpa using h3⟩
    · exact ⟨[45], _, rfl, by simp, h1, h2, by simpa using h3⟩
    · exact ⟨[], v, rfl, by simp, h1, h2, by simpa using h3⟩
  · rintro ⟨sign, ds, rfl, hs, hne, hd, rfl⟩
    rcases hs with rfl | rfl | rfl
    · cases ds with
      | nil => exact absurd rfl hne
      | cons c t =>
        -- the first digit is neither "+" nor "-"
        have hc := hd c (by simp)
        unfold Spec.decimal
        split
        next heq => simp at heq; omega
        next heq => simp at heq; omega
        next => exact (decMag_iff _ _ _).mpr ⟨hne, hd, by simp⟩
    · exact (decMag_iff _ _ _).mpr ⟨hne, hd, by simp⟩
    · exact (decMag_iff _ _ _).mpr ⟨hne, hd, by simp⟩

/-- the range check of `strconv.ParseInt(…, 10, 64)` on an unbounded value -/
def clamp64 (n : Int) : Option Int :=
  if -9223372036854775808 ≤ n ∧ n ≤ 9223372036854775807 then some n else none

theorem parseMag_eq (neg : Bool) (ds : Str) : parseMag neg ds = (Spec.decMag neg ds).bind clamp64 := by
  -- the bound `parseMag` puts on the magnitude is the int64 range of the signed value
  have hneg (n : Nat) : (if n > 9223372036854775808 then none else some (-(n : Int))) = clamp64 (-(n : Int)) := by
    unfold clamp64
    by_cases h : n > 9223372036854775808
    · rw [if_pos h, if_neg (by omega)]
    · rw [if_neg h, if_pos (by omega)]
  have hpos (n : Nat) : (if n ≥ 9223372036854775808 then none else some (n : Int)) = clamp64 n := by
    unfold clamp64
    by_cases h : n ≥ 9223372036854775808
    · rw [if_pos h, if_neg (by omega)]
    · rw [if_neg h, if_pos (by omega)]
  unfold parseMag Spec.decMag
  cases ds.isEmpty <;> cases ds.all isDigit <;> cases neg <;> simp [hneg, hpos]

theorem parseInt64_eq (s : Str) : parseInt64 s = (Spec.decimal s).bind clamp64 := by
  unfold parseInt64 Spec.decimal
  split <;> exact parseMag_eq _ _

theorem string_matcher_eq_spec (kind : SMKind) (pat : Str) (ic : Bool) (input : Str) :
    (newSM kind pat ic).match input = Spec.sm kind pat .eps ic input :=
  -- with ignore-case both sides work on lower-cased strings; without, and for a regex, they are the same expression
  match kind, ic with
  | .exact, true => map_beq_eq_eqFold lowerB lower_beq input pat
  | .prefix, true => map_isPrefixOf_eq_prefixFold lowerB lower_beq pat input
  | .suffix, true => map_isSuffixOf_eq_suffixFold lowerB lower_beq pat input
  | .contains, true => map_hasInfix_eq_infixFold lowerB lower_beq pat input
  | .regex, true | .exact, false | .prefix, false | .suffix, false | .contains, false | .regex, false => rfl

theorem spec_sm_iff (kind : SMKind) (pat : Str) (re : Re) (ic : Bool) (input : Str) :
    Spec.sm kind pat re ic input = true ↔ SMSem kind pat re ic input :=
  match kind, ic with
  | .exact, false => beq_iff_eq
  | .exact, true => eqFold_iff _ _
  | .prefix, false => List.isPrefixOf_iff_prefix
  | .prefix, true => prefixFold_iff _ _
  | .suffix, false => List.isSuffixOf_iff_suffix
  | .suffix, true => suffixFold_iff _ _
  | .contains, false => hasInfix_iff _ _
  | .contains, true => infixFold_iff _ _
  | .regex, _ => Iff.rfl

theorem string_matcher_sem (kind : SMKind) (pat : Str) (ic : Bool) (input : Str) :
    (newSM kind pat ic).match input = true ↔ SMSem kind pat .eps ic input := by
  rw [string_matcher_eq_spec kind pat ic input, spec_sm_iff]

theorem onValue_eq (md : MD) (k : Str) (f : Str → Bool) :
    onValue md k f = match lookupMD md k with
      | none => false
      | some vs => f (joinComma vs) := by
  unfold onValue valueFromMD
  cases lookupMD md k <;> rfl

theorem onValue_eq_withInvert (md : MD) (k : Str) (inv : Bool) (f : Str → Bool) :
    onValue md k (fun v => f v != inv) = Spec.withInvert md k inv f := onValue_eq md k _

theorem withInvert_iff (md : MD) (k : Str) (inv : Bool) (f : Str → Bool) (P : Str → Prop)
    (hf : ∀ v, f v = true ↔ P v) : Spec.withInvert md k inv f = true ↔ HeaderSem md k inv P := by
  unfold Spec.withInvert HeaderSem
  cases h : lookupMD md k with
  | none => simp
  | some vs =>
    simp only [Option.some.injEq, exists_eq_left', ← hf]
    cases inv <;> simp

theorem onValue_sem (md : MD) (k : Str) (inv : Bool) (f : Str → Bool) (P : Str → Prop)
    (hf : ∀ v, f v = true ↔ P v) : onValue md k (fun v => f v != inv) = true ↔ HeaderSem md k inv P := by
  rw [onValue_eq_withInvert]; exact withInvert_iff md k inv f P hf

theorem rangeResult_inv (v : Str) (start stop : Int) (inv : Bool) :
    rangeResult v start stop inv = (rangeResult v start stop false != inv) := by
  unfold rangeResult
  cases parseInt64 v with
  | none => cases inv <;> rfl
  | some i => cases inv <;> simp

/-- The bounds of a range matcher are int64, so `ParseInt`'s range error cannot be told from "out of range". -/
theorem rangeResult_eq_inRange (v : Str) (start stop : Int)
    (hs : -9223372036854775808 ≤ start) (he : stop ≤ 9223372036854775807) :
    rangeResult v start stop false = Spec.inRange v start stop := by
  unfold rangeResult Spec.inRange
  rw [parseInt64_eq]
  cases Spec.decimal v with
  | none => rfl
  | some n =>
    simp only [Option.bind_some, clamp64]
    by_cases hc : -9223372036854775808 ≤ n ∧ n ≤ 9223372036854775807
    · simp [hc]
    · have : ¬ (start ≤ n ∧ n < stop) := by omega
      simpa [hc] using this

theorem range_match_eq_withInvert (md : MD) (k : Str) (start stop : Int) (inv : Bool)
    (hs : -9223372036854775808 ≤ start) (he : stop ≤ 9223372036854775807) :
    (HeaderMatcher.range k start stop inv).match md = Spec.withInvert md k inv (Spec.inRange · start stop) := by
  simp only [HeaderMatcher.match, rangeResult_inv _ _ _ inv, rangeResult_eq_inRange _ start stop hs he]
  exact onValue_eq_withInvert md k inv _

theorem inRange_iff (v : Str) (start stop : Int) :
    Spec.inRange v start stop = true ↔ ∃ n : Int, Decimal v n ∧ start ≤ n ∧ n < stop := by
  unfold Spec.inRange
  cases hd : Spec.decimal v with
  | none =>
    simp only [Bool.false_eq_true, false_iff]
    rintro ⟨n, h, _⟩; rw [← decimal_iff, hd] at h; cases h
  | some n =>
    simp only [Bool.and_eq_true, decide_eq_true_eq]
    constructor
    · intro h; exact ⟨n, (decimal_iff _ _).mp hd, h⟩
    · rintro ⟨m, hm, h⟩
      rw [← decimal_iff, hd] at hm; cases hm; exact h

theorem onValue_not (md : MD) (k : Str) (f g : Str → Bool) (h : ∀ v, f v = !g v) :
    onValue md k f = ((lookupMD md k).isSome && !onValue md k g) := by
  rw [onValue_eq, onValue_eq]
  cases lookupMD md k <;> simp [h]

theorem onValue_absent (md : MD) (k : Str) (f : Str → Bool) (h : lookupMD md k = none) : onValue md k f = false := by
  rw [onValue_eq, h]

/-- The language of a regular expression (what `regexp` means by a FULL match of the string). `none` and `invalid`
    have no words. -/
inductive Lang : Re → Str → Prop
  | eps : Lang .eps []
  | char (c : Nat) : Lang (.char c) [c]
  | dot (c : Nat) : c ≠ 10 → Lang .dot [c]
  | range (lo hi c : Nat) : lo ≤ c → c ≤ hi → Lang (.range lo hi) [c]
  | seq {a b : Re} {s t : Str} : Lang a s → Lang b t → Lang (.seq a b) (s ++ t)
  | altL {a b : Re} {s : Str} : Lang a s → Lang (.alt a b) s
  | altR {a b : Re} {s : Str} : Lang b s → Lang (.alt a b) s
  | starNil {a : Re} : Lang (.star a) []
  | starCons {a : Re} {s t : Str} : Lang a s → Lang (.star a) t → Lang (.star a) (s ++ t)

theorem lang_none (s : Str) : ¬ Lang .none s := nofun
theorem lang_invalid (s : Str) : ¬ Lang .invalid s := nofun

theorem lang_eps_iff (s : Str) : Lang .eps s ↔ s = [] :=
  ⟨fun h => by cases h; rfl, fun h => h ▸ .eps⟩

theorem lang_char_iff (d : Nat) (s : Str) : Lang (.char d) s ↔ s = [d] :=
  ⟨fun h => by cases h; rfl, fun h => h ▸ .char d⟩

theorem lang_dot_iff (s : Str) : Lang .dot s ↔ ∃ c, c ≠ 10 ∧ s = [c] :=
  ⟨fun h => by cases h with | dot c hc => exact ⟨c, hc, rfl⟩, fun ⟨c, hc, h⟩ => h ▸ .dot c hc⟩

theorem lang_range_iff (lo hi : Nat) (s : Str) : Lang (.range lo hi) s ↔ ∃ c, lo ≤ c ∧ c ≤ hi ∧ s = [c] :=
  ⟨fun h => by cases h with | range _ _ c h1 h2 => exact ⟨c, h1, h2, rfl⟩, fun ⟨c, h1, h2, h⟩ => h ▸ .range lo hi c h1 h2⟩

theorem lang_seq_iff (a b : Re) (w : Str) : Lang (.seq a b) w ↔ ∃ s t, w = s ++ t ∧ Lang a s ∧ Lang b t :=
  ⟨fun h => by cases h with | seq h1 h2 => exact ⟨_, _, rfl, h1, h2⟩, fun ⟨_, _, h, h1, h2⟩ => h ▸ .seq h1 h2⟩

theorem lang_alt_iff (a b : Re) (w : Str) : Lang (.alt a b) w ↔ Lang a w ∨ Lang b w :=
  ⟨fun h => by cases h with | altL h => exact .inl h | altR h => exact .inr h, fun h => h.elim .altL .altR⟩

theorem lang_mkSeq (a b : Re) (w : Str) : Lang (mkSeq a b) w ↔ Lang (.seq a b) w := by
  unfold mkSeq
  split <;> simp [lang_seq_iff, lang_none, lang_eps_iff]

theorem lang_mkAlt (a b : Re) (w : Str) : Lang (mkAlt a b) w ↔ Lang (.alt a b) w := by
  unfold mkAlt
  split <;> simp [lang_alt_iff, lang_none]

theorem nullable_iff : ∀ r : Re, r.nullable = true ↔ Lang r []
  | .none | .invalid | .eps | .char _ | .dot | .range _ _ => by
    simp [Re.nullable, lang_none, lang_invalid, lang_eps_iff, lang_char_iff, lang_dot_iff, lang_range_iff]
  | .seq a b => by simp [Re.nullable, nullable_iff a, nullable_iff b, lang_seq_iff]
  | .alt a b => by simp [Re.nullable, nullable_iff a, nullable_iff b, lang_alt_iff]
  | .star a => by simp only [Re.nullable, true_iff]; exact .starNil

theorem star_cons_inv {a : Re} {c : Nat} {s : Str} (h : Lang (.star a) (c :: s)) :
    ∃ s1 s2, s = s1 ++ s2 ∧ Lang a (c :: s1) ∧ Lang (.star a) s2 := by
  generalize hr : Re.star a = r at h
  generalize hw : c :: s = w at h
  induction h generalizing s with
  | starNil => cases hw
  | @starCons a' s' t hs ht _ iht =>
    cases hr
    cases s' with
    | nil => exact iht rfl hw
    | cons x s1 =>
      cases hw
      exact ⟨s1, t, rfl, hs, ht⟩
  | _ => cases hr

theorem deriv_iff (c : Nat) : ∀ (r : Re) (s : Str), Lang (r.deriv c) s ↔ Lang r (c :: s)
  | .none, s | .invalid, s | .eps, s => by simp [Re.deriv, lang_none, lang_invalid, lang_eps_iff]
  | .char d, s => by simp only [Re.deriv]; split <;> simp [lang_eps_iff, lang_none, lang_char_iff, *]
  | .dot, s => by simp only [Re.deriv]; split <;> simp [lang_eps_iff, lang_none, lang_dot_iff, *]
  | .range lo hi, s => by
    simp only [Re.deriv]
    split
    next => simp [lang_eps_iff, lang_range_iff, *]
    next h =>
      simp only [lang_none, lang_range_iff, false_iff]
      rintro ⟨_, h1, h2, hc⟩
      cases hc
      exact h ⟨h1, h2⟩
  | .seq a b, s => by
    have hsplit : Lang (.seq a b) (c :: s) ↔
        (∃ s1 t, s = s1 ++ t ∧ Lang a (c :: s1) ∧ Lang b t) ∨ (Lang a [] ∧ Lang b (c :: s)) := by
      rw [lang_seq_iff]
      constructor
      · rintro ⟨u, t, h, h1, h2⟩
        cases u with
        | nil => cases h; exact .inr ⟨h1, h2⟩
        | cons x u => cases h; exact .inl ⟨u, t, rfl, h1, h2⟩
      · rintro (⟨s1, t, rfl, h1, h2⟩ | ⟨h1, h2⟩)
        · exact ⟨c :: s1, t, rfl, h1, h2⟩
        · exact ⟨[], c :: s, rfl, h1, h2⟩
    -- the second way, `a` taking nothing, is there iff `a` is nullable
    rw [hsplit, ← nullable_iff, Re.deriv]
    cases a.nullable <;>
      simp only [if_true, Bool.false_eq_true, if_false, lang_mkAlt, lang_alt_iff, lang_mkSeq, lang_seq_iff,
        deriv_iff c a, deriv_iff c b, false_and, true_and, or_false]
  | .alt a b, s => by simp only [Re.deriv, lang_mkAlt, lang_alt_iff, deriv_iff c a s, deriv_iff c b s]
  | .star a, s => by
    simp only [Re.deriv, lang_mkSeq, lang_seq_iff, deriv_iff c a]
    exact ⟨fun ⟨s1, t, h, h1, h2⟩ => h ▸ .starCons h1 h2, star_cons_inv⟩

theorem matches_iff : ∀ (s : Str) (r : Re), r.matches s = true ↔ Lang r s
  | [], r => by simp [Re.matches, nullable_iff]
  | c :: s, r => by
    have ih := matches_iff s (r.deriv c)
    simp only [Re.matches, List.foldl_cons] at ih ⊢
    rw [ih, deriv_iff]

end GrpcProofs.Lemmas.Matchers
