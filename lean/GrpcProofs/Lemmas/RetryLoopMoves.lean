/-
The moves of the retry loop of GrpcModel.RetryLoop (C18 / C23).  Every operation on a stream, and the creation
loop of `newClientStream` before there is one, is a sequence of the moves of `Move`, and every invariant of the state
alone is kept by each move for a reason of its own: the functions of the model are related to the moves once
(`*_reach`, `opNew_cases`, `OpRuns.preserves`), the invariants are proved move by move.  The replay invariant `RInv`
is not of that kind (see RetryLoopReplay).
-/
import GrpcProofs.Lemmas.RetryLoopPieces
namespace GrpcProofs.Lemmas.RetryLoop
open GrpcModel.Retry GrpcModel.RetryLoop GrpcProofs.Lemmas.Retry

/-- a timed retry stays below the policy's attempt limit (no other decision moves `numRetries`) -/
def RoomLeft (pol : Option Policy) (cs : CS) (d : Decision) : Prop :=
  ∀ dur fp, d = .backoff dur fp → ∃ rp, pol = some rp ∧ cs.numRetries + 1 < rp.maxAttempts

/-- what `retryLocked` knows when it creates the next attempt on a decision `d` of `shouldRetry` at `st` (all of it
    follows from `d` not being `noRetry`) -/
structure Decided (st : St) (d : Decision) : Prop where
  unfinished : st.cs.finished = false
  uncommitted : st.cs.committed = false
  room : RoomLeft st.pol st.cs d
  curDone : ∃ a, st.cur = some a ∧ 0 < a.finishCalls

/-- `close` is `clientStream.finish` up to the throttler credit; the application's own bookkeeping (`seq`, `hist`,
    `sentLast`) is not a move, it precedes every operation (`Begins.app`) -/
inductive Move : St → St → Prop
  | write (st : St) (w : Wire) : Move st (st.write w).1
  | settle (st : St) : Move st st.settle
  | read (st : St) : Move st { st.updCur (fun a => { a with respRead := 1 }) with recvFirst := true }
  | overflow (st : St) (sz : Int) : Move st ({ st with replaySize := st.replaySize + sz } : St).commit
  | append (st : St) (sz : Int) (op : ROp) : op ≠ .start → st.cs.committed = false → st.replaySize + sz ≤ st.maxBuf →
      Move st { st with replaySize := st.replaySize + sz, replay := st.replay ++ [op] }
  | commit (st : St) : Move st st.commit
  | finishAttempt (st : St) (code : Nat) : Move st (st.finishAttempt code)
  | judge (st : St) (v : Attempt) : Move st { st with cs := (shouldRetry st.disableRetry st.pol st.cs v 0).1 }
  | advance (st : St) (d : Decision) : RoomLeft st.pol st.cs d → Move st { st with cs := afterDecision st.cs d }
  | pop (st : St) (ns : List (Option Nat)) (ff : List Nat) : Move st { st with nsScript := ns, failedFin := ff }
  | retry (st : St) (d : Decision) : Decided st d → Move st (st.startRetry d).1
  | close (st : St) (code : Nat) :
      Move st (({ st with cs := { st.cs with finished := true } } : St).commit.finishAttempt code)
  | credit (st : St) (thr : Option Throttler) : Move st { st with cs := { st.cs with throttler := thr } }

abbrev Reach : St → St → Prop := Relation.ReflTransGen Move

theorem Reach.preserves {P : St → Prop} (hP : ∀ {a b}, Move a b → P a → P b) {st st' : St} (r : Reach st st')
    (h : P st) : P st' := by
  induction r with
  | refl => exact h
  | tail _ m ih => exact hP m ih

theorem Move.frame {st st' : St} (m : Move st st') : Frame st st' := by
  cases m with
  | write w => exact write_frame st w
  | read => exact (updCur_frame st _).trans (by constructor <;> rfl)
  | finishAttempt code => exact updCur_frame st _
  | retry d => exact startRetry_frame st d
  | close code =>
    exact Frame.trans (by constructor <;> rfl) (updCur_frame ({ st with cs := { st.cs with finished := true } } : St).commit _)
  | _ => constructor <;> rfl

theorem Reach.frame {st st' : St} (r : Reach st st') : Frame st st' :=
  r.preserves (fun m h => h.trans m.frame) (Frame.refl st)

theorem applyOp_reach {st : St} {op : COp} {st1 : St} {raw : Raw} {ev : List Ev} (e : st.applyOp op = (st1, raw, ev)) :
    Reach st st1 :=
  applyOp_preserves (Reach st) (fun s w h => h.tail (.write s w)) (fun s h => h.tail (.settle s))
    (fun s h => h.tail (.read s)) e .refl

theorem buffer_reach (st : St) (sz : Int) (op : ROp) (hop : op ≠ .start) : Reach st (st.buffer sz op) := by
  rcases buffer_cases st sz op with ⟨_, e⟩ | ⟨hc, ⟨_, e⟩ | ⟨hs, e⟩⟩ <;> rw [e]
  · exact .single (.overflow st sz)
  · exact .single (.append st sz op hop hc hs)

theorem onSuccess_reach (st : St) (op : COp) : Reach st (st.onSuccess op) := by
  cases op
  · exact buffer_reach _ _ _ nofun
  · exact buffer_reach _ _ _ nofun
  · exact .single (.commit _)
  · exact .single (.commit _)

theorem decideRetry_reach {st : St} {raw : Raw} {st3 : St} {d : Decision} (e : st.decideRetry raw = (st3, d)) :
    Reach st st3 := by
  rcases decideRetry_cases e with ⟨_, rfl, _⟩ | ⟨a, _, rfl, _⟩
  · exact .single (.finishAttempt _ _)
  · exact (Relation.ReflTransGen.single (.finishAttempt _ _)).tail (.judge _ _)

theorem finishAttempt_cur (st : St) (code : Nat) (a : Att) (h : (st.finishAttempt code).cur = some a) :
    0 < a.finishCalls := by
  obtain ⟨g, hg, e⟩ := finishAttempt_eq st code
  rw [e] at h
  obtain ⟨x, _, rfl⟩ := updCur_last st g a h
  exact (hg x).pos

theorem sr_roomLeft (dis : Bool) (pol : Option Policy) (cs : CS) (v : Attempt) (r : ℚ) :
    RoomLeft pol (shouldRetry dis pol cs v r).1 (shouldRetry dis pol cs v r).2 := fun dur fp hd => by
  obtain ⟨pb, rp, ht⟩ := sr_backoff_conditions dis pol cs v r dur fp hd
  exact ⟨rp, ht.charged.pol, by rw [(sr_keeps dis pol cs v r).numRetries]; exact ht.room⟩

theorem Failed.decided {op : COp} {st st1 : St} {raw : Raw} {ev : List Ev} {st3 : St} {d : Decision}
    (hf : Failed op st st1 raw ev st3 d) (hn : d ≠ .noRetry) : Decided st3 d := by
  rcases decideRetry_cases hf.dec with ⟨_, _, rfl⟩ | ⟨a, hc, rfl, rfl⟩
  · exact absurd rfl hn
  · have hk := sr_keeps (st1.finishAttempt raw.code).disableRetry (st1.finishAttempt raw.code).pol
      (st1.finishAttempt raw.code).cs (attemptView a) 0
    obtain ⟨hf, hu⟩ := sr_open _ _ _ _ _ hn
    exact ⟨hk.finished.trans hf, hk.committed.trans hu, sr_roomLeft _ _ _ _ _, a, hc, finishAttempt_cur st1 _ a hc⟩

theorem failStep_reach (st : St) (d : Decision) (c : Nat) (h : RoomLeft st.pol st.cs d) :
    Reach st (st.failStep d c).1 ∧ RoomLeft (st.failStep d c).1.pol (st.failStep d c).1.cs (st.failStep d c).2 :=
  ⟨((Relation.ReflTransGen.single (.advance st d h)).tail (.pop _ st.nsScript.tail (st.failedFin ++ [1]))).tail
      (.judge _ (noStreamView c)), sr_roomLeft _ _ _ _ _⟩

theorem FailRuns.reach {fuel : Nat} {st s : St} {d d' : Decision} {res : Option Res} (h : FailRuns fuel st d s res d')
    (hd : RoomLeft st.pol st.cs d) : Reach st s ∧ RoomLeft s.pol s.cs d' := by
  induction h with
  | scriptEnd => exact ⟨.refl, hd⟩
  | created st d rest => exact ⟨.single (.pop st rest st.failedFin), hd⟩
  | refused st d c | exhausted st d c | noFuel st d c => exact failStep_reach st d c hd
  | next _ st d c _ _ _ _ _ ih =>
    obtain ⟨h1, h2⟩ := ih (failStep_reach st d c hd).2
    exact ⟨(failStep_reach st d c hd).1.trans h1, h2⟩

theorem FailRuns.decided {fuel : Nat} {st s : St} {d d' : Decision} {res : Option Res} (h : FailRuns fuel st d s res d')
    (hd : Decided st d) : Decided s d' :=
  ⟨h.core.finished.trans hd.unfinished, h.core.committed.trans hd.uncommitted, (h.reach hd.room).2,
    by rw [St.cur, h.core.atts]; exact hd.curDone⟩

theorem Failed.reach {op : COp} {st st1 : St} {raw : Raw} {ev : List Ev} {st3 : St} {d : Decision}
    (hf : Failed op st st1 raw ev st3 d) : Reach st st3 :=
  (applyOp_reach hf.app).trans (decideRetry_reach hf.dec)

theorem withRetry_reach (fuel : Nat) (st : St) (op : COp) : Reach st (St.withRetry fuel st op).1 := by
  have h := withRetry_runs fuel st op
  generalize (St.withRetry fuel st op).1 = s, (St.withRetry fuel st op).2.1 = res at h
  induction h with
  | committed st st1 raw happ | blocked st st1 raw happ => exact applyOp_reach happ
  | success st st1 raw happ => exact (applyOp_reach happ).trans (onSuccess_reach _ _)
  | noRetry st st1 raw st3 hf | exhausted st st1 raw st3 hf => exact hf.reach.tail (.commit _)
  | noFuel st st1 raw st3 d hf => exact hf.reach
  | gaveUp fuel st st1 raw st3 d r hf hn _ hfl =>
    exact (hf.reach.trans (hfl.reach (hf.decided hn).room).1).tail (.commit _)
  | again fuel st st1 raw st3 d hf hn _ hfl _ ih =>
    have hd := hf.decided hn
    exact ((hf.reach.trans (hfl.reach hd.room).1).tail (.retry _ _ (hfl.decided hd))).trans ih

theorem opNew_cases (fuel : Nat) (st : St) :
    (∃ s, Reach st s ∧ Core st s ∧ (st.opNew fuel).1 = s.opNewOk.1 ∧ (st.opNew fuel).2.1 = .ok) ∨
    Reach st (st.opNew fuel).1 ∧ (st.opNew fuel).2.1 ≠ .ok := by
  have h := failLoop_runs fuel st .noRetry
  obtain ⟨hr, hroom⟩ := h.reach nofun
  rcases opNew_failLoop h with ⟨_, e, hok⟩ | ⟨_, hne, e | e⟩
  · exact Or.inl ⟨_, hr.tail (.advance _ _ hroom), h.core.trans { Core.refl _ with
      committed := afterDecision_committed .., finished := afterDecision_finished .. }, e, hok⟩
  · exact Or.inr ⟨by rw [show (st.opNew fuel).1 = _ from e]; exact hr.tail (.commit _), hne⟩
  · exact Or.inr ⟨by rw [show (st.opNew fuel).1 = _ from e]; exact hr, hne⟩

theorem finish_reach (st : St) (code : Nat) : Reach st (st.finish code) := by
  rcases finish_cases st code with ⟨_, e⟩ | ⟨_, thr, e⟩ <;> rw [e]
  exact (Relation.ReflTransGen.single (.close st code)).tail (.credit _ thr)

theorem finish_started (st : St) (code : Nat) : (st.finish code).started = st.started :=
  (finish_reach st code).frame.started

theorem Ended.reach {st s : St} (h : Ended st s) : Reach st s := by
  cases h with
  | settle => exact .single (.settle st)
  | finish code => exact (finish_reach st code).tail (.settle _)

theorem opRecv_reach (fuel : Nat) (st : St) : Reach st (st.opRecv fuel).1 :=
  (withRetry_reach fuel st .recv).trans (endRecv_ended _ _).reach

theorem opRecvW_reach (fuel : Nat) (st : St) : Reach st (st.opRecvW fuel).1 := by
  rcases opRecvW_cases fuel st with ⟨e, _⟩ | ⟨n, _, e, _⟩ <;> rw [e]
  · exact opRecv_reach fuel st
  · exact (opRecv_reach fuel st).trans (opRecv_reach fuel _)

theorem Begins.app {st pre : St} {cop : COp} (h : Begins st pre cop) :
    ∃ seq hist sl, pre = { st with seq := seq, hist := hist, sentLast := sl } := by
  cases h with
  | send size => exact ⟨_, _, _, rfl⟩
  | close => exact ⟨st.seq, _, true, rfl⟩
  | _ => exact ⟨st.seq, st.hist, st.sentLast, rfl⟩

theorem OpRuns.preserves {P : St → Prop} (hMove : ∀ {a b}, Move a b → P a → P b)
    (hApp : ∀ s (seq : Nat) (hist : List Wire) (sl : Bool), P s → P { s with seq := seq, hist := hist, sentLast := sl })
    {fuel : Nat} {st s : St} {res : Res} (o : OpRuns fuel st s res) : P st → P s := by
  induction o with
  | early st seq he => exact fun h => he.reach.preserves hMove (hApp st seq st.hist st.sentLast h)
  | call st hb he =>
    obtain ⟨seq, hist, sl, rfl⟩ := hb.app
    exact fun h => he.reach.preserves hMove ((withRetry_reach fuel _ _).preserves hMove (hApp st seq hist sl h))
  | twice _ _ _ _ _ ih1 ih2 => exact fun h => ih2 (ih1 h)

theorem run_preserves {P : St → Prop} {Q : Res → Prop} {fuel : Nat}
    (hstep : ∀ st op, op ≠ .new → P st → P (st.step fuel op).1 ∧ Q (st.step fuel op).2.1)
    (ops : List AppOp) (st : St) (hops : ∀ o ∈ ops, o ≠ .new) (h : P st) :
    P (St.run fuel st ops).1 ∧ ∀ r ∈ (St.run fuel st ops).2.1, Q r := by
  induction ops generalizing st with
  | nil => exact ⟨h, nofun⟩
  | cons o os ih =>
    obtain ⟨h1, hq⟩ := hstep st o (hops o (by simp)) h
    obtain ⟨h2, hqs⟩ := ih _ (fun x hx => hops x (by simp [hx])) h1
    exact ⟨h2, fun r hr => by rcases List.mem_cons.mp hr with rfl | hr; exacts [hq, hqs r hr]⟩

end GrpcProofs.Lemmas.RetryLoop
