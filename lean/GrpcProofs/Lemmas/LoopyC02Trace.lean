import GrpcProofs.Lemmas.LoopyC02
/-! What a clean C02 monitor run means for the DATA frames of one stream, for ANY trace (facts about the monitor itself):
they carry consecutive byte ranges starting at offset 0, and only the last one may carry END_STREAM. -/
namespace GrpcProofs.Loopy
open GrpcModel.Loopy GrpcModel.Loopy.C02

/-- `(offset, size, END_STREAM)` of the DATA frames of stream `id`, in wire order. -/
def dataOf (id : Nat) : List Out → List (Nat × Nat × Bool)
  | [] => []
  | .data i off size es :: t => if i = id then (off, size, es) :: dataOf id t else dataOf id t
  | _ :: t => dataOf id t

/-- … over a whole trace (steps of items outside the model, `Op.outside`, are not part of it: the spec does not look at them and
the model answers them with `Out.unmodelled` alone). -/
def wire (id : Nat) (tr : List (Op × List Out)) : List (Nat × Nat × Bool) :=
  tr.flatMap fun x => if x.1.outside then [] else dataOf id x.2

/-- DATA frames `(offset, size, END_STREAM)` that carry consecutive byte ranges from offset `k` on, END_STREAM on the last at most. -/
def Seq (k : Nat) : List (Nat × Nat × Bool) → Prop
  | [] => True
  | (o, n, es) :: t => o = k ∧ (es = true → t = []) ∧ Seq (k + n) t

/-- What the DATA frames still to come on a stream must look like, given the spec's record of it. -/
def Exp (y : SS) (fr : List (Nat × Nat × Bool)) : Prop :=
  match y.phase with
  | .idle => Seq 0 fr
  | .open => if y.esSent then fr = [] else Seq y.sent fr
  | .closed => fr = []

theorem exp_nil (y : SS) : Exp y [] := by
  unfold Exp; split
  · trivial
  · split <;> trivial
  · rfl

theorem Exp.congr {y y' : SS} {fr : List (Nat × Nat × Bool)} (h : Exp y fr) (h1 : y'.phase = y.phase := by rfl)
    (h2 : y'.sent = y.sent := by rfl) (h3 : y'.esSent = y.esSent := by rfl) : Exp y' fr := by
  unfold Exp at h ⊢; rw [h1, h2, h3]; exact h

theorem dataOf_append (id : Nat) (a b : List Out) : dataOf id (a ++ b) = dataOf id a ++ dataOf id b := by
  induction a with
  | nil => rfl
  | cons o t ih =>
    cases o <;> simp only [List.cons_append, dataOf, ih]
    split <;> simp

/-- A move of the spec read backwards: what is still to come after it, with the frame it judged in front, was to come before it. -/
theorem SpecMove.exp {t : Prop} {x x' : SS} {d rest : List (Nat × Nat × Bool)} (h : SpecMove t x d x') (hw : x'.wild = false)
    (he : Exp x' rest) : x.wild = false ∧ Exp x (d ++ rest) := by
  cases h with
  | same => exact ⟨hw, he⟩
  | unjudged _ h => rw [h] at hw; cases hw
  | wild => cases hw
  | opened _ h hp => exact ⟨h, by simpa [Exp, hp] using he⟩
  | written | asked => exact ⟨hw, he.congr⟩
  | closed =>
    cases (he : rest = [])
    exact ⟨hw, exp_nil _⟩
  | @data off size es _ h hp hs ho =>
    refine ⟨h, ?_⟩
    simp only [Exp, hp, hs, List.cons_append, List.nil_append, Seq] at he ⊢
    cases es with
    | true => rw [if_pos rfl] at he; exact ⟨ho, fun _ => he, he ▸ trivial⟩
    | false => exact ⟨ho, nofun, he⟩

/-- The frames that can change the spec's record of stream `id`. -/
def Names (id : Nat) : Out → Prop
  | .data i .. | .headers i .. => id = i
  | _ => False

theorem frame_move {m m1 : Mon} {op : Op} {o : Out} (h : m.frame op o = (m1, none)) (id : Nat) :
    SpecMove (Names id o) (m.str id) (dataOf id [o]) (m1.str id) := by
  have hm : m1 = (m.frame op o).1 := (congrArg Prod.fst h).symm
  cases o with
  | data i off size es =>
    by_cases e : id = i
    · subst e
      simp only [dataOf, if_true]
      by_cases hw : (m.str id).wild = true
      · simp only [Mon.frame, hw, if_true] at hm
        exact hm ▸ .unjudged rfl hw
      · simp only [Mon.frame] at h
        rw [if_neg hw] at h
        -- the tests of `Mon.frame` on a DATA frame, in its order: open, no END_STREAM yet, offset, within `written`, END_STREAM place
        obtain ⟨hp, h⟩ := Lemmas.Basic.of_ite_eq h
        obtain ⟨hs, h⟩ := Lemmas.Basic.of_ite_eq h
        obtain ⟨ho, h⟩ := Lemmas.Basic.of_ite_eq h
        obtain ⟨_, h⟩ := Lemmas.Basic.of_ite_eq h
        obtain ⟨_, h⟩ := Lemmas.Basic.of_ite_eq h
        cases h
        rw [monSet_same]
        exact .data rfl (Bool.eq_false_iff.mpr hw) (Decidable.not_not.mp hp) (Bool.eq_false_iff.mpr hs) (Decidable.not_not.mp ho)
    · rw [hm]
      simp only [Mon.frame, apply_ite Prod.fst, apply_ite (fun m : Mon => m.str id), monSet_ne _ _ e, ite_self, dataOf,
        if_neg (Ne.symm e)]
      exact .same
  | headers i es fr =>
    by_cases e : id = i
    · subst e
      by_cases hw : (m.str id).wild = true
      · simp only [Mon.frame, hw, if_true] at hm
        exact hm ▸ .same
      · cases es with
        | false =>
          simp only [Mon.frame, hw, Bool.false_eq_true, if_false, Bool.not_false, if_true] at hm
          rw [hm]
          split <;> exact .same
        | true =>
          simp only [Mon.frame, Bool.not_true, Bool.false_eq_true, if_false] at h
          rw [if_neg hw] at h
          split at h
          · cases h; rw [monSet_same]; exact .closed rfl
          · obtain ⟨_, h⟩ := Lemmas.Basic.of_ite_eq h
            obtain ⟨_, h⟩ := Lemmas.Basic.of_ite_eq h
            cases h; rw [monSet_same]; exact .closed rfl
    · rw [hm]
      simp only [Mon.frame, apply_ite Prod.fst, apply_ite (fun m : Mon => m.str id), monSet_ne _ _ e, ite_self]
      exact .same
  | rst i c =>
    rw [hm]
    simp only [Mon.frame, apply_ite Prod.fst, ite_self]
    exact .same
  | _ => exact hm ▸ .same

theorem frames_exp {m m1 : Mon} {op : Op} {os : List Out} {id : Nat} {rest : List (Nat × Nat × Bool)}
    (h : m.frames op os = (m1, none)) (hw : (m1.str id).wild = false) (he : Exp (m1.str id) rest) :
    (m.str id).wild = false ∧ Exp (m.str id) (dataOf id os ++ rest) := by
  induction os generalizing m with
  | nil => cases h; exact ⟨hw, he⟩
  | cons o os ih =>
    obtain ⟨m2, hf, h2⟩ := (frames_fold op).of_cons h
    obtain ⟨hw2, he2⟩ := ih h2
    have := (frame_move hf id).exp hw2 he2
    rwa [← List.append_assoc, ← dataOf_append] at this

theorem mstep_exp {m m1 : Mon} {op : Op} {outs : List Out} {id : Nat} {rest : List (Nat × Nat × Bool)}
    (h : mstep m op outs = (m1, none)) (hout : op.outside = false) (hw : (m1.str id).wild = false) (he : Exp (m1.str id) rest) :
    (m.str id).wild = false ∧ Exp (m.str id) (dataOf id outs ++ rest) := by
  rw [mstep_unfold _ _ hout] at h
  rcases hf : (clr (m.pre op outs)).frames op outs with ⟨m2, _ | e⟩
  · rw [hf] at h
    simp only [Prod.mk.injEq, and_true] at h
    subst h
    obtain ⟨hw2, he2⟩ := (post_move m2 op id).exp hw he
    obtain ⟨hw3, he3⟩ := frames_exp hf hw2 he2
    exact (pre_move m op outs id).exp hw3 he3
  · rw [hf] at h; simp at h


theorem runMon_exp {m : Mon} {tr : List (Op × List Out)} {id : Nat} (h : (runMon m tr).2 = none)
    (hw : ((runMon m tr).1.str id).wild = false) : (m.str id).wild = false ∧ Exp (m.str id) (wire id tr) := by
  induction tr generalizing m with
  | nil => exact ⟨hw, exp_nil _⟩
  | cons a t ih =>
    obtain ⟨op, outs⟩ := a
    obtain ⟨m1, hm, h1⟩ := runMon2_fold.of_cons (Prod.ext rfl h : runMon m _ = (_, none))
    obtain ⟨hw1, he1⟩ := ih (congrArg Prod.snd h1) (by rw [h1]; exact hw)
    simp only [wire, List.flatMap_cons]
    by_cases ho : op.outside = true
    · cases (mstep_outside m outs ho).symm.trans hm
      simp only [ho, if_true, List.nil_append]
      exact ⟨hw1, he1⟩
    · have ho' : op.outside = false := by simpa using ho
      simp only [ho', Bool.false_eq_true, if_false]
      exact mstep_exp hm ho' hw1 he1

/-- The payload bytes of a sequence of DATA frames when the stream's application byte stream is `c`. -/
def payload {α : Type} (c : List α) (fr : List (Nat × Nat × Bool)) : List α :=
  fr.flatMap fun f => (c.drop f.1).take f.2.1

def total (fr : List (Nat × Nat × Bool)) : Nat := (fr.map fun f => f.2.1).sum

theorem seq_payload {α : Type} (c : List α) {k : Nat} {fr : List (Nat × Nat × Bool)} (h : Seq k fr) :
    payload c fr = (c.drop k).take (total fr) := by
  induction fr generalizing k with
  | nil => simp [payload, total]
  | cons f t ih =>
    obtain ⟨o, n, es⟩ := f
    simp only [Seq] at h
    obtain ⟨rfl, _, h3⟩ := h
    have := ih h3
    simp only [payload, List.flatMap_cons, total, List.map_cons, List.sum_cons] at this ⊢
    rw [this, List.take_add, List.drop_drop]

theorem seq_es_last {k : Nat} {fr : List (Nat × Nat × Bool)} (h : Seq k fr) :
    ∀ a b o n, fr = a ++ (o, n, true) :: b → b = [] := by
  induction fr generalizing k with
  | nil => intro a b o n e; simp at e
  | cons f t ih =>
    obtain ⟨o', n', es'⟩ := f
    simp only [Seq] at h
    obtain ⟨_, hes, ht⟩ := h
    intro a b o n e
    cases a with
    | nil =>
      simp only [List.nil_append, List.cons.injEq, Prod.mk.injEq] at e
      obtain ⟨⟨_, _, rfl⟩, rfl⟩ := e
      exact hes rfl
    | cons x a' =>
      simp only [List.cons_append, List.cons.injEq] at e
      exact ih ht a' b o n e.2

end GrpcProofs.Loopy
