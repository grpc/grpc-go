/-
Pure arithmetic behind round-robin fairness (C35): among k consecutive integers a, a+1, …, a+k-1
the residue class i (mod n) occurs ⌊k/n⌋ or ⌈k/n⌉ times.
-/
namespace GrpcProofs.Lemmas.EpShardCount

/-- Shifting by `n - 1 - i` turns the class `i` into the class `n - 1`: `m` is in class `i` iff the successor of the
    shifted `m` is a multiple of `n`. -/
theorem dvd_succ_shift_iff (n i m : Nat) (hi : i < n) : n ∣ m + (n - 1 - i) + 1 ↔ m % n = i := by
  have hn : 0 < n := by omega
  have e : m + (n - 1 - i) + 1 = m % n + (n - i) + n * (m / n) := by
    have := Nat.div_add_mod m n
    omega
  rw [Nat.dvd_iff_mod_eq_zero, e, Nat.add_mul_mod_self_left]
  have hr : m % n < n := Nat.mod_lt _ hn
  generalize m % n = r at hr ⊢
  by_cases h : r + (n - i) < n
  · rw [Nat.mod_eq_of_lt h]; omega
  · have h2 : r + (n - i) - n < n := by omega
    rw [Nat.mod_eq_sub_mod (by omega), Nat.mod_eq_of_lt h2]; omega

def window (n a k i : Nat) : Nat := (List.range k).countP (fun j => decide ((a + j) % n = i))

/-- The hits of class `i` among `a, …, a+k-1`, in closed form: after the shift they are the steps at which the quotient by
    `n` goes up (`Nat.succ_div`), so their number is a difference of two quotients. -/
theorem window_eq (n a k i : Nat) (hi : i < n) :
    window n a k i + (a + (n - 1 - i)) / n = (a + (n - 1 - i) + k) / n := by
  induction k with
  | zero => simp [window]
  | succ k ih =>
    have e : a + (n - 1 - i) + (k + 1) = a + k + (n - 1 - i) + 1 := by omega
    have e' : a + k + (n - 1 - i) = a + (n - 1 - i) + k := by omega
    unfold window at ih ⊢
    rw [List.range_succ, List.countP_append, e, Nat.succ_div, e', ← ih]
    simp only [List.countP_cons, List.countP_nil, Nat.zero_add, ← e', dvd_succ_shift_iff n i (a + k) hi, decide_eq_true_eq]
    omega

theorem window_fair (n a k i : Nat) (hi : i < n) :
    window n a k i = k / n ∨ (window n a k i = k / n + 1 ∧ k % n ≠ 0) := by
  have hn : 0 < n := by omega
  have h := window_eq n a k i hi
  generalize a + (n - 1 - i) = u at h
  rw [Nat.add_div hn] at h
  have hr : u % n < n := Nat.mod_lt _ hn
  split at h
  · next hle => right; constructor <;> omega
  · left; omega

end GrpcProofs.Lemmas.EpShardCount
