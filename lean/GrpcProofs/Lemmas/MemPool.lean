/-
For C53 (buffer pools; model in GrpcModel/Model/MemPool.lean): the tier chosen for Get is large enough and the
tier chosen for Put small enough; `mem_getOutcomes` describes every result of Get; `PoolOK` is kept.
-/
import GrpcModel.Model.MemPool
namespace GrpcProofs.Lemmas.MemPool
open GrpcModel.MemPool GrpcModel.Generated

/-- sized sub-pools are sized pools and only store buffers at least as large as their size;
    the fallback is a SimpleBufferPool -/
def PoolOK (p : Pool) : Prop :=
  (∀ (i : Nat) (s : Sub), p.subs[i]? = some s → s.simple = false ∧ ∀ b ∈ s.store, s.size ≤ b.cap) ∧
  p.fallback.simple = true

theorem PoolOK.sized {p : Pool} (hp : PoolOK p) {i : Nat} {s : Sub} (hs : p.subs[i]? = some s) :
    s.simple = false := (hp.1 i s hs).1

theorem PoolOK.stored {p : Pool} (hp : PoolOK p) {i : Nat} {s : Sub} (hs : p.subs[i]? = some s) :
    ∀ b ∈ s.store, s.size ≤ b.cap := (hp.1 i s hs).2

theorem PoolOK.fallback_simple {p : Pool} (hp : PoolOK p) : p.fallback.simple = true := hp.2

theorem firstGE_spec (l : List Sub) (n k i : Nat) (h : firstGE l n k = some i) :
    k ≤ i ∧ ∃ s, l[i - k]? = some s ∧ n ≤ s.size := by
  fun_induction firstGE l n k with
  | case1 => cases h
  | case2 s t n k hs =>   -- the head is large enough
    cases h; exact ⟨Nat.le_refl _, s, by simp, hs⟩
  | case3 s t n k _ ih =>
    obtain ⟨h1, s', h2, h3⟩ := ih h
    refine ⟨by omega, s', ?_, h3⟩
    have : i - k = (i - (k + 1)) + 1 := by omega
    rw [this]; simpa using h2

theorem lastLE_spec (l : List Sub) (n k : Nat) (acc : Option Nat) (i : Nat) (h : lastLE l n k acc = some i) :
    acc = some i ∨ (k ≤ i ∧ ∃ s, l[i - k]? = some s ∧ s.size ≤ n) := by
  fun_induction lastLE l n k acc with
  | case1 => exact Or.inl h
  | case2 s t n k acc hs ih =>   -- the head fits and becomes the candidate
    rcases ih h with h1 | ⟨h1, s', h2, h3⟩
    · cases h1
      exact Or.inr ⟨Nat.le_refl _, s, by simp, hs⟩
    · refine Or.inr ⟨by omega, s', ?_, h3⟩
      have : i - k = (i - (k + 1)) + 1 := by omega
      rw [this]; simpa using h2
  | case3 => exact Or.inl h

theorem floorPow2_le (fuel n : Nat) (h : 0 < n) : floorPow2 fuel n ≤ n := by
  fun_induction floorPow2 fuel n with
  | case1 => omega
  | case2 => omega
  | case3 fuel n _ ih =>
    have := ih (by omega)
    omega

theorem refForGet_size_ge {p : Pool} {n i : Nat} (h : refForGet p n = .sub i) :
    ∃ s, p.subs[i]? = some s ∧ n ≤ s.size := by
  unfold refForGet at h
  -- both tiered kinds look the tier up with `firstGE`
  have tier : (match firstGE p.subs n 0 with | some i => Ref.sub i | none => .fallback) = .sub i →
      ∃ s, p.subs[i]? = some s ∧ n ≤ s.size := fun h => by
    cases hf : firstGE p.subs n 0 with
    | none => rw [hf] at h; cases h
    | some j => rw [hf] at h; cases h; exact (firstGE_spec _ n 0 _ hf).2
  cases hk : p.kind with
  | nop => rw [hk] at h; cases h
  | simple => rw [hk] at h; cases h
  | tiered => rw [hk] at h; exact tier h
  | binary =>
    simp only [hk] at h
    by_cases hout : (n = 0 || n > maxPoolCap p) = true
    · rw [if_pos hout] at h; cases h
    · rw [if_neg hout] at h; exact tier h

theorem refForPut_size_le {p : Pool} {c i : Nat} (h : refForPut p c = some (.sub i)) :
    ∃ s, p.subs[i]? = some s ∧ s.size ≤ c := by
  unfold refForPut at h
  cases hk : p.kind with
  | nop => rw [hk] at h; cases h
  | simple => rw [hk] at h; cases h
  | binary =>
    simp only [hk] at h
    by_cases hc0 : c = 0
    · rw [if_pos hc0] at h; cases h
    rw [if_neg hc0] at h
    by_cases hbig : c > maxPoolCap p
    · rw [if_pos hbig] at h; cases h
    rw [if_neg hbig] at h
    cases hl : lastLE p.subs (floorPow2 c c) 0 none with
    | none => rw [hl] at h; cases h
    | some j =>
      rw [hl] at h; cases h
      rcases lastLE_spec _ _ _ _ _ hl with h1 | ⟨_, s, h2, h3⟩
      · cases h1
      · have := floorPow2_le c c (by omega)
        exact ⟨s, by simpa using h2, by omega⟩
  | tiered =>
    simp only [hk] at h
    cases hf : firstGE p.subs c 0 with
    | none => rw [hf] at h; cases h
    | some j =>
      cases hs : p.subs[j]? with
      | none => simp only [hf, hs] at h; cases h
      | some s =>
        simp only [hf, hs] at h
        by_cases hsmall : c < s.size
        · rw [if_pos hsmall] at h; cases h
        · rw [if_neg hsmall] at h; cases h; exact ⟨s, hs, by omega⟩

theorem roundup_ge (n : Nat) : n ≤ (n + goPageSize - 1) / goPageSize * goPageSize := by
  unfold goPageSize; omega

theorem mem_getOutcomes {p : Pool} {n : Nat} {g : Got} {p' : Pool} (h : (g, p') ∈ getOutcomes p n) :
    (∃ c, g = ⟨⟨p.nextId, c, true⟩, n, false⟩ ∧ p' = { p with nextId := p.nextId + 1 } ∧
      (c = n ∨ ∃ s, getSub p (refForGet p n) = some s ∧ c = freshCap s n)) ∨
    ∃ s b, getSub p (refForGet p n) = some s ∧ b ∈ s.store ∧ (s.simple = true → n ≤ b.cap) ∧
      g = ⟨{ b with zero := b.zero || s.zeroing }, n, true⟩ ∧
      p' = setSub p (refForGet p n) { s with store := s.store.erase b } := by
  unfold getOutcomes at h
  split at h
  · cases List.mem_singleton.1 h
    exact .inl ⟨n, rfl, rfl, .inl rfl⟩
  · split at h
    · cases h
    · rename_i s hs
      rcases List.mem_cons.1 h with h | h
      · cases h
        exact .inl ⟨_, rfl, rfl, .inr ⟨s, hs, rfl⟩⟩
      · obtain ⟨b, hb, he⟩ := List.mem_map.1 h
        obtain ⟨hb, hf⟩ := List.mem_filter.1 hb
        cases he
        exact .inr ⟨s, b, hs, hb, fun h1 => by simpa [h1] using hf, rfl, rfl⟩

theorem getSub_forGet {p : Pool} (hp : PoolOK p) {n : Nat} {s : Sub} (hs : getSub p (refForGet p n) = some s) :
    s.simple = true ∨ (s.simple = false ∧ n ≤ s.size ∧ ∀ b ∈ s.store, s.size ≤ b.cap) := by
  cases hrr : refForGet p n with
  | sub i =>
    rw [hrr] at hs
    obtain ⟨s', h1, h2⟩ := refForGet_size_ge hrr
    cases h1.symm.trans hs
    exact .inr ⟨hp.sized h1, h2, hp.stored h1⟩
  | fallback => rw [hrr] at hs; cases hs; exact .inl hp.fallback_simple
  | nop => rw [hrr] at hs; cases hs

theorem get_len_cap {p : Pool} (hp : PoolOK p) {n : Nat} {g : Got} {p' : Pool}
    (h : (g, p') ∈ getOutcomes p n) : g.len = n ∧ n ≤ g.buf.cap := by
  rcases mem_getOutcomes h with ⟨c, rfl, _, rfl | ⟨s, hs, rfl⟩⟩ | ⟨s, b, hs, hb, hf, rfl, _⟩
  · exact ⟨rfl, Nat.le_refl _⟩
  · refine ⟨rfl, ?_⟩
    show n ≤ freshCap s n
    unfold freshCap
    rcases getSub_forGet hp hs with h1 | ⟨h1, h2, _⟩
    · rw [if_pos h1]; exact roundup_ge n
    · rw [h1]; exact h2
  · refine ⟨rfl, ?_⟩
    rcases getSub_forGet hp hs with h1 | ⟨_, h2, h3⟩
    · exact hf h1
    · exact Nat.le_trans h2 (h3 b hb)

theorem poolOK_setSub {p : Pool} (hp : PoolOK p) {r : Ref} {s s' : Sub} (hs : getSub p r = some s)
    (h1 : s'.simple = s.simple) (h2 : s'.size = s.size)
    (h3 : s.simple = false → ∀ b ∈ s'.store, b ∈ s.store ∨ s.size ≤ b.cap) : PoolOK (setSub p r s') := by
  cases r with
  | sub i =>
    simp only [getSub] at hs
    simp only [setSub]
    refine ⟨fun j sj hj => ?_, hp.fallback_simple⟩
    simp only [] at hj
    rw [List.getElem?_set] at hj
    by_cases hij : i = j
    · subst hij
      rw [if_pos rfl, if_pos (List.getElem?_eq_some_iff.1 hs).1] at hj; cases hj
      have q1 := hp.sized hs
      have q2 := hp.stored hs
      refine ⟨by rw [h1]; exact q1, fun b hb => ?_⟩
      rw [h2]
      rcases h3 q1 b hb with hb' | hb'
      · exact q2 b hb'
      · exact hb'
    · simp only [hij, if_false] at hj
      exact ⟨hp.sized hj, hp.stored hj⟩
  | fallback =>
    simp only [getSub, Option.some.injEq] at hs
    simp only [setSub]
    exact ⟨fun _ _ hj => ⟨hp.sized hj, hp.stored hj⟩, by simp only []; rw [h1, ← hs]; exact hp.fallback_simple⟩
  | nop => exact hp

theorem poolOK_put {p : Pool} (hp : PoolOK p) (b : Buf) : PoolOK (put p b) := by
  unfold put
  cases hr : refForPut p b.cap with
  | none => exact hp
  | some r =>
    dsimp only
    cases hs : getSub p r with
    | none => exact hp
    | some s =>
      refine poolOK_setSub hp hs rfl rfl (fun hsimple x hx => ?_)
      simp only [List.mem_cons] at hx
      rcases hx with rfl | hx
      · cases r with
        | sub i =>
          obtain ⟨s', h1, h2⟩ := refForPut_size_le hr
          simp only [getSub] at hs
          rw [h1] at hs; cases hs
          exact Or.inr h2
        | fallback =>
          simp only [getSub, Option.some.injEq] at hs
          rw [← hs, hp.fallback_simple] at hsimple; cases hsimple
        | nop => simp [getSub] at hs
      · exact Or.inl hx

theorem poolOK_get {p : Pool} (hp : PoolOK p) {n : Nat} {g : Got} {p' : Pool}
    (h : (g, p') ∈ getOutcomes p n) : PoolOK p' := by
  rcases mem_getOutcomes h with ⟨c, _, rfl, _⟩ | ⟨s, b, hs, _, _, _, rfl⟩
  · exact hp
  · exact poolOK_setSub hp hs rfl rfl fun _ x hx => .inl (List.mem_of_mem_erase hx)

theorem poolOK_newBinary (exps : List Nat) (z : Bool) : PoolOK (newBinary exps z) := by
  refine ⟨fun i s hs => ?_, rfl⟩
  simp only [newBinary, List.getElem?_map, Option.map_eq_some_iff] at hs
  obtain ⟨e, _, rfl⟩ := hs
  exact ⟨rfl, by simp⟩

theorem poolOK_newTiered (sizes : List Nat) : PoolOK (newTiered sizes) := by
  refine ⟨fun i s hs => ?_, rfl⟩
  simp only [newTiered, List.getElem?_map, Option.map_eq_some_iff] at hs
  obtain ⟨e, _, rfl⟩ := hs
  exact ⟨rfl, by simp⟩

theorem poolOK_newSimple (z : Bool) : PoolOK (newSimple z) := ⟨fun i s hs => by simp [newSimple] at hs, rfl⟩
theorem poolOK_newNop : PoolOK newNop := ⟨fun i s hs => by simp [newNop] at hs, rfl⟩

end GrpcProofs.Lemmas.MemPool
