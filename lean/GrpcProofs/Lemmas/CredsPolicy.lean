/-
For C58 (model: GrpcModel/Model/CredsPolicy.lean): the property's vocabulary (`Class`, `classOf`, `specCore`: the decision
in spec form; `get?`, `overlay`: what a header map holds), the numeric order of the levels, what `addPairs` and
`getTrAuthData` put into a header map, and `Rpc`: the ways `rpc` comes to an outcome, proved against `rpc` once (`rpc_spec`).
-/
import GrpcModel.Model.CredsPolicy
namespace GrpcProofs.Lemmas.CredsPolicy
open GrpcModel.CredsPolicy GrpcModel.Generated

theorem num_invalid : Level.num .invalid = 0 := by decide
theorem num_none : Level.num .none = 1 := by decide
theorem num_integrityOnly : Level.num .integrityOnly = 2 := by decide
theorem num_privacyAndIntegrity : Level.num .privacyAndIntegrity = 3 := by decide

theorem num_lt_privacyAndIntegrity (l : Level) : l.num < Level.privacyAndIntegrity.num ↔ l ≠ .privacyAndIntegrity := by
  cases l <;> simp only [num_invalid, num_none, num_integrityOnly, num_privacyAndIntegrity] <;> decide

theorem handshakeRejects_eq (ai : Auth) (cd : Cred) : handshakeRejects ai cd = (cd.require && ai.weak) := by
  unfold handshakeRejects
  cases cd.require
  · rfl
  · cases ai with
    | common l => simp only [Auth.common?, num_lt_privacyAndIntegrity]; cases l <;> rfl
    | _ => rfl

theorem checkSecurityLevel_pi (ai : Auth) :
    checkSecurityLevel ai .privacyAndIntegrity = !(ai.weak || ai == .nilInfo) := by
  cases ai with
  | common l => simp only [checkSecurityLevel, num_lt_privacyAndIntegrity]; cases l <;> rfl
  | _ => rfl

theorem nameDial_map_snd (l : List Cred) (i : Nat) : (nameDial i l).map (·.2) = l := by
  induction l generalizing i with
  | nil => rfl
  | cons a t ih => exact congrArg (a :: ·) (ih _)

def bundleReq (c : Config) : Bool :=
  c.via.hasBundle && match c.bundle with | some b => b.require | none => false

def callReq (c : Config) : Bool := match c.call with | some cr => cr.require | none => false

theorem anyRequire_eq (c : Config) : c.anyRequire = (c.dial.any (·.require) || bundleReq c || callReq c) := rfl

/-- the connection-level credentials, names aside, are the first part of `allCreds` -/
theorem connCreds_map_snd (c : Config) : (connCreds c).map (·.2) =
    c.dial ++ (match c.bundle with | some b => if c.via.hasBundle then [b] else [] | none => []) := by
  unfold connCreds
  rw [List.map_append, nameDial_map_snd]
  cases c.via.hasBundle <;> cases c.bundle <;> rfl

theorem any_connCreds_require (c : Config) :
    (connCreds c).any (fun nc => nc.2.require) = (c.dial.any (·.require) || bundleReq c) :=
  calc _ = ((connCreds c).map (·.2)).any (·.require) := List.any_map.symm
    _ = _ := by
      rw [connCreds_map_snd, List.any_append]
      unfold bundleReq
      cases c.via.hasBundle <;> cases c.bundle <;> simp

theorem any_connCreds_rejects (c : Config) (ai : Auth) :
    (connCreds c).any (fun nc => handshakeRejects ai nc.2) = ((c.dial.any (·.require) || bundleReq c) && ai.weak) := by
  have : (fun nc : Name × Cred => handshakeRejects ai nc.2) = (fun nc => nc.2.require && ai.weak) := by
    funext nc; exact handshakeRejects_eq ai nc.2
  rw [this, ← List.and_any_distrib_right, any_connCreds_require]

theorem connCreds_sub_allCreds (c : Config) {nc : Name × Cred} (h : nc ∈ connCreds c) : nc.2 ∈ c.allCreds :=
  List.mem_append_left _ (connCreds_map_snd c ▸ List.mem_map_of_mem h)

theorem addPairs_some (md : List (Key × Bytes)) (m : AuthMap)
    (h : ∀ kv ∈ md, validatePair (lowerKey kv.1) kv.2 = true) : ∃ m', addPairs m md = some m' := by
  fun_induction addPairs m md with
  | case1 m => exact ⟨m, rfl⟩
  | case2 m k v rest k' hv ih => exact ih fun x hx => h x (List.mem_cons_of_mem _ hx)
  | case3 m k v rest k' hv => exact absurd (h (k, v) (by simp)) hv

theorem valid_iff (cr : Cred) : cr.valid = true ↔ ∀ kv ∈ cr.md, validatePair (lowerKey kv.1) kv.2 = true := by
  simp [Cred.valid, List.all_eq_true]

inductive Class
  | dialErr (e : DialErr) | connErr (e : ConnErr) | unauth | otherErr | sent
deriving DecidableEq, Repr

def classOf : Outcome → Class
  | .dialErr e => .dialErr e
  | .connErr e => .connErr e
  | .rpcErr .unauthenticated _ => .unauth
  | .rpcErr _ _ => .otherErr
  | .sent .. => .sent

/-- The decision, written in the property's vocabulary (`Auth.weak` = level known and below
    PrivacyAndIntegrity), as a function of: transport kind, how configured, and whether a
    dial-level / bundle / call-level credential requires transport security. -/
def specCore (tk : TKind) (via : Via) (dialReq bundleReq callReq : Bool) : Class :=
  if !via.hasTC && !via.hasBundle then .dialErr .nosec
  else if via.hasTC && via.hasBundle then .dialErr .both
  else if via.hasBundle && !via.bundleHasTC then .dialErr .nobundletc
  else if tk.protoInsecure && dialReq then .dialErr .missing
  else match tk.handshake with
    | none => .connErr .handshake
    | some a =>
      if (dialReq || bundleReq) && a.weak then .connErr .insecureCreds
      else if callReq && (a.weak || a == .nilInfo) then .unauth
      else .sent

theorem specCore_eq (c : Config) (b cl : Bool) :
    specCore c.tkind c.via (c.dial.any (·.require)) b cl =
      match validateTransportCredentials c with
      | some e => .dialErr e
      | none => match c.tkind.handshake with
        | none => .connErr .handshake
        | some a =>
          if (c.dial.any (·.require) || b) && a.weak then .connErr .insecureCreds
          else if cl && (a.weak || a == .nilInfo) then .unauth
          else .sent := by
  unfold specCore validateTransportCredentials
  cases (!c.via.hasTC && !c.via.hasBundle)
  case true => rfl
  cases (c.via.hasTC && c.via.hasBundle)
  case true => rfl
  cases (c.via.hasBundle && !c.via.bundleHasTC)
  case true => rfl
  cases (c.tkind.protoInsecure && c.dial.any (·.require)) <;> rfl

theorem isSent_of_class {o : Outcome} (h : classOf o = .sent) : o.isSent = true := by
  cases o with
  | sent => rfl
  | rpcErr code _ => cases code <;> cases h
  | _ => cases h

/-- `m[k]` -/
def get? : AuthMap → Key → Option Bytes
  | [], _ => none
  | (k', v) :: rest, k => if k = k' then some v else get? rest k

theorem get?_set (m : AuthMap) (k k' : Key) (v : Bytes) :
    get? (m.set k v) k' = if k' = k then some v else get? m k' := by
  induction m with
  | nil => simp [AuthMap.set, get?]
  | cons a t ih =>
    obtain ⟨ka, va⟩ := a
    simp only [AuthMap.set]
    by_cases h1 : k = ka
    · subst h1; simp only [if_true, get?]; by_cases h : k' = k <;> simp [h]
    · simp only [h1, if_false]
      by_cases h2 : keyLt k ka = true
      · simp only [h2, if_true, get?]
      · simp only [h2, Bool.false_eq_true, if_false, get?, ih]
        by_cases h3 : k' = ka
        · subst h3; simp [Ne.symm h1]
        · simp [h3]

def overlay (init : Option Bytes) (md : List (Key × Bytes)) (k : Key) : Option Bytes :=
  md.foldl (fun acc kv => if k = lowerKey kv.1 then some kv.2 else acc) init

theorem addPairs_get? (md : List (Key × Bytes)) (m m' : AuthMap) (h : addPairs m md = some m') (k : Key) :
    get? m' k = overlay (get? m k) md k := by
  fun_induction addPairs m md with
  | case1 => cases h; rfl
  | case2 m k0 v0 rest k' hv ih => rw [ih h, get?_set]; rfl
  | case3 => cases h

theorem addPairs_append (m : AuthMap) (a b : List (Key × Bytes)) :
    addPairs m (a ++ b) = (addPairs m a).bind (addPairs · b) := by
  induction a generalizing m with
  | nil => rfl
  | cons kv t ih =>
    simp only [List.cons_append, addPairs]
    split
    · exact ih _
    · rfl

/-- The connection-level map is `addPairs` over the concatenated metadata of the connection-level credentials; all of
    them have been invoked, or, when a pair is refused, those up to the credential that brought it. -/
theorem getTrAuthData_eq (m : AuthMap) (l : List (Name × Cred)) :
    match addPairs m (l.flatMap (·.2.md)) with
    | some tr => getTrAuthData m l = (l.map (·.1), .ok tr)
    | none => ∃ k, getTrAuthData m l = ((l.map (·.1)).take k, .error .internal) := by
  fun_induction getTrAuthData m l with
  | case1 => rfl
  | case2 m n cr rest h => rw [List.flatMap_cons, addPairs_append, h]; exact ⟨1, rfl⟩
  | case3 m n cr rest m1 h inv r hr ih =>
    rw [List.flatMap_cons, addPairs_append, h, Option.bind_some]
    split at ih
    · cases hr.symm.trans ih; rfl
    · obtain ⟨k, hk⟩ := ih
      cases hr.symm.trans hk; exact ⟨k + 1, rfl⟩

theorem getTrAuthData_ok (l : List (Name × Cred)) (m : AuthMap) (h : ∀ nc ∈ l, nc.2.valid = true) :
    ∃ tr, getTrAuthData m l = (l.map (·.1), .ok tr) := by
  obtain ⟨tr, htr⟩ := addPairs_some (l.flatMap (·.2.md)) m fun kv hkv => by
    obtain ⟨nc, hnc, hkv⟩ := List.mem_flatMap.1 hkv
    exact (valid_iff nc.2).1 (h nc hnc) kv hkv
  have := getTrAuthData_eq m l
  rw [htr] at this
  exact ⟨tr, this⟩

/-- what holds of `addPairs` (`addPairs_get?`, `mem_addPairs`) holds of `getTrAuthData` -/
theorem addPairs_of_getTrAuthData {l : List (Name × Cred)} {m tr : AuthMap} {inv : List Name}
    (h : getTrAuthData m l = (inv, .ok tr)) : addPairs m (l.flatMap (·.2.md)) = some tr := by
  have := getTrAuthData_eq m l
  rw [h] at this
  split at this
  · next htr => cases this; exact htr
  · obtain ⟨k, hk⟩ := this
    cases hk

theorem getTrAuthData_invoked (l : List (Name × Cred)) (m : AuthMap) :
    ∀ n ∈ (getTrAuthData m l).1, n ∈ l.map (·.1) := by
  have := getTrAuthData_eq m l
  split at this
  · rw [this]; exact fun _ => id
  · obtain ⟨k, hk⟩ := this
    rw [hk]; exact fun _ => List.mem_of_mem_take

theorem mem_set {m : AuthMap} {k : Key} {v : Bytes} {x : Key × Bytes} (h : x ∈ m.set k v) : x = (k, v) ∨ x ∈ m := by
  induction m with
  | nil => simp [AuthMap.set] at h; exact Or.inl h
  | cons a t ih =>
    obtain ⟨ka, va⟩ := a
    simp only [AuthMap.set] at h
    split at h
    · simp only [List.mem_cons] at h ⊢; rcases h with h | h
      · exact Or.inl h
      · exact Or.inr (Or.inr h)
    · split at h
      · simp only [List.mem_cons] at h ⊢; exact h
      · simp only [List.mem_cons] at h ⊢; rcases h with h | h
        · exact Or.inr (Or.inl h)
        · rcases ih h with h | h
          · exact Or.inl h
          · exact Or.inr (Or.inr h)

theorem mem_addPairs {md : List (Key × Bytes)} {m m' : AuthMap} (h : addPairs m md = some m') {x : Key × Bytes}
    (hx : x ∈ m') : x ∈ m ∨ ∃ kv ∈ md, x = (lowerKey kv.1, kv.2) ∧ validatePair (lowerKey kv.1) kv.2 = true := by
  fun_induction addPairs m md with
  | case1 => cases h; exact Or.inl hx
  | case2 m k0 v0 rest k' hv ih =>
    rcases ih h with h1 | ⟨kv, hkv, he⟩
    · rcases mem_set h1 with h2 | h2
      · exact Or.inr ⟨(k0, v0), by simp, h2, hv⟩
      · exact Or.inl h2
    · exact Or.inr ⟨kv, List.mem_cons_of_mem _ hkv, he⟩
  | case3 => cases h

theorem c_not_in_nameDial (l : List Cred) (i : Nat) : Name.c ∉ (nameDial i l).map (·.1) := by
  induction l generalizing i with
  | nil => simp [nameDial]
  | cons a t ih => simp [nameDial, ih]

theorem c_not_in_connCreds (c : Config) : Name.c ∉ (connCreds c).map (·.1) := by
  unfold connCreds
  rw [List.map_append, List.mem_append]
  have h1 := c_not_in_nameDial c.dial 0
  cases c.via.hasBundle <;> cases c.bundle <;> simp [h1]

def callMD (c : Config) : List (Key × Bytes) := match c.call with | some cr => cr.md | none => []

theorem callMD_sub {c : Config} {kv : Key × Bytes} (h : kv ∈ callMD c) : ∃ cr ∈ c.allCreds, kv ∈ cr.md := by
  unfold callMD at h
  cases hc : c.call with
  | none => rw [hc] at h; cases h
  | some cr => rw [hc] at h; exact ⟨cr, by simp [Config.allCreds, hc], h⟩

/-- the channel dials, the handshake returns `ai`, and the handshake-time check of `NewHTTP2Client` lets it through -/
structure Connects (c : Config) (ai : Auth) : Prop where
  dial : validateTransportCredentials c = none
  handshake : c.tkind.handshake = some ai
  accepted : ((c.dial.any (·.require) || bundleReq c) && ai.weak) = false

theorem Connects.weak {c : Config} {ai : Auth} (hc : Connects c ai) : c.weak = ai.weak := by
  simp [Config.weak, hc.handshake]

/-- The ways `rpc c` comes to an outcome, stage by stage, in the property's vocabulary: every theorem about `rpc` is a
    case analysis on `rpc_spec`. (`sent` leaves open whether there was a call credential to invoke.) -/
inductive Rpc (c : Config) : Outcome → Prop
  | dialErr {e} (hd : validateTransportCredentials c = some e) : Rpc c (.dialErr e)
  | handshakeErr (hd : validateTransportCredentials c = none) (hh : c.tkind.handshake = none) : Rpc c (.connErr .handshake)
  | insecureCreds {ai} (hd : validateTransportCredentials c = none) (hh : c.tkind.handshake = some ai)
      (h1 : ((c.dial.any (·.require) || bundleReq c) && ai.weak) = true) : Rpc c (.connErr .insecureCreds)
  | connMD {ai inv code} (hc : Connects c ai) (htr : getTrAuthData [] (connCreds c) = (inv, .error code)) :
      Rpc c (.rpcErr code inv)
  | unauth {ai inv tr} (hc : Connects c ai) (htr : getTrAuthData [] (connCreds c) = (inv, .ok tr))
      (h2 : (callReq c && (ai.weak || ai == .nilInfo)) = true) : Rpc c (.rpcErr .unauthenticated inv)
  | callMD {ai inv tr} (hc : Connects c ai) (htr : getTrAuthData [] (connCreds c) = (inv, .ok tr))
      (h2 : (callReq c && (ai.weak || ai == .nilInfo)) = false) (hcall : addPairs [] (callMD c) = none) :
      Rpc c (.rpcErr .internal (inv ++ [.c]))
  | sent {ai inv tr call inv2} (hc : Connects c ai) (htr : getTrAuthData [] (connCreds c) = (inv, .ok tr))
      (h2 : (callReq c && (ai.weak || ai == .nilInfo)) = false) (hcall : addPairs [] (callMD c) = some call) :
      Rpc c (.sent tr call (inv ++ inv2))

theorem rpc_spec {c : Config} {o : Outcome} (h : rpc c = o) : Rpc c o := by
  subst h
  unfold rpc newHTTP2Client
  cases hd : validateTransportCredentials c with
  | some e => exact .dialErr hd
  | none =>
    cases hh : c.tkind.handshake with
    | none => exact .handshakeErr hd hh
    | some ai =>
      simp only [any_connCreds_rejects]
      cases h1 : ((c.dial.any (·.require) || bundleReq c) && ai.weak) with
      | true => exact .insecureCreds hd hh h1
      | false =>
        have hc : Connects c ai := ⟨hd, hh, h1⟩
        simp only [Bool.false_eq_true, if_false]
        rcases htr : getTrAuthData [] (connCreds c) with ⟨inv, code | tr⟩
        · exact .connMD hc htr
        rcases c with ⟨tk, via, dial, bundle, _ | cr⟩
        · exact .sent hc htr rfl rfl
        simp only [getCallAuthData, checkSecurityLevel_pi, Bool.not_true, Bool.false_or, Bool.not_not]
        cases h2 : (cr.require && (ai.weak || ai == .nilInfo)) with
        | true => simpa using Rpc.unauth hc htr h2
        | false =>
          cases hcall : addPairs [] cr.md with
          | none => exact .callMD hc htr h2 hcall
          | some call => exact .sent hc htr h2 hcall

end GrpcProofs.Lemmas.CredsPolicy
