import GrpcProofs.Lemmas.LoopyWf
/-! Refinement invariant for C02: the writer's per-stream item queue against the byte-stream spec `Loopy.C02`. -/
namespace GrpcProofs.Loopy
open GrpcModel.Loopy GrpcModel.Loopy.C02

/-- bytes still queued: the remaining lengths of the data items -/
def pend : List Item → Nat
  | [] => 0
  | .data _ h d _ :: t => h + d + pend t
  | .trailers .. :: t => pend t

/-- the ghost offsets of the data items are consecutive, starting at `o` -/
def offsOk (o : Nat) : List Item → Prop
  | [] => True
  | .data off h d _ :: t => off = o ∧ offsOk (o + h + d) t
  | .trailers .. :: t => offsOk o t

/-- stream position at which the first queued trailers sit -/
def tPos (o : Nat) : List Item → Option Nat
  | [] => none
  | .data _ h d _ :: t => tPos (o + h + d) t
  | .trailers .. :: _ => some o

/-- stream position of the end of the first queued data item that carries endStream -/
def ePos (o : Nat) : List Item → Option Nat
  | [] => none
  | .data _ h d es :: t => if es then some (o + h + d) else ePos (o + h + d) t
  | .trailers .. :: t => ePos o t

def noData : List Item → Prop
  | [] => True
  | .data .. :: _ => False
  | .trailers .. :: t => noData t

/-- a data item with endStream is the last data item of the queue -/
def esLast : List Item → Prop
  | [] => True
  | .data _ _ _ es :: t => (es = true → noData t) ∧ esLast t
  | .trailers .. :: t => esLast t

theorem pend_append (l : List Item) (x : Item) : pend (l ++ [x]) = pend l + pend [x] := by
  induction l with
  | nil => simp [pend]
  | cons a t ih => cases a <;> simp [pend, ih] <;> omega

theorem offsOk_append (o : Nat) (l : List Item) (x : Item) :
    offsOk o (l ++ [x]) ↔ offsOk o l ∧ offsOk (o + pend l) [x] := by
  induction l generalizing o with
  | nil => simp [offsOk, pend]
  | cons a t ih => cases a <;> simp only [List.cons_append, offsOk, pend, ih, and_assoc, Nat.add_assoc]

theorem tPos_append (o : Nat) (l : List Item) (x : Item) :
    tPos o (l ++ [x]) = (tPos o l).or (tPos (o + pend l) [x]) := by
  induction l generalizing o with
  | nil => simp [tPos, pend]
  | cons a t ih => cases a <;> simp [tPos, pend, ih, Nat.add_assoc]

theorem ePos_append (o : Nat) (l : List Item) (x : Item) :
    ePos o (l ++ [x]) = (ePos o l).or (ePos (o + pend l) [x]) := by
  induction l generalizing o with
  | nil => simp [ePos, pend]
  | cons a t ih =>
    cases a with
    | data _ _ _ es => cases es <;> simp [ePos, pend, ih, Nat.add_assoc]
    | trailers => simp only [List.cons_append, ePos, pend, ih]

theorem noData_append_trailers (l : List Item) (r : Bool) (c : Nat) : noData (l ++ [.trailers r c]) ↔ noData l := by
  induction l with
  | nil => simp [noData]
  | cons a t ih => cases a <;> simp [noData, ih]

theorem esLast_append_trailers (l : List Item) (r : Bool) (c : Nat) : esLast (l ++ [.trailers r c]) ↔ esLast l := by
  induction l with
  | nil => simp [esLast]
  | cons a t ih => cases a <;> simp [esLast, ih, noData_append_trailers]

theorem ePos_none_of_noData (o : Nat) {l : List Item} (h : noData l) : ePos o l = none := by
  induction l generalizing o with
  | nil => rfl
  | cons a t ih => cases a <;> simp_all [noData, ePos]

theorem noData_append_data (l : List Item) (off h d : Nat) (es : Bool) : ¬ noData (l ++ [.data off h d es]) := by
  induction l with
  | nil => simp [noData]
  | cons a t ih => cases a <;> simp [noData, ih]

theorem esLast_append_data {l : List Item} (o : Nat) (h1 : esLast l) (h2 : ePos o l = none) (off h d : Nat) (es : Bool) :
    esLast (l ++ [.data off h d es]) := by
  induction l generalizing o with
  | nil => simp [esLast, noData]
  | cons a t ih =>
    cases a with
    | data off' h' d' es' =>
      simp only [ePos] at h2
      cases es' with
      | true => simp at h2
      | false =>
        simp only [Bool.false_eq_true, if_false] at h2
        simp only [List.cons_append, esLast] at h1 ⊢
        exact ⟨by simp, ih _ h1.2 h2⟩
    | trailers r' c' =>
      simp only [ePos] at h2
      simp only [List.cons_append, esLast] at h1 ⊢
      exact ih _ h1 h2


/-- The spec's view `y` of a stream agrees with the writer's queue `x`: the queue is the part `[y.sent, x.wr)` of the stream's byte
stream that is still to be sent, `y.sent` being the ghost offset of its head item; where the spec expects the trailers and the
END_STREAM flag are the positions computed from there (`tPos`, `ePos`). -/
structure QInv (x : OutStream) (y : SS) : Prop where
  wr : y.written = x.wr
  offs : offsOk y.sent x.items
  len : y.sent + pend x.items = x.wr
  tr : y.trailersAt = tPos y.sent x.items
  es : y.esAt = if y.esSent then some y.sent else ePos y.sent x.items
  last : esLast x.items
  done : y.esSent = true → noData x.items

theorem QInv.congr {x x' : OutStream} {y : SS} (h : QInv x y) (hi : x'.items = x.items) (hw : x'.wr = x.wr) : QInv x' y := by
  exact
    { wr := hw ▸ h.wr, offs := hi ▸ h.offs, len := by rw [hi, hw]; exact h.len, tr := hi ▸ h.tr, es := hi ▸ h.es,
      last := hi ▸ h.last, done := hi ▸ h.done }

/-- An item joins the tail of the queue, at stream position `x.wr`; `last` and `done` depend on the kind of item. -/
theorem QInv.snoc {x x' : OutStream} {y y' : SS} (q : QInv x y) {it : Item} (hi : x'.items = x.items ++ [it])
    (hs : y'.sent = y.sent) (hw : y'.written = x'.wr) (hwr : x'.wr = x.wr + pend [it]) (ho : offsOk x.wr [it])
    (htr : y'.trailersAt = y.trailersAt.or (tPos x.wr [it]))
    (hes : y'.esAt = if y'.esSent then some y.sent else (ePos y.sent x.items).or (ePos x.wr [it]))
    (hlast : esLast x'.items) (hdone : y'.esSent = true → noData x'.items) : QInv x' y' :=
  have hlen := q.len
  { wr := hw
    offs := by rw [hi, hs, offsOk_append, hlen]; exact ⟨q.offs, ho⟩
    len := by rw [hi, hs, pend_append, hwr]; omega
    tr := by rw [hi, hs, tPos_append, hlen, ← q.tr]; exact htr
    es := by rw [hi, hs, ePos_append, hlen]; exact hes
    last := hlast
    done := hdone }

theorem QInv.drained {x : OutStream} {y : SS} (q : QInv x y) (hnil : x.items = []) :
    y.sent = y.written ∧ y.trailersAt = none ∧ (y.esAt.isSome → y.esSent = true) := by
  have hlen := q.len
  have htr := q.tr
  have hes := q.es
  rw [hnil] at hlen htr hes
  refine ⟨hlen.trans q.wr.symm, htr, fun hsome => ?_⟩
  cases hb : y.esSent
  · rw [hb, if_neg Bool.false_ne_true] at hes
    rw [hes] at hsome; cases hsome
  · rfl

/-- `inKeys`: the stream is established in the writer. -/
def GoodAt (inKeys : Prop) (x : OutStream) (y : SS) : Prop :=
  (y.phase = .open ↔ inKeys) ∧ (inKeys → QInv x y)

theorem GoodAt.open_of_mem {k : Prop} {x : OutStream} {y : SS} (g : GoodAt k x y) (hk : k) : y.phase = .open := g.1.mpr hk
theorem GoodAt.mem_of_open {k : Prop} {x : OutStream} {y : SS} (g : GoodAt k x y) (hp : y.phase = .open) : k := g.1.mp hp
theorem GoodAt.qinv {k : Prop} {x : OutStream} {y : SS} (g : GoodAt k x y) (hk : k) : QInv x y := g.2 hk

theorem GoodAt.of_mem {k : Prop} {x : OutStream} {y : SS} (hk : k) (hp : y.phase = .open) (q : QInv x y) : GoodAt k x y :=
  ⟨⟨fun _ => hk, fun _ => hp⟩, fun _ => q⟩

theorem GoodAt.of_notMem {k : Prop} {x : OutStream} {y : SS} (hk : ¬ k) (hp : y.phase ≠ .open) : GoodAt k x y :=
  ⟨⟨fun e => absurd e hp, fun h => absurd h hk⟩, fun h => absurd h hk⟩

theorem GoodAt.congr {k k' : Prop} {x x' : OutStream} {y : SS} (g : GoodAt k x y) (hk : k' ↔ k) (hi : x'.items = x.items)
    (hw : x'.wr = x.wr) : GoodAt k' x' y :=
  ⟨g.1.trans hk.symm, fun h => (g.2 (hk.mp h)).congr hi hw⟩

/-- Every stream is either no longer judged (`wild`) or in agreement. -/
def OrdS (s : St) (ms : Nat → SS) : Prop := ∀ i, (ms i).wild = true ∨ GoodAt (i ∈ s.keys) (s.str i) (ms i)

theorem OrdS.congr {s s' : St} {ms : Nat → SS} (h : OrdS s ms) (hk : ∀ i, i ∈ s'.keys ↔ i ∈ s.keys)
    (hq : ∀ i, (s'.str i).items = (s.str i).items ∧ (s'.str i).wr = (s.str i).wr) : OrdS s' ms := by
  exact fun i => (h i).imp_right fun g => g.congr (hk i) (hq i).1 (hq i).2

theorem OrdS.update {s s' : St} {ms ms' : Nat → SS} (h : OrdS s ms) (id : Nat)
    (hk : ∀ i, i ≠ id → (i ∈ s'.keys ↔ i ∈ s.keys)) (hs : ∀ i, i ≠ id → s'.str i = s.str i)
    (hm : ∀ i, i ≠ id → ms' i = ms i)
    (hid : (ms' id).wild = true ∨ GoodAt (id ∈ s'.keys) (s'.str id) (ms' id)) : OrdS s' ms' := by
  intro i
  by_cases hi : i = id
  · subst hi; exact hid
  · rw [hm i hi, hs i hi]
    exact (h i).imp_right fun g => g.congr (hk i hi) rfl rfl

theorem OrdS.setStr {s : St} {ms : Nat → SS} (h : OrdS s ms) (id : Nat) {x : OutStream}
    (hi : x.items = (s.str id).items) (hw : x.wr = (s.str id).wr) : OrdS (s.setStr id x) ms :=
  h.congr (fun _ => Iff.rfl) fun i => by
    by_cases e : i = id
    · rw [e, setStr_str_same]; exact ⟨hi, hw⟩
    · rw [setStr_str_ne _ _ e]; exact ⟨rfl, rfl⟩

/-- The spec's state with `justTrailers` cleared, as `mstep` does before the frames of a step and `Mon.frame` after most frames. -/
def clr (m : Mon) : Mon := { str := m.str, justTrailers := none }

@[simp] theorem clr_str (m : Mon) : (clr m).str = m.str := rfl

/-- Outputs on which `Mon.frame` has no test. -/
def Unjudged : Out → Prop
  | .data .. | .headers .. | .rst .. => False
  | _ => True

@[simp] theorem frames_cb (m : Mon) (op : Op) (k : Cb) (i : Nat) (os : List Out) :
    m.frames op (.cb k i :: os) = m.frames op os := (frames_fold op).cons_ok os rfl

theorem frames_unjudged (m : Mon) (op : Op) {os : List Out} (h : ∀ o ∈ os, Unjudged o) :
    ∃ jt, m.frames op os = ({ m with justTrailers := jt }, none) := by
  induction os generalizing m with
  | nil => exact ⟨m.justTrailers, rfl⟩
  | cons o os ih =>
    have ho := h o (List.mem_cons_self)
    have hrest := fun o' ho' => h o' (List.mem_cons_of_mem _ ho')
    cases o with
    | data | headers | rst => exact ho.elim
    | cb k i => rw [frames_cb]; exact ih m hrest
    | _ => rw [(frames_fold op).cons_ok os rfl]; exact ih { m with justTrailers := none } hrest

theorem monSet_same (m : Mon) (id : Nat) (x : SS) : (m.set id x).str id = x := by simp [Mon.set]
theorem monSet_ne (m : Mon) {id i : Nat} (x : SS) (h : i ≠ id) : (m.set id x).str i = m.str i := by simp [Mon.set, h]


/-- The control item names stream `id`: `Mon.pre` and `Mon.post` touch the record of no other stream. -/
def Addresses (id : Nat) : Op → Prop
  | .register i | .clientHeaders i _ _ | .serverHeaders i _ _ _ _ | .data i _ _ _ | .cleanup i _ _ | .earlyAbort i _ _ => id = i
  | _ => False

/-- What one phase of the spec (`Mon.pre`, the judgement of a frame it accepts, `Mon.post`) does to its record `x` of one stream.
`touched`: the control item or frame speaks of this stream; the list: the DATA frame judged, if it is one of this stream.
The rows say only as much as "untouched stays equal", "wild stays wild" and the trace lemmas (`SpecMove.exp`) read: `same` also covers a
touched record that stays, `written` leaves the new `written`/`esAt` open, `asked` forgets that there were no trailers before. The
refinement (`does_ord`) needs the exact record and computes it from `Mon.pre` itself. -/
inductive SpecMove (touched : Prop) (x : SS) : List (Nat × Nat × Bool) → SS → Prop
  | same : SpecMove touched x [] x
  | unjudged {d} : touched → x.wild = true → SpecMove touched x d x
  | wild : touched → SpecMove touched x [] { x with wild := true }
  | opened : touched → x.wild = false → x.phase = .idle → SpecMove touched x [] { phase := .open }
  | written {n : Nat} {e : Option Nat} : touched → SpecMove touched x [] { x with written := n, esAt := e }
  | asked : touched → SpecMove touched x [] { x with trailersAt := some x.written }
  | closed : touched → SpecMove touched x [] { x with phase := .closed }
  | data {off size : Nat} {es : Bool} : touched → x.wild = false → x.phase = .open → x.esSent = false → off = x.sent →
      SpecMove touched x [(off, size, es)] { x with sent := x.sent + size, esSent := es }

namespace SpecMove
variable {t : Prop} {x x' : SS} {d : List (Nat × Nat × Bool)}

theorem eq_of_untouched (h : SpecMove t x d x') (ht : ¬ t) : x' = x := by
  cases h with
  | same => rfl
  | unjudged h | wild h | opened h | written h | asked h | closed h | data h => exact absurd h ht

theorem stays_wild (h : SpecMove t x d x') (hw : x.wild = true) : x'.wild = true := by
  cases h with
  | opened _ h | data _ h => rw [hw] at h; cases h
  | wild => rfl
  | _ => exact hw

theorem set {m : Mon} {i id : Nat} {y : SS} (hy : id = i → SpecMove t (m.str id) [] y) :
    SpecMove t (m.str id) [] ((m.set i y).str id) := by
  by_cases e : id = i
  · subst e; rw [monSet_same]; exact hy rfl
  · rw [monSet_ne _ _ e]; exact .same

end SpecMove

theorem openStream_move (m : Mon) (i id : Nat) : SpecMove (id = i) (m.str id) [] ((openStream m i).str id) := by
  fun_cases openStream m i
  · exact .same
  · exact .set fun e => by subst e; exact .opened rfl (Bool.eq_false_iff.mpr ‹_›) ‹_›
  · exact .set fun e => by subst e; exact .wild rfl

theorem pre_move (m : Mon) (op : Op) (outs : List Out) (id : Nat) :
    SpecMove (Addresses id op) (m.str id) [] ((m.pre op outs).str id) := by
  -- one goal per branch of `Mon.pre`, numbered in the order of its text: `register` 1, `clientHeaders` 2-3, `data` 4-6,
  -- trailers 7-9, `cleanup` 10-12, `earlyAbort` 13-14, the other items 15
  fun_cases Mon.pre m op outs
  case case1 i => exact openStream_move m i id
  case case2 i _ _ _ => exact openStream_move m i id
  case case4 | case7 | case11 | case14 => exact .set fun e => by subst e; exact .wild rfl
  case case5 => exact .set fun e => by subst e; exact .written rfl
  case case8 => exact .set fun e => by subst e; exact .asked rfl
  all_goals exact .same

theorem post_move (m : Mon) (op : Op) (id : Nat) : SpecMove (Addresses id op) (m.str id) [] ((m.post op).str id) := by
  fun_cases Mon.post m op
  -- `cleanup` of an open stream
  case case1 => exact .set fun e => by subst e; exact .closed rfl
  all_goals exact .same

theorem openStream_str_ne (m : Mon) {i id : Nat} (h : id ≠ i) : (openStream m i).str id = m.str id :=
  (openStream_move m i id).eq_of_untouched h

theorem pre_str_ne (m : Mon) (op : Op) (outs : List Out) {id : Nat} (h : ¬ Addresses id op) :
    (m.pre op outs).str id = m.str id := (pre_move m op outs id).eq_of_untouched h

theorem post_str_ne (m : Mon) (op : Op) {id : Nat} (h : ¬ Addresses id op) : (m.post op).str id = m.str id :=
  (post_move m op id).eq_of_untouched h

theorem pre_wild (m : Mon) (op : Op) (outs : List Out) {id : Nat} (hw : (m.str id).wild = true) :
    ((m.pre op outs).str id).wild = true := (pre_move m op outs id).stays_wild hw

theorem post_wild (m : Mon) (op : Op) {id : Nat} (hw : (m.str id).wild = true) : ((m.post op).str id).wild = true :=
  (post_move m op id).stays_wild hw

theorem post_str_congr {m m' : Mon} (h : m.str = m'.str) (op : Op) : (m.post op).str = (m'.post op).str := by
  cases op with
  | cleanup id _ _ => simp only [Mon.post, Mon.set, apply_ite Mon.str, h]
  | _ => exact h

theorem mstep_outside (m : Mon) {op : Op} (outs : List Out) (hout : op.outside = true) : mstep m op outs = (m, none) :=
  if_pos hout

theorem mstep_unfold (m : Mon) {op : Op} (outs : List Out) (hout : op.outside = false) :
    mstep m op outs = match (clr (m.pre op outs)).frames op outs with
      | (m1, some e) => (m1, some e)
      | (m1, none) => (m1.post op, none) := by
  simp only [mstep, hout, Bool.false_eq_true, if_false]; rfl

theorem mstep_of_frames {m m1 : Mon} {op : Op} {outs : List Out} (hout : op.outside = false)
    (hf : (clr (m.pre op outs)).frames op outs = (m1, none)) : mstep m op outs = (m1.post op, none) := by
  rw [mstep_unfold _ _ hout, hf]

theorem mstep_unjudged (m : Mon) {op : Op} {outs : List Out} {Q : (Nat → SS) → Prop} (hout : op.outside = false)
    (hin : ∀ o ∈ outs, Unjudged o) (hq : Q ((m.pre op outs).post op).str) : ∃ m', mstep m op outs = (m', none) ∧ Q m'.str := by
  obtain ⟨jt, hj⟩ := frames_unjudged (clr (m.pre op outs)) op hin
  refine ⟨_, mstep_of_frames hout hj, ?_⟩
  rw [post_str_congr (m' := m.pre op outs) (by rfl) op]; exact hq

theorem ord_unnoticed {st : St} {m : Mon} {o : Op} {outs : List Out} (hout : o.outside = false) (hin : ∀ x ∈ outs, Unjudged x)
    (hpp : (m.pre o outs).post o = m) (hst : OrdS st m.str) : ∃ m', mstep m o outs = (m', none) ∧ OrdS st m'.str :=
  mstep_unjudged m hout hin (hpp.symm ▸ hst)

theorem ord_unjudged {s s' : St} {m : Mon} {op : Op} {outs : List Out} (h : OrdS s m.str) (hout : op.outside = false)
    (hin : ∀ o ∈ outs, Unjudged o) (id : Nat) (hop : ∀ i, i ≠ id → ¬ Addresses i op)
    (hk : ∀ i, i ≠ id → (i ∈ s'.keys ↔ i ∈ s.keys)) (hs : ∀ i, i ≠ id → s'.str i = s.str i)
    (hid : (m.str id).wild = false → GoodAt (id ∈ s.keys) (s.str id) (m.str id) →
      (((m.pre op outs).post op).str id).wild = true ∨
        GoodAt (id ∈ s'.keys) (s'.str id) (((m.pre op outs).post op).str id)) :
    ∃ m', mstep m op outs = (m', none) ∧ OrdS s' m'.str := by
  refine mstep_unjudged m hout hin (h.update id hk hs
    (fun i hi => by rw [post_str_ne _ _ (hop i hi), pre_str_ne _ _ _ (hop i hi)]) ?_)
  cases hb : (m.str id).wild
  · exact hid hb ((h id).resolve_left (by rw [hb]; nofun))
  · exact .inl (post_wild _ _ (pre_wild _ _ _ hb))

theorem qinv_fresh : QInv {} { phase := .open } :=
  { wr := rfl, offs := trivial, len := rfl, tr := rfl, es := rfl, last := trivial, done := nofun }

theorem ord_open {s : St} {m : Mon} (h : OrdS s m.str) (id : Nat) (s' : St)
    (hs' : (id ∈ s.keys ∧ s' = s) ∨ (id ∉ s.keys ∧ s' = { s with keys := s.keys ++ [id] }.setStr id {})) :
    OrdS s' (openStream m id).str := by
  have hms : ∀ i, i ≠ id → (openStream m id).str i = m.str i := fun i hi => openStream_str_ne m hi
  -- the spec either stops judging the stream or opens it afresh, the latter only if the writer does not have it
  have key : ((openStream m id).str id).wild = true ∨ (id ∉ s.keys ∧ (openStream m id).str id = { phase := .open }) := by
    unfold openStream
    dsimp only
    by_cases hw : (m.str id).wild = true
    · rw [if_pos hw]; exact .inl hw
    · rw [if_neg hw]
      by_cases hp : (m.str id).phase = .idle
      · rw [if_pos hp, monSet_same]
        refine .inr ⟨fun hk => ?_, rfl⟩
        have := ((h id).resolve_left hw).open_of_mem hk
        rw [hp] at this; cases this
      · rw [if_neg hp, monSet_same]; exact .inl rfl
  rcases hs' with ⟨hk, rfl⟩ | ⟨hk, rfl⟩
  · exact h.update id (fun _ _ => .rfl) (fun _ _ => rfl) hms (key.imp_right fun ⟨hnk, _⟩ => absurd hk hnk)
  · refine h.update id (fun i hi => by simp [hi]) (fun i hi => setStr_str_ne _ _ hi) hms (key.imp_right fun ⟨_, e⟩ => ?_)
    rw [e, setStr_str_same]
    exact .of_mem (by simp) rfl qinv_fresh


theorem frame_headers_false {m : Mon} (op : Op) {id : Nat} (fr : List Nat)
    (hx : (m.str id).wild = true ∨ (m.str id).phase = .open) :
    m.frame op (.headers id false fr) = (clr m, none) := by
  simp only [Mon.frame, clr]
  rcases hx with hx | hx
  · simp [hx]
  · by_cases hw : (m.str id).wild = true
    · simp [hw]
    · simp [hw, hx]

theorem frames_writeHeader_false {m : Mon} (op : Op) {id : Nat} (hb : Nat)
    (hx : (m.str id).wild = true ∨ (m.str id).phase = .open) :
    m.frames op (writeHeader id false hb true) = (clr m, none) := by
  simp only [writeHeader, if_true, List.singleton_append, frames_cb]
  rw [(frames_fold _).cons_ok _ (frame_headers_false op _ hx)]
  rfl

theorem ord_phase_open {s : St} {ms : Nat → SS} (h : OrdS s ms) {id : Nat} (hk : id ∈ s.keys) :
    (ms id).wild = true ∨ (ms id).phase = .open := by
  exact (h id).imp_right (·.open_of_mem hk)

theorem hasHeadersFor_writeHeader (id : Nat) (es : Bool) (hb : Nat) (ow : Bool) (pre : List Out) :
    hasHeadersFor id (pre ++ writeHeader id es hb ow) = true :=
  hasHeaders_writeHeader id es hb ow pre

theorem frame_rst {m : Mon} {op : Op} {id : Nat} (c : Nat)
    (h : (m.str id).wild = true ∨ isCleanupOf op id = true ∨ m.justTrailers = some id) :
    m.frame op (.rst id c) = (clr m, none) := by
  simp only [Mon.frame]
  split
  · rfl
  · rw [if_pos (h.resolve_left ‹_›)]; rfl

theorem ord_closed {s : St} {ms ms' : Nat → SS} (h : OrdS s ms) (id : Nat) (hm : ∀ i, i ≠ id → ms' i = ms i)
    (hy : (ms' id).wild = true ∨ (ms' id).phase ≠ .open) : OrdS (removeStream s id) ms' := by
  have hnk' : id ∉ (removeStream s id).keys := fun hi => ((mem_removeStream_keys s).mp hi).2 rfl
  refine h.update id (fun i hi => by simp [mem_removeStream_keys, hi]) (fun i _ => by rw [removeStream_str]) hm ?_
  rcases hy with hy | hy
  · exact Or.inl hy
  · exact Or.inr (.of_notMem hnk' hy)

theorem frames_rst {m : Mon} (op : Op) {id : Nat} (rst : Bool) (code : Nat)
    (h : (m.str id).wild = true ∨ isCleanupOf op id = true ∨ m.justTrailers = some id) :
    ∃ m2, m.frames op (if rst then [.rst id code] else []) = (m2, none) ∧ m2.str = m.str := by
  cases rst
  · exact ⟨m, rfl, rfl⟩
  · exact ⟨clr m, by rw [if_pos rfl, (frames_fold _).cons_ok _ (frame_rst code h)]; rfl, rfl⟩

theorem cleanup_ord {s : St} {m : Mon} (h : OrdS s m.str) (id : Nat) (rst : Bool) (code : Nat)
    (hout : (Op.cleanup id rst code).outside = false) :
    ∃ m', mstep m (.cleanup id rst code) (.cb .cleanupOnWrite id :: if rst then [.rst id code] else []) = (m', none) ∧
      OrdS (removeStream s id) m'.str := by
  obtain ⟨m2, hf, hs⟩ := frames_rst (m := clr (m.pre (.cleanup id rst code) [])) (.cleanup id rst code) rst code
    (.inr (.inl (beq_self_eq_true id)))
  refine ⟨m2.post (.cleanup id rst code), ?_, ?_⟩
  · exact mstep_of_frames hout ((frames_cb ..).trans hf)
  · rw [post_str_congr (hs.trans (clr_str _))]
    refine ord_closed h id (fun i hi =>
      (post_str_ne _ (.cleanup id rst code) hi).trans (pre_str_ne m (.cleanup id rst code) [] hi)) ?_
    simp only [Mon.pre, Mon.post]
    by_cases hp : (m.str id).phase = .open
    · simp [hp, monSet_same]
    · cases rst <;> simp [hp, monSet_same]


/-- The spec's stream record after its trailers went out. -/
def closeSS (x : SS) : SS := if x.wild then x else { x with phase := .closed }

theorem frame_trailers {m : Mon} {op : Op} {id : Nat} (fr : List Nat)
    (hx : (m.str id).wild = true ∨ isEarlyAbortOf op id = true ∨
      ((m.str id).phase = .open ∧ (m.str id).trailersAt = some (m.str id).sent)) :
    ∃ m1, m.frame op (.headers id true fr) = (m1, none) ∧ m1.str = (m.set id (closeSS (m.str id))).str ∧
      ((m1.str id).wild = true ∨ m1.justTrailers = some id) := by
  simp only [Mon.frame, closeSS]
  by_cases hw : (m.str id).wild = true
  · refine ⟨clr m, by simp only [hw, if_true]; rfl, ?_, .inl hw⟩
    funext i; by_cases hi : i = id
    · subst hi; simp [Mon.set, hw]
    · simp [Mon.set, hi]
  · simp only [hw, Bool.false_eq_true, if_false, Bool.not_true]
    rcases hx with hx | hx | ⟨h1, h2⟩
    · exact absurd hx hw
    · rw [if_pos hx]; exact ⟨_, rfl, rfl, .inr rfl⟩
    · by_cases hop : isEarlyAbortOf op id = true
      · rw [if_pos hop]; exact ⟨_, rfl, rfl, .inr rfl⟩
      · rw [if_neg hop, if_neg (· h1), if_neg (· h2)]; exact ⟨_, rfl, rfl, .inr rfl⟩

/-- The frames that close a stream: its trailers, then callbacks at most, then perhaps its RST_STREAM. -/
theorem frames_trailers {m : Mon} {op : Op} {id : Nat} (hb : Nat) (ow rst : Bool) (code : Nat) {tail : List Out}
    (htail : ∀ m' : Mon, m'.frames op tail = m'.frames op (if rst then [.rst id code] else []))
    (hx : (m.str id).wild = true ∨ isEarlyAbortOf op id = true ∨
      ((m.str id).phase = .open ∧ (m.str id).trailersAt = some (m.str id).sent)) :
    ∃ m1, m.frames op (writeHeader id true hb ow ++ tail) = (m1, none) ∧ m1.str = (m.set id (closeSS (m.str id))).str := by
  obtain ⟨m1, hf, hs, hj⟩ := frame_trailers (op := op) (headerFrags maxFrameLen hb) hx
  obtain ⟨m2, hf2, hs2⟩ := frames_rst op rst code (hj.imp_right .inr)
  refine ⟨m2, ?_, hs2.trans hs⟩
  cases ow <;> simp only [writeHeader, if_true, Bool.false_eq_true, if_false, List.cons_append, List.nil_append, frames_cb] <;>
    rw [(frames_fold _).cons_ok _ hf, htail, hf2]


theorem closeSS_closed (x : SS) : (closeSS x).wild = true ∨ (closeSS x).phase ≠ .open := by
  unfold closeSS
  by_cases hw : x.wild = true
  · simp [hw]
  · right; simp [hw]

/-- `hpost`: the control item is no `cleanup`. -/
theorem mstep_trailers {m : Mon} {op : Op} {id : Nat} (hout : op.outside = false) (hpost : ∀ m' : Mon, m'.post op = m')
    (hop : ∀ i, i ≠ id → ¬ Addresses i op) (hb : Nat) (ow rst : Bool) (code : Nat) {tail outs : List Out} {y : SS}
    (houts : outs = writeHeader id true hb ow ++ tail) (hy : (m.pre op outs).str id = y)
    (htail : ∀ m' : Mon, m'.frames op tail = m'.frames op (if rst then [.rst id code] else []))
    (hx : y.wild = true ∨ isEarlyAbortOf op id = true ∨ (y.phase = .open ∧ y.trailersAt = some y.sent)) :
    ∃ m', mstep m op outs = (m', none) ∧ m'.str id = closeSS y ∧ ∀ i, i ≠ id → m'.str i = m.str i := by
  subst hy houts
  obtain ⟨m1, hf, hs⟩ := frames_trailers (m := clr (m.pre op _)) hb ow rst code htail hx
  refine ⟨m1.post op, mstep_of_frames hout hf, ?_, fun i hi => ?_⟩
  · rw [hpost, hs, monSet_same]; rfl
  · rw [hpost, hs, monSet_ne _ _ hi]; exact pre_str_ne m op _ (hop i hi)

theorem afterWrite_ord {t : St} {m0 m1 : Mon} {op : Op} {id hb : Nat} {pre : List Out} {r : Res} (hw : AfterWrite t id hb pre r)
    (h : OrdS t m1.str) (hk : id ∈ t.keys) (hpre : m0.frames op pre = (m1, none)) :
    ∃ m2, m0.frames op r.outs = (m2, none) ∧ OrdS r.st m2.str := by
  cases hw with
  | drained | waiting => exact ⟨m1, hpre, h.setStr id rfl rfl⟩
  | trailers hit =>
    obtain ⟨m2, hf, hs⟩ := frames_trailers (m := m1) (op := op) hb true _ _ (fun _ => frames_cb ..) <|
      (h id).imp_right fun g => .inr ⟨g.open_of_mem hk, by have := (g.qinv hk).tr; rwa [hit] at this⟩
    refine ⟨m2, ?_, ?_⟩
    · rw [List.append_assoc, (frames_fold _).append _ hpre]; exact hf
    · rw [hs]
      refine ord_closed h id (fun i hi => monSet_ne _ _ hi) ?_
      rw [monSet_same]; exact closeSS_closed _
  | again => exact ⟨m1, hpre, h⟩

/-- What `QInv` says of the queue `tl` behind a head data item that ends at stream position `e` and carries endStream iff `es`.
Nothing else of the head item enters, so bytes cut off its front leave all of this as it is. -/
structure TailInv (wr : Nat) (y : SS) (e : Nat) (es : Bool) (tl : List Item) : Prop where
  written : y.written = wr
  offs : offsOk e tl
  len : e + pend tl = wr
  tr : y.trailersAt = tPos e tl
  esAt : y.esAt = if es then some e else ePos e tl
  last : esLast tl
  nd : es = true → noData tl

theorem QInv.head {x : OutStream} {y : SS} (q : QInv x y) {off hl d : Nat} {es : Bool} {tl : List Item}
    (hit : x.items = .data off hl d es :: tl) :
    off = y.sent ∧ y.esSent = false ∧ TailInv x.wr y (y.sent + hl + d) es tl := by
  -- with the queue put in for `x.items` every field of `q` speaks of the head item by unfolding
  obtain ⟨st, items, bo, wr, repl⟩ := x
  cases (hit : items = _)
  have hsent : y.esSent = false := by
    cases hb : y.esSent
    · rfl
    · exact (q.done hb).elim
  have he := q.es
  rw [hsent, if_neg Bool.false_ne_true] at he
  exact ⟨q.offs.1, hsent,
    { written := q.wr, offs := q.offs.2, len := by have := q.len; simp only [pend] at this ⊢; omega, tr := q.tr, esAt := he,
      last := q.last.2, nd := q.last.1 }⟩

variable {wr e : Nat} {y : SS} {es : Bool} {tl : List Item} {x' : OutStream}

theorem TailInv.cut (t : TailInv wr y e es tl) {s' h' d' : Nat} (hi : x'.items = .data s' h' d' es :: tl) (hw : x'.wr = wr)
    (he : s' + h' + d' = e) : QInv x' { y with sent := s', esSent := false } := by
  subst he hw
  refine { wr := t.written, offs := ?offs, len := ?len, tr := ?tr, es := ?es, last := ?last, done := nofun } <;> rw [hi]
  case offs => exact ⟨rfl, t.offs⟩
  case len => have := t.len; simp only [pend]; omega
  case tr => exact t.tr
  case es => exact t.esAt
  case last => exact ⟨t.nd, t.last⟩

theorem TailInv.done (t : TailInv wr y e es tl) (hi : x'.items = tl) (hw : x'.wr = wr) :
    QInv x' { y with sent := e, esSent := es } := by
  subst hi hw
  exact { wr := t.written, offs := t.offs, len := t.len, tr := t.tr, es := by rw [t.esAt], last := t.last, done := t.nd }

theorem wrote_ord {s : St} {m : Mon} (h : OrdS s m.str) {id off hl d : Nat} {rest : List Nat} {es : Bool} {tl : List Item}
    {hSize dSize : Nat} (hk : id ∈ s.keys) (hs : Serves s id rest off hl d es tl hSize dSize) (op : Op) :
    ∃ m1, m.frame op (.data id off (hSize + dSize) (es && (hl + d - hSize - dSize == 0))) = (m1, none) ∧
      OrdS (wrote { s with active := rest } id off hl d es tl hSize dSize) m1.str := by
  have hne : ∀ i, i ≠ id → (wrote { s with active := rest } id off hl d es tl hSize dSize).str i = s.str i := fun i hi => wrote_str_ne hi
  cases hw : (m.str id).wild
  case true =>
    exact ⟨clr m, by simp only [Mon.frame, hw, if_true]; rfl, h.update id (fun _ _ => .rfl) hne (fun _ _ => rfl) (.inl hw)⟩
  have g := (h id).resolve_left (by rw [hw]; exact Bool.false_ne_true)
  obtain ⟨rfl, hsent, ti⟩ := (g.qinv hk).head hs.items
  have hlen := ti.len
  have hwr := ti.written
  have := hs.hle
  have := hs.dle
  refine ⟨clr (m.set id { m.str id with sent := (m.str id).sent + (hSize + dSize),
                                        esSent := es && (hl + d - hSize - dSize == 0) }), ?_, ?_⟩
  · have c3 : ¬ ((es && (hl + d - hSize - dSize == 0)) = true ∧ (m.str id).esAt ≠ some ((m.str id).sent + (hSize + dSize))) := by
      intro ⟨hc1, hc2⟩
      simp only [Bool.and_eq_true, beq_iff_eq] at hc1
      apply hc2
      rw [ti.esAt, hc1.1, if_pos rfl]
      congr 1; omega
    simp only [Mon.frame]
    -- `Mon.frame`'s tests in its order: not wild, open, no END_STREAM yet, offset, within `written`, END_STREAM place
    rw [if_neg (hw ▸ Bool.false_ne_true), if_neg (· (g.open_of_mem hk)), if_neg (hsent ▸ Bool.false_ne_true), if_neg (· rfl),
      if_neg (by omega), if_neg c3]
    rfl
  · refine h.update id (fun _ _ => .rfl) hne (fun i hi => monSet_ne _ _ hi) (.inr ?_)
    rw [clr_str, monSet_same]
    refine .of_mem hk (g.open_of_mem hk) ?_
    have hit : ((wrote { s with active := rest } id (m.str id).sent hl d es tl hSize dSize).str id).items =
        if hl + d - hSize - dSize = 0 then tl else .data ((m.str id).sent + (hSize + dSize)) (hl - hSize) (d - dSize) es :: tl := by
      rw [wrote, setStr_str_same]
    have hwr' : ((wrote { s with active := rest } id (m.str id).sent hl d es tl hSize dSize).str id).wr = (s.str id).wr := by
      rw [wrote, setStr_str_same]
    by_cases hrem : hl + d - hSize - dSize = 0
    · rw [show (m.str id).sent + (hSize + dSize) = (m.str id).sent + hl + d by omega, hrem, beq_self_eq_true, Bool.and_true]
      exact ti.done (hit.trans (if_pos hrem)) hwr'
    · rw [show (hl + d - hSize - dSize == 0) = false by simpa using hrem, Bool.and_false]
      exact ti.cut (hit.trans (if_neg hrem)) hwr' (by omega)

theorem settings_ord {s t : St} {ms : Nat → SS} {order : List Nat} {ss : List (Nat × Nat)} (hd : Settings order s ss t) :
    OrdS s ms → OrdS t ms := by
  induction hd with
  | done => exact id
  | other _ _ ih | lower _ _ ih => exact ih
  | raise _ _ ih => exact fun h => ih (h.congr (fun _ => .rfl) fun i => by dsimp only; split <;> exact ⟨rfl, rfl⟩)

theorem enqueue_ord {s t : St} {m : Mon} (h : OrdS s m.str) {id hl d : Nat} {es : Bool} (hk : id ∈ s.keys)
    (hout : (Op.data id hl d es).outside = false) (hkeys : t.keys = s.keys) (hne : ∀ i, i ≠ id → t.str i = s.str i)
    (hit : (t.str id).items = (s.str id).items ++ [.data (s.str id).wr hl d es]) (hwr : (t.str id).wr = (s.str id).wr + hl + d) :
    ∃ m', mstep m (.data id hl d es) [] = (m', none) ∧ OrdS t m'.str := by
  refine ord_unjudged h hout outs_nil id (fun _ hi => hi) (fun i _ => by rw [hkeys]) hne ?_
  intro hw g
  simp only [Mon.pre, Mon.post]
  have q := g.qinv hk
  rw [if_pos (g.open_of_mem hk)]
  by_cases hes : (m.str id).esAt.isSome = true
  · left; rw [if_pos hes, monSet_same]
  · right
    rw [if_neg hes, monSet_same]
    have hnone : (m.str id).esAt = none := by simpa using hes
    have hq := q.es
    rw [hnone] at hq
    have hsent : (m.str id).esSent = false := by
      cases hb : (m.str id).esSent
      · rfl
      · rw [hb, if_pos rfl] at hq; cases hq
    rw [hsent, if_neg Bool.false_ne_true] at hq
    refine .of_mem (hkeys ▸ hk) (g.open_of_mem hk) (q.snoc hit rfl ?wr ?len ⟨rfl, trivial⟩ (Option.or_none).symm ?es ?last ?done)
    case wr => dsimp only; rw [hwr, q.wr]
    case len => rw [hwr]; simp only [pend]; omega
    case es =>
      dsimp only; rw [hsent, if_neg Bool.false_ne_true, ← hq, q.wr]
      cases es <;> simp [ePos]
    case last => rw [hit]; exact esLast_append_data _ q.last hq.symm _ _ _ _
    case done => dsimp only; rw [hsent]; nofun

/-- `earlyAbortStream` is only for ids that were never registered: otherwise the spec stops judging the stream. -/
theorem earlyAbort_pre {s : St} {m : Mon} (h : OrdS s m.str) (id : Nat) (rst : Bool) (hb : Nat) (outs : List Out) :
    ((m.pre (.earlyAbort id rst hb) outs).str id).wild = true ∨
      (((m.pre (.earlyAbort id rst hb) outs).str id).phase = .idle ∧ id ∉ s.keys) := by
  simp only [Mon.pre]
  by_cases hp : (m.str id).phase = .idle
  · simp only [hp, if_true]
    exact (h id).imp_right fun g => ⟨trivial, fun hk => by have := g.open_of_mem hk; rw [hp] at this; cases this⟩
  · left; simp [hp, monSet_same]

theorem does_ord {s : St} {m : Mon} {o : Op} {r : Res} (hwf : Wf s) (h : OrdS s m.str) (hd : Does s o r) (hout : o.outside = false) :
    ∃ m', mstep m o r.outs = (m', none) ∧ OrdS r.st m'.str := by
  cases hd with
  | creditConn | creditAbsent | incomingGoAway | closeConn | outFlowReq | unknown | idle => exact ord_unnoticed hout outs_nil rfl h
  | outWinUpdate | outSettings | ping | goAway | clientOrphaned | clientInitErr | clientDup =>
    exact ord_unnoticed hout (outs_cons trivial outs_nil) rfl h
  | creditWake | credit | park => exact ord_unnoticed hout outs_nil rfl (h.setStr _ rfl rfl)
  | settings hss => exact ord_unnoticed hout (outs_cons trivial outs_nil) rfl (settings_ord hss h)
  | registerDup hk => exact mstep_unjudged m hout (outs_cons trivial outs_nil) (ord_open h _ _ (.inl ⟨hk, rfl⟩))
  | register hk => exact mstep_unjudged m hout outs_nil (ord_open h _ _ (.inr ⟨hk, rfl⟩))
  | @clientOpen id hb ie hk =>
    have hh := hasHeadersFor_writeHeader id false hb true [.cb .initStream id]
    simp only [List.singleton_append] at hh
    have ho := ord_open (m := m) h id ({ s with keys := s.keys ++ [id] }.setStr id {}) (Or.inr ⟨hk, rfl⟩)
    have hopen := ord_phase_open ho (id := id) (by simp)
    have hpre : m.pre (.clientHeaders id hb ie) (.cb .initStream id :: writeHeader id false hb true) = openStream m id := by
      simp only [Mon.pre, hh, if_true]
    exact ⟨_, mstep_of_frames (m1 := clr (clr (openStream m id))) hout
      (by rw [hpre, frames_cb]; exact frames_writeHeader_false _ hb (by simpa using hopen)), ho⟩
  | @headersAbsent id es _ _ _ hk =>
    refine ord_unjudged h hout outs_nil id (fun _ hi => hi) (fun _ _ => .rfl) (fun _ _ => rfl) fun _ hg => .inr ?_
    cases es with
    | false => exact hg
    | true =>
      simp only [Mon.pre, Mon.post]
      rw [if_neg fun e => hk (hg.mem_of_open e)]
      exact hg
  | @response id hb _ _ hk =>
    exact ⟨_, mstep_of_frames hout (frames_writeHeader_false (m := clr m) _ hb (ord_phase_open h hk)), h⟩
  | @trailersQueued id _ _ _ hk =>
    refine ord_unjudged h hout outs_nil id (fun _ hi => hi) (fun _ _ => .rfl) (fun i hi => setStr_str_ne _ _ hi) ?_
    intro _ g
    have q := g.qinv hk
    simp only [Mon.pre, Mon.post]
    rw [if_pos (g.open_of_mem hk)]
    by_cases hts : (m.str id).trailersAt.isSome = true
    · left; rw [if_pos hts, monSet_same]
    · right
      rw [if_neg hts, monSet_same, setStr_str_same]
      have hnone : (m.str id).trailersAt = none := by simpa using hts
      exact .of_mem hk (g.open_of_mem hk) <| q.snoc rfl rfl q.wr rfl trivial (by simp [hnone, tPos, q.wr])
        (by simp only [ePos, Option.or_none]; exact q.es) ((esLast_append_trailers ..).mpr q.last)
        fun h => (noData_append_trailers ..).mpr (q.done h)
  | @trailersNow id hb rst code _ hk hemp =>
    -- trailers-only response, or everything has been sent
    have hnil := (hwf.emptyIff id hk).mp hemp
    obtain ⟨m', h1, hid, hne⟩ := mstep_trailers (m := m) hout (fun _ => rfl) (fun _ hi => hi) hb true rst code (houts := rfl) (hy := rfl)
      (fun _ => frames_cb ..) <| by
        rcases h id with hw | g
        · exact .inl (pre_wild _ _ _ hw)
        · obtain ⟨hsent, htr, _⟩ := (g.qinv hk).drained hnil
          simp only [Mon.pre]
          right; right
          simp [g.open_of_mem hk, htr, monSet_same, hsent]
    exact ⟨m', h1, ord_closed h id hne (hid ▸ closeSS_closed _)⟩
  | @dataAbsent id _ _ _ hk =>
    refine ord_unjudged h hout outs_nil id (fun _ hi => hi) (fun _ _ => .rfl) (fun _ _ => rfl) fun _ hg => .inr ?_
    simp only [Mon.pre, Mon.post]
    rw [if_neg fun e => hk (hg.mem_of_open e)]
    exact hg
  | dataFirst hk | dataQueued hk =>
    exact enqueue_ord h hk hout rfl (fun i hi => setStr_str_ne _ _ hi) (by simp) (by simp)
  | cleanup => exact cleanup_ord h _ _ _ hout
  | @abortClient id rst hb =>
    refine mstep_unjudged m hout outs_nil ?_
    simp only [Mon.post]
    refine h.update id (fun _ _ => Iff.rfl) (fun _ _ => rfl) (fun i hi => pre_str_ne m (.earlyAbort id rst hb) [] hi) ?_
    rcases earlyAbort_pre h id rst hb [] with hw | ⟨hp, hk⟩
    · exact Or.inl hw
    · exact Or.inr (.of_notMem hk (by rw [hp]; nofun))
  | @abort id rst hb =>
    -- the spec closes its record on the trailers whatever it was, but judges the stream further only if the id was never
    -- registered (`earlyAbort_pre`), and then the writer does not have it either
    obtain ⟨m', h1, hid, hne⟩ := mstep_trailers (m := m) hout (fun _ => rfl) (fun _ hi => hi) hb false rst 0 (houts := rfl) (hy := rfl)
      (fun _ => rfl) (.inr (.inl (by simp [isEarlyAbortOf])))
    refine ⟨m', h1, h.update id (fun _ _ => Iff.rfl) (fun _ _ => rfl) hne ?_⟩
    rw [hid]
    rcases earlyAbort_pre h id rst hb _ with hw | ⟨_, hk⟩
    · exact .inl (by rw [closeSS, if_pos hw]; exact hw)
    · rcases closeSS_closed ((m.pre (.earlyAbort id rst hb) _).str id) with hw | hp
      · exact .inl hw
      · exact .inr (.of_notMem hk hp)
  | panic _ hact hit => exact (hwf.not_panic hact hit).elim
  | @write hb id rest off hl d es tl hSize dSize _ hs hw =>
    have hk := (hwf.head hs.active).keys
    obtain ⟨m1, hf, ho⟩ := wrote_ord (m := clr m) h hk hs (.tick hb)
    obtain ⟨m2, hf2, ho2⟩ := afterWrite_ord (m0 := clr m) hw ho hk (by rw [frames_cb, (frames_fold _).cons_ok _ hf]; rfl)
    exact ⟨m2, mstep_of_frames hout hf2, ho2⟩

/-- The invariant of a run against the C02 spec: `OrdS`, until `run()` has returned; after that nothing is written and nothing claimed. -/
def Ord (s : St) (m : Mon) : Prop := s.closed = true ∨ OrdS s m.str

theorem steps_ord {s : St} {m : Mon} {o : Op} {r : Res} (hd : Steps s o r) (hwf : Wf s) (h : Ord s m) :
    ∃ m', mstep m o r.outs = (m', none) ∧ Ord r.st m' := by
  cases hd with
  | closed hc =>
    by_cases ho : o.outside = true
    · exact ⟨m, mstep_outside m _ ho, .inl hc⟩
    · exact mstep_unjudged (Q := fun ms => s.closed = true ∨ OrdS s ms) m (by simpa using ho) outs_nil (.inl hc)
  | outside _ ho => exact ⟨m, mstep_outside m _ ho, h⟩
  | does hc ho hd =>
    obtain ⟨m', hm, hl⟩ := does_ord hwf (h.resolve_left (by simp [hc])) hd ho
    exact ⟨m', hm, .inr hl⟩

theorem ord_init (side : Side) : Ord (init side) Mon.init := by
  exact .inr fun i => .inr (.of_notMem (by simp [init]) (by simp [Mon.init]))

theorem runFrom_ord {s : St} {m : Mon} (hwf : Wf s) (h : Ord s m) (ops : List Op) :
    (runMon m (runFrom s ops).2).2 = none ∧ Ord (runFrom s ops).1 (runMon m (runFrom s ops).2).1 := by
  induction ops generalizing s m with
  | nil => exact ⟨rfl, h⟩
  | cons o os ih =>
    obtain ⟨m', hm, hl⟩ := steps_ord (step_steps s o) hwf h
    simp only [runFrom, runMon, hm]
    exact ih (step_wf hwf o) hl

end GrpcProofs.Loopy
