import GrpcModel.Model.Unbounded
/-! Helper lemmas for C31 (unbounded queue): state invariant, `step` from a consistent state as an
equation without panic branches, and from these the FIFO refinement and the coupling invariant
between the model state and the output-only monitor. -/
namespace GrpcProofs.Lemmas.Unbounded
open GrpcModel.Unbounded

variable {α : Type}

def Inv (s : St α) : Prop :=
  s.closed = s.chanClosed ∧ (s.closed = true → s.closing = true ∧ s.backlog = [])

theorem inv_init : Inv (init : St α) := by simp [Inv, init]

theorem Inv.closed_eq {s : St α} (h : Inv s) : s.closed = s.chanClosed := h.1

theorem Inv.of_chanClosed {s : St α} (h : Inv s) (hc : s.chanClosed = true) :
    s.closing = true ∧ s.backlog = [] :=
  h.2 (h.closed_eq ▸ hc)

/-- Each place where `step` sends on the channel or closes it is guarded by one of these three
    conditions, and `Inv` then says that the channel is still open: this is why nothing panics. -/
theorem chanClosed_false {s : St α} (h : Inv s)
    (hc : s.closing = false ∨ s.backlog ≠ [] ∨ s.closed = false) : s.chanClosed = false := by
  cases hcc : s.chanClosed
  · rfl
  · obtain ⟨h3, h4⟩ := h.of_chanClosed hcc
    simp [h3, h4, show s.closed = true from h.closed_eq ▸ hcc] at hc

theorem step_eq (s : St α) (o : Op α) (h : Inv s) :
    step s o = match o with
      | .put v => if s.closing then (s, .rejected) else
          (if s.chan = none ∧ s.backlog = [] then { s with chan := some v }
           else { s with backlog := s.backlog ++ [v] }, .ok)
      | .load => (match s.backlog with
          | x :: rest => if s.chan = none then { s with chan := some x, backlog := rest } else s
          | [] => if s.closing = true ∧ s.closed = false then { s with closed := true, chanClosed := true }
                  else s,
          .none)
      | .close => (if s.closing then s else
          if s.backlog = [] then { s with closing := true, closed := true, chanClosed := true }
          else { s with closing := true }, .none)
      | .recv => match s.chan with
          | some v => ({ s with chan := none }, .got v)
          | none => (s, if s.chanClosed then .eos else .none) := by
  -- one goal per branch of `step`, numbered in the order of its text: `put` 1-5, `load` 6-11, `close` 12-15, `recv` 16-18;
  -- the four that panic have a closed channel under a guard that `chanClosed_false` excludes
  fun_cases step s o
  case case2 hc _ hcc => simp [chanClosed_false h (.inl (by simpa using hc))] at hcc
  case case6 hb hcc => simp [chanClosed_false h (.inr (.inl (by simp [hb])))] at hcc
  case case9 hc hcc => simp [chanClosed_false h (.inr (.inr (by simp_all)))] at hcc
  case case13 hc _ hcc => simp [chanClosed_false h (.inl (by simpa using hc))] at hcc
  all_goals simp_all

theorem step_inv (s : St α) (o : Op α) (h : Inv s) : Inv (step s o).1 := by
  obtain ⟨h1, h2⟩ := h
  cases o <;> simp only [step_eq _ _ ⟨h1, h2⟩]
  case put v =>
    split
    · exact ⟨h1, h2⟩
    · split
      · exact ⟨h1, h2⟩
      · -- `closing = false`, so `closed = false` and the second clause is vacuous
        exact ⟨h1, fun hc => by simp_all⟩
  case load =>
    split <;> split
    · exact ⟨h1, fun hc => by simp_all⟩
    · exact ⟨h1, h2⟩
    · -- the close that `Close` left to `Load`: `closing` holds and the backlog is empty
      rename_i hb hc; exact ⟨rfl, fun _ => ⟨hc.1, hb⟩⟩
    · exact ⟨h1, h2⟩
  case close =>
    split
    · exact ⟨h1, h2⟩
    · split
      · rename_i hb; exact ⟨rfl, fun _ => ⟨rfl, hb⟩⟩
      · exact ⟨h1, fun hc => by simp_all⟩
  case recv => split <;> exact ⟨h1, h2⟩

theorem step_out (s : St α) (o : Op α) (h : Inv s) :
    (step s o).2 = match o with
      | .put _ => if s.closing then .rejected else .ok
      | .recv => match s.chan with
        | some v => .got v
        | none => if s.chanClosed then .eos else .none
      | _ => .none := by
  cases o <;> simp only [step_eq _ _ h]
  case put => split <;> rfl
  case recv => cases s.chan <;> rfl

theorem step_no_panic (s : St α) (o : Op α) (h : Inv s) : (step s o).2 ≠ .panic := by
  rw [step_out s o h]
  cases o <;> simp only <;> (repeat' split) <;> nofun

theorem step_closing (s : St α) (o : Op α) (h : Inv s) :
    (step s o).1.closing = match o with | .close => true | _ => s.closing := by
  cases o <;> simp only [step_eq _ _ h]
  case close =>
    split
    · assumption
    · split <;> rfl
  all_goals (repeat' split) <;> rfl

theorem put_closing (s : St α) (v : α) (h : s.closing = true) : step s (.put v) = (s, .rejected) := by
  simp [step, h]

/-- A receive leaves the backlog, whether or not it got the slot's value. -/
theorem step_abs (s : St α) (o : Op α) (h : Inv s) :
    abs (step s o).1 = match o with
      | .put v => if s.closing then abs s else abs s ++ [v]
      | .recv => s.backlog
      | _ => abs s := by
  cases o <;> simp only [step_eq _ _ h, abs]
  case put v =>
    split
    · rfl
    · -- the slot takes the value only when slot and backlog are empty
      split <;> simp [*]
  case load => split <;> split <;> simp [*]
  case close => (repeat' split) <;> rfl
  case recv => cases hc : s.chan <;> simp [hc]

theorem step_fifo (s : St α) (o : Op α) (h : Inv s) :
    received [(o, (step s o).2)] ++ abs (step s o).1 = abs s ++ accepted [(o, (step s o).2)] := by
  rw [step_out s o h, step_abs s o h]
  cases o <;> simp only [received, accepted, List.append_nil, List.nil_append]
  case put v => split <;> simp [accepted, received]
  case recv => split <;> simp_all [received, abs]; split <;> rfl

theorem fifo_glue {β : Type} {a b c d x y z : List β} (h1 : a ++ x = y ++ c) (h2 : b ++ z = x ++ d) :
    (a ++ b) ++ z = y ++ (c ++ d) := by
  rw [List.append_assoc, h2, ← List.append_assoc, h1, List.append_assoc]

theorem accepted_cons (x : Op α × Out α) (t : List (Op α × Out α)) :
    accepted (x :: t) = accepted [x] ++ accepted t := by
  obtain ⟨o, out⟩ := x
  cases o <;> cases out <;> simp [accepted]

theorem received_cons (x : Op α × Out α) (t : List (Op α × Out α)) :
    received (x :: t) = received [x] ++ received t := by
  obtain ⟨o, out⟩ := x
  cases out <;> simp [received]

theorem run_inv (ops : List (Op α)) (s : St α) (h : Inv s) : Inv (run s ops).1 := by
  induction ops generalizing s with
  | nil => simpa [run]
  | cons o os ih => simpa [run] using ih _ (step_inv s o h)

theorem run_append (a b : List (Op α)) (s : St α) : (run s (a ++ b)).1 = (run (run s a).1 b).1 := by
  induction a generalizing s with
  | nil => rfl
  | cons o os ih => simp [run, ih]

theorem run_closing (ops : List (Op α)) (s : St α) (hi : Inv s) (h : s.closing = true) :
    (run s ops).1.closing = true := by
  induction ops generalizing s with
  | nil => exact h
  | cons o os ih =>
    refine ih _ (step_inv s o hi) ?_
    rw [step_closing s o hi]
    split
    · rfl
    · exact h

theorem fifo (ops : List (Op α)) (s : St α) (h : Inv s) :
    received (run s ops).2 ++ abs (run s ops).1 = abs s ++ accepted (run s ops).2 := by
  induction ops generalizing s with
  | nil => simp [run, received, accepted]
  | cons o os ih =>
    simp only [run]
    rw [received_cons, accepted_cons]
    exact fifo_glue (step_fifo s o h) (ih _ (step_inv s o h))

/-- Nothing waits behind an empty channel slot and a requested close has been carried out: the
    close-while-draining / lost-item condition. `Load` establishes it, `Put` and `Close` keep it, a
    successful receive breaks it until the next `Load`. -/
def Settled (s : St α) : Prop :=
  s.chan = none → s.backlog = [] ∧ (s.closing = true → s.closed = true)

theorem Settled.idle {s : St α} (hs : Settled s) (hi : Inv s) (hch : s.chan = none) (hcc : s.chanClosed = false) :
    s.backlog = [] ∧ s.closing = false := by
  obtain ⟨hbl, hcd⟩ := hs hch
  exact ⟨hbl, Bool.eq_false_iff.mpr fun hcg => absurd (hi.closed_eq ▸ hcd hcg) (by simp [hcc])⟩

theorem step_settled (s : St α) (o : Op α) (h : Inv s) (hs : o = .load ∨ Settled s)
    (ho : o ≠ .recv) : Settled (step s o).1 := by
  cases o <;> simp only [step_eq _ _ h]
  case put v =>
    have hs := hs.resolve_left (by simp)
    split
    · exact hs
    · split
      · intro hc; simp at hc
      · -- the value went to the backlog, so the slot was full or the backlog non-empty: with
        -- `Settled s` the slot is full
        rename_i hn; exact fun hc => absurd ⟨hc, (hs hc).1⟩ hn
  case load =>
    split <;> split
    · intro hc; simp at hc
    · rename_i hc; exact fun hc' => absurd hc' hc
    · rename_i hb _; exact fun _ => ⟨hb, fun _ => rfl⟩
    · rename_i hb hn
      refine fun _ => ⟨hb, fun hc => ?_⟩
      cases hcd : s.closed
      · exact absurd ⟨hc, hcd⟩ hn
      · rfl
  case close =>
    have hs := hs.resolve_left (by simp)
    split
    · exact hs
    · split
      · rename_i hb; exact fun _ => ⟨hb, fun _ => rfl⟩
      · rename_i hb; exact fun hc => absurd (hs hc).1 hb
  case recv => exact absurd rfl ho

structure Coupled (s : St α) (m : Mon α) : Prop where
  inv : Inv s
  acc : abs s = m.acc
  closeSeen : m.closeSeen = s.closing
  /-- the consumer-protocol invariant: while the consumer has called Load after every successful read, the
      buffer is settled -/
  settled : m.proto = true → m.needLoad = false → Settled s

theorem coupled_init : Coupled (init : St α) Mon.init :=
  ⟨inv_init, rfl, rfl, fun _ _ => by simp [Settled, init]⟩

theorem step_coupled [DecidableEq α] (s : St α) (m : Mon α) (o : Op α) (h : Coupled s m) :
    Coupled (step s o).1 (Mon.step m o (step s o).2).1 ∧ ∀ c, (Mon.step m o (step s o).2).2 ≠ .viol c := by
  obtain ⟨hi, ha, hc, hp⟩ := h
  -- the four clauses after the step come from the four step lemmas; what is left is to evaluate the monitor
  have hi' := step_inv s o hi
  have hf := step_abs s o hi
  have hcl := step_closing s o hi
  have hst := step_settled s o hi
  rw [step_out s o hi]
  cases o
  case put v =>
    have hst := fun h1 h2 => hst (.inr (hp h1 h2)) (by simp)
    cases hcg : s.closing <;> simp [hcg, Mon.step, hc] at hf ⊢
    · exact ⟨hi', ha ▸ hf, (hcl.trans hcg).symm, hst⟩
    · exact ⟨hi', ha ▸ hf, hc.trans hcl.symm, hst⟩
  case load => exact ⟨⟨hi', ha ▸ hf, hc.trans hcl.symm, fun _ _ => hst (.inl rfl) (by simp)⟩, nofun⟩
  case close => exact ⟨⟨hi', ha ▸ hf, hcl.symm, fun h1 h2 => hst (.inr (hp h1 h2)) (by simp)⟩, nofun⟩
  case recv =>
    cases hch : s.chan with
    | some v =>
      have ha' : m.acc = v :: s.backlog := by rw [← ha]; simp [abs, hch]
      simp only [Mon.step, ha', if_true]
      exact ⟨⟨hi', hf, hc.trans hcl.symm, nofun⟩, nofun⟩
    | none =>
      have hb : m.acc = s.backlog := by rw [← ha]; simp [abs, hch]
      simp only [step_eq _ _ hi, hch]
      -- whatever it answers, the monitor keeps its state but for `proto`, which it can only lower
      have keep : Coupled s { m with proto := m.proto && !m.needLoad } :=
        ⟨hi, ha, hc, fun h1 => hp (Bool.and_eq_true_iff.mp h1).1⟩
      cases hcc : s.chanClosed
      · -- open: a consumer that kept the protocol finds the buffer settled, so nothing is stuck and no close is owed
        have quiet : (m.proto && !m.needLoad) = true → m.acc = [] ∧ m.closeSeen = false := fun h1 => by
          obtain ⟨h2, h3⟩ := Bool.and_eq_true_iff.mp h1
          obtain ⟨hbl, hcg⟩ := (hp h2 (by simpa using h3)).idle hi hch hcc
          exact ⟨hb.trans hbl, hc.trans hcg⟩
        simp only [Mon.step, Bool.false_eq_true, if_false]
        rw [if_neg fun h => by simp_all, if_neg fun h => by simp_all]
        exact ⟨keep, nofun⟩
      · -- closed: `Inv` says that `Close` ran and nothing is buffered, so end-of-stream is due
        obtain ⟨hcl', hbl⟩ := hi.of_chanClosed hcc
        simp only [Mon.step, if_true]
        rw [if_pos (by simp [hc, hcl', hb, hbl])]
        exact ⟨keep, nofun⟩

theorem verdicts_ok [DecidableEq α] (ops : List (Op α)) (s : St α) (m : Mon α) (h : Coupled s m) :
    ∀ v ∈ verdicts s m ops, ∀ c, v ≠ .viol c := by
  induction ops generalizing s m with
  | nil => simp [verdicts]
  | cons o os ih =>
    have hs := step_coupled s m o h
    exact List.forall_mem_cons.mpr ⟨hs.2, ih _ _ hs.1⟩

end GrpcProofs.Lemmas.Unbounded
