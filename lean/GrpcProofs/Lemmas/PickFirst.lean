/-
Helper lemmas for C34.  The SubConn map and what keeps it well-formed (`WF`); a connection request as a walk over failed
addresses (`Adv`) with one of four endings (`ReqEnd`), shown once by `requestLoop_shape`: the invariants, `tf_after_all_failed`
and `connect_order_is_list_order` read their facts off it.
-/
import GrpcModel.Model.PickFirst
import GrpcProofs.Lemmas.Basic
namespace GrpcProofs.Lemmas.PickFirst
open GrpcModel.PickFirst Basic
open GrpcModel.LbConnState (ConnState)

/-- the SubConn map has one entry per address, and the ids in it are distinct and were handed out (`≤ scSerial`) -/
structure WF (s : St) : Prop where
  addrs : (s.subConns.map (·.addr)).Nodup
  le : ∀ sc ∈ s.subConns, sc.id ≤ s.scSerial
  ids : (s.subConns.map (·.id)).Nodup

theorem eq_of_id {l : List SC} (h : (l.map (·.id)).Nodup) {x y : SC} (hx : x ∈ l) (hy : y ∈ l)
    (e : x.id = y.id) : x = y := eq_of_nodup_map h hx hy e

theorem getSC_mem {s : St} {a : Addr} {sc : SC} (h : getSC s a = some sc) : sc ∈ s.subConns ∧ sc.addr = a :=
  find_some h

theorem activeSC_mem {s : St} {id : Nat} {sc : SC} (h : activeSC s id = some sc) : sc ∈ s.subConns ∧ sc.id = id :=
  find_some h

theorem setSC_of_mem {s : St} {old new : SC} (hm : old ∈ s.subConns) (ha : new.addr = old.addr) :
    (setSC s new).subConns = s.subConns.map fun x => if x.addr = new.addr then new else x := by
  have : s.subConns.any (·.addr = new.addr) = true := List.any_eq_true.mpr ⟨old, hm, by simp [ha]⟩
  simp [setSC, this]

theorem setSC_of_none {s : St} {x : SC} (hn : getSC s x.addr = none) : setSC s x = { s with subConns := s.subConns ++ [x] } := by
  have : s.subConns.any (·.addr = x.addr) = false :=
    List.any_eq_false.mpr fun y hy => List.find?_eq_none.mp hn y hy
  simp [setSC, this]

theorem mem_setSC {s : St} {old new : SC} (hm : old ∈ s.subConns) (ha : new.addr = old.addr) {x : SC} :
    x ∈ (setSC s new).subConns ↔ x = new ∨ (x ∈ s.subConns ∧ x.addr ≠ new.addr) := by
  rw [setSC_of_mem hm ha, List.mem_map]
  constructor
  · rintro ⟨y, hy, rfl⟩
    split
    · exact Or.inl rfl
    · next h => exact Or.inr ⟨hy, h⟩
  · rintro (rfl | ⟨hx, hne⟩)
    · exact ⟨old, hm, by simp [ha]⟩
    · exact ⟨x, hx, by simp [hne]⟩

theorem self_mem_setSC {s : St} {old new : SC} (hm : old ∈ s.subConns) (ha : new.addr = old.addr) :
    new ∈ (setSC s new).subConns := (mem_setSC hm ha).mpr (Or.inl rfl)

theorem setSC_single {s : St} {x new : SC} (h : s.subConns = [x]) (ha : new.addr = x.addr) :
    (setSC s new).subConns = [new] := by
  simp [setSC, h, ha]

theorem setSC_ids {s : St} {old new : SC} (hw : WF s) (hm : old ∈ s.subConns) (ha : new.addr = old.addr)
    (hi : new.id = old.id) : (setSC s new).subConns.map (·.id) = s.subConns.map (·.id) := by
  rw [setSC_of_mem hm ha, List.map_map]
  apply List.map_congr_left
  intro x hx; simp only [Function.comp]; split
  · next h => rw [hi, eq_of_nodup_map hw.addrs hx hm (h.trans ha)]
  · rfl

theorem wf_of_keys {s s' : St} (h : WF s) (e1 : s'.subConns.map (·.addr) = s.subConns.map (·.addr))
    (e2 : s'.subConns.map (·.id) = s.subConns.map (·.id)) (e3 : s'.scSerial = s.scSerial) : WF s' := by
  refine ⟨by rw [e1]; exact h.addrs, ?_, by rw [e2]; exact h.ids⟩
  intro sc hsc
  have : sc.id ∈ s'.subConns.map (·.id) := List.mem_map.mpr ⟨sc, hsc, rfl⟩
  rw [e2] at this
  obtain ⟨x, hx, hxi⟩ := List.mem_map.mp this
  rw [e3, ← hxi]; exact h.le x hx

theorem wf_setSC {s : St} {old new : SC} (hw : WF s) (hm : old ∈ s.subConns) (ha : new.addr = old.addr)
    (hi : new.id = old.id) : WF (setSC s new) := by
  refine wf_of_keys hw ?_ (setSC_ids hw hm ha hi) rfl
  rw [setSC_of_mem hm ha]
  refine keys_map fun x => ?_
  split
  · next h => exact h.symm
  · rfl

theorem wf_sublist {s s' : St} (h : WF s) (sub : s'.subConns.Sublist s.subConns) (e2 : s'.scSerial = s.scSerial) : WF s' :=
  ⟨h.addrs.sublist (sub.map _), by intro sc hsc; rw [e2]; exact h.le sc (sub.subset hsc), h.ids.sublist (sub.map _)⟩

theorem wf_congr {s s' : St} (h : WF s) (e1 : s'.subConns = s.subConns) (e2 : s'.scSerial = s.scSerial) : WF s' :=
  wf_sublist h (e1 ▸ .refl _) e2

theorem wf_nil {s : St} (h : s.subConns = []) : WF s := by constructor <;> simp [h]

theorem wf_single {s : St} {sel : SC} (h : s.subConns = [sel]) (hle : sel.id ≤ s.scSerial) : WF s := by
  constructor <;> simp [h, hle]

theorem wf_push {s : St} {x : SC} (hw : WF s) (hn : getSC s x.addr = none) (hi : x.id = s.scSerial + 1) :
    WF { s with scSerial := s.scSerial + 1, subConns := s.subConns ++ [x] } := by
  refine ⟨nodup_map_snoc hw.addrs fun y hy => by simpa using List.find?_eq_none.mp hn y hy, fun sc hsc => ?_,
    nodup_map_snoc hw.ids fun y hy => by have := hw.le y hy; omega⟩
  show sc.id ≤ s.scSerial + 1
  rcases List.mem_append.mp hsc with h | h
  · exact Nat.le_succ_of_le (hw.le sc h)
  · rw [List.mem_singleton.mp h, hi]; exact Nat.le_refl _

theorem pushState_tf (s : St) (p : Picker) : pushState s .tf p = forcePush s .tf p :=
  if_neg fun h => h.2 h.1.symm

theorem pushState_cases (s : St) (st : ConnState) (p : Picker) : (pushState s st p = (s, []) ∧ st = s.state) ∨
    ∃ sk, pushState s st p = ({ s with state := st, picker := p, sticky := sk }, [.push st p]) := by
  unfold pushState forcePush
  split
  · next h => exact .inl ⟨rfl, h.1⟩
  · exact .inr ⟨_, rfl⟩

theorem schedule_eq (s : St) : schedule s = { cancelTimer s with timer := hasNext s } := by
  have e : hasNext (cancelTimer s) = hasNext s := rfl
  cases h : hasNext s <;> simp only [schedule, e, h] <;> rfl

theorem increment_spec (s : St) : ∃ i, (increment s).1 = { s with idx := i } ∧ s.idx ≤ i ∧
    ((increment s).2 = true → i = s.idx + 1 ∧ i < s.addrs.length) ∧ ((increment s).2 = false → ¬ i < s.addrs.length) := by
  unfold increment isValid
  split
  · next h => exact ⟨s.idx, rfl, Nat.le_refl _, nofun, fun _ => by simpa using h⟩
  · exact ⟨s.idx + 1, rfl, Nat.le_succ _, fun h => ⟨rfl, by simpa using h⟩, fun h => by simpa using h⟩

theorem seekTo_cases (s : St) (a : Addr) : (a ∉ s.addrs ∧ seekTo s a = (s, false)) ∨
    ∃ i, s.addrs[i]? = some a ∧ seekTo s a = ({ s with idx := i, passLog := [], passSerial := s.passSerial + 1 }, true) := by
  unfold seekTo
  cases hf : s.addrs.findIdx? (· = a) with
  | none => exact Or.inl ⟨fun h => by simpa using List.findIdx?_eq_none_iff.mp hf a h, rfl⟩
  | some i =>
    obtain ⟨hi, hp, _⟩ := List.findIdx?_eq_some_iff_getElem.mp hf
    exact Or.inr ⟨i, by simpa [hi] using hp, rfl⟩

theorem currentAddress_of_valid {s : St} (h : isValid s = true) :
    ∃ cur, currentAddress s = some cur ∧ s.addrs[s.idx]? = some cur := by
  have : s.idx < s.addrs.length := by simpa [isValid] using h
  exact ⟨s.addrs[s.idx], by simp [currentAddress, h, this], by simp [this]⟩

theorem endFirstPass_eq (s : St) (e : Nat) : endFirstPass s e =
    if isValid s = true ∨ s.subConns.any (!·.failed) = true then (s, []) else
      ({ s with firstPass := false, state := .tf, picker := .connErr e, sticky := true },
       .push .tf (.connErr e) :: (s.subConns.filter (·.raw = .idle)).map (Ev.connect ·.id)) := by
  unfold endFirstPass
  by_cases h1 : isValid s = true
  · simp [h1]
  · by_cases h2 : s.subConns.any (!·.failed) = true
    · simp [h1, h2]
    · simp only [h1, h2, or_self, pushState_tf]; rfl

theorem ensureSC_cases (s : St) (cur : Addr) :
    (∃ sd, getSC s cur = some sd ∧ ensureSC s cur = (s, sd, [])) ∨
    (getSC s cur = none ∧ ensureSC s cur =
      ({ s with scSerial := s.scSerial + 1, subConns := s.subConns ++ [{ id := s.scSerial + 1, addr := cur }] },
       { id := s.scSerial + 1, addr := cur }, [.newSc (s.scSerial + 1) cur])) := by
  unfold ensureSC
  cases hg : getSC s cur with
  | some sd => exact Or.inl ⟨sd, rfl, rfl⟩
  | none =>
    exact Or.inr ⟨rfl, congrArg (·, _, _)
      (setSC_of_none (s := { s with scSerial := s.scSerial + 1 }) (x := { id := s.scSerial + 1, addr := cur }) hg)⟩

theorem updateEmpty_eq (s : St) : updateEmpty s =
    ({ s with subConns := [], addrs := [], idx := 0, sticky := false, passLog := [], passSerial := s.passSerial + 1,
              state := .tf, picker := .resErr },
     s.subConns.map (Ev.sd ·.id) ++ [.push .tf .resErr]) := by
  simp only [updateEmpty, resolverError, List.length_nil, Nat.lt_irrefl, and_false, if_false, pushState_tf]
  rfl

theorem scToIdle_eq (s : St) (sd : SC) (new : ConnState) : scToIdle s sd new =
    let r := pushState { cancelTimer s with subConns := [{ sd with eff := new }], idx := 0, passLog := [],
                                            passSerial := s.passSerial + 1, sticky := false } .idle (.idle false)
    (r.1, (shutdownRemaining s sd).2 ++ r.2) := by
  simp [scToIdle, shutdownRemaining, setSC, cancelTimer]

theorem lateFire_eq (s : St) : lateFire s = (if s.lateTimers = 0 then s else { s with lateTimers := s.lateTimers - 1 }, []) := by
  unfold lateFire timerCallback
  split <;> simp

theorem pick_cases (s : St) :
    (∃ r, pick s = (s, [], r) ∧ ∀ X, r = .sc X → s.picker = .ready X) ∨
    (s.picker = .idle false ∧
      pick s = ((exitIdle { s with picker := .idle true }).1, (exitIdle { s with picker := .idle true }).2, .queue)) := by
  unfold pick
  cases s.picker with
  | idle used =>
    cases used with
    | false => exact .inr ⟨rfl, rfl⟩
    | true => exact .inl ⟨_, rfl, nofun⟩
  | ready id => exact .inl ⟨_, rfl, fun X h => by cases h; rfl⟩
  | connErr e => exact .inl ⟨_, rfl, fun X h => by split at h <;> cases h⟩
  | _ => exact .inl ⟨_, rfl, nofun⟩

theorem scState_none {s : St} {id : Nat} (new : ConnState) (err : Nat) (ha : activeSC s id = none) :
    scState s id new err = (s, []) := by
  simp only [scState, ha]

section scState
variable {s : St} {id : Nat} {new : ConnState} {sd0 : SC} {err : Nat} (ha : activeSC s id = some sd0)
include ha

theorem scState_ready : scState s id .ready err = scReady (setSC s (sd0.withRaw .ready)) (sd0.withRaw .ready) := by
  simp [scState, ha]

theorem scState_toIdle (hns : new ≠ .shutdown) (hnr : new ≠ .ready)
    (hk : sd0.raw = .ready ∨ sd0.raw = .connecting ∧ new = .idle) :
    scState s id new err = scToIdle (setSC s (sd0.withRaw new)) (sd0.withRaw new) new := by
  simp [scState, ha, hns, hnr, hk]

/-- a report that does not end the search for a connection -/
theorem scState_seek (hns : new ≠ .shutdown) (hnr : new ≠ .ready)
    (hk : ¬ (sd0.raw = .ready ∨ sd0.raw = .connecting ∧ new = .idle)) :
    scState s id new err = if (setSC s (sd0.withRaw new)).firstPass = true
      then scFirstPass (setSC s (sd0.withRaw new)) (sd0.withRaw new) new err
      else scLater (setSC s (sd0.withRaw new)) (sd0.withRaw new) new err := by
  simp [scState, ha, hns, hnr, hk]

end scState

def Pushes (P : ConnState → Picker → Prop) (evs : List Ev) : Prop := ∀ st p, Ev.push st p ∈ evs → P st p

namespace Pushes
variable {P Q : ConnState → Picker → Prop} {a b : List Ev}

theorem of_noPush (h : ∀ st p, Ev.push st p ∉ a) : Pushes P a := fun st p hm => absurd hm (h st p)

theorem nil : Pushes P [] := of_noPush fun _ _ => List.not_mem_nil

theorem single {st : ConnState} {p : Picker} (h : P st p) : Pushes P [.push st p] :=
  fun _ _ hm => by cases List.mem_singleton.mp hm; exact h

theorem append (ha : Pushes P a) (hb : Pushes P b) : Pushes P (a ++ b) :=
  fun st p h => (List.mem_append.mp h).elim (ha st p) (hb st p)

theorem mono (h : Pushes P a) (hpq : ∀ st p, P st p → Q st p) : Pushes Q a := fun st p hm => hpq st p (h st p hm)

end Pushes

/-- the only state reports a connection request can cause: TRANSIENT_FAILURE with a connection error -/
def OnlyTF : List Ev → Prop := Pushes fun st p => st = .tf ∧ ∃ e, p = .connErr e

/-- a connection request from `s` to `s'`, as the invariants see it (`ps` is the clause the proofs read; `picker` and `state` are
    its two halves) -/
structure ReqPost (s s' : St) : Prop where
  wf : WF s'
  addrs : s'.addrs = s.addrs
  idx : s.idx ≤ s'.idx
  log : s'.passLog = s.passLog ∨ (s'.passLog = s.passLog ++ [s'.idx] ∧ s'.idx < s'.addrs.length)
  picker : s'.picker = s.picker ∨ ∃ e, s'.picker = .connErr e
  state : s'.state = s.state ∨ s'.state = .tf
  health : s'.health = s.health
  ps : (s'.picker = s.picker ∧ s'.state = s.state) ∨ (∃ e, s'.picker = .connErr e ∧ s'.state = .tf)

/-- the first pass cannot be left hanging: past the end of the list with every SubConn failed means
    TRANSIENT_FAILURE was reported and the pass is over -/
def EndOK (s : St) : Prop :=
  isValid s = false → (∀ sc ∈ s.subConns, sc.failed = true) → s.state = .tf ∧ s.firstPass = false

/-- a Connect() on SubConn `id`, issued on the way from `s0` to `r`, is the logged one, on the SubConn of the address at the
    index (or the first pass is over: its end connects every idle SubConn at once) -/
def ConnectLogged (s0 r : St) (id : Nat) : Prop :=
  r.firstPass = false ∨
  (r.passLog = s0.passLog ++ [r.idx] ∧ ∃ sc ∈ r.subConns, sc.id = id ∧ r.addrs[r.idx]? = some sc.addr)

/-- `m` is `s` after a connection request has walked on: SubConns were created (IDLE, for addresses of the
    list) or marked as failed, and the index advanced; nothing else changed. -/
structure Adv (s m : St) : Prop where
  /-- every field but these five is as in `s`: the projections below rewrite with it -/
  rest : m = { s with subConns := m.subConns, scSerial := m.scSerial, idx := m.idx, timer := m.timer,
                      lateTimers := m.lateTimers }
  idx : s.idx ≤ m.idx
  wf : WF s → WF m
  map : ∀ sc ∈ m.subConns, (∃ sc0 ∈ s.subConns, sc0.addr = sc.addr ∧ sc0.raw = sc.raw) ∨ (sc.raw = .idle ∧ sc.addr ∈ s.addrs)

namespace Adv
variable {s m : St} (h : Adv s m)
include h
theorem addrs : m.addrs = s.addrs := by rw [h.rest]
theorem log : m.passLog = s.passLog := by rw [h.rest]
theorem state : m.state = s.state := by rw [h.rest]
theorem picker : m.picker = s.picker := by rw [h.rest]
theorem health : m.health = s.health := by rw [h.rest]
theorem firstPass : m.firstPass = s.firstPass := by rw [h.rest]
end Adv

theorem Adv.refl (s : St) : Adv s s :=
  { rest := rfl, idx := Nat.le_refl _, wf := id, map := fun sc h => .inl ⟨sc, h, rfl, rfl⟩ }

theorem Adv.trans {a b c : St} (h1 : Adv a b) (h2 : Adv b c) : Adv a c := by
  refine { rest := ?_, idx := Nat.le_trans h1.idx h2.idx, wf := h2.wf ∘ h1.wf, map := fun sc hsc => ?_ }
  · exact h2.rest.trans (congrArg (fun x : St => { x with subConns := c.subConns, scSerial := c.scSerial, idx := c.idx, timer := c.timer, lateTimers := c.lateTimers }) h1.rest)
  · rcases h2.map sc hsc with ⟨sc1, h1m, ea, er⟩ | ⟨hr, ha⟩
    · rw [← ea, ← er]; exact h1.map sc1 h1m
    · exact .inr ⟨hr, h1.addrs ▸ ha⟩

theorem adv_ensureSC {s : St} {cur : Addr} (hc : cur ∈ s.addrs) : Adv s (ensureSC s cur).1 := by
  rcases ensureSC_cases s cur with ⟨sd, _, e⟩ | ⟨hg, e⟩ <;> rw [e]
  · exact .refl s
  · refine { rest := rfl, idx := Nat.le_refl _, wf := fun hw => wf_push hw hg rfl, map := fun sc hsc => ?_ }
    rcases List.mem_append.mp hsc with h | h
    · exact .inl ⟨sc, h, rfl, rfl⟩
    · rw [List.mem_singleton.mp h]; exact .inr ⟨rfl, hc⟩

theorem ensureSC_mem (s : St) (cur : Addr) :
    (ensureSC s cur).2.1 ∈ (ensureSC s cur).1.subConns ∧ (ensureSC s cur).2.1.addr = cur ∧
    (ensureSC s cur).1.idx = s.idx ∧ ∀ x ∈ (ensureSC s cur).2.2, ∃ i a, x = .newSc i a := by
  rcases ensureSC_cases s cur with ⟨sd, hg, e⟩ | ⟨_, e⟩ <;> rw [e]
  · exact ⟨(getSC_mem hg).1, (getSC_mem hg).2, rfl, nofun⟩
  · exact ⟨List.mem_append_right _ (List.mem_singleton_self _), rfl, rfl, fun x h => ⟨_, _, List.mem_singleton.mp h⟩⟩

theorem adv_next {s : St} {sd : SC} (hm : sd ∈ s.subConns) : Adv s (increment (setSC s sd.markFailed)).1 := by
  obtain ⟨i, e, hi, _⟩ := increment_spec (setSC s sd.markFailed)
  rw [e]
  refine { rest := rfl, idx := hi, wf := fun hw => wf_congr (wf_setSC (new := sd.markFailed) hw hm rfl rfl) rfl rfl,
           map := fun sc hsc => ?_ }
  rcases (mem_setSC (new := sd.markFailed) hm rfl).mp hsc with rfl | ⟨h, _⟩
  · exact .inl ⟨sd, hm, rfl, rfl⟩
  · exact .inl ⟨sc, h, rfl, rfl⟩

/-- how a connection request ends, at the state `m` it has walked to; the events of that last step -/
inductive ReqEnd (m : St) : St × List Ev → Prop
  /-- the SubConn is in a state the code does not expect here (or the loop bound is hit) -/
  | stay (hv : isValid m = true) : ReqEnd m (m, [])
  /-- the SubConn is CONNECTING: wait for it, with the happy-eyeballs timer armed -/
  | wait (hv : isValid m = true) : ReqEnd m (schedule m, [])
  /-- the SubConn of the current address is IDLE: Connect() -/
  | connect (sd : SC) (hm : sd ∈ m.subConns) (ha : m.addrs[m.idx]? = some sd.addr) :
      ReqEnd m (schedule { m with passLog := m.passLog ++ [m.idx] }, [.connect sd.id])
  /-- the list is exhausted -/
  | giveUp (e : Nat) : ReqEnd m (endFirstPass m e)

theorem requestLoop_invalid (fuel : Nat) {s : St} (ev : List Ev) (h : isValid s = false) :
    requestLoop fuel s ev = (s, ev) := by
  cases fuel <;> simp [requestLoop, currentAddress, h]

theorem requestLoop_shape (fuel : Nat) (s : St) (ev : List Ev) (hv : isValid s = true) :
    ∃ m nev t, Adv s m ∧ (∀ x ∈ nev, ∃ i a, x = .newSc i a) ∧ ReqEnd m t ∧
      requestLoop fuel s ev = (t.1, ev ++ nev ++ t.2) := by
  induction fuel generalizing s ev with
  | zero => exact ⟨s, [], (s, []), .refl s, (fun _ h => nomatch h), .stay hv, by simp [requestLoop]⟩
  | succ fuel ih =>
    obtain ⟨cur, hcur, hget⟩ := currentAddress_of_valid hv
    have hadv : Adv s (ensureSC s cur).1 := adv_ensureSC (List.mem_of_getElem? hget)
    obtain ⟨hm, ha, hidx, hnew⟩ := ensureSC_mem s cur
    have hget1 : (ensureSC s cur).1.addrs[(ensureSC s cur).1.idx]? = some (ensureSC s cur).2.1.addr := by
      rw [hadv.addrs, hidx, ha]; exact hget
    have hv1 : isValid (ensureSC s cur).1 = true := by
      unfold isValid; rw [hadv.addrs, hidx]; exact hv
    simp only [requestLoop, hcur]
    generalize ensureSC s cur = r at hadv hm hget1 hnew hv1 ⊢
    cases hraw : r.2.1.raw with
    | idle =>
      exact ⟨r.1, r.2.2, _, hadv, hnew, .connect r.2.1 hm hget1, rfl⟩
    | connecting => exact ⟨r.1, r.2.2, _, hadv, hnew, .wait hv1, by rw [List.append_nil]⟩
    | ready => exact ⟨r.1, r.2.2, _, hadv, hnew, .stay hv1, by rw [List.append_nil]⟩
    | shutdown => exact ⟨r.1, r.2.2, _, hadv, hnew, .stay hv1, by rw [List.append_nil]⟩
    | tf =>
      have hadv2 := hadv.trans (adv_next hm)
      obtain ⟨i, e, _, h1, h2⟩ := increment_spec (setSC r.1 r.2.1.markFailed)
      simp only
      split
      · next hinc =>
        obtain ⟨m, nev, t, a, n, en, eq⟩ := ih (increment (setSC r.1 r.2.1.markFailed)).1 (ev ++ r.2.2)
          (by rw [e]; simpa [isValid] using (h1 hinc).2)
        refine ⟨m, r.2.2 ++ nev, t, hadv2.trans a, ?_, en, by rw [eq, List.append_assoc ev]⟩
        intro x hx
        exact (List.mem_append.mp hx).elim (hnew x) (n x)
      · exact ⟨_, r.2.2, _, hadv2, hnew, .giveUp r.2.1.lastErr, rfl⟩

theorem Adv.reqPost {s m : St} (h : Adv s m) (hw : WF s) : ReqPost s m :=
  { wf := h.wf hw, addrs := h.addrs, idx := h.idx, log := .inl h.log, picker := .inl h.picker, state := .inl h.state,
    health := h.health, ps := .inl ⟨h.picker, h.state⟩ }

theorem adv_schedule (m : St) : Adv m (schedule m) := by
  rw [schedule_eq]
  exact { rest := rfl, idx := Nat.le_refl _, wf := fun hw => wf_congr hw rfl rfl, map := fun sc h => .inl ⟨sc, h, rfl, rfl⟩ }

theorem ReqEnd.endOK {m : St} {t : St × List Ev} (h : ReqEnd m t) : EndOK t.1 := by
  have valid : ∀ {s : St}, isValid s = true → EndOK s := fun h hv => by rw [h] at hv; cases hv
  cases h with
  | stay hv => exact valid hv
  | wait hv => rw [schedule_eq]; exact valid hv
  | connect sd hm ha => rw [schedule_eq]; exact valid (decide_eq_true (lt_of_getElem? ha))
  | giveUp e =>
    rw [endFirstPass_eq]
    split
    · next h =>
      intro hv hf
      rcases h with h | h
      · rw [h] at hv; cases hv
      · obtain ⟨x, hx, hxf⟩ := List.any_eq_true.mp h
        simp [hf x hx] at hxf
    · exact fun _ _ => ⟨rfl, rfl⟩

theorem ReqEnd.connects {m : St} {t : St × List Ev} (h : ReqEnd m t) {id : Nat} (hc : .connect id ∈ t.2) :
    ConnectLogged m t.1 id := by
  cases h with
  | stay => cases hc
  | wait => cases hc
  | connect sd hm ha =>
    rw [schedule_eq]
    simp only [List.mem_singleton, Ev.connect.injEq] at hc
    exact .inr ⟨rfl, sd, hm, hc.symm, ha⟩
  | giveUp e =>
    rw [endFirstPass_eq] at hc ⊢
    split at hc
    · cases hc
    · next h => rw [if_neg h]; exact .inl rfl

theorem ReqEnd.firstPass {m : St} {t : St × List Ev} (h : ReqEnd m t) :
    t.1.firstPass = m.firstPass ∨ t.1.firstPass = false := by
  cases h with
  | stay => exact .inl rfl
  | wait => rw [schedule_eq]; exact .inl rfl
  | connect => rw [schedule_eq]; exact .inl rfl
  | giveUp e => rw [endFirstPass_eq]; split <;> simp

theorem requestConnection_shape (s : St) : requestConnection s = (s, []) ∨
    ∃ m nev t, Adv s m ∧ (∀ x ∈ nev, ∃ i a, x = .newSc i a) ∧ ReqEnd m t ∧ requestConnection s = (t.1, nev ++ t.2) := by
  unfold requestConnection
  cases hv : isValid s
  · exact .inl rfl
  · obtain ⟨m, nev, t, a, n, en, e⟩ := requestLoop_shape (s.addrs.length + 1) s [] hv
    exact .inr ⟨m, nev, t, a, n, en, e.trans (by rw [List.nil_append])⟩

theorem requestConnection_endOK {s : St} (hv : isValid s = true) : EndOK (requestConnection s).1 := by
  rcases requestConnection_shape s with e | ⟨m, nev, t, a, n, en, e⟩ <;> rw [e]
  · exact fun h => by rw [hv] at h; cases h
  · exact en.endOK

theorem requestConnection_connects (s : St) (id : Nat) (h : Ev.connect id ∈ (requestConnection s).2) :
    ConnectLogged s (requestConnection s).1 id := by
  rcases requestConnection_shape s with e | ⟨m, nev, t, a, n, en, e⟩ <;> rw [e] at h ⊢
  · cases h
  · rcases List.mem_append.mp h with h | h
    · obtain ⟨_, _, h⟩ := n _ h; cases h
    · exact (en.connects h).imp_right fun ⟨h1, h2⟩ => ⟨a.log ▸ h1, h2⟩

/-- the pass log (the positions of the list on which Connect() was requested since the index was reset) is strictly
    increasing and not ahead of the index -/
def PL (s : St) : Prop := s.passLog.Pairwise (· < ·) ∧ ∀ i ∈ s.passLog, i ≤ s.idx

/-- a new request cannot repeat a logged position -/
def Fresh (s : St) : Prop := s.passLog.Pairwise (· < ·) ∧ ∀ i ∈ s.passLog, i < s.idx

theorem pl_nil {s : St} (h : s.passLog = []) : PL s := by simp [PL, h]
theorem fresh_nil {s : St} (h : s.passLog = []) : Fresh s := by simp [Fresh, h]

theorem pl_congr {s s' : St} (h : PL s) (e1 : s'.passLog = s.passLog) (e2 : s.idx ≤ s'.idx) : PL s' :=
  ⟨e1 ▸ h.1, fun i hi => Nat.le_trans (h.2 i (e1 ▸ hi)) e2⟩

theorem pl_of_fresh (s : St) (h : Fresh s) : PL s := ⟨h.1, fun i hi => Nat.le_of_lt (h.2 i hi)⟩

theorem pl_of_reqPost {s s' : St} (hf : Fresh s) (hr : ReqPost s s') : PL s' := by
  -- the index appended is above everything logged: the log was strictly below the old index, and the index only advances
  rcases hr.log with h | ⟨h, _⟩
  · exact pl_congr (pl_of_fresh s hf) h hr.idx
  · refine ⟨?_, ?_⟩
    · rw [h, List.pairwise_append]
      refine ⟨hf.1, by simp, fun a ha b hb => ?_⟩
      rw [List.mem_singleton.mp hb]; exact Nat.lt_of_lt_of_le (hf.2 a ha) hr.idx
    · intro i hi
      rw [h] at hi
      rcases List.mem_append.mp hi with hi | hi
      · exact Nat.le_trans (Nat.le_of_lt (hf.2 i hi)) hr.idx
      · rw [List.mem_singleton.mp hi]; exact Nat.le_refl _

def PushOK (s' : St) (st : ConnState) (p : Picker) : Prop :=
  (st = .ready ↔ ∃ X, p = .ready X) ∧ (∀ X, p = .ready X → ∃ sc ∈ s'.subConns, sc.id = X ∧ sc.raw = .ready)

def ReadyOK (s' : St) : List Ev → Prop := Pushes (PushOK s')

theorem pushOK_other (s' : St) {st : ConnState} {p : Picker} (h1 : st ≠ .ready := by decide)
    (h2 : ∀ X, p ≠ .ready X := by nofun) : PushOK s' st p :=
  ⟨⟨fun h => absurd h h1, fun ⟨X, h⟩ => absurd h (h2 X)⟩, fun X h => absurd h (h2 X)⟩

theorem readyOK_pushState {s s' : St} {st : ConnState} {p : Picker} (h : PushOK s' st p) :
    ReadyOK s' (pushState s st p).2 := by
  rcases pushState_cases s st p with ⟨e, _⟩ | ⟨_, e⟩ <;> rw [e]
  · exact .nil
  · exact .single h

/-- what every reachable state satisfies whatever the regime -/
structure Good (s : St) : Prop where
  wf : WF s
  pl : PL s

theorem Good.congr {s s' : St} (h : Good s) (e1 : s'.subConns = s.subConns) (e2 : s'.scSerial = s.scSerial)
    (e3 : s'.passLog = s.passLog) (e4 : s.idx ≤ s'.idx) : Good s' :=
  ⟨wf_congr h.wf e1 e2, pl_congr h.pl e3 e4⟩

theorem good_setSC {s : St} {old new : SC} (h : Good s) (hm : old ∈ s.subConns) (ha : new.addr = old.addr)
    (hi : new.id = old.id) : Good (setSC s new) :=
  ⟨wf_setSC h.wf hm ha hi, pl_congr h.pl rfl .refl⟩

theorem good_pushState {s : St} (st : ConnState) (p : Picker) (h : Good s) : Good (pushState s st p).1 := by
  rcases pushState_cases s st p with ⟨e, _⟩ | ⟨_, e⟩ <;> rw [e]
  · exact h
  · exact h.congr rfl rfl rfl .refl

theorem fresh_increment {s : St} (h : PL s) (hinc : (increment s).2 = true) : Fresh (increment s).1 := by
  obtain ⟨i, e, _, h1, _⟩ := increment_spec s
  rw [e]
  refine ⟨h.1, fun j hj => ?_⟩
  show j < i
  rw [(h1 hinc).1]; exact Nat.lt_succ_of_le (h.2 j hj)

theorem subConns_pushState (s : St) (st : ConnState) (p : Picker) : (pushState s st p).1.subConns = s.subConns := by
  rcases pushState_cases s st p with ⟨e, _⟩ | ⟨_, e⟩ <;> rw [e]

theorem shutdownRemaining_noPush (s : St) (sel : SC) (st : ConnState) (p : Picker) :
    Ev.push st p ∉ (shutdownRemaining s sel).2 := by
  simp [shutdownRemaining]

theorem close_noPush (s : St) (st : ConnState) (p : Picker) : Ev.push st p ∉ (close s).2 := by
  simp [close, closeSubConns]

/-- `startFirstPassLocked` clears the `failed` marks: keys stay -/
theorem wf_clearFailed {s s' : St} (h : WF s) (e1 : s'.subConns = s.subConns.map ({ · with failed := false }))
    (e2 : s'.scSerial = s.scSerial) : WF s' := by
  apply wf_of_keys h _ _ e2 <;> simp [e1, List.map_map, Function.comp_def]

theorem wf_reconcile {s : St} (l : List Addr) (hw : WF s) : WF (reconcile s l).1 :=
  wf_sublist hw List.filter_sublist rfl

/-- the fake channel's rules (what the real channel guarantees to a balancer) -/
def opOk (s : St) : Op → Bool
  | .sc id x _ => decide (1 ≤ id ∧ id ≤ s.scSerial) && (x != .shutdown || (activeSC s id).isNone)
  | .health id _ _ => (activeSC s id).all fun sc => sc.healthReg && sc.raw == .ready
  | _ => true

theorem opOk_health {s : St} {id : Nat} {st : ConnState} {err : Nat} (hok : opOk s (.health id st err) = true)
    {sd : SC} (hsd : activeSC s id = some sd) : sd.raw = .ready := by
  simp only [opOk, hsd, Option.all_some, Bool.and_eq_true, beq_iff_eq] at hok
  exact hok.2

theorem opOk_sc {s : St} {id : Nat} {st : ConnState} {err : Nat} (hok : opOk s (.sc id st err) = true)
    {sd : SC} (ha : activeSC s id = some sd) : st ≠ .shutdown := by
  simp [opOk, ha] at hok
  exact hok.2

theorem good_init : Good {} := ⟨wf_nil rfl, pl_nil rfl⟩

def RunOk : St → List Op → Prop
  | _, [] => True
  | s, op :: t => opOk s op = true ∧ RunOk (step s op).1 t

theorem runOk_snoc {op : Op} {l : List Op} : ∀ {s : St}, RunOk s (l ++ [op]) → RunOk s l ∧ opOk (run s l) op = true := by
  induction l with
  | nil => exact fun h => ⟨trivial, h.1⟩
  | cons o t ih => exact fun h => ⟨⟨h.1, (ih h.2).1⟩, (ih h.2).2⟩

theorem scReady_cases (s : St) (sd : SC) :
    (sd.addr ∉ s.addrs ∧ scReady s sd = ({ (shutdownRemaining s sd).1 with sticky := false }, (shutdownRemaining s sd).2)) ∨
    ∃ i s1, s.addrs[i]? = some sd.addr ∧
      s1 = { (shutdownRemaining s sd).1 with sticky := false, idx := i, passLog := [], passSerial := s.passSerial + 1 } ∧
      scReady s sd = if s.health = false
        then
          let r := pushState (setSC s1 { sd with eff := .ready }) .ready (.ready sd.id)
          (r.1, (shutdownRemaining s sd).2 ++ r.2)
        else
          let r := pushState (setSC s1 { sd with eff := .connecting, healthReg := true }) .connecting .queue
          (r.1, (shutdownRemaining s sd).2 ++ r.2 ++ [.hl sd.id]) := by
  simp only [scReady]
  rcases seekTo_cases { (shutdownRemaining s sd).1 with sticky := false } sd.addr with ⟨hn, e⟩ | ⟨i, hi, e⟩ <;> rw [e]
  · exact .inl ⟨hn, rfl⟩
  · refine .inr ⟨i, _, hi, rfl, ?_⟩
    show (if (!s.health) = true then _ else _) = _
    cases s.health <;> rfl

theorem scReady_subConns (s : St) (sd : SC) :
    (scReady s sd).1.subConns.map (·.id) = [sd.id] ∧
    ∀ x ∈ s.subConns, x.id ≠ sd.id → Ev.sd x.id ∈ (scReady s sd).2 := by
  have hsd : ∀ x ∈ s.subConns, x.id ≠ sd.id → Ev.sd x.id ∈ (shutdownRemaining s sd).2 := by
    intro x hx hne
    simp only [shutdownRemaining, List.mem_map, List.mem_filter]
    exact ⟨x, ⟨hx, by simpa using hne⟩, rfl⟩
  rcases scReady_cases s sd with ⟨_, e⟩ | ⟨i, s1, _, hs1, e⟩ <;> rw [e]
  · exact ⟨rfl, hsd⟩
  · have hsub : s1.subConns = [sd] := hs1 ▸ rfl
    split <;> dsimp only
    · exact ⟨by rw [subConns_pushState, setSC_single hsub] <;> rfl, fun x hx hne => List.mem_append_left _ (hsd x hx hne)⟩
    · exact ⟨by rw [subConns_pushState, setSC_single hsub] <;> rfl,
        fun x hx hne => List.mem_append_left _ (List.mem_append_left _ (hsd x hx hne))⟩

theorem scState_ready_others (s : St) (id : Nat) (err : Nat) (sd0 : SC) (hw : WF s) (ha : activeSC s id = some sd0) :
    (scState s id .ready err).1.subConns.map (·.id) = [id] ∧
    ∀ x ∈ s.subConns, x.id ≠ id → Ev.sd x.id ∈ (scState s id .ready err).2 := by
  obtain ⟨hm0, hid⟩ := activeSC_mem ha
  obtain ⟨r1, r2⟩ := scReady_subConns (setSC s (sd0.withRaw .ready)) (sd0.withRaw .ready)
  rw [scState_ready ha]
  refine ⟨by rw [r1]; show [sd0.id] = [id]; rw [hid], fun x hx hne => r2 x ?_ (by show x.id ≠ sd0.id; rw [hid]; exact hne)⟩
  refine (mem_setSC (new := sd0.withRaw .ready) hm0 rfl).mpr (.inr ⟨hx, fun he => ?_⟩)
  rw [eq_of_nodup_map hw.addrs hx hm0 he, hid] at hne; exact hne rfl

theorem scFirstPass_tf_endOK (s : St) (sd : SC) (err : Nat) : EndOK (scFirstPass s sd .tf err).1 := by
  simp only [scFirstPass]
  split
  · obtain ⟨i, e, _, h1, _⟩ := increment_spec (cancelTimer (setSC s { sd with lastErr := err, eff := .tf }))
    split
    · next hinc => exact requestConnection_endOK (by rw [e]; exact decide_eq_true (h1 hinc).2)
    · exact (ReqEnd.giveUp err).endOK
  · exact (ReqEnd.giveUp err).endOK

end GrpcProofs.Lemmas.PickFirst
