/-
Helper lemmas for C38: randomWRR (prefix sums + binary search), droppers, circuit breaking.
-/
import GrpcModel.Model.WRRRandom
import GrpcProofs.Lemmas.SortSearch
import GrpcProofs.Lemmas.Basic
import Mathlib.Data.List.Basic
import Mathlib.Data.List.Induction
import Mathlib.Algebra.BigOperators.Group.List.Basic
import Mathlib.Tactic.Linarith
import Mathlib.Tactic.Ring
import Mathlib.Tactic.NormNum
namespace GrpcProofs.Lemmas.WRRRandom
open GrpcModel.WRRRandom GrpcModel.SortSearch GrpcProofs.Lemmas.SortSearch

def AllEqual (ws : List Nat) : Prop := ∀ a ∈ ws, ∀ b ∈ ws, a = b

/-- one event on a cluster's request counter -/
inductive CBOp where
  | pick (ready : Bool) (drops : List RW) (rs : List Nat) (max : Nat) (childOK : Bool)
  | done   -- `Done` of some admitted, unfinished RPC

/-- numRequests, and the number of admitted RPCs whose Done has not run yet -/
structure CB where
  count : Nat := 0
  unfinished : Nat := 0

/-- a pick runs `picker.Pick` on the counter and, if admitted, is owed a `Done`; a `Done` releases the
    counter (`endRequest`) and is ignored when no admitted RPC is unfinished -/
def cbStep (s : CB) : CBOp → CB
  | .pick ready drops rs max childOK =>
    let (res, c) := pick ready drops rs (some max) childOK s.count
    { count := c, unfinished := if res = .ok then s.unfinished + 1 else s.unfinished }
  | .done => if s.unfinished = 0 then s else { count := endRequest s.count, unfinished := s.unfinished - 1 }

def cbRun (s : CB) (ops : List CBOp) : CB := ops.foldl cbStep s

/-- the droppers an EDS update with these overloads (category, numerator, denominator) asks for -/
def droppersOf (ovs : List (String × Nat × Nat)) : List RW :=
  ovs.map fun (_, n, d) => newDropper (dropRequestsPerMillion n d)

def prefixSum (ws : List Nat) (k : Nat) : Nat := (ws.take k).sum

theorem prefixSum_succ (ws : List Nat) (k : Nat) : prefixSum ws (k + 1) = prefixSum ws k + ws.getD k 0 := by
  unfold prefixSum
  rw [List.take_add_one, List.sum_append, List.getD_eq_getElem?_getD]
  cases ws[k]? <;> simp

theorem prefixSum_mono (ws : List Nat) (a b : Nat) (hab : a ≤ b) : prefixSum ws a ≤ prefixSum ws b := by
  induction hab with
  | refl => exact Nat.le_refl _
  | step _ ih => rw [prefixSum_succ]; omega

theorem prefixSum_length (ws : List Nat) : prefixSum ws ws.length = ws.sum := by simp [prefixSum]

/-- `rw` is what `Add` of the weights `ws` builds. `last` follows from `len` and `item`; it is a field
    because `RW.add` and `RW.range` read the list through `getLast?`. -/
structure Built (ws : List Nat) (rw : RW) : Prop where
  len : rw.items.length = ws.length
  item : ∀ i, i < ws.length → rw.items.getD i ⟨0, 0⟩ = ⟨ws.getD i 0, prefixSum ws (i + 1)⟩
  last : rw.items.getLast? = ws.getLast?.map (fun w => ⟨w, ws.sum⟩)
  equalWeights_iff : ws ≠ [] → (rw.equalWeights = true ↔ AllEqual ws)

theorem allEqual_snoc (ws : List Nat) (w l : Nat) (hl : ws.getLast? = some l) :
    AllEqual (ws ++ [w]) ↔ (AllEqual ws ∧ w = l) := by
  have hlm : l ∈ ws := List.mem_of_getLast? hl
  constructor
  · intro h
    refine ⟨fun a ha b hb => h a (List.mem_append_left _ ha) b (List.mem_append_left _ hb), ?_⟩
    exact h w (by simp) l (List.mem_append_left _ hlm)
  · rintro ⟨h, rfl⟩ a ha b hb
    have hmem : ∀ x, x ∈ ws ++ [w] → x ∈ ws := by
      intro x hx
      rcases List.mem_append.mp hx with h1 | h1
      · exact h1
      · rw [List.mem_singleton.mp h1]; exact hlm
    exact h a (hmem a ha) b (hmem b hb)

theorem built_add {ws : List Nat} {rw : RW} (ih : Built ws rw) (w : Nat) :
    Built (ws ++ [w]) (rw.add w) := by
  cases hl : ws.getLast? with
  | none =>
    obtain rfl : ws = [] := List.getLast?_eq_none_iff.mp hl
    have hi : rw.items.getLast? = none := ih.last
    refine { len := by simp [RW.add, hi], item := fun i hi' => ?_, last := by simp [RW.add, hi], equalWeights_iff := fun _ => ?_ }
    · obtain rfl : i = 0 := by simpa using hi'
      simp [RW.add, hi, prefixSum]
    · simp [RW.add, hi, AllEqual]
  | some l =>
    have hlast := ih.last
    rw [hl] at hlast
    simp only [Option.map_some] at hlast
    have hne : ws ≠ [] := by intro h; subst h; simp at hl
    refine { len := ?_, item := ?_, last := ?_, equalWeights_iff := ?_ }
    · simp [RW.add, hlast, ih.len]
    · intro i hi'
      simp only [RW.add, hlast]
      rcases Nat.lt_or_ge i ws.length with h | h
      · have e1 : (ws ++ [w]).getD i 0 = ws.getD i 0 := by
          simp [List.getElem?_append_left h]
        have e2 : prefixSum (ws ++ [w]) (i + 1) = prefixSum ws (i + 1) := by
          unfold prefixSum; rw [List.take_append_of_le_length (by omega)]
        rw [e1, e2, ← ih.item i h]
        simp [List.getElem?_append_left (by rw [ih.len]; exact h)]
      · obtain rfl : i = ws.length := by simp at hi'; omega
        have e1 : (ws ++ [w]).getD ws.length 0 = w := by
          simp
        have e2 : prefixSum (ws ++ [w]) (ws.length + 1) = ws.sum + w := by
          rw [show ws.length + 1 = (ws ++ [w]).length by simp, prefixSum_length]; simp
        rw [e1, e2]
        simp [← ih.len]
    · simp [RW.add, hlast]
    · intro _
      simp only [RW.add, hlast, Bool.and_eq_true, beq_iff_eq]
      rw [allEqual_snoc ws w l hl, ih.equalWeights_iff hne]

theorem ofWeights_built (ws : List Nat) : Built ws (RW.ofWeights ws) := by
  have : ∀ (ws ws₀ : List Nat) (rw : RW), Built ws₀ rw → Built (ws₀ ++ ws) (ws.foldl RW.add rw) := by
    intro ws
    induction ws with
    | nil => intro ws₀ rw h; simpa using h
    | cons w ws ih => intro ws₀ rw h; simpa using ih _ _ (built_add h w)
  simpa [RW.ofWeights] using this ws [] {}
    { len := rfl, item := fun i hi => by simp at hi, last := rfl, equalWeights_iff := fun h => absurd rfl h }

/-- the predicate handed to `sort.Search` -/
def searchPred (rw : RW) (r : Nat) : Nat → Bool :=
  fun i => decide ((rw.items.getD i ⟨0, 0⟩).accumulatedWeight > r)

theorem searchPred_eq (ws : List Nat) (r i : Nat) (hi : i < ws.length) :
    searchPred (RW.ofWeights ws) r i = decide (prefixSum ws (i + 1) > r) := by
  unfold searchPred; rw [(ofWeights_built ws).item i hi]

theorem search_slice (ws : List Nat) (r i : Nat) (hi : i < ws.length)
    (hlo : prefixSum ws i ≤ r) (hhi : r < prefixSum ws (i + 1)) :
    search ws.length (searchPred (RW.ofWeights ws) r) = i := by
  refine search_eq ⟨by omega, fun k hk => ?_, fun k hk hkn => ?_⟩
  · have := prefixSum_mono ws (k + 1) i (by omega)
    rw [searchPred_eq ws r k (by omega), decide_eq_false_iff_not]
    omega
  · have := prefixSum_mono ws (i + 1) (k + 1) (by omega)
    rw [searchPred_eq ws r k hkn, decide_eq_true_eq]
    omega

theorem slice_exists (ws : List Nat) (r : Nat) (hr : r < ws.sum) :
    ∃ i, i < ws.length ∧ prefixSum ws i ≤ r ∧ r < prefixSum ws (i + 1) := by
  have : ∀ k, r < prefixSum ws k → ∃ i, i < k ∧ prefixSum ws i ≤ r ∧ r < prefixSum ws (i + 1) := by
    intro k
    induction k with
    | zero => intro h; simp [prefixSum] at h
    | succ k ih =>
      intro h
      rcases Nat.lt_or_ge r (prefixSum ws k) with h1 | h1
      · obtain ⟨i, hi, hs⟩ := ih h1
        exact ⟨i, by omega, hs⟩
      · exact ⟨k, by omega, h1, h⟩
  exact this ws.length (by rw [prefixSum_length]; exact hr)

theorem items_ne (ws : List Nat) (hne : ws ≠ []) : (RW.ofWeights ws).items.isEmpty = false := by
  have := (ofWeights_built ws).len
  cases h : (RW.ofWeights ws).items with
  | nil => rw [h] at this; simp at this; exact absurd this.symm (by simpa using hne)
  | cons a l => rfl

theorem range_ofWeights (ws : List Nat) (hne : ws ≠ []) :
    (RW.ofWeights ws).range = some (if (RW.ofWeights ws).equalWeights then ws.length else ws.sum) := by
  unfold RW.range
  rw [(ofWeights_built ws).last]
  cases hl : ws.getLast? with
  | none => exact absurd (List.getLast?_eq_none_iff.mp hl) hne
  | some l => simp only [Option.map_some, (ofWeights_built ws).len]; split <;> rfl

theorem pick_ofWeights (ws : List Nat) (hne : ws ≠ []) (r : Nat) :
    (RW.ofWeights ws).pick r =
      some (if (RW.ofWeights ws).equalWeights then r else search ws.length (searchPred (RW.ofWeights ws) r)) := by
  unfold RW.pick
  rw [items_ne ws hne, (ofWeights_built ws).len]
  simp only [Bool.false_eq_true, if_false]
  split <;> rfl

theorem range_not_allEqual (ws : List Nat) (hne : ws ≠ []) (h : ¬ AllEqual ws) :
    (RW.ofWeights ws).range = some ws.sum := by
  rw [range_ofWeights ws hne, if_neg (mt ((ofWeights_built ws).equalWeights_iff hne).mp h)]

theorem range_allEqual (ws : List Nat) (hne : ws ≠ []) (h : AllEqual ws) :
    (RW.ofWeights ws).range = some ws.length := by
  rw [range_ofWeights ws hne, if_pos (((ofWeights_built ws).equalWeights_iff hne).mpr h)]

theorem pick_not_allEqual (ws : List Nat) (hne : ws ≠ []) (h : ¬ AllEqual ws) (r : Nat) :
    (RW.ofWeights ws).pick r = some (search ws.length (searchPred (RW.ofWeights ws) r)) := by
  rw [pick_ofWeights ws hne, if_neg (mt ((ofWeights_built ws).equalWeights_iff hne).mp h)]

theorem pick_allEqual (ws : List Nat) (hne : ws ≠ []) (h : AllEqual ws) (r : Nat) :
    (RW.ofWeights ws).pick r = some r := by
  rw [pick_ofWeights ws hne, if_pos (((ofWeights_built ws).equalWeights_iff hne).mpr h)]

theorem pick_iff_slice (ws : List Nat) (hne : ws ≠ []) (h : ¬ AllEqual ws) (r i : Nat)
    (hr : r < ws.sum) (hi : i < ws.length) :
    (RW.ofWeights ws).pick r = some i ↔ (prefixSum ws i ≤ r ∧ r < prefixSum ws (i + 1)) := by
  rw [pick_not_allEqual ws hne h]
  constructor
  · intro hs
    obtain ⟨i', hi', hlo, hhi⟩ := slice_exists ws r hr
    rw [search_slice ws r i' hi' hlo hhi] at hs
    have : i' = i := Option.some.inj hs
    subst this; exact ⟨hlo, hhi⟩
  · rintro ⟨hlo, hhi⟩
    rw [search_slice ws r i hi hlo hhi]

theorem next_counts (ws : List Nat) (hne : ws ≠ []) (h : ¬ AllEqual ws) (i : Nat) (hi : i < ws.length) :
    (List.range ws.sum).countP (fun r => (RW.ofWeights ws).pick r == some i) = ws.getD i 0 := by
  have hle : prefixSum ws (i + 1) ≤ ws.sum := prefixSum_length ws ▸ prefixSum_mono ws (i + 1) ws.length hi
  rw [Basic.countP_range _ _ (prefixSum ws i) (prefixSum ws (i + 1))
    fun r hr => beq_iff_eq.trans (pick_iff_slice ws hne h r i hr hi), Nat.min_eq_left hle, prefixSum_succ ws i]
  omega

theorem next_counts_equal (ws : List Nat) (hne : ws ≠ []) (h : AllEqual ws) (i : Nat) (hi : i < ws.length) :
    (List.range ws.length).countP (fun r => (RW.ofWeights ws).pick r == some i) = 1 := by
  rw [Basic.countP_range _ _ i (i + 1) fun r _ => by
    rw [pick_allEqual ws hne h, beq_iff_eq, Option.some.injEq]; omega]
  omega

theorem sum_of_allEqual (ws : List Nat) (h : AllEqual ws) (i : Nat) (hi : i < ws.length) :
    ws.sum = ws.length * ws.getD i 0 :=
  List.sum_eq_card_nsmul ws _ fun a ha =>
    h a ha _ (by simp [hi])

theorem next_fraction (ws : List Nat) (i : Nat) (hi : i < ws.length) :
    ∃ N, (RW.ofWeights ws).range = some N ∧ 0 < N ∧
      (List.range N).countP (fun r => (RW.ofWeights ws).pick r == some i) * ws.sum = ws.getD i 0 * N := by
  have hne : ws ≠ [] := fun h => by simp [h] at hi
  by_cases h : AllEqual ws
  · refine ⟨_, range_allEqual ws hne h, by omega, ?_⟩
    rw [next_counts_equal ws hne h i hi, sum_of_allEqual ws h i hi, Nat.one_mul, Nat.mul_comm]
  · -- not all equal ⇒ some weight is non-zero
    refine ⟨_, range_not_allEqual ws hne h, Nat.pos_of_ne_zero fun hz => h fun a ha b hb => ?_, ?_⟩
    · rw [List.sum_eq_zero_iff_forall_eq_nat.mp hz a ha, List.sum_eq_zero_iff_forall_eq_nat.mp hz b hb]
    · rw [next_counts ws hne h i hi]

theorem gcdLoop_eq (fuel a b : Nat) (h : b < fuel) : gcdLoop fuel a b = Nat.gcd a b := by
  fun_induction gcdLoop fuel a b with
  | case1 => omega
  | case2 fuel a b hb ih =>
    have hlt : a % b < b := Nat.mod_lt _ (Nat.pos_of_ne_zero hb)
    rw [ih (by omega), Nat.gcd_comm a b, Nat.gcd_rec b a, Nat.gcd_comm]
  | case3 fuel a b hb =>
    obtain rfl : b = 0 := Decidable.not_not.mp hb
    exact (Nat.gcd_zero_right a).symm

theorem gcd32_eq (a b : Nat) : gcd32 a b = Nat.gcd a b := gcdLoop_eq (b + 1) a b (by omega)

theorem million_eq : million = 1000000 := rfl

theorem newDropper_eq (rpm : Nat) (h : rpm ≤ 1000000) :
    newDropper rpm = RW.ofWeights [rpm / Nat.gcd rpm 1000000, (1000000 - rpm) / Nat.gcd rpm 1000000] := by
  unfold newDropper
  simp only [gcd32_eq, million_eq]
  have : (1000000 + 4294967296 - rpm) % 4294967296 = 1000000 - rpm := by omega
  rw [this]

theorem allEqual_pair (p q : Nat) : AllEqual [p, q] ↔ p = q := by
  constructor
  · intro h; exact h p (by simp) q (by simp)
  · rintro rfl a ha b hb
    simp at ha hb
    rw [ha, hb]

theorem dropper_fraction (rpm : Nat) (h : rpm ≤ 1000000) :
    ∃ N, (newDropper rpm).range = some N ∧ 0 < N ∧
      (List.range N).countP (fun r => dropOf (newDropper rpm) r) * 1000000 = rpm * N := by
  rw [newDropper_eq rpm h]
  -- rpm = g·a and 10^6 = g·b: the weights are a and b - a
  have hg : 0 < Nat.gcd rpm 1000000 := Nat.gcd_pos_of_pos_right _ (by omega)
  obtain ⟨a, ha⟩ := Nat.gcd_dvd_left rpm 1000000
  obtain ⟨b, hb⟩ := Nat.gcd_dvd_right rpm 1000000
  generalize Nat.gcd rpm 1000000 = g at *
  have hp : rpm / g = a := by rw [ha]; exact Nat.mul_div_cancel_left a hg
  have hab : a ≤ b := Nat.le_of_mul_le_mul_left (by omega : g * a ≤ g * b) hg
  have hq : (1000000 - rpm) / g = b - a := by
    rw [show 1000000 - rpm = g * (b - a) by rw [Nat.mul_sub, ← ha, ← hb]]
    exact Nat.mul_div_cancel_left _ hg
  obtain ⟨N, hN, hpos, hc⟩ := next_fraction [a, b - a] 0 (Nat.succ_pos _)
  rw [hp, hq]
  refine ⟨N, hN, hpos, ?_⟩
  rw [show [a, b - a].sum = b by simp; omega, List.getD_cons_zero] at hc
  unfold dropOf
  generalize (List.range N).countP (fun r => (RW.ofWeights [a, b - a]).pick r == some 0) = k at hc ⊢
  calc k * 1000000 = k * b * g := by rw [hb, Nat.mul_comm g b, Nat.mul_assoc]
    _ = a * N * g := by rw [hc]
    _ = rpm * N := by rw [ha, Nat.mul_comm (a * N) g, Nat.mul_assoc]

/-- With 10^6 = den·q the rate is num·q, capped exactly when num > den. -/
theorem dropRPM_exact (num den : Nat) (hdvd : den ∣ 1000000) :
    dropRequestsPerMillion num den * den = min num den * 1000000 ∧ dropRequestsPerMillion num den ≤ 1000000 := by
  have hpos : 0 < den := Nat.pos_of_dvd_of_pos hdvd (by decide)
  obtain ⟨q, hq⟩ := hdvd
  have hx : num * 1000000 / den = num * q := by
    rw [hq, ← Nat.mul_assoc, Nat.mul_comm num den, Nat.mul_assoc, Nat.mul_div_cancel_left _ hpos]
  have hqpos : 0 < q := Nat.pos_of_ne_zero fun h => by simp [h] at hq
  unfold dropRequestsPerMillion
  simp only [million_eq, hx]
  rcases Nat.lt_or_ge den num with h | h
  · rw [if_pos (hq ▸ Nat.mul_lt_mul_of_pos_right h hqpos), Nat.min_eq_right (Nat.le_of_lt h)]
    exact ⟨Nat.mul_comm _ _, Nat.le_refl _⟩
  · have hle : num * q ≤ 1000000 := hq ▸ Nat.mul_le_mul_right q h
    rw [if_neg (Nat.not_lt.mpr hle), Nat.min_eq_left h]
    exact ⟨by rw [hq, Nat.mul_assoc, Nat.mul_comm q den], hle⟩

/-- the denominators an EDS drop overload can carry -/
theorem eds_denominator_dvd (den : Nat) (h : den = 100 ∨ den = 10000 ∨ den = 1000000) : den ∣ 1000000 := by
  rcases h with rfl | rfl | rfl <;> decide

theorem firstDrop_spec : ∀ (ds : List RW) (rs : List Nat) (base k : Nat), ds.length ≤ rs.length →
    (firstDrop ds rs base = some k ↔
      ∃ j, k = base + j ∧ j < ds.length ∧ dropOf (ds.getD j {}) (rs.getD j 0) = true ∧
        ∀ j', j' < j → dropOf (ds.getD j' {}) (rs.getD j' 0) = false)
  | [], _, _, _, _ => by simp [firstDrop]
  | _ :: _, [], _, _, hlen => by simp at hlen
  | d :: ds, r :: rs, base, k, hlen => by
    simp only [firstDrop]
    cases hd : dropOf d r with
    | true =>
      simp only [if_true, Option.some.injEq]
      constructor
      · intro h; exact ⟨0, by omega, Nat.succ_pos _, hd, by intro j' hj'; omega⟩
      · rintro ⟨j, hk, _, _, hbefore⟩
        cases j with
        | zero => omega
        | succ j => exact absurd (hbefore 0 (by omega)) (by simp [hd])
    | false =>
      simp only [Bool.false_eq_true, if_false]
      rw [firstDrop_spec ds rs (base + 1) k (Nat.le_of_succ_le_succ hlen)]
      constructor
      · rintro ⟨j, hk, hj, hdj, hbefore⟩
        refine ⟨j + 1, by omega, Nat.succ_lt_succ hj, hdj, fun j' hj' => ?_⟩
        cases j' with
        | zero => exact hd
        | succ j' => exact hbefore j' (by omega)
      · rintro ⟨j, hk, hj, hdj, hbefore⟩
        cases j with
        | zero => exact absurd hdj (by simp [hd])
        | succ j =>
          exact ⟨j, by omega, Nat.lt_of_succ_lt_succ hj, hdj, fun j' hj' => hbefore (j' + 1) (by omega)⟩

theorem pick_dropped_iff (ready : Bool) (drops : List RW) (rs : List Nat) (counter : Option Nat)
    (childOK : Bool) (count k : Nat) :
    (pick ready drops rs counter childOK count).1 = .dropped k ↔
      ready = true ∧ firstDrop drops rs 0 = some k := by
  unfold pick
  split
  · rename_i k' hk'
    cases ready
    · cases hk'
    · simp only [if_true] at hk'
      simp [hk']
  · rename_i hnone
    have : ¬ (ready = true ∧ firstDrop drops rs 0 = some k) := by
      rintro ⟨rfl, h⟩
      rw [if_pos rfl, h] at hnone; cases hnone
    simp only [this, iff_false]
    cases counter with
    | none => cases childOK <;> simp
    | some max =>
      simp only
      cases startRequest count max with
      | none => simp
      | some c => cases childOK <;> simp

def CBOp.MaxIs (max : Nat) (op : CBOp) : Prop :=
  ∀ ready drops rs m childOK, op = CBOp.pick ready drops rs m childOK → m = max

theorem endRequest_succ (c : Nat) (h : c + 1 < 4294967296) : endRequest (c + 1) = c := by
  unfold endRequest; omega

theorem pick_counter (ready : Bool) (drops : List RW) (rs : List Nat) (max : Nat) (childOK : Bool)
    (count : Nat) (hb : count + 1 < 4294967296) :
    ((pick ready drops rs (some max) childOK count).1 = .ok ∧
        (pick ready drops rs (some max) childOK count).2 = count + 1 ∧ count < max) ∨
    ((pick ready drops rs (some max) childOK count).1 ≠ .ok ∧
        (pick ready drops rs (some max) childOK count).2 = count) := by
  unfold pick
  cases hfd : (if ready = true then firstDrop drops rs 0 else none) with
  | some k => right; simp
  | none =>
    simp only [startRequest]
    by_cases hm : count ≥ max
    · right; simp [hm]
    · cases childOK
      · right; simp [hm, endRequest_succ count hb]
      · left; simp [hm]; omega

theorem cbStep_spec (s : CB) (op : CBOp) (h : s.count = s.unfinished) (hb : s.count + 1 < 4294967296) :
    (cbStep s op).count = (cbStep s op).unfinished ∧ (cbStep s op).count ≤ s.count + 1 ∧
    ∀ max, s.count ≤ max → op.MaxIs max → (cbStep s op).count ≤ max := by
  cases op with
  | pick ready drops rs m childOK =>
    simp only [cbStep]
    rcases pick_counter ready drops rs m childOK s.count hb with ⟨hok, hcount, hlt⟩ | ⟨hok, hcount⟩
    · rw [hcount, if_pos hok]
      refine ⟨by omega, Nat.le_refl _, fun max _ hm => ?_⟩
      rw [← hm ready drops rs m childOK rfl]; omega
    · rw [hcount, if_neg hok]
      exact ⟨h, by omega, fun max hle _ => hle⟩
  | done =>
    simp only [cbStep]
    split
    · exact ⟨h, by omega, fun max hle _ => hle⟩
    · obtain ⟨c, hc⟩ : ∃ c, s.count = c + 1 := ⟨s.count - 1, by omega⟩
      simp only [hc, endRequest_succ c (by omega)]
      exact ⟨by omega, by omega, fun max hle _ => by omega⟩

theorem cbRun_spec : ∀ (ops : List CBOp) (s : CB), s.count = s.unfinished →
    s.count + ops.length < 4294967295 →
    (cbRun s ops).count = (cbRun s ops).unfinished ∧
    ∀ max, s.count ≤ max → (∀ op ∈ ops, op.MaxIs max) → (cbRun s ops).count ≤ max
  | [], s, h, _ => ⟨h, fun _ hle _ => hle⟩
  | op :: ops, s, h, hb => by
    simp only [List.length_cons] at hb
    obtain ⟨heq, hstep, hle1⟩ := cbStep_spec s op h (by omega)
    obtain ⟨heq', hle'⟩ := cbRun_spec ops (cbStep s op) heq (by omega)
    exact ⟨heq', fun max hle hm => hle' max (hle1 max hle (hm op List.mem_cons_self))
      (fun op' hop' => hm op' (List.mem_cons_of_mem _ hop'))⟩

/-- every dropper in use is the one its category's current rate asks for -/
def DropInv (s : DropState) : Prop := s.drops = s.cats.map fun c => newDropper c.rpm

theorem handleDrops_inv (s : DropState) (h : DropInv s) (ovs : List (String × Nat × Nat)) :
    DropInv (handleDrops s ovs) ∧ (handleDrops s ovs).drops = droppersOf ovs := by
  unfold handleDrops DropInv
  simp only
  split
  · exact ⟨rfl, by simp [droppersOf, List.map_map, Function.comp_def]⟩
  · rename_i hc
    refine ⟨h, ?_⟩
    rw [h, Decidable.not_not.mp hc]
    simp [droppersOf, List.map_map, Function.comp_def]

end GrpcProofs.Lemmas.WRRRandom
