/-
Lemmas about GrpcModel/Model/Status.lean: the trailer frame `writeStatus` builds is a fixed prefix followed by the fields
of user pairs (Lemmas/MdPairs.lean), and `clientTrailers_writeStatus` says what the client's field loop `scanField`
makes of it, for every status and every trailer. The results of C10 are cases of `endToEnd_eq`.
-/
import GrpcModel.Model.Status
import GrpcProofs.Lemmas.Timeout
import GrpcProofs.Lemmas.Base64
import GrpcProofs.Lemmas.StatusMsg
import GrpcProofs.Lemmas.MdPairs
import GrpcProofs.Lemmas.HeaderNames
namespace GrpcProofs.Lemmas.Status
open GrpcModel.Status GrpcModel.Headers GrpcModel
open GrpcModel.Base64 (Bytes)
open GrpcProofs.Lemmas.MdWire

theorem digitsRev_eq (fuel n : Nat) : digitsRev fuel n = Timeout.digitsRev fuel n := by
  induction fuel generalizing n with
  | zero => rfl
  | succ f ih => unfold digitsRev Timeout.digitsRev; rw [ih]

theorem itoa_eq (n : Nat) : itoa n = Timeout.fmtNat n := by
  unfold itoa Timeout.fmtNat; rw [digitsRev_eq]

theorem isDigit_eq : isDigit = Timeout.isDigit := rfl

theorem itoa_spec (n : Nat) : digitsVal (itoa n) = n ∧ (itoa n).all isDigit = true ∧ itoa n ≠ [] := by
  rw [itoa_eq]; exact Lemmas.Timeout.fmtNat_spec n

theorem parseInt32_digits (x : UInt8) (rest : Bytes) (h1 : (x :: rest).all isDigit = true) :
    parseInt32 (x :: rest) = if digitsVal (x :: rest) > 2147483647 then .rangeErr else .ok (digitsVal (x :: rest)) := by
  -- a digit is no sign, so the whole string is the magnitude
  have hx : 48 ≤ x.toNat := by
    simp only [List.all_cons, isDigit, Bool.and_eq_true, decide_eq_true_eq] at h1
    exact UInt8.le_iff_toNat_le.mp h1.1.1
  have plus : (x == 43) = false := by rw [beq_eq_false_iff_ne]; intro e; subst e; simp at hx
  have minus : (x == 45) = false := by rw [beq_eq_false_iff_ne]; intro e; subst e; simp at hx
  unfold parseInt32
  simp only [plus, minus, Bool.or_self, Bool.false_eq_true, if_false, h1, List.isEmpty_cons, Bool.not_true]

theorem parseInt32_itoa (c : Nat) : parseInt32 (itoa c) = if c < 2147483648 then .ok c else .rangeErr := by
  have ⟨h1, h2, h3⟩ := itoa_spec c
  generalize itoa c = s at h1 h2 h3
  match s with
  | [] => exact absurd rfl h3
  | x :: rest =>
    rw [parseInt32_digits x rest h2, h1]
    by_cases h : c < 2147483648
    · rw [if_neg (by omega), if_pos h]
    · rw [if_pos (by omega), if_neg h]

theorem codeOfInt_nat (c : Nat) (h : c < 4294967296) : codeOfInt (c : Int) = c := by
  unfold codeOfInt; omega

theorem isReservedHeader_ascii {s : String} (h : s ∈ Generated.mdwReservedHeaders) :
    isReservedHeader (asciiBytes s) = true := by
  simp only [isReservedHeader, Bool.or_eq_true, List.contains_iff_mem]
  exact Or.inr (List.mem_map_of_mem h)

theorem reserved_contentType : isReservedHeader hContentType = true := isReservedHeader_ascii (by simp [Generated.mdwReservedHeaders])
theorem reserved_grpcEncoding : isReservedHeader hGrpcEncoding = true := isReservedHeader_ascii (by simp [Generated.mdwReservedHeaders])
theorem reserved_status : isReservedHeader hStatus = true := isReservedHeader_ascii (by simp [Generated.mdwReservedHeaders])
theorem reserved_message : isReservedHeader hMessage = true := isReservedHeader_ascii (by simp [Generated.mdwReservedHeaders])

theorem n_http_st' : hHttpStatus ≠ hStatus :=
  have ⟨_, _, ne_status, _⟩ := client_names.httpStatus_ne
  ne_status
theorem n_ct_st : hContentType ≠ hStatus := client_names.status_ne.1.symm

theorem ne_of_reserved {k n : Bytes} (hk : isReservedHeader k = false) (hn : isReservedHeader n = true) : k ≠ n :=
  fun e => by rw [e, hn] at hk; cases hk

theorem decode_encode_md (k v : Bytes) : decodeMetadataHeader k (encodeMetadataHeader k v) = some v := by
  unfold decodeMetadataHeader encodeMetadataHeader
  split
  · exact Lemmas.Base64.decodeBinHeader_encodeBinHeader v
  · rfl

theorem validContentType_contentTypeOf (sub : Bytes) : validContentType (contentTypeOf sub) = true := by
  have plus : asciiBytes "application/grpc+" = asciiBytes "application/grpc" ++ [43] := by decide
  unfold validContentType contentTypeOf
  split
  · simp
  · rw [plus, List.append_assoc]; simp

section scanField
variable (sc : Scan) (he : sc.early = none) (v : Bytes)
include he

theorem scanField_contentType : scanField sc (hContentType, v) =
    if validContentType v then { sc with mdata := mdAppend sc.mdata hContentType v, isGRPC := true } else sc := by
  simp only [scanField, he, Option.isSome_none, Bool.false_eq_true, if_false, if_true]

theorem scanField_status_ok {c : Int} (h : parseInt32 v = .ok c) :
    scanField sc (hStatus, v) = { sc with code := codeOfInt c } := by
  simp only [scanField, he, Option.isSome_none, Bool.false_eq_true, if_false, client_names.status_ne, if_true, h]

theorem scanField_status_range (h : parseInt32 v = .rangeErr) :
    scanField sc (hStatus, v) = { sc with early := some (.malformedStatus true v) } := by
  simp only [scanField, he, Option.isSome_none, Bool.false_eq_true, if_false, client_names.status_ne, if_true, h]

theorem scanField_message : scanField sc (hMessage, v) = { sc with grpcMessage := StatusMsg.decode v } := by
  simp only [scanField, he, Option.isSome_none, Bool.false_eq_true, if_false, client_names.message_ne, if_true]

theorem scanField_httpStatus : scanField sc (hHttpStatus, v) = sc := by
  simp only [scanField, he, Option.isSome_none, Bool.false_eq_true, if_false, client_names.httpStatus_ne, if_true]

theorem scanField_md (k : Bytes) (hk : isReservedHeader k = false) :
    scanField sc (k, encodeMetadataHeader k v) = { sc with mdata := mdAppend sc.mdata k v } := by
  simp only [scanField, he, Option.isSome_none, Bool.false_eq_true, if_false, ne_of_reserved hk reserved_contentType,
    ne_of_reserved hk reserved_grpcEncoding, ne_of_reserved hk reserved_status, ne_of_reserved hk reserved_message, ne_of_reserved hk client_names.httpStatus_reserved, hk,
    Bool.false_and, decode_encode_md]

end scanField

theorem not_skipped {n : Bytes} (h : ¬ (isReservedHeader n && !isWhitelistedHeader n) = true) :
    isReservedHeader n = false ∨ isWhitelistedHeader n = true ∨ n = hContentType := by
  cases hr : isReservedHeader n
  · exact Or.inl rfl
  · cases hw : isWhitelistedHeader n
    · rw [hr, hw] at h; exact absurd rfl h
    · exact Or.inr (Or.inl rfl)

theorem scanField_mdata (sc : Scan) (hf : Field) :
    (scanField sc hf).mdata = sc.mdata ∨ ∃ v, (scanField sc hf).mdata = mdAppend sc.mdata hf.1 v ∧
      (isReservedHeader hf.1 = false ∨ isWhitelistedHeader hf.1 = true ∨ hf.1 = hContentType) := by
  obtain ⟨name, value⟩ := hf
  unfold scanField
  by_cases c0 : sc.early.isSome = true
  · rw [if_pos c0]; exact Or.inl rfl
  rw [if_neg c0]; dsimp only
  by_cases c1 : name = hContentType
  · rw [if_pos c1]
    cases validContentType value
    · exact Or.inl rfl
    · exact Or.inr ⟨value, rfl, Or.inr (Or.inr c1)⟩
  rw [if_neg c1]
  by_cases c2 : name = hGrpcEncoding
  · rw [if_pos c2]; exact Or.inl rfl
  rw [if_neg c2]
  by_cases c3 : name = hStatus
  · rw [if_pos c3]; cases parseInt32 value <;> exact Or.inl rfl
  rw [if_neg c3]
  by_cases c4 : name = hMessage
  · rw [if_pos c4]; exact Or.inl rfl
  rw [if_neg c4]
  by_cases c5 : name = hHttpStatus
  · rw [if_pos c5]; exact Or.inl rfl
  rw [if_neg c5]
  by_cases c6 : (isReservedHeader name && !isWhitelistedHeader name) = true
  · rw [if_pos c6]; exact Or.inl rfl
  rw [if_neg c6]
  cases decodeMetadataHeader name value with
  | none => exact Or.inl rfl
  | some v => exact Or.inr ⟨v, rfl, not_skipped c6⟩

theorem mdGet_mdAppend (md : MD) (k v key : Bytes) :
    mdGet (mdAppend md k v) key = if k = key then mdGet md key ++ [v] else mdGet md key := by
  fun_induction mdAppend md k v with
  | case1 => simp only [mdGet]; split <;> simp_all
  | case2 vs rest => simp only [mdGet]; split <;> rfl  -- the key is there: its values grow
  | case3 k' vs rest h1 ih =>  -- another key in front
    simp only [mdGet, ih]
    by_cases h2 : k' = key
    · subst h2; simp [Ne.symm h1]
    · simp only [h2, if_false]

/-- `MdWire.srv_scan_pairs` is the same for the server's loop. -/
theorem scan_pairs (ps : List (Bytes × Bytes)) (hk : ∀ p ∈ ps, isReservedHeader p.1 = false) (sc : Scan)
    (he : sc.early = none) :
    ∃ md', (ps.map encPair).foldl scanField sc = { sc with mdata := md' } ∧
      ∀ key, mdGet md' key = mdGet sc.mdata key ++ valsFor ps key := by
  induction ps generalizing sc with
  | nil => exact ⟨sc.mdata, rfl, fun _ => (List.append_nil _).symm⟩
  | cons p t ih =>
    obtain ⟨md', e, g⟩ := ih (fun q hq => hk q (List.mem_cons_of_mem p hq)) { sc with mdata := mdAppend sc.mdata p.1 p.2 } he
    refine ⟨md', ?_, fun key => ?_⟩
    · rw [List.map_cons, List.foldl_cons, encPair, scanField_md sc he p.2 p.1 (hk p (List.mem_cons_self ..)), e]
    · rw [g, mdGet_mdAppend, valsFor_cons]
      by_cases e : p.1 = key <;> simp [e]

/-- what a trailers-only response puts in front of grpc-status -/
def preFields (hs : Bool) (sub : Bytes) : List Field :=
  if hs then [] else [(hHttpStatus, asciiBytes "200"), (hContentType, contentTypeOf sub)]

theorem scan_preFields (hs : Bool) (sub : Bytes) :
    (preFields hs sub).foldl scanField { isGRPC := hs } =
      { isGRPC := true, mdata := if hs then [] else [(hContentType, [contentTypeOf sub])] } := by
  cases hs
  · simp only [preFields, Bool.false_eq_true, if_false, List.foldl_cons, List.foldl_nil]
    rw [scanField_httpStatus _ rfl, scanField_contentType _ rfl, if_pos (validContentType_contentTypeOf sub)]
    rfl
  · rfl

theorem mdDelete_keys (tr : MD) (k : Bytes) : ∀ kv ∈ mdDelete tr k, kv.1 ≠ k := by
  intro kv h
  simp only [mdDelete, List.mem_filter, decide_eq_true_eq] at h
  exact h.2

theorem fieldsFromMD_names (tr : MD) : ∀ f ∈ fieldsFromMD tr, isReservedHeader f.1 = false := by
  rw [fieldsFromMD_eq]
  intro f hf
  obtain ⟨p, hp, rfl⟩ := List.mem_map.mp hf
  exact sentPairs_nonreserved tr [] p hp

theorem marshal_of_valid (st : Status) (hm : StatusMsg.validUtf8 st.msg = true)
    (hd : ∀ a ∈ st.details, StatusMsg.validUtf8 a.typeUrl = true) : marshal st = some (marshalBody st) := by
  rw [marshal, hm, List.all_eq_true.mpr hd]; rfl

/-- what `writeStatus` sends after grpc-message: grpc-status-details-bin when there are details and
    they can be marshalled, then the trailer metadata -/
def detailPairs (st : Status) (tr : MD) : List (Bytes × Bytes) :=
  if st.details = [] then sentPairs tr []
  else (marshal st).toList.map (fun b => (hDetailsBin, b)) ++ sentPairs (mdDelete tr hDetailsBin) []

theorem detailPairs_nonreserved (st : Status) (tr : MD) : ∀ p ∈ detailPairs st tr, isReservedHeader p.1 = false := by
  intro p hp
  rw [detailPairs] at hp
  by_cases hd : st.details = []
  · rw [if_pos hd] at hp; exact sentPairs_nonreserved _ _ p hp
  · rw [if_neg hd, List.mem_append, List.mem_map] at hp
    obtain ⟨b, _, e⟩ | h := hp
    · -- by `rw`: `exact` would compare `(hDetailsBin, b).1` with `hDetailsBin` by unfolding the name's string
      rw [← e, client_names.detailsBin_not_reserved]
    · exact sentPairs_nonreserved _ _ p h

theorem detailPairs_detailsBin (st : Status) (tr : MD) :
    valsFor (detailPairs st tr) hDetailsBin = if st.details = [] then valsAll tr hDetailsBin else (marshal st).toList := by
  have sent := fun md => valsFor_sentPairs_nil md client_names.detailsBin_not_reserved
  unfold detailPairs
  split
  · exact sent tr
  · cases marshal st <;> simp [valsFor_cons, sent, valsAll_of_absent (mdDelete_keys tr hDetailsBin)]

theorem writeStatus_eq (hs : Bool) (sub : Bytes) (st : Status) (tr : MD) :
    writeStatus hs sub st tr =
      (preFields hs sub ++ [(hStatus, itoa st.code), (hMessage, StatusMsg.encode st.msg)]) ++ (detailPairs st tr).map encPair := by
  have efield (b : Bytes) : Base64.encodeBinHeader b = encodeMetadataHeader hDetailsBin b := by
    rw [encodeMetadataHeader, if_pos client_names.detailsBin_bin]
  unfold writeStatus preFields detailPairs appendHeaderFieldsFromMD
  simp only [fieldsFromMD_eq, List.isEmpty_iff]
  by_cases hd : st.details = []
  · simp only [if_pos hd]
  · simp only [if_neg hd]
    cases marshal st <;> simp [encPair, efield]

/-- F25 in general: when the proto cannot be marshalled (message or a type_url is not valid
    UTF-8) the frame is the one of the same status without details. -/
theorem writeStatus_marshal_fails (hs : Bool) (sub : Bytes) (st : Status) (tr : MD) (hd : st.details ≠ [])
    (hm : marshal st = none) :
    writeStatus hs sub st tr = writeStatus hs sub ⟨st.code, st.msg, []⟩ (mdDelete tr hDetailsBin) := by
  rw [writeStatus_eq, writeStatus_eq]
  simp [detailPairs, hd, hm]

theorem foldl_scanField_early (X : List Field) (sc : Scan) (h : sc.early.isSome = true) : X.foldl scanField sc = sc := by
  induction X with
  | nil => rfl
  | cons f t ih => rw [List.foldl_cons, scanField, if_pos h, ih]

/-- What the client makes of the trailer frame of a status whose code `ParseInt` accepts; `md'` is its `Trailer()`:
    the values sent, key by key, behind the content-type of a trailers-only response. -/
theorem clientTrailers_writeStatus (hs : Bool) (sub : Bytes) (st : Status) (tr : MD) (hc : st.code < 2147483648) :
    ∃ md', clientTrailers (!hs) (writeStatus hs sub st tr) =
        (newWithProto st.code (StatusMsg.sanitize st.msg) (mdGet md' hDetailsBin), md') ∧
      ∀ key, mdGet md' key =
        mdGet (if hs then [] else [(hContentType, [contentTypeOf sub])]) key ++ valsFor (detailPairs st tr) key := by
  obtain ⟨md', e, g⟩ := scan_pairs _ (detailPairs_nonreserved st tr)
    { isGRPC := true, mdata := if hs then [] else [(hContentType, [contentTypeOf sub])],
      grpcMessage := StatusMsg.sanitize st.msg, code := st.code } rfl
  refine ⟨md', ?_, g⟩
  -- the frame in order: the fields of a trailers-only response, grpc-status, grpc-message, then the metadata fields
  have hscan : (writeStatus hs sub st tr).foldl scanField { isGRPC := hs } =
      { isGRPC := true, mdata := md', grpcMessage := StatusMsg.sanitize st.msg, code := st.code } := by
    rw [writeStatus_eq, List.foldl_append, List.foldl_append, scan_preFields, List.foldl_cons, List.foldl_cons,
      List.foldl_nil, scanField_status_ok _ rfl _ ((parseInt32_itoa _).trans (if_pos hc)), scanField_message _ rfl,
      codeOfInt_nat _ (by omega), Lemmas.StatusMsg.decode_encode]
    exact e
  rw [clientTrailers, Bool.not_not, hscan]; rfl

/-- What the client ends with, for every status and every trailer: below 2^31 a status made of the code and the
    sanitised message sent and of the `grpc-status-details-bin` values that arrive (the handler's own when the status
    has no details, else the marshalled status if there is one); from 2^31 on the range error of `ParseInt` (F11). -/
theorem endToEnd_eq (hs : Bool) (sub : Bytes) (st : Status) (tr : MD) :
    endToEnd hs sub (.status st) tr =
      if st.code < 2147483648 then
        newWithProto st.code (StatusMsg.sanitize st.msg)
          (if st.details = [] then valsAll tr hDetailsBin else (marshal st).toList)
      else .malformedStatus true (itoa st.code) := by
  show (clientTrailers (!hs) (writeStatus hs sub st tr)).1 = _
  by_cases hc : st.code < 2147483648
  · obtain ⟨md', e, g⟩ := clientTrailers_writeStatus hs sub st tr hc
    -- the content-type entry of a trailers-only response holds nothing under grpc-status-details-bin
    have ct : mdGet (if hs then [] else [(hContentType, [contentTypeOf sub])]) hDetailsBin = [] := by
      cases hs
      · exact if_neg (ne_of_reserved client_names.detailsBin_not_reserved reserved_contentType).symm
      · rfl
    rw [if_pos hc, e, g, detailPairs_detailsBin, ct, List.nil_append]
  · have hscan : (writeStatus hs sub st tr).foldl scanField { isGRPC := hs } =
        { isGRPC := true, mdata := if hs then [] else [(hContentType, [contentTypeOf sub])],
          early := some (.malformedStatus true (itoa st.code)) } := by
      rw [writeStatus_eq, List.append_assoc, List.foldl_append, scan_preFields, List.cons_append, List.foldl_cons,
        scanField_status_range _ rfl _ ((parseInt32_itoa _).trans (if_neg hc)), foldl_scanField_early _ _ rfl]
    rw [if_neg hc, clientTrailers, Bool.not_not, hscan]

theorem endToEnd_roundtrip (hs : Bool) (sub : Bytes) (st : Status) (tr : MD)
    (hc : st.code < 2147483648)
    (hv : st.details ≠ [] → StatusMsg.validUtf8 st.msg = true ∧ ∀ a ∈ st.details, StatusMsg.validUtf8 a.typeUrl = true)
    (hp : st.details ≠ [] → unmarshal (marshalBody st) = some st)
    (hu : st.details = [] → ∀ kv ∈ tr, kv.1 ≠ hDetailsBin) :
    endToEnd hs sub (.status st) tr = .status ⟨st.code, StatusMsg.sanitize st.msg, st.details⟩ := by
  rw [endToEnd_eq, if_pos hc]
  by_cases hd : st.details = []
  · rw [if_pos hd, valsAll_of_absent (hu hd), hd]; rfl
  · rw [if_neg hd, marshal_of_valid st (hv hd).1 (hv hd).2, Lemmas.StatusMsg.sanitize_valid _ (hv hd).1]
    simp only [Option.toList_some, newWithProto, hp hd, if_true]

/-- Without details nothing is marshalled, so any message bytes will do. -/
theorem endToEnd_no_details (hs : Bool) (sub : Bytes) (c : Nat) (m : Bytes) (tr : MD) (hc : c < 2147483648)
    (hu : ∀ kv ∈ tr, kv.1 ≠ hDetailsBin) :
    endToEnd hs sub (.status ⟨c, m, []⟩) tr = .status ⟨c, StatusMsg.sanitize m, []⟩ :=
  endToEnd_roundtrip hs sub ⟨c, m, []⟩ tr hc (fun h => absurd rfl h) (fun h => absurd rfl h) fun _ => hu

/-- Whether a HEADERS frame went before makes no difference to the status the client sees. -/
theorem paths_agree (sub : Bytes) (st : Status) (tr : MD) :
    endToEnd true sub (.status st) tr = endToEnd false sub (.status st) tr := by
  rw [endToEnd_eq, endToEnd_eq]

/-- The result is a status of code `c` (taken from the proto only when its code is `c`), or a
    mismatch, which is INTERNAL. -/
theorem newWithProto_code (c : Nat) (m : Bytes) (l : List Bytes) (hc : c ≠ 0) : (newWithProto c m l).code ≠ 0 := by
  unfold newWithProto
  rcases l with _ | ⟨b, _ | _⟩
  · exact hc
  · dsimp only
    cases unmarshal b with
    | none => exact hc
    | some st =>
      dsimp only
      by_cases e : st.code = c
      · rw [if_pos e]; exact fun h => hc (e ▸ h)
      · rw [if_neg e]; exact fun h => nomatch h
  · exact hc

/-- A non-OK status never becomes a nil error — for every status, message, detail list, trailer
    metadata (including a handler-supplied grpc-status-details-bin), on both response shapes. -/
theorem nonok_never_nil (hs : Bool) (sub : Bytes) (st : Status) (tr : MD) (hc : st.code ≠ 0) :
    (endToEnd hs sub (.status st) tr).isNil = false := by
  rw [endToEnd_eq]
  split
  · simpa [ClientEnd.isNil] using newWithProto_code st.code _ _ hc
  · rfl

end GrpcProofs.Lemmas.Status
