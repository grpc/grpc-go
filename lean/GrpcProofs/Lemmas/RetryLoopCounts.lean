/-
Counting invariants of the retry loop of GrpcModel.RetryLoop (C18): the fuel `withRetry` needs, the buffer
limit, "committed stays committed", "delivery commits", and the bound on the number of attempts.
-/
import GrpcProofs.Lemmas.RetryLoopMoves
namespace GrpcProofs.Lemmas.RetryLoop
open GrpcModel.Retry GrpcModel.RetryLoop GrpcProofs.Lemmas.Retry

theorem retryBudget_congr (st st' : St) (h1 : st'.cs = st.cs) (h2 : st'.pol = st.pol) : st'.retryBudget = st.retryBudget := by
  simp [St.retryBudget, h1, h2]

theorem budget_congr (cs cs' : CS) (pol : Option Policy) (h1 : cs'.firstAttempt = cs.firstAttempt)
    (h2 : cs'.numRetries = cs.numRetries) : budget cs' pol = budget cs pol := by
  unfold budget; rw [h1, h2]

theorem budget_decreases (dis : Bool) (pol : Option Policy) (cs : CS) (a : Attempt) (r : ℚ)
    (ha : a.hasStream = true ∨ a.allowTransparent = false)
    (d : Decision) (hd : (shouldRetry dis pol cs a r).2 = d) (hn : d ≠ .noRetry) (he : d ≠ .exhausted) :
    budget (afterDecision (shouldRetry dis pol cs a r).1 d) pol + 1 ≤ budget cs pol := by
  unfold budget
  generalize hcs' : afterDecision (shouldRetry dis pol cs a r).1 d = cs'
  have hf := sr_keeps dis pol cs a r
  cases d with
  | noRetry => exact absurd rfl hn
  | exhausted => exact absurd rfl he
  | transparent =>
    obtain ⟨_, _, _, hc⟩ := sr_transparent_conditions dis pol cs a r hd
    rcases hc with ⟨hns, hat⟩ | ⟨hfa, _, _⟩
    · rcases ha with ha | ha
      · rw [ha] at hns; cases hns
      · rw [ha] at hat; cases hat
    · have h1 : cs'.firstAttempt = false := by rw [← hcs']; rfl
      have h2 : cs'.numRetries = cs.numRetries := by rw [← hcs']; exact hf.numRetries
      simp only [h1, h2, hfa, Bool.false_eq_true, if_false, if_true]
      omega
  | backoff dur fp =>
    obtain ⟨pb, rp, ht⟩ := sr_backoff_conditions dis pol cs a r dur fp hd
    have hp := ht.charged.pol
    have hlt := ht.room
    have h1 : cs'.firstAttempt = false := by rw [← hcs']; rfl
    have h2 : cs'.numRetries = cs.numRetries + 1 := by
      rw [← hcs']
      show (shouldRetry dis pol cs a r).1.numRetries + 1 = _
      rw [hf.numRetries]
    subst hp
    simp only [h1, h2, Bool.false_eq_true, if_false]
    split_ifs <;> omega

theorem rawToRes_ne_outOfFuel (raw : Raw) : rawToRes raw ≠ .outOfFuel := by cases raw <;> simp [rawToRes]

theorem Failed.budget {op : COp} {st st1 : St} {raw : Raw} {ev : List Ev} {st3 : St} {d : Decision}
    (hf : Failed op st st1 raw ev st3 d) (hn : d ≠ .noRetry) (he : d ≠ .exhausted) :
    budget (afterDecision st3.cs d) st3.pol + 1 ≤ st.retryBudget := by
  have h1 := applyOp_same hf.app
  have hs := finishAttempt_same st1 raw.code
  rw [← retryBudget_congr st st1 h1.cs h1.pol]
  rcases decideRetry_cases hf.dec with ⟨_, _, rfl⟩ | ⟨a, _, rfl, rfl⟩
  · exact absurd rfl hn
  · rw [hs.dis, hs.pol, hs.cs] at hn he ⊢
    exact budget_decreases st1.disableRetry st1.pol st1.cs (attemptView a) 0 (Or.inl rfl) _ rfl hn he

theorem FailRuns.budget_le {fuel : Nat} {st s : St} {d d' : Decision} {res : Option Res} (h : FailRuns fuel st d s res d')
    (hb : budget (afterDecision st.cs d) st.pol ≤ fuel) :
    res ≠ some .outOfFuel ∧ (res = none → budget (afterDecision s.cs d') s.pol ≤ budget (afterDecision st.cs d) st.pol) := by
  induction h with
  | scriptEnd | created => exact ⟨nofun, fun _ => le_refl _⟩
  | refused | exhausted => exact ⟨nofun, nofun⟩
  | noFuel st d c _ _ hn he => -- a decided retry has positive budget, and the fuel is 0
    have := budget_decreases st.disableRetry st.pol (afterDecision st.cs d) (noStreamView c) 0 (Or.inr rfl) _ rfl hn he
    omega
  | next fuel st d c _ _ hn he _ ih =>
    have hdec : budget (afterDecision (st.failStep d c).1.cs (st.failStep d c).2) (st.failStep d c).1.pol <
        budget (afterDecision st.cs d) st.pol :=
      budget_decreases st.disableRetry st.pol (afterDecision st.cs d) (noStreamView c) 0 (Or.inr rfl) _ rfl hn he
    have := ih (Nat.le_of_lt_succ (Nat.lt_of_lt_of_le hdec hb))
    exact ⟨this.1, fun h => le_trans (this.2 h) (Nat.le_of_lt hdec)⟩

theorem withRetry_fuel (fuel : Nat) (st : St) (op : COp) (hf : st.retryBudget ≤ fuel) :
    (St.withRetry fuel st op).2.1 ≠ .outOfFuel := by
  have hr := withRetry_runs fuel st op
  generalize (St.withRetry fuel st op).1 = s, (St.withRetry fuel st op).2.1 = res at hr ⊢
  induction hr with
  | committed | success | noRetry => exact rawToRes_ne_outOfFuel _
  | blocked => exact nofun
  | exhausted => split <;> exact nofun
  | noFuel st st1 raw st3 d hfl hn he => -- the budget is positive as long as a retry is decided
    have := hfl.budget hn he; omega
  | gaveUp fuel st st1 raw st3 d r hfl hn he hr =>
    have hb3 := hfl.budget hn he
    exact fun e => (hr.budget_le (by omega)).1 (e ▸ rfl)
  | again fuel st st1 raw st3 d hfl hn he hr _ ih =>
    have hb3 := hfl.budget hn he
    apply ih
    unfold St.retryBudget
    rw [startRetry_cs, (startRetry_frame _ _).pol]
    exact le_trans ((hr.budget_le (by omega)).2 rfl) (by omega)

def SizeInv (st : St) : Prop := st.cs.committed = false → st.replaySize ≤ st.maxBuf

theorem SizeInv.congr {st st' : St} (h : SizeInv st) (hc : st'.cs.committed = st.cs.committed)
    (hr : st'.replaySize = st.replaySize) (hm : st'.maxBuf = st.maxBuf) : SizeInv st' := by
  unfold SizeInv; rw [hc, hr, hm]; exact h

theorem Same.size {st st' : St} (hs : Same st st') (h : SizeInv st) : SizeInv st' :=
  h.congr (by rw [hs.cs]) hs.rsize hs.maxBuf

/-- only `append` lets the buffer grow, and not beyond the limit -/
theorem Move.size {st st' : St} (m : Move st st') (h : SizeInv st) : SizeInv st' := by
  cases m with
  | write w => exact (write_same st w).size h
  | read => exact (updCur_same st _).size h
  | overflow sz => exact nofun
  | append sz op _ _ hfit => exact fun _ => hfit
  | commit => exact nofun
  | finishAttempt code => exact (finishAttempt_same st code).size h
  | judge v => exact h.congr (sr_keeps _ _ _ v 0).committed rfl rfl
  | advance d => exact h.congr (afterDecision_committed _ d) rfl rfl
  | retry d =>
    exact h.congr (by rw [startRetry_cs, afterDecision_committed]) (replayAll_keeps _).2.1 (startRetry_frame st d).maxBuf
  | close code => exact (finishAttempt_same _ code).size nofun
  | _ => exact h

theorem Same.committed_len {st st' : St} (hs : Same st st') (h : st.cs.committed = true) :
    st'.cs.committed = true ∧ st'.atts.length = st.atts.length :=
  ⟨by rw [hs.cs]; exact h, hs.len⟩

/-- a retry is only decided while uncommitted -/
theorem Move.committed_len {st st' : St} {n : Nat} (m : Move st st') (h : st.cs.committed = true ∧ st.atts.length = n) :
    st'.cs.committed = true ∧ st'.atts.length = n := by
  obtain ⟨h, rfl⟩ := h
  cases m with
  | write w => exact (write_same st w).committed_len h
  | settle => exact (settle_same st).committed_len h
  | read => exact (updCur_same st _).committed_len h
  | overflow sz => exact ⟨rfl, rfl⟩
  | append sz op _ hu => rw [hu] at h; cases h
  | commit => exact ⟨rfl, rfl⟩
  | finishAttempt code => exact (finishAttempt_same st code).committed_len h
  | judge v => exact ⟨(sr_keeps _ _ _ v 0).committed.trans h, rfl⟩
  | advance d => exact ⟨(afterDecision_committed _ d).trans h, rfl⟩
  | retry d hd => rw [hd.uncommitted] at h; cases h
  | close code => exact (finishAttempt_same _ code).committed_len rfl
  | _ => exact ⟨h, rfl⟩

theorem Reach.committed_len {st st' : St} (r : Reach st st') (h : st.cs.committed = true) :
    st'.cs.committed = true ∧ st'.atts.length = st.atts.length :=
  r.preserves (P := fun s => s.cs.committed = true ∧ s.atts.length = st.atts.length) Move.committed_len ⟨h, rfl⟩

theorem withRetry_committed_mono (fuel : Nat) (st : St) (op : COp) (hc : st.cs.committed = true) :
    (St.withRetry fuel st op).1.cs.committed = true := ((withRetry_reach fuel st op).committed_len hc).1

theorem applyOp_delivers_op (st : St) (op : COp) (h : (rawToRes (st.applyOp op).2.1).delivers = true) :
    COp.receives op = true := by
  cases hop : COp.receives op with
  | true => rfl
  | false => rcases (applyOp_sends st op hop).2 with h' | ⟨h', _⟩ <;> rw [h'] at h <;> cases h

theorem rawToRes_fail_delivers (raw : Raw) (h : raw.isFail = true) : (rawToRes raw).delivers = false := by
  cases raw <;> simp [Raw.isFail, rawToRes, Res.delivers] at h ⊢

theorem FailRuns.res_delivers {fuel : Nat} {st s : St} {d d' : Decision} {r : Res} (h : FailRuns fuel st d s (some r) d') :
    r.delivers = false := by
  generalize hres : some r = res at h
  induction h with
  | scriptEnd | created => cases hres
  | refused | exhausted | noFuel => cases hres; rfl
  | next _ _ _ _ _ _ _ _ _ ih => exact ih hres

theorem withRetry_delivery_commits (fuel : Nat) (st : St) (op : COp)
    (h : (St.withRetry fuel st op).2.1.delivers = true) : (St.withRetry fuel st op).1.cs.committed = true := by
  have hr := withRetry_runs fuel st op
  generalize (St.withRetry fuel st op).1 = s, (St.withRetry fuel st op).2.1 = res at hr h ⊢
  induction hr with
  | committed st st1 raw happ hc =>
    rw [(applyOp_same happ).cs]; exact hc
  | success st st1 raw happ => -- only a receiving op delivers, and its `onSuccess` commits
    have hop := applyOp_delivers_op st op (by rw [happ]; exact h)
    rw [onSuccess_receives _ op hop]; rfl
  | noRetry st st1 raw st3 hf =>
    rw [rawToRes_fail_delivers _ (classify_failure _ _ hf.failure)] at h; cases h
  | exhausted => split at h <;> cases h
  | blocked | noFuel => cases h
  | gaveUp fuel st st1 raw st3 d r _ _ _ hr => rw [hr.res_delivers] at h; cases h
  | again _ _ _ _ _ _ _ _ _ _ _ ih => exact ih h

def PrevsLe (st : St) : Prop := ∀ a ∈ st.atts, a.prev ≤ st.cs.numRetries

/-- `numRetries` stays below the policy's attempt limit (without a policy it stays 0) -/
def NrBound (st : St) : Prop :=
  0 ≤ st.cs.numRetries ∧ (st.cs.numRetries = 0 ∨ ∃ rp, st.pol = some rp ∧ st.cs.numRetries + 1 ≤ rp.maxAttempts)

/-- the bound on the attempt count an attempt sends: no attempt's `prev` is above `numRetries`, which is bounded.  A
    conjunction and not a structure, so that it carries over to a record update of any other field as it stands. -/
def BInv (st : St) : Prop := PrevsLe st ∧ NrBound st

theorem NrBound.nonneg {st : St} (h : NrBound st) : 0 ≤ st.cs.numRetries := h.1

theorem NrBound.room {st : St} (h : NrBound st) :
    st.cs.numRetries = 0 ∨ ∃ rp, st.pol = some rp ∧ st.cs.numRetries + 1 ≤ rp.maxAttempts := h.2

theorem NrBound.congr {st st' : St} (h : NrBound st) (hnr : st'.cs.numRetries = st.cs.numRetries)
    (hpol : st'.pol = st.pol) : NrBound st' := by
  unfold NrBound; rw [hnr, hpol]; exact h

theorem BInv.prevs {st : St} (h : BInv st) : PrevsLe st := h.1

theorem BInv.bound {st : St} (h : BInv st) : NrBound st := h.2

theorem PrevsLe.pointwise {st st' : St} (h : PrevsLe st) (hcs : st'.cs = st.cs)
    (hp : Pointwise (fun a a' => a'.prev = a.prev) st.atts st'.atts) : PrevsLe st' := by
  intro x' hx
  obtain ⟨x, hx, hl⟩ := hp.mem x' hx
  rw [hl, hcs]; exact h x hx

theorem updCur_prevsLe (st : St) (f : Att → Att) (hf : ∀ a, (f a).prev = a.prev) (h : PrevsLe st) : PrevsLe (st.updCur f) :=
  h.pointwise (updCur_same st f).cs (updCur_pointwise st f (fun _ => rfl) hf)

theorem write_prevsLe (st : St) (w : Wire) (h : PrevsLe st) : PrevsLe (st.write w).1 :=
  write_updCur st w ▸ updCur_prevsLe st _ (fun a => by split <;> rfl) h

theorem settle_prevsLe (st : St) (h : PrevsLe st) : PrevsLe st.settle :=
  h.pointwise rfl (settle_pointwise st (fun _ => rfl) fun _ => rfl)

theorem Same.nrBound {st st' : St} (hs : Same st st') (h : NrBound st) : NrBound st' :=
  h.congr (by rw [hs.cs]) hs.pol

theorem finishAttempt_binv (st : St) (code : Nat) (h : BInv st) : BInv (st.finishAttempt code) := by
  refine ⟨?_, (finishAttempt_same st code).nrBound h.bound⟩
  obtain ⟨g, hg, e⟩ := finishAttempt_eq st code
  rw [e]; exact updCur_prevsLe st g (fun a => (hg a).prev) h.prevs

theorem replayAll_prevsLe (st : St) (h : PrevsLe st) : PrevsLe st.replayAll.1 :=
  replayAll_preserves PrevsLe
    (fun s hs x hx => by
      simp only [St.newAttempt, List.mem_append, List.mem_singleton] at hx ⊢
      rcases hx with hx | hx
      · exact hs x hx
      · subst hx; exact le_refl _)
    write_prevsLe st h

theorem afterDecision_numRetries (cs : CS) (d : Decision) :
    (afterDecision cs d).numRetries = cs.numRetries ∨
    (∃ dur fp, d = .backoff dur fp ∧ (afterDecision cs d).numRetries = cs.numRetries + 1) := by
  cases d with
  | noRetry => exact Or.inl rfl
  | exhausted => exact Or.inl rfl
  | transparent => exact Or.inl rfl
  | backoff dur fp => exact Or.inr ⟨dur, fp, rfl, rfl⟩

theorem nrBound_after (st : St) (d : Decision) (h : NrBound st) (hj : RoomLeft st.pol st.cs d) :
    st.cs.numRetries ≤ (afterDecision st.cs d).numRetries ∧ NrBound { st with cs := afterDecision st.cs d } := by
  rcases afterDecision_numRetries st.cs d with e | ⟨dur, fp, hd, e⟩
  · exact ⟨e.ge, h.congr e rfl⟩
  · obtain ⟨rp, hp, hlt⟩ := hj dur fp hd
    have h0 := h.nonneg
    exact ⟨by omega, show 0 ≤ (afterDecision st.cs d).numRetries by omega,
      Or.inr ⟨rp, hp, show (afterDecision st.cs d).numRetries + 1 ≤ rp.maxAttempts by omega⟩⟩

/-- `numRetries` only moves when a decision is carried out, and `RoomLeft` says that it may; a new attempt
    takes the current value as its `prev` -/
theorem Move.binv {st st' : St} (m : Move st st') (h : BInv st) : BInv st' := by
  cases m with
  | write w => exact ⟨write_prevsLe st w h.prevs, (write_same st w).nrBound h.bound⟩
  | settle => exact ⟨settle_prevsLe st h.prevs, h.bound⟩
  | read => exact ⟨updCur_prevsLe st _ (fun _ => rfl) h.prevs, (updCur_same st _).nrBound h.bound⟩
  | finishAttempt code => exact finishAttempt_binv st code h
  | judge v =>
    have hk := (sr_keeps st.disableRetry st.pol st.cs v 0).numRetries
    exact ⟨fun x hx => by simp only; rw [hk]; exact h.prevs x hx, h.bound.congr hk rfl⟩
  | advance d hd =>
    obtain ⟨hle, hb⟩ := nrBound_after st d h.bound hd
    exact ⟨fun x hx => le_trans (h.prevs x hx) hle, hb⟩
  | retry d hd =>
    obtain ⟨hle, hb⟩ := nrBound_after st d h.bound hd.room
    refine ⟨?_, hb.congr (by rw [startRetry_cs]) (startRetry_frame st d).pol⟩
    unfold St.startRetry
    exact replayAll_prevsLe _ (fun x hx => le_trans (h.prevs x hx) hle)
  | close code => exact finishAttempt_binv _ code h
  | _ => exact h -- `overflow`, `append`, `commit`, `pop`, `credit`: neither the attempts nor `numRetries` nor the policy

end GrpcProofs.Lemmas.RetryLoop
