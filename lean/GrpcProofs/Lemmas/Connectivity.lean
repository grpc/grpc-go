import GrpcModel.Model.Connectivity
/-!
Helper lemmas for C30, part B (one addrConn).  `acStep` is analysed once, into the relation `AcStep`
(one constructor per enabled branch); the inductive invariant `AcInv` and the theorem about the
reported changes (`changes_path`: a chain of transitions of the table `legal`) are case analyses on it.
-/
namespace GrpcProofs.Lemmas.Connectivity
open GrpcModel.Connectivity

/-- What a connect goroutine with a live context may assume about `ac.state` / `ac.transport`. -/
def ClassOk (st : ConnState) (tr : Option Nat) : GPc → Prop
  | .dialing _ | .created _ | .failedAll => st = .connecting ∧ tr = none
  | .backoff | .afterBackoff => st = .transientFailure ∧ tr = none
  | .done => True

def TrOk (health : Bool) (st : ConnState) (tr : Option Nat) : Prop :=
  ∀ t, tr = some t → st = .ready ∨ (health = true ∧ (st = .connecting ∨ st = .transientFailure))

theorem trOk_none {health : Bool} {s : ConnState} {tr : Option Nat} (h : tr = none) : TrOk health s tr :=
  fun _ ht => nomatch h.symm.trans ht

/-- At most one connect goroutine is live and unfinished (`uniq`); it pins `state` and `transport` through
    `ClassOk` (`liveG`), an installed transport pins them through `TrOk` (`trState`). No goroutine's context
    is newer than `ctxGen` (`ctxLe`), so raising `ctxGen` ends them all.
    `health`: whether legacy LB-channel health checking is in force, fixed when the addrConn is made. -/
structure AcInv (health : Bool) (a : AC) : Prop where
  healthEq : a.healthEnabled = health
  shutTorn : a.state = .shutdown ↔ a.tornDown = true
  liveG : ∀ g x, a.gors g = some x → a.ctxLive x.ctx = true → ClassOk a.state a.transport x.pc
  uniq : ∀ g1 g2 x1 x2, a.gors g1 = some x1 → a.gors g2 = some x2 → a.ctxLive x1.ctx = true →
    a.ctxLive x2.ctx = true → x1.pc ≠ .done → x2.pc ≠ .done → g1 = g2
  trState : TrOk health a.state a.transport
  tornTr : a.tornDown = true → a.transport = none
  trHealth : ∀ t tr, a.trs t = some tr → tr.health = true → health = true
  ctxLe : ∀ g x, a.gors g = some x → x.ctx ≤ a.ctxGen

/-- What `updateConnectivityState` reports when the state goes from `o` to `s`.
    Irreducible: against a goal `(y, change o s).2` with `o`, `s` closed the unifier would otherwise evaluate the
    `if` before it meets `path_change`'s `change ?o ?s`. -/
@[irreducible] def change (o s : ConnState) : List (ConnState × ConnState) := if o = s then [] else [(o, s)]

theorem setState_eq (a : AC) (s : ConnState) : a.setState s = ({ a with state := s }, change a.state s) := by
  unfold AC.setState change
  split
  · next h => cases a; cases h; rfl
  · rfl

/-- `ac.ctx` is the context of the current generation, so the check `acCtx.Err() != nil` fails exactly after tearDown. -/
theorem startConnect_eq (a : AC) :
    a.startConnect = if a.tornDown = true then (a, []) else
      (({ a with state := .connecting, nextG := a.nextG + 1 }).setGor a.nextG { ctx := a.ctxGen, pc := .dialing a.nAddrs },
       change a.state .connecting) := by
  simp only [AC.startConnect, AC.ctxLive, beq_self_eq_true, Bool.true_and, Bool.not_not, setState_eq]

/-- The constructors whose second component is a `change` or comes from `startConnect` are the places where
    updateConnectivityState can report. -/
inductive AcStep (a : AC) : AcAct → AC × List (ConnState × ConnState) → Prop
  | skip {act} : AcStep a act (a, [])
  | connect : a.state = .idle → AcStep a .connect a.startConnect
  | dialFail {g x k} : a.gors g = some x → x.pc = .dialing (k + 1) →
      AcStep a (.dialFail g) (a.setGor g { x with pc := if k = 0 then .failedAll else .dialing k }, [])
  | dialNone {g x} : a.gors g = some x → x.pc = .dialing 0 →
      AcStep a (.dialNone g) (a.setGor g { x with pc := .done }, [])
  | dialOk {g x k} : a.gors g = some x → x.pc = .dialing (k + 1) →
      AcStep a (.dialOk g)
        ((({ a with nextT := a.nextT + 1 }).setTr a.nextT
            { ctx := x.ctx, hctxCancelled := false, closed := false, health := false }).setGor g
          { x with pc := .created a.nextT }, [])
  | createdDead {g x t tr} : a.gors g = some x → x.pc = .created t → a.trs t = some tr →
      a.ctxLive x.ctx = false →
      AcStep a (.lockCreated g) ((a.setGor g { x with pc := .done }).setTr t { tr with closed := true }, [])
  | createdClosed {g x t tr} : a.gors g = some x → x.pc = .created t → a.trs t = some tr →
      a.ctxLive x.ctx = true → tr.hctxCancelled = true →
      AcStep a (.lockCreated g) ({ a.setGor g { x with pc := .done } with state := .idle }, change a.state .idle)
  | createdHealth {g x t tr} : a.gors g = some x → x.pc = .created t → a.trs t = some tr →
      a.ctxLive x.ctx = true → tr.hctxCancelled = false → a.healthEnabled = true →
      AcStep a (.lockCreated g)
        ({ a.setGor g { x with pc := .done } with transport := some t }.setTr t { tr with health := true }, [])
  | createdReady {g x t tr} : a.gors g = some x → x.pc = .created t → a.trs t = some tr →
      a.ctxLive x.ctx = true → tr.hctxCancelled = false → a.healthEnabled = false →
      AcStep a (.lockCreated g)
        ({ a.setGor g { x with pc := .done } with transport := some t, state := .ready }, change a.state .ready)
  | failedDead {g x} : a.gors g = some x → x.pc = .failedAll → a.ctxLive x.ctx = false →
      AcStep a (.lockFailed g) (a.setGor g { x with pc := .done }, [])
  | failedLive {g x} : a.gors g = some x → x.pc = .failedAll → a.ctxLive x.ctx = true →
      AcStep a (.lockFailed g)
        ({ a.setGor g { x with pc := .backoff } with state := .transientFailure }, change a.state .transientFailure)
  | backoffEnd {g x} : a.gors g = some x → x.pc = .backoff →
      AcStep a (.backoffEnd g) (a.setGor g { x with pc := .afterBackoff }, [])
  | backoffCtxDone {g x} : a.gors g = some x → x.pc = .backoff → a.ctxLive x.ctx = false →
      AcStep a (.backoffCtxDone g) (a.setGor g { x with pc := .done }, [])
  | afterBackoffLive {g x} : a.gors g = some x → x.pc = .afterBackoff → a.ctxLive x.ctx = true →
      AcStep a (.lockAfterBackoff g) ({ a.setGor g { x with pc := .done } with state := .idle }, change a.state .idle)
  | afterBackoffDead {g x} : a.gors g = some x → x.pc = .afterBackoff → a.ctxLive x.ctx = false →
      AcStep a (.lockAfterBackoff g) (a.setGor g { x with pc := .done }, [])
  | closeDead {t tr} : a.trs t = some tr → tr.closed = false → a.ctxLive tr.ctx = false →
      AcStep a (.onClose t) (a.setTr t { tr with closed := true }, [])
  | closeOld {t tr} : a.trs t = some tr → tr.closed = false → a.ctxLive tr.ctx = true → a.transport = none →
      AcStep a (.onClose t) (a.setTr t { tr with closed := true, hctxCancelled := true }, [])
  | closeCur {t tr} : a.trs t = some tr → tr.closed = false → a.ctxLive tr.ctx = true → a.transport ≠ none →
      AcStep a (.onClose t)
        ({ a.setTr t { tr with closed := true, hctxCancelled := true } with transport := none, state := .idle },
         change a.state .idle)
  | tearDown : a.state ≠ .shutdown →
      AcStep a .tearDown ({ a with transport := none, state := .shutdown, tornDown := true }, change a.state .shutdown)
  | addrsOnly {n still} :
      (a.state = .shutdown ∨ a.state = .transientFailure ∨ a.state = .idle) ∨ (a.state = .ready ∧ still = true) →
      AcStep a (.updateAddrs n still) ({ a with nAddrs := n }, [])
  | addrsNone {n still} : ¬(a.state = .shutdown ∨ a.state = .transientFailure ∨ a.state = .idle) → n = 0 →
      AcStep a (.updateAddrs n still)
        (({ a with nAddrs := n, ctxGen := a.ctxGen + 1, transport := none, state := .idle }).startConnect.1,
         change a.state .idle ++
         ({ a with nAddrs := n, ctxGen := a.ctxGen + 1, transport := none, state := .idle }).startConnect.2)
  | addrsSome {n still} : ¬(a.state = .shutdown ∨ a.state = .transientFailure ∨ a.state = .idle) → n ≠ 0 →
      AcStep a (.updateAddrs n still) ({ a with nAddrs := n, ctxGen := a.ctxGen + 1, transport := none }).startConnect
  | health {t s tr} : a.trs t = some tr → tr.health = true → a.transport = some t →
      s = .connecting ∨ s = .ready ∨ s = .transientFailure →
      AcStep a (.healthSet t s) ({ a with state := s }, change a.state s)

theorem acStep_spec (a : AC) (act : AcAct) : AcStep a act (acStep a act) := by
  -- one goal per branch of `acStep`, numbered in the order of its text: `connect` 1-3, `dialFail` 4-6, `dialNone` 7-9,
  -- `dialOk` 10-12, `lockCreated` 13-19, `lockFailed` 20-23, `backoffEnd` 24-26, `backoffCtxDone` 27-30, `lockAfterBackoff` 31-34,
  -- `onClose` 35-39, `tearDown` 40-41, `updateAddrs` 42-44, `healthSet` 45-47.  An enabled branch is a row of `AcStep` with the
  -- guards on the way to it as premises (a guard `!b` or a failed Bool test is turned by `simpa`); the others are `skip`.
  fun_cases acStep a act
  case case3 _ hi => exact .connect (Decidable.not_not.mp hi)
  case case4 hg _ hpc => exact .dialFail hg hpc
  case case7 hg hpc => exact .dialNone hg hpc
  case case10 hg _ hpc _ => exact .dialOk hg hpc
  case case13 hg _ hpc _ htr _ hc => exact .createdDead hg hpc htr (by simpa using hc)
  case case14 hg _ hpc _ htr _ hc hh => rw [setState_eq]; exact .createdClosed hg hpc htr (by simpa using hc) hh
  case case15 hg _ hpc _ htr _ hc hh he => exact .createdHealth hg hpc htr (by simpa using hc) (by simpa using hh) he
  case case16 hg _ hpc _ htr _ hc hh he =>
    rw [setState_eq]; exact .createdReady hg hpc htr (by simpa using hc) (by simpa using hh) (by simpa using he)
  case case20 hg hpc hc => exact .failedDead hg hpc (by simpa using hc)
  case case21 hg hpc hc => rw [setState_eq]; exact .failedLive hg hpc (by simpa using hc)
  case case24 hg hpc => exact .backoffEnd hg hpc
  case case27 hg hpc hc => exact .backoffCtxDone hg hpc (by simpa using hc)
  case case31 hg hpc hc => rw [setState_eq]; exact .afterBackoffLive hg hpc hc
  case case32 hg hpc hc => exact .afterBackoffDead hg hpc (by simpa using hc)
  case case36 ht hcl _ hc => exact .closeDead ht (by simpa using hcl) (by simpa using hc)
  case case37 ht hcl hc _ htp => exact .closeOld ht (by simpa using hcl) (by simpa using hc) htp
  case case38 ht hcl hc _ htp => rw [setState_eq]; exact .closeCur ht (by simpa using hcl) (by simpa using hc) htp
  case case41 hs a1 ch e => rw [setState_eq] at e; cases e; exact .tearDown hs
  case case42 _ hs => exact .addrsOnly (.inl hs)
  case case43 _ _ hr => exact .addrsOnly (.inr hr)
  case case44 n still a0 hs _ a1 a2 ch1 e1 a3 ch2 e2 =>
    obtain ⟨rfl, rfl⟩ : a3 = a2.startConnect.1 ∧ ch2 = a2.startConnect.2 := by rw [e2]; exact ⟨rfl, rfl⟩
    by_cases hn : n = 0
    · rw [if_pos hn, setState_eq] at e1; cases e1; exact .addrsNone hs hn
    · rw [if_neg hn] at e1; cases e1; exact .addrsSome hs hn
  case case45 ht hg => rw [setState_eq]; exact .health ht hg.1 hg.2.1 hg.2.2
  all_goals exact .skip

theorem inv_init (n : Nat) (h : Bool) : AcInv h (AC.init n h) where
  healthEq := rfl
  shutTorn := by simp [AC.init]
  liveG := fun g x hg => by simp [AC.init] at hg
  uniq := fun g1 g2 x1 x2 hg => by simp [AC.init] at hg
  trState := fun t ht => by simp [AC.init] at ht
  tornTr := by simp [AC.init]
  trHealth := fun t tr ht => by simp [AC.init] at ht
  ctxLe := fun g x hg => by simp [AC.init] at hg

theorem inv_setGor_state_transport {health : Bool} {a : AC} {g : Nat} {x' : Gor} {s' : ConnState} {tr' : Option Nat}
    (h : AcInv health a) (hctx : x'.ctx ≤ a.ctxGen) (hcls : a.ctxLive x'.ctx = true → ClassOk s' tr' x'.pc)
    (hoth : ∀ i y, i ≠ g → a.gors i = some y → a.ctxLive y.ctx = true → y.pc ≠ .done →
      ClassOk s' tr' y.pc ∧ (a.ctxLive x'.ctx = true → x'.pc = .done))
    (hs : s' = .shutdown ↔ a.tornDown = true) (htr : TrOk health s' tr') (htt : a.tornDown = true → tr' = none) :
    AcInv health { a.setGor g x' with state := s', transport := tr' } := by
  refine { h with shutTorn := hs, liveG := ?liveG, uniq := ?uniq, trState := htr, tornTr := htt, ctxLe := ?ctxLe }
  case liveG =>
    intro i y hy hl
    simp only [AC.setGor] at hy
    split at hy
    · cases hy; exact hcls hl
    · next hne =>
      by_cases hd : y.pc = .done
      · rw [hd]; trivial
      · exact (hoth i y hne hy hl hd).1
  case uniq =>
    intro g1 g2 x1 x2 h1 h2 l1 l2 n1 n2
    simp only [AC.setGor] at h1 h2
    split at h1 <;> split at h2
    · next e1 e2 => rw [e1, e2]
    · next e2 => cases h1; exact absurd ((hoth g2 x2 e2 h2 l2 n2).2 l1) n1
    · next e1 _ => cases h2; exact absurd ((hoth g1 x1 e1 h1 l1 n1).2 l2) n2
    · exact h.uniq g1 g2 x1 x2 h1 h2 l1 l2 n1 n2
  case ctxLe =>
    intro i y hy
    simp only [AC.setGor] at hy
    split at hy
    · cases hy; exact hctx
    · exact h.ctxLe i y hy

theorem inv_setGor {health : Bool} {a : AC} {g : Nat} {x x' : Gor} {pc : GPc} (h : AcInv health a) (hg : a.gors g = some x)
    (hpc : x.pc = pc) (hctx : x'.ctx = x.ctx) (hcls : ClassOk a.state a.transport pc → ClassOk a.state a.transport x'.pc)
    (hdone : pc = .done → x'.pc = .done) : AcInv health (a.setGor g x') :=
  inv_setGor_state_transport (s' := a.state) (tr' := a.transport) h (hctx ▸ h.ctxLe g x hg)
    (fun hl => hcls (hpc ▸ h.liveG g x hg (hctx ▸ hl)))
    (fun i y hne hy hl hd => ⟨h.liveG i y hy hl, fun hl' => Decidable.byContradiction fun hnd =>
      hne (h.uniq i g y x hy hg hl (hctx ▸ hl') hd fun e => hnd (hdone (hpc ▸ e)))⟩)
    h.shutTorn h.trState h.tornTr

theorem inv_setTr {health : Bool} {a : AC} {t : Nat} {tr : Tr} (h : AcInv health a) (hh : tr.health = true → health = true) :
    AcInv health (a.setTr t tr) := by
  refine { h with trHealth := ?_ }
  intro i y hy hhy
  simp only [AC.setTr] at hy
  split at hy
  · cases hy; exact hh hhy
  · exact h.trHealth i y hy hhy

theorem inv_nextT_nAddrs_nextG {health : Bool} {a : AC} (h : AcInv health a) (n m k : Nat) :
    AcInv health { a with nextT := n, nAddrs := m, nextG := k } :=
  { h with }

theorem not_torn_of_live {a : AC} {c : Nat} (h : a.ctxLive c = true) : a.tornDown = false := by
  simp [AC.ctxLive] at h; exact h.2

theorem inv_setGor_state_transport_of_live {health : Bool} {a : AC} {g : Nat} {x x' : Gor} {s' : ConnState} {tr' : Option Nat}
    {pc : GPc} (h : AcInv health a) (hg : a.gors g = some x) (hpc : x.pc = pc) (hctx : x'.ctx = x.ctx)
    (hlive : a.ctxLive x.ctx = true) (hnd : pc ≠ .done) (hcls : ClassOk s' tr' x'.pc) (hs : s' ≠ .shutdown)
    (htr : TrOk health s' tr') : AcInv health { (a.setGor g x') with state := s', transport := tr' } :=
  inv_setGor_state_transport h (hctx ▸ h.ctxLe g x hg) (fun _ => hcls)
    (fun i y hne hy hl hd => absurd (h.uniq i g y x hy hg hl hlive hd (hpc ▸ hnd)) hne)
    (by simp [not_torn_of_live hlive, hs]) htr (fun ht => by rw [not_torn_of_live hlive] at ht; cases ht)

def NoLive (a : AC) : Prop := ∀ g x, a.gors g = some x → a.ctxLive x.ctx = true → x.pc = .done

theorem inv_state_transport_of_noLive {health : Bool} {a : AC} {s' : ConnState} {tr' : Option Nat} (h : AcInv health a)
    (hno : NoLive a) (hnt : a.tornDown = false) (hs : s' ≠ .shutdown) (htr : TrOk health s' tr') :
    AcInv health { a with state := s', transport := tr' } := by
  refine { h with shutTorn := by simp [hnt, hs], liveG := ?_, uniq := ?_, trState := htr, tornTr := by simp [hnt] }
  · intro g x hg hl
    rw [hno g x hg hl]; trivial
  · intro g1 g2 x1 x2 h1 h2 l1 l2 n1 n2
    exact absurd (hno g1 x1 h1 l1) n1

/-- `liveG` read at a known program point: the clause of `ClassOk` for `pc` then unfolds by itself. -/
theorem AcInv.classAt {health : Bool} {a : AC} (h : AcInv health a) {g : Nat} {x : Gor} {pc : GPc} (hg : a.gors g = some x)
    (hpc : x.pc = pc) (hl : a.ctxLive x.ctx = true) : ClassOk a.state a.transport pc :=
  hpc ▸ h.liveG g x hg hl

/-- every clause of `ClassOk` but that of `done` says this much -/
theorem live_class {health : Bool} {a : AC} (h : AcInv health a) {g : Nat} {x : Gor} (hg : a.gors g = some x)
    (hl : a.ctxLive x.ctx = true) (hnd : x.pc ≠ .done) :
    (a.state = .connecting ∨ a.state = .transientFailure) ∧ a.transport = none := by
  cases hp : x.pc with
  | done => exact absurd hp hnd
  | dialing _ | created _ | failedAll => have hc := h.classAt hg hp hl; exact ⟨.inl hc.1, hc.2⟩
  | backoff | afterBackoff => have hc := h.classAt hg hp hl; exact ⟨.inr hc.1, hc.2⟩

theorem noLive_of_not_class {health : Bool} {a : AC} (h : AcInv health a)
    (hc : ¬((a.state = .connecting ∨ a.state = .transientFailure) ∧ a.transport = none)) : NoLive a :=
  fun _ _ hg hl => Decidable.byContradiction fun hd => hc (live_class h hg hl hd)

theorem inv_startConnect {health : Bool} {a : AC} (h : AcInv health a) (hno : NoLive a)
    (hnt : a.tornDown = false) (htr : a.transport = none) : AcInv health a.startConnect.1 := by
  rw [startConnect_eq, if_neg (hnt ▸ nofun)]
  have h1 : AcInv health { a with state := .connecting, transport := a.transport } :=
    inv_state_transport_of_noLive h hno hnt (by decide) (trOk_none htr)
  -- the new goroutine is the only live unfinished one, and CONNECTING without a transport is what `dialing` asks for
  exact inv_setGor_state_transport (s' := .connecting) (tr' := a.transport) (inv_nextT_nAddrs_nextG h1 _ _ _) (Nat.le_refl _)
    (fun _ => ⟨rfl, htr⟩)
    (fun j y _ hy hl hd => absurd (hno j y hy hl) hd) h1.shutTorn h1.trState h1.tornTr

/-- updateAddrs: the old context is cancelled, a fresh one installed, the transport dropped -/
theorem inv_bumpCtx {health : Bool} {a : AC} (h : AcInv health a) :
    AcInv health { a with ctxGen := a.ctxGen + 1, transport := none } ∧
    NoLive { a with ctxGen := a.ctxGen + 1, transport := none } := by
  have dead : ∀ g x, a.gors g = some x → ({ a with ctxGen := a.ctxGen + 1, transport := none } : AC).ctxLive x.ctx = true → False := by
    intro g x hg hl
    have := h.ctxLe g x hg
    simp [AC.ctxLive] at hl
    omega
  refine ⟨{ h with liveG := ?_, uniq := ?_, trState := trOk_none rfl, tornTr := fun _ => rfl, ctxLe := ?_ },
    fun g x hg hl => (dead g x hg hl).elim⟩
  · intro g x hg hl; exact (dead g x hg hl).elim
  · intro g1 g2 x1 x2 h1 h2 l1; exact (dead g1 x1 h1 l1).elim
  · intro g x hg; exact Nat.le_succ_of_le (h.ctxLe g x hg)

theorem acInv_step {health : Bool} {a : AC} (act : AcAct) (h : AcInv health a) : AcInv health (acStep a act).1 := by
  have sp := acStep_spec a act
  generalize acStep a act = r at sp
  have notTorn : a.state ≠ .shutdown → a.tornDown = false := fun hns =>
    Bool.eq_false_iff.mpr fun ht => hns (h.shutTorn.mpr ht)
  cases sp with
  | skip => exact h
  | connect hi =>
    have htr : a.transport = none := by
      cases htt : a.transport with
      | none => rfl
      | some t => have := h.trState t htt; rw [hi] at this; simp at this
    exact inv_startConnect h (noLive_of_not_class h (by rw [hi]; simp)) (notTorn (by rw [hi]; decide)) htr
  | dialFail hg hpc =>
    refine inv_setGor h hg hpc rfl (fun hc => ?_) nofun
    dsimp only; split <;> exact hc
  | dialOk hg hpc =>
    exact inv_setGor (inv_setTr (inv_nextT_nAddrs_nextG h _ _ _) nofun) hg hpc rfl id nofun
  | backoffEnd hg hpc => exact inv_setGor h hg hpc rfl id nofun
  | dialNone hg _ | failedDead hg _ _ | backoffCtxDone hg _ _ | afterBackoffDead hg _ _ =>
    exact inv_setGor h hg rfl rfl (fun _ => trivial) (fun _ => rfl)
  | createdDead hg _ htr _ =>
    exact inv_setTr (inv_setGor h hg rfl rfl (fun _ => trivial) (fun _ => rfl)) fun hh => h.trHealth _ _ htr hh
  | createdClosed hg hpc _ hl _ | afterBackoffLive hg hpc hl =>
    exact inv_setGor_state_transport_of_live h hg hpc rfl hl nofun trivial (by decide)
      (trOk_none (h.classAt hg hpc hl).2)
  | createdHealth hg hpc _ hl _ hh =>
    have hconn : a.state = .connecting := (h.classAt hg hpc hl).1
    have hen : health = true := h.healthEq ▸ hh
    exact inv_setTr (inv_setGor_state_transport_of_live (s' := a.state) h hg hpc rfl hl nofun trivial
      (by rw [hconn]; decide) fun _ _ => .inr ⟨hen, .inl hconn⟩) fun _ => hen
  | createdReady hg hpc _ hl _ _ =>
    exact inv_setGor_state_transport_of_live h hg hpc rfl hl nofun trivial (by decide) fun _ _ => .inl rfl
  | failedLive hg hpc hl =>
    have htr := (h.classAt hg hpc hl).2
    exact inv_setGor_state_transport_of_live h hg hpc rfl hl nofun ⟨rfl, htr⟩ (by decide) (trOk_none htr)
  | closeDead htr _ _ | closeOld htr _ _ _ => exact inv_setTr h fun hh => h.trHealth _ _ htr hh
  | @closeCur t tr htr _ hl hne =>
    have h1 : AcInv health (a.setTr t { tr with closed := true, hctxCancelled := true }) :=
      inv_setTr h fun hh => h.trHealth _ _ htr hh
    exact inv_state_transport_of_noLive (a := a.setTr t _) h1 (noLive_of_not_class h1 fun hc => hne hc.2) (not_torn_of_live hl)
      (by decide) (trOk_none rfl)
  | tearDown =>
    refine { h with shutTorn := by simp, liveG := ?_, uniq := ?_, trState := trOk_none rfl, tornTr := fun _ => rfl }
    · intro g x hg hl; simp [AC.ctxLive] at hl
    · intro g1 g2 x1 x2 h1 h2 l1; simp [AC.ctxLive] at l1
  | addrsOnly => exact inv_nextT_nAddrs_nextG h _ _ _
  | @addrsNone n _ hst _ =>
    have hnt := notTorn fun hh => hst (.inl hh)
    obtain ⟨h1, hno1⟩ := inv_bumpCtx (inv_nextT_nAddrs_nextG h _ n _)
    exact inv_startConnect (inv_state_transport_of_noLive h1 hno1 hnt (by decide) (trOk_none rfl)) hno1 hnt rfl
  | @addrsSome n _ hst _ =>
    obtain ⟨h1, hno1⟩ := inv_bumpCtx (inv_nextT_nAddrs_nextG h _ n _)
    exact inv_startConnect h1 hno1 (notTorn fun hh => hst (.inl hh)) rfl
  | health htr hh htt hs =>
    have hne : a.transport ≠ none := by rw [htt]; nofun
    have hnt : a.tornDown = false := Bool.eq_false_iff.mpr fun ht => hne (h.tornTr ht)
    have hen := h.trHealth _ _ htr hh
    refine inv_state_transport_of_noLive (tr' := a.transport) h (noLive_of_not_class h fun hc => hne hc.2) hnt ?_ fun _ _ => ?_
    · rcases hs with rfl | rfl | rfl <;> decide
    · rcases hs with rfl | rfl | rfl
      · exact .inr ⟨hen, .inl rfl⟩
      · exact .inl rfl
      · exact .inr ⟨hen, .inr rfl⟩

inductive AcReach (n : Nat) (health : Bool) : AC → Prop
  | init : AcReach n health (AC.init n health)
  | step {a : AC} (x : AcAct) : AcReach n health a → AcReach n health (acStep a x).1

theorem reach_inv {n : Nat} {health : Bool} {a : AC} (h : AcReach n health a) : AcInv health a := by
  induction h with
  | init => exact inv_init n health
  | step x _ ih => exact acInv_step x ih

theorem acRunFrom_reach {n : Nat} {health : Bool} (acts : List AcAct) :
    ∀ a log, AcReach n health a → AcReach n health (acRunFrom a log acts).1 := by
  induction acts with
  | nil => intro a log h; exact h
  | cons x xs ih => intro a log h; exact ih _ _ (AcReach.step x h)

/-- The changes a sub-channel can report. Legacy LB-channel health checking (`health`) adds the three
    moves its `setConnectivityState` makes between READY, CONNECTING and TRANSIENT_FAILURE. -/
def legal (health : Bool) : ConnState → ConnState → Bool
  | .idle, .connecting | .connecting, .idle | .connecting, .ready | .connecting, .transientFailure
  | .ready, .idle | .ready, .connecting | .transientFailure, .idle => true
  | .ready, .transientFailure | .transientFailure, .connecting | .transientFailure, .ready => health
  | o, .shutdown => o != .shutdown
  | _, _ => false

/-- What action `act` may report in state `a`: a change of the table, and TRANSIENT_FAILURE → IDLE only
    from the critical section after the back-off (or, under health checking, when the transport closes). -/
structure Link (health : Bool) (a : AC) (act : AcAct) (o n : ConnState) : Prop where
  legal : legal health o n = true
  tfIdle : o = .transientFailure → n = .idle →
    (∃ g x, act = .lockAfterBackoff g ∧ a.gors g = some x ∧ x.pc = .afterBackoff ∧ a.ctxLive x.ctx = true) ∨
    (health = true ∧ ∃ t, act = .onClose t)

theorem Link.ne_shutdown {health : Bool} {a : AC} {act : AcAct} {o n : ConnState} (h : Link health a act o n) :
    o ≠ .shutdown := by
  rintro rfl
  have := h.legal
  revert this
  cases health <;> cases n <;> decide

/-- `Path R o l n`: the reported changes `l` lead from `o` to `n`, each link in `R`. -/
inductive Path (R : ConnState → ConnState → Prop) : ConnState → List (ConnState × ConnState) → ConnState → Prop
  | nil {o} : Path R o [] o
  | cons {o m n l} : R o m → Path R m l n → Path R o ((o, m) :: l) n

theorem Path.append {R : ConnState → ConnState → Prop} {o m n : ConnState} {l l' : List (ConnState × ConnState)}
    (h : Path R o l m) (h' : Path R m l' n) : Path R o (l ++ l') n := by
  induction h with
  | nil => exact h'
  | cons hr _ ih => exact .cons hr (ih h')

theorem Path.mem {R : ConnState → ConnState → Prop} {o n x y : ConnState} {l : List (ConnState × ConnState)}
    (h : Path R o l n) (hm : (x, y) ∈ l) : R x y := by
  induction h with
  | nil => cases hm
  | cons hr _ ih =>
    rcases List.mem_cons.mp hm with e | hm
    · cases e; exact hr
    · exact ih hm

theorem path_change {R : ConnState → ConnState → Prop} {o s : ConnState} (h : o ≠ s → R o s) : Path R o (change o s) s := by
  unfold change
  split
  · next e => rw [e]; exact .nil
  · next e => exact .cons (h e) .nil

theorem path_startConnect {R : ConnState → ConnState → Prop} (y : AC) {o : ConnState} (hy : y.state = o)
    (h : o ≠ .connecting → R o .connecting) : Path R o y.startConnect.2 y.startConnect.1.state := by
  subst hy
  rw [startConnect_eq]
  split
  · exact .nil
  · exact path_change h

/-- What one action reports leads from the old state to the new one by changes of the table. There are
    at most two: only updateAddrs with an empty list reports CURRENT→IDLE→CONNECTING. In each case the
    guard and the invariant tell the old state: a live goroutine pins it through `ClassOk`, an installed
    transport through `TrOk`. -/
theorem changes_path {health : Bool} {a : AC} (hinv : AcInv health a) (act : AcAct) :
    Path (Link health a act) a.state (acStep a act).2 (acStep a act).1.state := by
  have sp := acStep_spec a act
  generalize acStep a act = r at sp
  have connOrReady : ¬(a.state = .shutdown ∨ a.state = .transientFailure ∨ a.state = .idle) →
      a.state = .connecting ∨ a.state = .ready := by
    cases a.state <;> simp
  cases sp with
  | connect hs => rw [hs]; exact path_startConnect _ hs fun _ => ⟨rfl, nofun⟩
  | createdClosed hg hpc _ hl _ | createdReady hg hpc _ hl _ _ | failedLive hg hpc hl =>
    have hs := (hinv.classAt hg hpc hl).1
    rw [hs]; exact path_change fun _ => ⟨rfl, nofun⟩
  | afterBackoffLive hg hpc hl =>
    have hs := (hinv.classAt hg hpc hl).1
    rw [hs]; exact path_change fun _ => ⟨rfl, fun _ _ => .inl ⟨_, _, rfl, hg, hpc, hl⟩⟩
  | closeCur _ _ _ htn =>
    obtain ⟨t', ht'⟩ := Option.ne_none_iff_exists'.mp htn
    rcases hinv.trState t' ht' with hs | ⟨hh, hs | hs⟩ <;> rw [hs]
    · exact path_change fun _ => ⟨rfl, nofun⟩
    · exact path_change fun _ => ⟨rfl, nofun⟩
    · exact path_change fun _ => ⟨rfl, fun _ _ => .inr ⟨hh, _, rfl⟩⟩
  | tearDown h1 =>
    exact path_change fun _ => ⟨by revert h1; cases a.state <;> simp [legal], nofun⟩
  | addrsNone hst _ =>
    refine Path.append (m := .idle) ?_ (path_startConnect _ rfl fun _ => ⟨rfl, nofun⟩)
    rcases connOrReady hst with hs | hs <;> rw [hs] <;> exact path_change fun _ => ⟨rfl, nofun⟩
  | addrsSome hst _ =>
    rcases connOrReady hst with hs | hs <;> rw [hs]
    · exact path_startConnect _ rfl fun hne => absurd rfl hne
    · exact path_startConnect _ rfl fun _ => ⟨rfl, nofun⟩
  | health htr hhl htt hs =>
    -- the health function moves between CONNECTING, READY and TRANSIENT_FAILURE, all in the table
    cases hinv.trHealth _ _ htr hhl
    have ho : a.state = .ready ∨ a.state = .connecting ∨ a.state = .transientFailure :=
      (hinv.trState _ htt).imp_right (·.2)
    refine path_change fun hne => ⟨?_, fun _ e => ?_⟩
    · revert hne ho; rcases hs with rfl | rfl | rfl <;> cases a.state <;> simp [legal]
    · rcases hs with rfl | rfl | rfl <;> cases e
  | _ => exact .nil

theorem link_of_reported {n : Nat} {health : Bool} {a : AC} (hr : AcReach n health a) {act : AcAct} {o nw : ConnState}
    (hm : (o, nw) ∈ (acStep a act).2) : Link health a act o nw :=
  (changes_path (reach_inv hr) act).mem hm

end GrpcProofs.Lemmas.Connectivity
