/-
The finite facts about the constant header names that the field loops rest on: the client's (Lemmas/Status.lean), the
server's in the metadata model (Lemmas/MdWire.lean) and the server's in the admission model (Lemmas/ServerAdmission.lean).
One structure per loop, each fact a field, and one evaluation for all three (`header_names`): what an evaluation pays
for is reading the string literals, and the loops share most names and both tables of http_util.go.
-/
import GrpcModel.Model.MdWire
import GrpcModel.Model.ServerAdmission

namespace GrpcProofs.Lemmas.Status
open GrpcModel.Status GrpcModel.Headers

structure ClientNames : Prop where
  /-- each name of the field switch differs from those before it -/
  status_ne : hStatus ≠ hContentType ∧ hStatus ≠ hGrpcEncoding
  message_ne : hMessage ≠ hContentType ∧ hMessage ≠ hGrpcEncoding ∧ hMessage ≠ hStatus
  httpStatus_ne : hHttpStatus ≠ hContentType ∧ hHttpStatus ≠ hGrpcEncoding ∧ hHttpStatus ≠ hStatus ∧ hHttpStatus ≠ hMessage
  httpStatus_reserved : isReservedHeader hHttpStatus = true
  detailsBin_not_reserved : isReservedHeader hDetailsBin = false
  detailsBin_bin : isBinKey hDetailsBin = true

instance : Decidable ClientNames :=
  decidable_of_iff' _ ⟨fun s => And.intro s.status_ne (And.intro s.message_ne (And.intro s.httpStatus_ne
      (And.intro s.httpStatus_reserved (And.intro s.detailsBin_not_reserved s.detailsBin_bin)))),
    fun ⟨h1, h2, h3, h4, h5, h6⟩ => ⟨h1, h2, h3, h4, h5, h6⟩⟩

end GrpcProofs.Lemmas.Status

namespace GrpcProofs.Lemmas.MdWire
open GrpcModel.Status GrpcModel.Headers GrpcModel.MdWire
open GrpcModel.Base64 (Bytes)

def hScheme : Bytes := asciiBytes ":scheme"
def hTe : Bytes := asciiBytes "te"

/-- the literal names of `srvField`'s cases, in order -/
def srvSwitch : List Bytes := [hContentType, hAcceptEncoding, hGrpcEncoding, hMethod, hPath, hTimeout, hConnection]

structure ServerNames : Prop where
  /-- each name of the field switch differs from those before it -/
  acceptEncoding_ne : hAcceptEncoding ≠ hContentType
  method_ne : hMethod ≠ hContentType ∧ hMethod ≠ hAcceptEncoding ∧ hMethod ≠ hGrpcEncoding
  path_ne : hPath ≠ hContentType ∧ hPath ≠ hAcceptEncoding ∧ hPath ≠ hGrpcEncoding ∧ hPath ≠ hMethod
  connection_ne : hConnection ≠ hContentType ∧ hConnection ≠ hAcceptEncoding ∧ hConnection ≠ hGrpcEncoding ∧
    hConnection ≠ hMethod ∧ hConnection ≠ hPath ∧ hConnection ≠ hTimeout
  /-- of the other names the client transport writes, two are skipped as reserved … -/
  skipped : ∀ n ∈ [hScheme, hTe], n ∉ srvSwitch ∧ (isReservedHeader n && !isWhitelistedHeader n) = true
  /-- … and two are whitelisted and not `-bin` -/
  whitelisted : ∀ n ∈ [hAuthority, hUserAgent], n ∉ srvSwitch ∧ isWhitelistedHeader n = true ∧ isBinKey n = false
  reserved : ∀ n ∈ [hMethod, hPath, hTimeout, hAuthority, hUserAgent], isReservedHeader n = true
  acceptEncoding_plain : isReservedHeader hAcceptEncoding = false ∧ isBinKey hAcceptEncoding = false
  /-- the keys of `baseMD`, and "host", are distinct -/
  baseKeys_distinct : [hAuthority, hContentType, hUserAgent, hAcceptEncoding, hHost].Pairwise (· ≠ ·)
  contentType_not_whitelisted : isWhitelistedHeader hContentType = false
  host_plain : isReservedHeader hHost = false ∧ hHost ≠ hConnection
  connection_plain : isReservedHeader hConnection = false

instance : Decidable ServerNames :=
  decidable_of_iff' _
    ⟨fun ⟨a, b, c, d, e, f, g, h, i, j, k, l⟩ => And.intro a (And.intro b (And.intro c (And.intro d (And.intro e (And.intro f
      (And.intro g (And.intro h (And.intro i (And.intro j (And.intro k l)))))))))),
     fun ⟨a, b, c, d, e, f, g, h, i, j, k, l⟩ => ⟨a, b, c, d, e, f, g, h, i, j, k, l⟩⟩

end GrpcProofs.Lemmas.MdWire

namespace GrpcProofs.ServerAdmission
open GrpcModel.ServerAdmission

def armName : HKind → Bytes
  | .contentType => str "content-type"
  | .acceptEncoding => str "grpc-accept-encoding"
  | .encoding => str "grpc-encoding"
  | .method => str ":method"
  | .path => str ":path"
  | .timeout => str "grpc-timeout"
  | .connection => str "connection"
  | .other => []

/-- `HKind` has these eight members, so a decidable property of every kind is settled by one
evaluation over the list -/
theorem forall_kind {P : HKind → Prop}
    (h : ∀ k ∈ [HKind.contentType, .acceptEncoding, .encoding, .method, .path, .timeout, .connection, .other], P k)
    (k : HKind) : P k := by
  cases k <;> exact h _ (by decide)

local instance {P : HKind → Prop} [DecidablePred P] : Decidable (∀ k, P k) :=
  decidable_of_iff _ ⟨forall_kind, fun h k _ => h k⟩

structure AdmissionNames : Prop where
  /-- `kindOf` finds each arm under its own name; no such name ends in "-bin" or is one of the two that the
  default arm counts -/
  arms : ∀ k : HKind, (k ≠ .other → kindOf (armName k) = k) ∧ hasSuffix (armName k) (str "-bin") = false ∧
    armName k ≠ str ":authority" ∧ armName k ≠ str "host"
  /-- the default arm appends a "host" field as it stands -/
  host_plain : (isReservedHeader (str "host") && !isWhitelistedHeader (str "host")) = false ∧
    hasSuffix (str "host") (str "-bin") = false
  authority_ne_host : str ":authority" ≠ str "host"
  method_pseudo : (str ":method").head? = some 58
  authority_pseudo : (str ":authority").head? = some 58

instance : Decidable AdmissionNames :=
  decidable_of_iff' _ ⟨fun s => And.intro s.arms (And.intro s.host_plain (And.intro s.authority_ne_host
      (And.intro s.method_pseudo s.authority_pseudo))),
    fun ⟨h1, h2, h3, h4, h5⟩ => ⟨h1, h2, h3, h4, h5⟩⟩

end GrpcProofs.ServerAdmission

namespace GrpcProofs.Lemmas
open Status MdWire GrpcProofs.ServerAdmission

theorem header_names : ClientNames ∧ ServerNames ∧ AdmissionNames := by decide

theorem Status.client_names : ClientNames := header_names.1
theorem MdWire.server_names : ServerNames := header_names.2.1

end GrpcProofs.Lemmas

theorem GrpcProofs.ServerAdmission.admission_names : GrpcProofs.ServerAdmission.AdmissionNames :=
  GrpcProofs.Lemmas.header_names.2.2
