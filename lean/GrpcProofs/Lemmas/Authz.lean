/-
Each function of the translator checks its input and, if the check passes, emits something that is a total function of
the input.  So each gets one equation `f x = if check x then some (compile x) else none`; everything else is said
about the total compilers, without hypotheses: what they emit is always accepted by `NewChainEngine`, and it means what
the rule says.
-/
import GrpcModel.Model.Authz
import GrpcProofs.Lemmas.RBAC
namespace GrpcProofs.Lemmas.Authz
open GrpcModel.RBAC GrpcModel.Authz GrpcProofs.Lemmas.RBAC

/-- a pattern other than "*" that ends (or starts) with a star has something besides the star -/
theorem getStringMatcher_ok (v : Str) : (getStringMatcher v).ok = true := by
  simp only [getStringMatcher, apply_ite StrM.ok]
  match v with
  | [] => rfl
  | [a] => by_cases h : a = star <;> simp [h, StrM.ok]
  | a :: b :: t => simp [StrM.ok]

/-- `getStringMatcher` and `Spec.glob` walk the same ladder of tests on the pattern; rung by rung the matcher chosen
    is the test made. -/
theorem getStringMatcher_matches (pat : Str) : (getStringMatcher pat).matches = Spec.glob pat := by
  funext v
  simp only [getStringMatcher, Spec.glob, apply_ite (StrM.matches · v)]
  simp [StrM.matches, Regex.matches]

theorem getHeaderMatcher_ok (k v : Str) : (getHeaderMatcher k v).ok = true := by
  simp only [getHeaderMatcher, apply_ite HdrM.ok]
  simp [HdrM.ok]

theorem getHeaderMatcher_matches (k pat : Str) (md : MD) :
    (getHeaderMatcher k pat).matches md =
      (match valueFromMD md k with | none => false | some v => (getStringMatcher pat).matches v) := by
  simp only [getStringMatcher_matches, getHeaderMatcher, Spec.glob, apply_ite (HdrM.matches · md)]
  cases hv : valueFromMD md k <;> simp [HdrM.matches, Regex.matches, hv]

theorem authEval_some (r : Request) (m : StrM) :
    authEval r (some m) = (r.tls && (Spec.identities r).any m.matches) := by
  unfold authEval Spec.identities
  cases r.tls
  · simp
  · cases r.certs with
    | nil => simp
    | cons c t =>
      simp only [Bool.not_true, Bool.false_eq_true, ↓reduceIte, Bool.true_and]
      split
      · simp_all
      · split <;> simp_all

theorem prinList_any_ofList_map {α : Type} (r : Request) (f : α → Prin) (l : List α) :
    (PrinList.ofList (l.map f)).any r = l.any (fun a => (f a).eval r) := by
  rw [prinList_any_eq, prinList_toList_ofList, List.any_map]; rfl

theorem permList_any_ofList (r : Request) (l : List Perm) : (PermList.ofList l).any r = l.any (Perm.eval r) := by
  rw [permList_any_eq, permList_toList_ofList]

theorem permList_all_ofList (r : Request) (l : List Perm) : (PermList.ofList l).all r = l.all (Perm.eval r) := by
  rw [permList_all_eq, permList_toList_ofList]

theorem permList_any_ofList_map {α : Type} (r : Request) (f : α → Perm) (l : List α) :
    (PermList.ofList (l.map f)).any r = l.any (fun a => (f a).eval r) := by
  rw [permList_any_ofList, List.any_map]; rfl

theorem prinList_ok_ofList (l : List Prin) : (PrinList.ofList l).ok = l.all Prin.ok := by
  induction l with
  | nil => rfl
  | cons p t ih => simp [PrinList.ofList, PrinList.ok, ih]

theorem permList_ok_ofList (l : List Perm) : (PermList.ofList l).ok = l.all Perm.ok := by
  induction l with
  | nil => rfl
  | cons p t ih => simp [PermList.ofList, PermList.ok, ih]

theorem parsePeer_eval (r : Request) (ps : List Str) :
    (parsePeer ps).eval r = (ps.isEmpty || ps.any (Spec.principalMatches r)) := by
  unfold parsePeer
  cases h : ps.isEmpty
  · simp only [Bool.false_eq_true, ↓reduceIte, Prin.eval, prinList_any_ofList_map, authEval_some,
      getStringMatcher_matches, Bool.false_or]
    rfl
  · simp [Prin.eval]

theorem parsePeer_ok (ps : List Str) : (parsePeer ps).ok = true := by
  unfold parsePeer
  split <;> simp [Prin.ok, prinList_ok_ofList, getStringMatcher_ok]

def headerOk (h : Header) : Bool := !h.key.isEmpty && !unsupportedHeader (lower h.key) && !h.values.isEmpty

/-- what `parseHeaders` emits for one header: one of its values matches -/
def headerPerm (h : Header) : Perm :=
  .or (PermList.ofList (h.values.map fun v => .header (getHeaderMatcher (lower h.key) v)))

theorem parseHeaders_eq : ∀ hs, parseHeaders hs = if hs.all headerOk then some (hs.map headerPerm) else none
  | [] => rfl
  | h :: t => by
    simp only [parseHeaders, parseHeaders_eq t, List.all_cons, List.map_cons, headerOk, headerPerm]
    cases h.key.isEmpty
    case true => rfl
    cases unsupportedHeader (lower h.key)
    case true => rfl
    cases h.values.isEmpty
    case true => rfl
    cases t.all headerOk <;> rfl

theorem headerPerm_ok (h : Header) : (headerPerm h).ok = true := by
  simp [headerPerm, Perm.ok, permList_ok_ofList, getHeaderMatcher_ok]

theorem headerPerm_eval (r : Request) (h : Header) : (headerPerm h).eval r = Spec.headerMatches r h := by
  simp only [headerPerm, Perm.eval, permList_any_ofList_map, Spec.headerMatches]
  cases hv : valueFromMD r.headers (lower h.key) <;> simp [getHeaderMatcher_matches, getStringMatcher_matches, hv]

/-- what `parseRequest` emits for a non-empty list of paths: the method is one of them -/
def pathsPerm (paths : List Str) : Perm := .or (PermList.ofList (parsePaths paths))

theorem pathsPerm_ok (paths : List Str) : (pathsPerm paths).ok = true := by
  simp [pathsPerm, Perm.ok, permList_ok_ofList, parsePaths, optStrOk, getStringMatcher_ok]

theorem pathsPerm_eval (r : Request) (paths : List Str) :
    (pathsPerm paths).eval r = paths.any fun p => Spec.glob p r.path := by
  simp [pathsPerm, Perm.eval, permList_any_ofList, parsePaths, getStringMatcher_matches, Function.comp_def]

/-- what `parseRequest` emits -/
def requestPerm (paths : List Str) (hs : List Header) : Perm :=
  let a1 : List Perm := if paths.isEmpty then [] else [pathsPerm paths]
  if hs.isEmpty then (if a1.isEmpty then .any else .and (PermList.ofList a1))
  else .and (PermList.ofList (a1 ++ [.and (PermList.ofList (hs.map headerPerm))]))

theorem parseRequest_eq (paths : List Str) (hs : List Header) :
    parseRequest paths hs = if hs.all headerOk then some (requestPerm paths hs) else none := by
  unfold parseRequest requestPerm
  rw [parseHeaders_eq]
  cases hs with
  | nil => rfl
  | cons h t => cases (h :: t).all headerOk <;> rfl

theorem requestPerm_ok (paths : List Str) (hs : List Header) : (requestPerm paths hs).ok = true := by
  unfold requestPerm
  cases paths.isEmpty <;> cases hs <;> simp [Perm.ok, permList_ok_ofList, pathsPerm_ok, headerPerm_ok]

theorem requestPerm_eval (r : Request) (paths : List Str) (hs : List Header) :
    (requestPerm paths hs).eval r =
      ((paths.isEmpty || paths.any fun p => Spec.glob p r.path) && hs.all (Spec.headerMatches r)) := by
  unfold requestPerm
  cases paths.isEmpty <;> cases hs <;>
    simp [Perm.eval, permList_all_ofList, pathsPerm_eval, headerPerm_eval, List.all_map, Function.comp_def]

def ruleOk (rule : Rule) : Bool := !rule.name.isEmpty && rule.headers.all headerOk

/-- the RBAC policy `parseRules` emits for a rule -/
def rulePolicy (rule : Rule) : Policy :=
  ⟨.cons (requestPerm rule.paths rule.headers) .nil, .cons (parsePeer rule.principals) .nil⟩

theorem rulePolicy_eval (r : Request) (rule : Rule) : (rulePolicy rule).matches r = Spec.ruleMatches r rule := by
  simp only [rulePolicy, Policy.matches, PermList.any, PrinList.any, requestPerm_eval, parsePeer_eval, Spec.ruleMatches,
    Bool.if_true_left, Bool.or_false, Bool.decide_eq_true]
  rw [Bool.and_comm, ← Bool.and_assoc]

theorem rulePolicy_matches (r : Request) (rule : Rule) (perm : Perm)
    (_h : parseRequest rule.paths rule.headers = some perm) :
    (rulePolicy rule).matches r = Spec.ruleMatches r rule :=
  rulePolicy_eval r rule

theorem rulePolicy_ok (rule : Rule) : (rulePolicy rule).ok = true := by
  simp [rulePolicy, Policy.ok, PermList.ok, PrinList.ok, requestPerm_ok, parsePeer_ok]

/-- the entry `parseRules` assigns for a rule -/
def ruleEntry (pfx : Str) (rule : Rule) : Str × Policy := (pfx ++ 95 :: rule.name, rulePolicy rule)

theorem parseRules_cons (pfx : Str) (rule : Rule) (t : List Rule) (acc : List (Str × Policy)) :
    parseRules pfx (rule :: t) acc =
      if ruleOk rule then parseRules pfx t (upsert acc (ruleEntry pfx rule).1 (ruleEntry pfx rule).2) else none := by
  rw [parseRules, parseRequest_eq, ruleOk]
  cases rule.name.isEmpty <;> cases rule.headers.all headerOk <;> rfl

/-- Assign the entry of `rule`, then drop what the later rules `t` assign: the entry survives iff no later rule
    has its name. -/
theorem filter_upsert (pfx : Str) (rule : Rule) (t : List Rule) (acc : List (Str × Policy)) :
    ((upsert acc (ruleEntry pfx rule).1 (ruleEntry pfx rule).2).filter fun e => t.all fun x => (ruleEntry pfx x).1 != e.1) =
      (if t.any fun r' => r'.name == rule.name then [] else [ruleEntry pfx rule]) ++
        acc.filter fun e => (rule :: t).all fun x => (ruleEntry pfx x).1 != e.1 := by
  have hk : (t.all fun x => (ruleEntry pfx x).1 != (ruleEntry pfx rule).1) = !t.any fun r' => r'.name == rule.name := by
    rw [Bool.eq_iff_iff]; simp [ruleEntry]
  rw [upsert, List.filter_cons, List.filter_filter, hk]
  cases t.any fun r' => r'.name == rule.name <;> simp [Bool.and_comm, bne_comm]

theorem parseRules_eq (pfx : Str) : ∀ (rules : List Rule) (acc : List (Str × Policy)),
    parseRules pfx rules acc =
      if rules.all ruleOk then
        some ((Spec.lastWins rules).reverse.map (ruleEntry pfx) ++
          acc.filter fun e => rules.all fun rule => (ruleEntry pfx rule).1 != e.1)
      else none
  | [], acc => by simp [parseRules, Spec.lastWins, List.filter_eq_self.mpr]
  | rule :: t, acc => by
    rw [parseRules_cons, parseRules_eq pfx t, filter_upsert, List.all_cons, Spec.lastWins]
    cases ruleOk rule <;> cases t.all ruleOk <;> cases t.any (fun r' => r'.name == rule.name) <;> simp

theorem lastWins_sub : ∀ (rules : List Rule) (x : Rule), x ∈ Spec.lastWins rules → x ∈ rules
  | [], x, h => by simp [Spec.lastWins] at h
  | rule :: t, x, h => by
    simp only [Spec.lastWins] at h
    split at h
    · exact List.mem_cons_of_mem _ (lastWins_sub t x h)
    · exact List.mem_cons.mpr ((List.mem_cons.mp h).imp id (lastWins_sub t x))

theorem lastWins_nodup : ∀ (rules : List Rule), (rules.map (·.name)).Nodup → Spec.lastWins rules = rules
  | [], _ => rfl
  | rule :: t, h => by
    simp only [List.map_cons, List.nodup_cons, List.mem_map, not_exists, not_and] at h
    have : t.any (fun r' => r'.name == rule.name) = false := by simpa using h.1
    simp [Spec.lastWins, this, lastWins_nodup t h.2]

/-- the engine `translatePolicy` makes of a rule list -/
def engineOf (a : Action) (rules : List Rule) : Engine := ⟨a, (Spec.lastWins rules).reverse.map rulePolicy⟩

theorem engineOf_findMatch (r : Request) (a : Action) (rules : List Rule) :
    (engineOf a rules).findMatch r = (Spec.lastWins rules).any (Spec.ruleMatches r) := by
  simp [engineOf, Engine.findMatch, List.any_map, Function.comp_def, rulePolicy_eval]

theorem engineOf_ok (a : Action) (rules : List Rule) (ha : a ≠ .log) : (engineOf a rules).ok = true := by
  simp [engineOf, Engine.ok, ha, rulePolicy_ok]

/-- what `translatePolicy` checks -/
def policyOk (p : SDKPolicy) : Bool :=
  !p.name.isEmpty && !p.allow.isEmpty && p.deny.all ruleOk && p.allow.all ruleOk

def chainOf (p : SDKPolicy) : Chain :=
  (if p.deny.isEmpty then [] else [engineOf .deny p.deny]) ++ [engineOf .allow p.allow]

theorem translate_eq (p : SDKPolicy) : translate p = if policyOk p then some (chainOf p) else none := by
  unfold translate policyOk chainOf
  rw [parseRules_eq, parseRules_eq]
  cases p.name.isEmpty
  case true => rfl
  cases p.allow.isEmpty
  case true => rfl
  rcases p.deny with _ | ⟨d, ds⟩
  · cases p.allow.all ruleOk <;> simp [engineOf, ruleEntry]
  · cases p.allow.all ruleOk <;> cases (d :: ds).all ruleOk <;> simp [engineOf, ruleEntry]

theorem engineOf_rejects (r : Request) (a : Action) (rules : List Rule) :
    Spec.engineRejects r (engineOf a rules) =
      match a with
      | .allow => !(Spec.lastWins rules).any (Spec.ruleMatches r)
      | .deny => (Spec.lastWins rules).any (Spec.ruleMatches r)
      | .log => false := by
  rw [engineRejects_eq, engineOf_findMatch]; rfl

theorem chainOf_decision (p : SDKPolicy) (r : Request) :
    GrpcModel.RBAC.Spec.decision (chainOf p) r =
      GrpcModel.Authz.Spec.decision { p with deny := Spec.lastWins p.deny, allow := Spec.lastWins p.allow } r := by
  unfold chainOf GrpcModel.RBAC.Spec.decision Spec.allowed GrpcModel.Authz.Spec.decision
  cases hd : p.deny.isEmpty
  · simp only [Bool.false_eq_true, ↓reduceIte, List.any_append, List.any_cons, List.any_nil, engineOf_rejects]
    cases (Spec.lastWins p.deny).any (Spec.ruleMatches r) <;>
      cases (Spec.lastWins p.allow).any (Spec.ruleMatches r) <;> rfl
  · simp only [↓reduceIte, List.nil_append, List.any_cons, List.any_nil, engineOf_rejects, List.isEmpty_iff.mp hd,
      Spec.lastWins]
    cases (Spec.lastWins p.allow).any (Spec.ruleMatches r) <;> rfl

theorem newChainEngine_eq (c c' : Chain) (h : newChainEngine c = some c') : c' = c := by
  unfold newChainEngine at h
  split at h <;> cases h
  rfl

theorem chainOf_ok (p : SDKPolicy) : newChainEngine (chainOf p) = some (chainOf p) := by
  unfold newChainEngine chainOf
  split <;> simp [engineOf_ok]

theorem translate_ok (p : SDKPolicy) (c : Chain) (h : translate p = some c) : newChainEngine c = some c := by
  rw [translate_eq] at h
  split at h <;> cases h
  exact chainOf_ok p

theorem newStatic_eq (p : SDKPolicy) : newStatic p = if policyOk p then some (chainOf p) else none := by
  rw [newStatic, translate_eq]
  split
  · exact chainOf_ok p
  · rfl

/-- The decision of the translated chain is the reference decision of the policy *with every rule whose name
    a later rule repeats removed*. -/
theorem static_decision (p : SDKPolicy) (c : Chain) (r : Request) (h : newStatic p = some c)
    (hw : r.wellFormed = true) :
    intercept c r =
      GrpcModel.Authz.Spec.decision { p with deny := Spec.lastWins p.deny, allow := Spec.lastWins p.allow } r := by
  rw [newStatic_eq] at h
  split at h <;> cases h
  rw [← chainOf_decision, intercept, isAuthorized_eq, hw]; rfl

end GrpcProofs.Lemmas.Authz
