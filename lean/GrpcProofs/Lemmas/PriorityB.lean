/-
C39: what syncPriority establishes (`sync_inv`: the selection `Sel`) and the invariant `Inv` of the
reachable states of the priority policy.
-/
import GrpcProofs.Lemmas.Priority
namespace GrpcProofs.Lemmas.Priority
open GrpcModel.Priority Basic

/-- the selection made by syncPriority, with `u` in use between the priorities `above` and `below` -/
structure Sel (s : St) (above : List Nat) (u : Nat) (below : List Nat) (c : Child) : Prop where
  split : s.prios = above ++ u :: below
  inUse : s.inUse = some u
  child : findChild s u = some c
  started : c.started = true
  usableOrLast : usable c = true ∨ below = []
  higher : ∀ a ∈ above, ∃ ca, findChild s a = some ca ∧ ca.started = true ∧ usable ca = false
  lower : ∀ b ∈ below, ∃ cb, findChild s b = some cb ∧ cb.started = false
  /-- the parent has been sent the state of the child in use -/
  lastUp : s.lastUp = some c.st

/-- what `Sel` and `Inv` read of a state, the sub-balancers apart -/
def view (s : St) := (s.children, s.prios, s.inUse, s.lastUp)

theorem Sel.congr {s t : St} {above below : List Nat} {u : Nat} {c : Child} (h : Sel s above u below c)
    (e : view t = view s) : Sel t above u below c := by
  obtain ⟨hc, hp, hu, hl⟩ : t.children = s.children ∧ t.prios = s.prios ∧ t.inUse = s.inUse ∧ t.lastUp = s.lastUp := by
    simpa [view] using e
  have hfc : findChild t = findChild s := by funext n; unfold findChild; rw [hc]
  exact ⟨hp ▸ h.split, hu ▸ h.inUse, hfc ▸ h.child, h.started, h.usableOrLast, hfc ▸ h.higher, hfc ▸ h.lower, hl ▸ h.lastUp⟩

/-- A started priority is never below the one in use: it is above it, or is it. -/
theorem Sel.started_at_or_above {s : St} {above below : List Nat} {u : Nat} {cu : Child} (h : Sel s above u below cu)
    (hpn : s.prios.Nodup) {pre post : List Nat} {n : Nat} (hsplit : s.prios = pre ++ n :: post) {c : Child}
    (hc : findChild s n = some c) (hs : c.started = true) :
    (∃ mid, above = pre ++ n :: mid) ∨ (pre = above ∧ post = below) := by
  have hmem : n ∈ above ++ u :: below := by rw [← h.split, hsplit]; simp
  rcases List.mem_append.mp hmem with hin | hin
  · obtain ⟨p1, p2, rfl⟩ := List.append_of_mem hin
    have h1' : s.prios = p1 ++ n :: (p2 ++ u :: below) := by rw [h.split]; simp
    exact Or.inl ⟨p2, by rw [(split_unique hpn hsplit h1').1]⟩
  · rcases List.mem_cons.mp hin with rfl | hin
    · exact Or.inr (split_unique hpn hsplit h.split)
    · obtain ⟨cb, hfb, hsb⟩ := h.lower n hin
      rw [hc] at hfb; injection hfb with hfb; subst hfb
      rw [hs] at hsb; cases hsb

/-- the parent has the state of the child in use, unless that child is the one being updated -/
def PreUp (s : St) (upd : Option Nat) : Prop :=
  ∀ c, s.inUse = some c.name → findChild s c.name = some c → upd ≠ some c.name → s.lastUp = some c.st

structure Inv (s : St) : Prop where
  base : Base s
  pn : s.prios.Nodup
  has : ∀ n ∈ s.prios, n ∈ names s.children
  sel : s.prios ≠ [] → ∃ above u below c, Sel s above u below c
  noPrio : s.prios = [] → s.inUse = none ∧ (s.lastUp = none ∨ s.lastUp = some ⟨3, .allrm⟩)

theorem Inv.congr {s t : St} (h : Inv s) (hb : Base t) (e : view t = view s) : Inv t := by
  obtain ⟨hc, hp, hu, hl⟩ : t.children = s.children ∧ t.prios = s.prios ∧ t.inUse = s.inUse ∧ t.lastUp = s.lastUp := by
    simpa [view] using e
  refine ⟨hb, hp ▸ h.pn, by rw [hp, hc]; exact h.has, fun hne => ?_, fun he => ?_⟩
  · obtain ⟨above, u, below, c, hsel⟩ := h.sel (hp ▸ hne)
    exact ⟨above, u, below, c, hsel.congr e⟩
  · rw [hu, hl]; exact h.noPrio (hp ▸ he)

theorem Inv.same {s t : St} (h : Inv s) (e : view t = view s) (es : t.sbs = s.sbs) : Inv t :=
  h.congr (h.base.congr (congrArg (·.1) e) es) e

/-- `sync` picks the first usable priority `n` (or the last) and hands it to `switchTo`, which keeps `Base` and acts on
    the children as the pointwise map `switchF`: the identity above `n`, stop below, start at `n`.  Each clause of `Sel`
    is read off that map at the three places. -/
theorem sync_inv {s : St} (hb : Base s) (hpn : s.prios.Nodup) (has : ∀ n ∈ s.prios, n ∈ names s.children)
    (upd : Option Nat) (hup : PreUp s upd) (hne : s.prios ≠ []) : Inv (sync s upd) := by
  have hch : ∀ m ∈ s.prios, ∃ cm, findChild s m = some cm := fun m hm =>
    Option.ne_none_iff_exists'.mp fun h => findChild_none_iff.mp h (has m hm)
  unfold sync
  rcases syncFrom_cases s upd s.prios with ⟨-, hn⟩ | ⟨pre, n, rest', c, hsplit, hf, hp, hpre, he⟩
  · obtain ⟨n, hn, hf⟩ := hn hne
    exact absurd (has n hn) (findChild_none_iff.mp hf)
  rw [he]
  have hcn := (findChild_some hf).2
  -- the state handed to switchTo: the parent has the state of `c`, newly sent or from before
  obtain ⟨s1, hs1, hb1, hc1, hp1, hn1, hl1⟩ : ∃ s1 : St,
      s1 = (if s.inUse ≠ some n ∨ upd = some n then sendUp s c.st else s) ∧ Base s1 ∧ s1.children = s.children ∧
      s1.prios = s.prios ∧ s1.now = s.now ∧ s1.lastUp = some c.st := by
    refine ⟨_, rfl, ?_⟩
    split
    · exact ⟨hb.congr rfl rfl, rfl, rfl, rfl, rfl⟩
    · next hcond =>
      have hcond := not_or.mp hcond
      exact ⟨hb, rfl, rfl, rfl, hup c (by rw [hcn]; exact Decidable.not_not.mp hcond.1) (by rw [hcn]; exact hf)
        (by rw [hcn]; exact hcond.2)⟩
  rw [← hs1]
  have w := switchTo_spec hb1 c rest'
  have w1 := w.kids
  rw [hn1, hc1] at w1
  have hfm : ∀ m, findChild (switchTo s1 c rest') m = (findChild s m).map (switchF s.now c rest') :=
    findChild_map (switchF_name s.now c rest') w1
  have hpr : (switchTo s1 c rest').prios = s.prios := w.prios.trans hp1
  obtain ⟨-, hnr, hdis⟩ := List.nodup_append.mp (hsplit ▸ hpn)
  have hn_rest : n ∉ rest' := (List.nodup_cons.mp hnr).1
  have hself : switchF s.now c rest' c = _ := switchF_self (by rw [hcn]; exact hn_rest)
  refine ⟨w.base, by rw [hpr]; exact hpn, by rw [hpr, w1, names_map (switchF_name s.now c rest')]; exact has,
    fun _ => ⟨pre, n, rest', switchF s.now c rest' c,
      { split := hpr.trans hsplit, inUse := w.inUse.trans (congrArg some hcn), child := by rw [hfm, hf]; rfl,
        started := ?_, usableOrLast := ?_, higher := ?_, lower := ?_, lastUp := ?_ }⟩,
    fun h => absurd (hpr.symm.trans h) hne⟩
  · rw [hself]; split
    · assumption
    · rfl
  · rw [hself]
    cases hcs : c.started with
    | true =>
      have : usable c = true ∨ rest'.isEmpty = true := by simpa [pick, hcs] using hp
      exact this.imp id List.isEmpty_iff.mp
    | false =>
      -- a child that was stopped is CONNECTING and now has its init timer
      simp [usable, (hb.ok n c hf).st hcs, initState]
  · intro a ha
    obtain ⟨ca, hfa⟩ := hch a (by rw [hsplit]; simp [ha])
    have hcan := (findChild_some hfa).2
    refine ⟨ca, ?_, hpre a ha ca hfa⟩
    rw [hfm, hfa, Option.map_some, switchF_other (by rw [hcan, hcn]; exact hdis a ha n List.mem_cons_self)
      (by rw [hcan]; exact fun h => hdis a ha a (List.mem_cons_of_mem _ h) rfl)]
  · intro b hb'
    obtain ⟨cb, hfb⟩ := hch b (by rw [hsplit]; simp [hb'])
    have hcbn := (findChild_some hfb).2
    exact ⟨_, by rw [hfm, hfb]; rfl,
      switchF_lower (by rw [hcbn, hcn]; rintro rfl; exact hn_rest hb') (by rw [hcbn]; exact hb')⟩
  · rw [w.lastUp.trans hl1, hself]; split <;> rfl

theorem modChild_findChild (s : St) (n : Nat) (f : Child → Child) (hf : ∀ c, (f c).name = c.name) (m : Nat) :
    findChild (modChild s n f) m = (findChild s m).map (fun c => if c.name = n then f c else c) :=
  find_map_key Child.name s.children n m f hf

/-- one child is changed (not its name, not whether it is started), then syncPriority runs; the
    state of the child in use may change only if that child is the one being updated -/
theorem modSync_inv {s : St} (h : Inv s) (n : Nat) (f : Child → Child)
    (hf : ∀ c, (f c).name = c.name ∧ (f c).started = c.started)
    (hok : ∀ c, findChild s n = some c → ChildOK c → ChildOK (f c)) (upd : Option Nat)
    (hst : upd ≠ some n → ∀ c, (f c).st = c.st) : Inv (sync (modChild s n f) upd) := by
  have hb := modChild_base h.base n f hf hok
  have has : ∀ m ∈ s.prios, m ∈ names (modChild s n f).children := by
    rw [show names (modChild s n f).children = names s.children from names_map fun x => by split; exact (hf x).1; rfl]
    exact h.has
  by_cases hp : s.prios = []
  · have : sync (modChild s n f) upd = modChild s n f := by
      unfold sync; rw [show (modChild s n f).prios = [] from hp]; rfl
    rw [this]
    exact ⟨hb, h.pn, has, fun hh => absurd hp hh, fun _ => h.noPrio hp⟩
  · refine sync_inv hb h.pn has upd ?_ hp
    intro c' hin hf' hne
    obtain ⟨_, u, _, cu, hsel⟩ := h.sel hp
    obtain rfl : u = c'.name := Option.some.inj (hsel.inUse.symm.trans hin)
    rw [modChild_findChild s n f (fun c => (hf c).1), hsel.child] at hf'
    obtain rfl : (if cu.name = n then f cu else cu) = c' := Option.some.inj hf'
    show s.lastUp = _
    rw [hsel.lastUp]; split
    · next e =>
      -- the child in use is the one that `f` changes: it is not the one being updated, so `f` keeps its state
      have : n = (if cu.name = n then f cu else cu).name := by rw [if_pos e, (hf cu).1, e]
      rw [hst fun hh => hne (hh.trans (congrArg some this))]
    · rfl

theorem handleChild_inv {s : St} (h : Inv s) (n : Nat) (p : PState) : Inv (handleChild s n p) := by
  unfold handleChild
  split
  · exact h
  · next c hf =>
    split
    · exact h
    · next hs =>
      refine modSync_inv h n _ (fun c => applyState_name_started _ c _) ?_ (some n) (fun hh => absurd rfl hh)
      intro x hx hxo
      obtain rfl := Option.some.inj (hf.symm.trans hx)
      exact childOK_applyState _ _ hxo (by simpa using hs)

theorem settle_inv {s : St} (h : Inv s) : Inv (settle s) :=
  drain_inv (P := Inv) (fun _ _ h => h.same rfl rfl) (fun _ n p h => handleChild_inv h n p) _ h

theorem timerFire_inv {s : St} (h : Inv s) (n : Nat) : Inv (timerFire s n) :=
  settle_inv (modSync_inv h n (fun c => { c with timer := none }) (fun _ => ⟨rfl, rfl⟩)
    (fun _ _ hc => ⟨hc.st, fun _ => rfl, hc.notTF, fun _ => rfl⟩) none (fun _ _ => rfl))

theorem update_inv {s : St} (h : Inv s) (prios : List Nat) (kids : List (Nat × Nat)) (hv : ValidCfg prios kids) :
    Inv (update s prios kids) := by
  obtain ⟨hnd, hkids⟩ := hv
  obtain ⟨f1, f2⟩ := foldl_updChild_base kids h.base
  obtain ⟨d1, d2⟩ := dropChildren_base f1 (kids.map (·.1))
  unfold update; dsimp only
  generalize dropChildren (kids.foldl updChild s) (kids.map (·.1)) = t at d1 d2
  have has : ∀ n ∈ prios, n ∈ names t.children := fun n hn => (d2 n).mpr ⟨(f2 n).mpr (Or.inr (hkids n hn)), hkids n hn⟩
  split
  · next hp =>
    obtain rfl : prios = [] := List.isEmpty_iff.mp hp
    exact ⟨d1.congr rfl rfl, hnd, has, fun hh => absurd rfl hh, fun _ => ⟨rfl, Or.inr rfl⟩⟩
  · next hp =>
    -- `sync` is told that the child in use is the one updated, so `PreUp` asks nothing
    refine settle_inv (sync_inv (s := { t with prios := prios }) (d1.congr rfl rfl) hnd has t.inUse
      (fun c hin _ hne => absurd hin hne) fun h => hp (List.isEmpty_iff.mpr h))

theorem step_inv {s : St} (h : Inv s) (op : Op) (hv : validOp op) : Inv (step s op) := by
  have hclear : Inv (clearOut s) := h.same rfl rfl
  -- the branches of `step` in the order of its text: `update` 1, `child` 2, `timer` 3-5, `dispatch` 6, `runcb` 7,
  -- `expire` 8-10, `advance` 11; a timer or cache entry that is not there (4, 5, 9, 10) only clears the outputs
  fun_cases step s op
  case case1 prios kids => exact update_inv hclear prios kids hv
  case case2 n conn =>
    unfold childReport
    split
    · exact hclear
    · exact settle_inv (handleChild_inv (hclear.congr (setLast_base hclear.base n _ _) rfl) _ _)
  case case3 n _ _ _ => exact timerFire_inv hclear n
  case case6 n =>
    rcases dispatch_cases (clearOut s) n with he | ⟨_, -, he⟩ <;> rw [he]
    · exact hclear
    · exact hclear.same rfl rfl
  case case7 =>
    have h1 (rest) : Inv { clearOut s with pending := rest } := hclear.same rfl rfl
    rcases runCallback_cases (clearOut s) with ⟨_, e⟩ | ⟨n, _, rest, _, ⟨_, e⟩ | ⟨_, e⟩⟩ <;> rw [e]
    · exact hclear
    · exact timerFire_inv (h1 rest) n
    · exact h1 rest
  case case8 n b hb hcached => exact hclear.congr (cacheExpire_base hclear.base n hb hcached) rfl
  case case11 => exact hclear.same rfl rfl
  all_goals exact hclear

theorem reach_inv {s : St} (h : Reach s) : Inv s := by
  induction h with
  | init =>
    exact {
      base := {
        cn := List.nodup_nil
        sn := List.nodup_nil
        ok := fun _ _ h => nomatch h
        sb := fun _ => ⟨fun ⟨_, h, _⟩ => (nomatch h), fun ⟨_, h, _⟩ => nomatch h⟩ }
      pn := List.nodup_nil
      has := fun _ h => nomatch h
      sel := fun hh => absurd rfl hh
      noPrio := fun _ => ⟨rfl, .inl rfl⟩ }
  | step op hv _ ih => exact step_inv ih op hv

end GrpcProofs.Lemmas.Priority
