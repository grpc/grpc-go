/-
Lemmas for C22 about the client RPC goroutine of GrpcModel/Model/Deadline.lean. `WF`, the invariant of every run, says three
things. The stream's life: nothing happens to a stream before NewStream creates it, and the goroutine is past NewStream
exactly when it exists. Who listens to the context: a created streaming RPC has the watcher, which finishes the stream as
soon as the context is done; a unary RPC has only its selects, and never waits for write quota. The recv buffer: items come
after the headers, and a stream that is done keeps a terminal item for the reader. Preservation is proved write by write
(`WF.goto`, `pop`, `arrive`, `forget` / `restore`): each way past a select in `wake` and each event of `step` is one or two
of these writes.
-/
import GrpcModel.Model.Deadline
namespace GrpcProofs.Lemmas.Deadline
open GrpcModel.Deadline GrpcModel.Generated

/-- The state right after `ctxFire e`, before the RPC goroutine runs. -/
def fired (s : St) (e : CtxErr) : St :=
  if s.watcher then finish { s with ctx := some e } (codeOfCtx e) else { s with ctx := some e }

section fields
variable (s : St) (e : CtxErr)
theorem closeStream_pc (c : Nat) : (closeStream s c).pc = s.pc := by unfold closeStream; split <;> rfl
theorem closeStream_ctx (c : Nat) : (closeStream s c).ctx = s.ctx := by unfold closeStream; split <;> rfl
theorem closeStream_buf (c : Nat) (h : s.sdone = false) : (closeStream s c).buf = s.buf ++ [.err c] := by
  simp [closeStream, h]
theorem fired_pc_ctx : (fired s e).pc = s.pc ∧ (fired s e).ctx = some e := by
  unfold fired; split
  · unfold finish; split
    · exact ⟨rfl, rfl⟩
    · exact ⟨closeStream_pc .., closeStream_ctx ..⟩
  · exact ⟨rfl, rfl⟩
end fields

variable {b b' : Bool} {s s' : St} {e : CtxErr} {c : Nat}

theorem resume_none (h : wake b s = none) : ∀ fuel, resume b fuel s = s
  | 0 => rfl
  | fuel + 1 => by simp [resume, h]

theorem resume_some (h : wake b s = some s') (fuel : Nat) : resume b (fuel + 1) s = resume b fuel s' := by
  simp [resume, h]

theorem resume_stop (h : wake b s = some s') (h' : wake b s' = none) (fuel : Nat) : resume b (fuel + 1) s = s' :=
  (resume_some h _).trans (resume_none h' _)

theorem resume_induct {P : St → Prop} (hP : ∀ {s s'}, P s → wake b s = some s' → P s') :
    ∀ (fuel : Nat) {s : St}, P s → P (resume b fuel s)
  | 0, _, h => h
  | fuel + 1, s, h => by
    unfold resume
    split
    · exact h
    · next hw => exact resume_induct hP fuel (hP h hw)

theorem wake_returned (h : s.pc = .returned c) : wake b s = none := by simp [wake, h]

theorem wake_app (h : s.pc = .app) : wake b s = none := by simp [wake, h]

theorem step_ctxFire (hc : s.ctx = none) : step b s (.ctxFire e) = resume b (fuelOf (fired s e)) (fired s e) := by
  simp only [step, hc, fired]

theorem closeStream_of_sdone (h : s.sdone = true) : closeStream s c = s := if_pos h

theorem closeStream_of_live (h : s.sdone = false) :
    closeStream s c = { s with sdone := true, rstSent := true, hdr := true, buf := s.buf ++ [.err c] } :=
  if_neg (by simp [h])

theorem closeStream_sdone (s : St) (c : Nat) : (closeStream s c).sdone = true := by
  unfold closeStream; split
  · assumption
  · rfl

theorem closeStream_goto (s : St) (c : Nat) (p : PC) :
    closeStream { s with pc := p } c = { closeStream s c with pc := p } := by
  unfold closeStream; split <;> rfl

theorem finish_of_none (h : s.finished = none) : finish s c = closeStream { s with finished := some c } c := by
  simp [finish, h]

theorem fired_of_unwatched (hw : s.watcher = false) : fired s e = { s with ctx := some e } := if_neg (by simp [hw])

theorem recvClose_sdone (hsd : s.sdone = true) : recvClose b s = s := by
  unfold recvClose; split
  · split
    · exact closeStream_of_sdone hsd
    · rfl
  · rfl

theorem recvClose_pc : (recvClose b s).pc = s.pc := by
  unfold recvClose; split
  · split
    · exact closeStream_pc ..
    · rfl
  · rfl

/-- What `takeHead` can make of a state: the call returns, or the head of the buffer, not a terminal item, is taken
    and the goroutine reads on or (server-streaming) goes back to the application. -/
inductive Took (s : St) : St → Prop
  | ret (c : Nat) : Took s { s with pc := .returned c }
  | pop {i : Item} {rest : List Item} (p : PC) (delivered : Nat) (gotMsg midMsg : Bool) :
      s.buf = i :: rest → i.terminal = false → (p = .parked .recv ∨ p = .app ∧ s.serverStreams = true) →
      Took s { s with buf := rest, delivered, gotMsg, midMsg, pc := p }

theorem takeHead_cases {r : Option St} (h : takeHead s = r) :
    match r with
    | none => s.buf = []
    | some s' => Took s s' := by
  unfold takeHead at h
  split at h
  · next hb => exact h ▸ hb
  · next rest hb =>
    split at h
    · next hss => exact h ▸ .pop _ _ _ _ hb rfl (.inr ⟨rfl, hss⟩)
    · split at h
      · exact h ▸ .ret _
      · exact h ▸ .pop _ _ _ _ hb rfl (.inl rfl)
  · exact h ▸ .ret _
  · split at h <;> exact h ▸ .ret _
  · next rest hb => exact h ▸ .pop _ _ _ _ hb rfl (.inl rfl)

theorem takeHead_err {rest : List Item} (hb : s.buf = .err c :: rest) :
    takeHead s = some { s with pc := .returned c } := by
  rw [takeHead, hb]

theorem takeHead_msg {rest : List Item} (hb : s.buf = .msg :: rest) (hs : s.serverStreams = true) :
    takeHead s = some { s with buf := rest, delivered := s.delivered + 1, midMsg := false, pc := .app } := by
  rw [takeHead, hb]; exact if_pos hs

/-- What `wake` does at each blocking point, with the guards the proofs below read: `none` is "no select
    case ready". The one place where `wake` is taken apart by cases. -/
theorem wake_cases {p : Pos} (hp : s.pc = .parked p) {r : Option St} (hw : wake b s = r) :
    match (generalizing := false) p, r with
    | .pick, none => s.ctx = none ∧ s.ready = false
    | .pick, some s' => (∃ c, s' = { s with pc := .returned c }) ∨ s' = { s with pc := .parked .newStream }
    | .newStream, none => s.ctx = none ∧ s.squota = 0
    | .newStream, some s' =>
      (∃ c, s' = { s with pc := .returned c }) ∨
      s.streaming = true ∧ s' = armWatcher { s with squota := s.squota - 1, created := true, pc := .app } ∨
      s.streaming = false ∧ s' = { s with squota := s.squota - 1, created := true, pc := .parked .wquota, sends := 1 }
    | .wquota, none => ¬ s.wq > 0 ∧ s.sdone = false
    | .wquota, some s' =>
      ∃ wq pc, (pc = .app ∧ s.streaming = true ∨ pc = .parked .header ∨ pc = .parked .recv) ∧ s' = { s with wq, pc }
    | .header, none => s.ctx = none ∧ s.hdr = false
    | .header, some s' =>
      ∃ t, (t = s ∨ ∃ e, s.ctx = some e ∧ t = closeStream s (codeOfCtx e)) ∧ s' = { t with pc := .parked .recv }
    | .recv, none => (recvClose b s).buf = []
    | .recv, some s' => Took (recvClose b s) s' := by
  cases p <;> simp only [wake, hp] at hw
  case pick =>
    split at hw
    · exact hw ▸ .inl ⟨_, rfl⟩
    · split at hw
      · exact hw ▸ .inl ⟨_, rfl⟩
      · exact hw ▸ .inr rfl
    · exact hw ▸ .inr rfl
    · next hc hr => exact hw ▸ ⟨hc, hr⟩
  case newStream =>
    split at hw
    · split at hw
      · next hs => exact hw ▸ .inr (.inl ⟨hs, rfl⟩)
      · next hs => exact hw ▸ .inr (.inr ⟨eq_false_of_ne_true hs, rfl⟩)
    · next hq =>
      split at hw
      · exact hw ▸ .inl ⟨_, rfl⟩
      · next hc => exact hw ▸ ⟨hc, by omega⟩
  case wquota =>
    split at hw
    · split at hw
      · next hs => exact hw ▸ ⟨_, _, .inl ⟨rfl, hs⟩, rfl⟩
      · exact hw ▸ ⟨_, _, .inr (.inl rfl), rfl⟩
    · next hq =>
      split at hw
      · split at hw
        · next hs => exact hw ▸ ⟨_, _, .inl ⟨rfl, hs⟩, rfl⟩
        · exact hw ▸ ⟨_, _, .inr (.inr rfl), rfl⟩
      · next hsd => exact hw ▸ ⟨hq, eq_false_of_ne_true hsd⟩
  case header =>
    split at hw
    · next hc _ => exact hw ▸ ⟨_, .inr ⟨_, hc, rfl⟩, rfl⟩
    · next hc _ =>
      split at hw
      · exact hw ▸ ⟨_, .inr ⟨_, hc, rfl⟩, rfl⟩
      · exact hw ▸ ⟨_, .inl rfl, rfl⟩
    · exact hw ▸ ⟨_, .inl rfl, rfl⟩
    · next hc hh => exact hw ▸ ⟨hc, hh⟩
  case recv =>
    cases r <;> exact takeHead_cases hw

theorem parked_of_wake (hw : wake b s = some s') : ∃ p, s.pc = .parked p :=
  match hp : s.pc with
  | .parked p => ⟨p, rfl⟩
  | .app => nomatch (wake_app hp).symm.trans hw
  | .returned _ => nomatch (wake_returned hp).symm.trans hw

structure WF (s : St) : Prop where
  hdr_buf : s.hdr = false → s.buf = [] ∧ s.sdone = false
  fin_ctx : s.ctx = none → s.finished = none
  sdone_buf : s.sdone = true → (∃ i ∈ s.buf, i.terminal = true) ∨ (∃ c, s.pc = .returned c)
  watch_s : s.streaming = true → s.created = true → s.watcher = true
  watch_u : s.watcher = true → s.streaming = true ∧ s.created = true
  created_pos : (s.pc = .parked .wquota ∨ s.pc = .parked .header ∨ s.pc = .parked .recv ∨ s.pc = .app) → s.created = true
  unary_wq : s.streaming = false → (s.pc = .parked .pick ∨ s.pc = .parked .newStream ∨ s.pc = .parked .wquota) → s.wq > 0
  app_streaming : s.pc = .app → s.streaming = true
  ctx_sdone : s.ctx ≠ none → s.streaming = true → s.created = true → s.sdone = true
  fresh : s.created = false → s.finished = none ∧ s.sdone = false ∧ s.hdr = false
  pre_created : (s.pc = .parked .pick ∨ s.pc = .parked .newStream) → s.created = false
  ss_streaming : s.serverStreams = true → s.streaming = true

theorem wf_init (st rd : Bool) (q sz : Nat) (ss : Bool) : WF (St.init st rd q sz ss) := by
  constructor <;> simp [St.init, defaultWriteQuota]
  -- `serverStreams` starts as `streaming && serverStreams`
  case ss_streaming => exact fun h _ => h

/-- What `WF` asks of the rest of the state for the goroutine to be at a position: `created_pos`,
    `pre_created`, `unary_wq` and `app_streaming`, read by position. -/
def At (s : St) (wq : Int) : PC → Prop
  | .parked .pick | .parked .newStream => s.created = false ∧ (s.streaming = false → wq > 0)
  | .parked .wquota => s.created = true ∧ (s.streaming = false → wq > 0)
  | .parked _ => s.created = true
  | .app => s.created = true ∧ s.streaming = true
  | .returned _ => True

/-! Each lemma below is about one kind of write to the state: the clauses of `WF` it can disturb are the ones given anew
after `h with`. Fields that `WF` does not read are universally quantified in the conclusions, so that a lemma applies
whatever an operation does to them besides. -/
namespace WF
variable (h : WF s) {wq : Int} {ready : Bool} {squota sendSz sends delivered : Nat} {gotMsg midMsg rstSent : Bool}
include h

/-- `WF` read by position: the only place that spells out its disjunctions. -/
theorem at_of {p : PC} (hp : s.pc = p) : At s s.wq p :=
  match p, hp with
  | .parked .pick, hp => ⟨h.pre_created (.inl hp), fun hs => h.unary_wq hs (.inl hp)⟩
  | .parked .newStream, hp => ⟨h.pre_created (.inr hp), fun hs => h.unary_wq hs (.inr (.inl hp))⟩
  | .parked .wquota, hp => ⟨h.created_pos (.inl hp), fun hs => h.unary_wq hs (.inr (.inr hp))⟩
  | .parked .header, hp => h.created_pos (.inr (.inl hp))
  | .parked .recv, hp => h.created_pos (.inr (.inr (.inl hp)))
  | .app, hp => ⟨h.created_pos (.inr (.inr (.inr hp))), h.app_streaming hp⟩
  | .returned _, _ => trivial

theorem fresh_finished (hn : s.created = false) : s.finished = none := (h.fresh hn).1

theorem fresh_sdone (hn : s.created = false) : s.sdone = false := (h.fresh hn).2.1

/-- `hret` keeps `sdone_buf`: a call that has returned stays returned. -/
theorem goto (p : PC) (hret : (∃ c, s.pc = .returned c) → ∃ c, p = .returned c) (hat : At s wq p) :
    WF { s with pc := p, wq, ready, squota, sendSz, sends, delivered, gotMsg, midMsg } :=
  { h with
    sdone_buf := fun hsd => (h.sdone_buf hsd).imp_right hret
    created_pos := fun (hp : p = _ ∨ p = _ ∨ p = _ ∨ p = _) => by
      rcases hp with rfl | rfl | rfl | rfl
      · exact hat.1
      · exact hat
      · exact hat
      · exact hat.1
    pre_created := fun (hp : p = _ ∨ p = _) => by rcases hp with rfl | rfl <;> exact hat.1
    unary_wq := fun hs (hp : p = _ ∨ p = _ ∨ p = _) => by rcases hp with rfl | rfl | rfl <;> exact hat.2 hs
    app_streaming := fun (hp : p = _) => by subst hp; exact hat.2 }

theorem retire (c : Nat) : WF { s with pc := .returned c, ready, squota, sendSz, sends, delivered, gotMsg, midMsg } :=
  h.goto _ (fun _ => ⟨c, rfl⟩) trivial

theorem frame (hwq : s.wq ≤ wq) : WF { s with wq, ready, squota } :=
  { h with unary_wq := fun hs hp => Int.lt_of_lt_of_le (h.unary_wq hs hp) hwq }

/-- The buffer was not empty, so the headers are in. -/
theorem pop {i : Item} {rest : List Item} (hb : s.buf = i :: rest) (hi : i.terminal = false) :
    WF { s with buf := rest } :=
  { h with
    hdr_buf := fun hh => absurd (h.hdr_buf hh).1 (by simp [hb])
    sdone_buf := fun hsd => (h.sdone_buf hsd).imp_left fun ⟨j, hj, ht⟩ =>
      ⟨j, (List.mem_cons.mp (hb ▸ hj)).resolve_left (fun e => by rw [e, hi] at ht; cases ht), ht⟩ }

/-- Something arrives for a created stream that is not yet done (headers, DATA, trailers, or the error item of
    `closeStream`); `hd`: a terminal item is in the buffer if this is what ends the stream. -/
theorem arrive (hcr : s.created = true) (hsd : s.sdone = false) {buf : List Item} {d : Bool}
    (hd : d = s.sdone ∨ ∃ i ∈ buf, i.terminal = true) :
    WF { s with hdr := true, buf, sdone := d, rstSent } :=
  { h with
    hdr_buf := nofun
    sdone_buf := fun (hd' : d = true) => .inl (hd.resolve_left fun e => nomatch hsd.symm.trans (e.symm.trans hd'))
    ctx_sdone := fun hc hs hcr => absurd (h.ctx_sdone hc hs hcr) (by simp [hsd])
    fresh := fun hn => nomatch hcr.symm.trans hn }

/-- Only `fin_ctx`, `ctx_sdone` and `fresh` tie the context and the status `cs.finish` recorded to the rest, and all three
    hold of a live context with no status, so the two fields can be erased and put back (`restore`). Operations that set them
    (`ctxFire`, `finish`) go through an intermediate state that violates `ctx_sdone`; erased, it does not. -/
theorem forget : WF { s with ctx := none, finished := none } :=
  { h with
    fin_ctx := fun _ => rfl
    ctx_sdone := fun hc => absurd rfl hc
    fresh := fun hn => ⟨rfl, (h.fresh hn).2⟩ }

omit h in
theorem restore (h : WF { s with ctx := none, finished := none }) (hcr : s.created = true)
    (hf : s.ctx = none → s.finished = none) (hsd : s.ctx ≠ none → s.streaming = true → s.sdone = true) : WF s :=
  { h with
    fin_ctx := hf
    ctx_sdone := fun hc hs _ => hsd hc hs
    fresh := fun hn => nomatch hcr.symm.trans hn }

theorem unwatched (hn : s.streaming = false ∨ s.created = false) : s.watcher = false := by
  cases hw : s.watcher with
  | false => rfl
  | true => have := h.watch_u hw; rcases hn with hn | hn <;> simp [hn] at this

end WF

/-- `closeStream` closes `s.done`, so on a created stream it establishes the clauses about the
    context whatever the context is. -/
theorem wf_closeStream_of_forget (h : WF { s with ctx := none, finished := none }) (hcr : s.created = true)
    (hf : s.ctx = none → s.finished = none) : WF (closeStream s c) := by
  cases hsd : s.sdone
  · rw [closeStream_of_live hsd]
    exact (h.arrive hcr hsd (.inr ⟨.err c, by simp, rfl⟩)).restore hcr hf fun _ _ => rfl
  · rw [closeStream_of_sdone hsd]
    exact h.restore hcr hf fun _ _ => hsd

theorem wf_closeStream (h : WF s) (hcr : s.created = true) : WF (closeStream s c) :=
  wf_closeStream_of_forget h.forget hcr h.fin_ctx

theorem wf_finish_of_forget (h : WF { s with ctx := none, finished := none }) (hcr : s.created = true)
    (hc : s.ctx ≠ none) (hf : s.finished = none) : WF (finish s c) := by
  rw [finish_of_none hf]; exact wf_closeStream_of_forget h hcr fun h0 => absurd h0 hc

theorem wf_finish {s : St} (h : WF s) (c : Nat) (hc : s.ctx ≠ none) (hcr : s.created = true) : WF (finish s c) := by
  cases hf : s.finished
  · exact wf_finish_of_forget h.forget hcr hc hf
  · rw [finish, hf]; exact h

/-- `ctxFire`: with the watcher armed the stream is created and `finish` runs; without it the RPC is
    unary or has no stream yet, and `ctx_sdone` does not apply. -/
theorem wf_fired (h : WF s) (hc : s.ctx = none) : WF (fired s e) := by
  unfold fired
  split
  · next hw => exact wf_finish_of_forget h.forget (h.watch_u hw).2 nofun (h.fin_ctx hc)
  · next hw => exact { h with fin_ctx := nofun, ctx_sdone := fun _ hs hcr => absurd (h.watch_s hs hcr) hw }

theorem wf_took (h : WF s) (hp : s.pc = .parked .recv) (ht : Took s s') : WF s' := by
  have hcr : s.created = true := h.at_of hp
  cases ht with
  | ret c => exact h.retire c
  | pop p _ _ _ hb hi hp' =>
    refine (h.pop hb hi).goto p (by simp [hp]) ?_
    obtain rfl | ⟨rfl, hss⟩ := hp'
    · exact hcr
    · exact ⟨hcr, h.ss_streaming hss⟩

theorem wf_recvClose (h : WF s) (hcr : s.created = true) : WF (recvClose b s) := by
  unfold recvClose
  split
  · split
    · exact wf_closeStream h hcr
    · exact h
  · exact h

/-- NewStream has got its quota. Until now nothing has happened to the stream (`fresh`), and only a
    streaming RPC gets a watcher. Stated without the context, so that it serves `armWatcher` with the
    context done as well as live. -/
theorem wf_create (h : WF s) (hp : s.pc = .parked .newStream) {p : PC} {w : Bool} {squota sends : Nat}
    (hw : w = s.streaming) (hp' : p = .app ∧ s.streaming = true ∨ p = .parked .wquota) :
    WF { s with squota, sends, created := true, pc := p, watcher := w, ctx := none, finished := none } :=
  { h.forget with
    sdone_buf := fun hsd => nomatch (h.fresh_sdone (h.at_of hp).1).symm.trans hsd
    watch_s := fun hs _ => hw.trans hs
    watch_u := fun hw' => ⟨hw.symm.trans hw', rfl⟩
    created_pos := fun _ => rfl
    unary_wq := fun hu _ => (h.at_of hp).2 hu
    app_streaming := fun (hp'' : p = _) => by
      rcases hp' with ⟨_, hs⟩ | rfl
      · exact hs
      · cases hp''
    ctx_sdone := fun hc => absurd rfl hc
    fresh := nofun
    pre_created := fun (hp'' : p = _ ∨ p = _) => by rcases hp' with ⟨rfl, _⟩ | rfl <;> simp at hp'' }

theorem wf_wake (h : WF s) (hw : wake b s = some s') : WF s' := by
  obtain ⟨p, hp⟩ := parked_of_wake hw
  have hk := wake_cases hp hw
  have hat := h.at_of hp
  have hlive {q : Prop} : (∃ c, s.pc = .returned c) → q := by simp [hp]
  cases p with
  | pick =>
    -- fail with the context's status, or go on to NewStream (same clause of `At`)
    obtain ⟨_, rfl⟩ | rfl := hk
    · exact h.retire _
    · exact h.goto _ hlive hat
  | newStream =>
    have hpre : s.created = false := hat.1
    have hf := h.fresh_finished hpre
    obtain ⟨_, rfl⟩ | ⟨hs, rfl⟩ | ⟨hs, rfl⟩ := hk
    · exact h.retire _
    · unfold armWatcher
      split
      · next he => exact wf_finish_of_forget (wf_create h hp hs.symm (.inl ⟨rfl, hs⟩)) rfl (fun h0 => nomatch he.symm.trans h0) hf
      · next he => exact (wf_create h hp hs.symm (.inl ⟨rfl, hs⟩)).restore rfl (fun _ => hf) fun h0 => absurd he h0
    · have hw := (h.unwatched (.inr hpre)).trans hs.symm
      exact (wf_create h hp hw (.inr rfl)).restore rfl h.fin_ctx fun _ hs' => nomatch hs.symm.trans hs'
  | wquota =>
    -- with quota or because the stream is done: back to the application if streaming, else on to a read
    obtain ⟨_, _, hpc, rfl⟩ := hk
    refine h.goto _ hlive ?_
    obtain ⟨rfl, hs⟩ | rfl | rfl := hpc
    · exact ⟨hat.1, hs⟩
    · exact hat.1
    · exact hat.1
  | header =>
    -- on to the recv buffer, after `closeStream` if the select took the context case
    obtain ⟨_, rfl | ⟨e, _, rfl⟩, rfl⟩ := hk
    · exact h.goto _ hlive hat
    · have hp' := (closeStream_pc s (codeOfCtx e)).trans hp
      have h' := wf_closeStream h hat (c := codeOfCtx e)
      have hat' := h'.at_of hp'
      exact h'.goto _ (by simp [hp']) hat'
  | recv => exact wf_took (wf_recvClose h hat) (by rw [recvClose_pc, hp]) hk

theorem wf_resume (fuel : Nat) (h : WF s) : WF (resume b fuel s) :=
  resume_induct wf_wake fuel h

theorem wf_step (h : WF s) (ev : Ev) : WF (step b s ev) := by
  -- the branches of `step` in the order of its text: `ctxFire` 1-2, `pickerReady` 3, `quotaAvail` 4, `replenish` 5; the
  -- four arrivals from the server, each dropped (even) or taken (odd), 6-13; `appSend` 14-16, `appRecv` 17-18
  fun_cases step b s ev
  case case2 e hc _ _ => exact step_ctxFire hc ▸ wf_resume _ (wf_fired h hc)
  case case3 | case4 => exact wf_resume _ (h.frame (Int.le_refl _))
  case case5 n _ => exact wf_resume _ (h.frame (by omega))
  case case7 hg _ | case9 hg _ | case11 hg _ | case13 hg _ =>
    have ⟨hsd, hcr⟩ : s.sdone = false ∧ s.created = true := by simpa using hg
    exact wf_resume _ (h.arrive hcr hsd (by simp))
  case case15 hp _ _ =>
    exact wf_resume _ (h.goto _ (by simp [hp]) ⟨(h.at_of hp).1, fun hs => nomatch hs.symm.trans (h.at_of hp).2⟩)
  case case17 hp _ =>
    have hcr := (h.at_of hp).1
    exact wf_resume _ (h.goto _ (by simp [hp]) (by cases s.hdr <;> exact hcr))
  -- the event changes nothing
  all_goals exact h

theorem wf_run (pref : Nat → Bool) : ∀ (es : List Ev) (k : Nat) {s : St}, WF s → WF (run pref k s es)
  | [], _, _, h => h
  | e :: es, k, _, h => wf_run pref es (k + 1) (wf_step h e)

theorem fired_streaming_created (h : WF s) (hs : s.streaming = true) (hcr : s.created = true)
    (hc : s.ctx = none) (hsd : s.sdone = false) :
    fired s e = { s with ctx := some e, finished := some (codeOfCtx e), sdone := true, rstSent := true, hdr := true,
                         buf := s.buf ++ [.err (codeOfCtx e)] } := by
  rw [fired, if_pos (h.watch_s hs hcr), finish_of_none, closeStream_of_live]
  · exact hsd
  · exact h.fin_ctx hc

/-- Genuinely parked in a state of a run: the context is live (done, it would be a ready case, or have made the watcher
    close `s.done`). -/
theorem WF.parked (h : WF s) {p : Pos} (hp : s.pc = .parked p) (hw : wake b s = none) :
    s.ctx = none ∧
    match p with
    | .pick => s.ready = false
    | .newStream => s.squota = 0
    | .wquota => ¬ s.wq > 0 ∧ s.sdone = false ∧ s.streaming = true
    | .header | .recv => s.buf = [] ∧ s.sdone = false := by
  have hi := wake_cases hp hw
  cases p with
  | pick | newStream => exact hi
  | wquota =>
    -- out of quota, so streaming (`unary_wq`); were the context done, the watcher would have closed `s.done`
    have hs : s.streaming = true := by
      cases hs : s.streaming with
      | true => rfl
      | false => exact absurd ((h.at_of hp).2 hs) hi.1
    refine ⟨?_, hi.1, hi.2, hs⟩
    cases hc : s.ctx with
    | none => rfl
    | some e => exact nomatch hi.2.symm.trans (h.ctx_sdone (by simp [hc]) hs (h.at_of hp).1)
  | header => exact ⟨hi.1, h.hdr_buf hi.2⟩
  | recv =>
    -- after the select the buffer is empty: but a done stream kept a terminal item, and a live one
    -- gets the context's error unless there is something to read already
    cases hsd : s.sdone with
    | true =>
      rw [recvClose_sdone hsd] at hi
      rcases h.sdone_buf hsd with ⟨i, hm, _⟩ | ⟨c, hr⟩
      · exact absurd hi (List.ne_nil_of_mem hm)
      · simp [hp] at hr
    | false =>
      cases hc : s.ctx with
      | none => exact ⟨rfl, by rwa [recvClose, hc] at hi, rfl⟩
      | some e =>
        simp only [recvClose, hc] at hi
        split at hi
        · simp [closeStream_of_live hsd] at hi
        · next hg => simp [hi] at hg

/-- The error with code `c` is, or is about to become, the only item in the recv buffer: the first is
    a unary RPC, whose reading select will close the stream, the second a stream the watcher has closed. -/
def OnlyErr (c : Nat) (s : St) : Prop := s.buf = [] ∧ s.sdone = false ∨ s.buf = [.err c] ∧ s.sdone = true

theorem OnlyErr.close (h : OnlyErr c s) : (closeStream s c).buf = [.err c] := by
  obtain ⟨hb, hsd⟩ | ⟨hb, hsd⟩ := h
  · rw [closeStream_of_live hsd, hb]; rfl
  · rw [closeStream_of_sdone hsd]; exact hb

/-- The context is done and no other select case will ever be ready at `p`; on write quota, which has no context case,
    the watcher has closed `s.done` instead. -/
structure Dying (e : CtxErr) (s : St) (p : Pos) : Prop where
  ctx : s.ctx = some e
  starved : match p with
    | .pick => s.ready = false
    | .newStream => s.squota = 0
    | .wquota => ¬ s.wq > 0 ∧ s.sdone = true ∧ s.streaming = true
    | .header | .recv => OnlyErr (codeOfCtx e) s
  pc : s.pc = .parked p

/-- Where a dying goroutine ends up: the call fails with the context's code, a read having closed the
    stream first; SendMsg goes back to the application, which will find the status on its next read. -/
def ctxExit (c : Nat) (s : St) : Pos → St
  | .pick | .newStream => { s with pc := .returned c }
  | .wquota => { s with pc := .app }
  | .header | .recv => { closeStream s c with pc := .returned c }

theorem ctxExit_pc : ∀ {p : Pos}, p ≠ .wquota → (ctxExit c s p).pc = .returned c
  | .wquota, hne => absurd rfl hne
  | .pick, _ | .newStream, _ | .header, _ | .recv, _ => rfl

theorem Dying.wake_recv (h : Dying e s .recv) (b : Bool) : wake b s = some (ctxExit (codeOfCtx e) s .recv) := by
  have hd : OnlyErr (codeOfCtx e) s := h.starved
  -- the select closes the stream if the watcher has not: either way the error is there to be read
  have hrc : recvClose b s = closeStream s (codeOfCtx e) := by
    obtain ⟨hb, _⟩ | ⟨_, hsd⟩ := hd
    · simp [recvClose, h.ctx, hb]
    · rw [recvClose_sdone hsd, closeStream_of_sdone hsd]
  simp only [wake, h.pc, hrc]
  exact takeHead_err hd.close

theorem Dying.exit {p : Pos} (h : Dying e s p) (b : Bool) (n : Nat) :
    resume b (n + 2) s = ctxExit (codeOfCtx e) s p := by
  cases p with
  | pick | newStream =>
    exact resume_stop (by simp [wake, h.pc, h.ctx, show _ = _ from h.starved, ctxExit]) (wake_returned rfl) _
  | wquota =>
    obtain ⟨hq, hsd, hs⟩ := h.starved
    exact resume_stop (by simp [wake, h.pc, hq, hsd, hs, ctxExit]) (wake_app rfl) _
  | recv => exact resume_stop (h.wake_recv b) (wake_returned rfl) _
  | header =>
    have hd : OnlyErr (codeOfCtx e) s := h.starved
    -- the context case is ready, so `waitOnHeader` passes on to the read, with the stream `t` either untouched or
    -- closed; the read, still dying, then leaves it as `closeStream` leaves `s` in both cases
    cases w : wake b s with
    | none => exact nomatch h.ctx.symm.trans (wake_cases h.pc w).1
    | some _ =>
      obtain ⟨t, ht, rfl⟩ := wake_cases h.pc w
      have ⟨htc, htd, hcl⟩ : t.ctx = some e ∧ OnlyErr (codeOfCtx e) t ∧
          closeStream t (codeOfCtx e) = closeStream s (codeOfCtx e) := by
        rcases ht with rfl | ⟨_, hc, rfl⟩
        · exact ⟨h.ctx, hd, rfl⟩
        · cases h.ctx.symm.trans hc
          exact ⟨(closeStream_ctx ..).trans h.ctx, .inr ⟨hd.close, closeStream_sdone ..⟩,
            closeStream_of_sdone (closeStream_sdone ..)⟩
      have h₁ : Dying e { t with pc := .parked .recv } .recv := { ctx := htc, pc := rfl, starved := htd }
      rw [resume_some w, resume_stop (h₁.wake_recv b) (wake_returned rfl)]
      simp only [ctxExit, closeStream_goto, hcl]

/-- A genuinely parked goroutine is dying once the context fires. Before the stream exists there is
    no watcher, so only the context changes; on write quota and at the two reads the watcher, if
    there is one, closes the stream. -/
theorem dying_fired {p : Pos} (h : WF s) (hp : s.pc = .parked p) (hw : wake b s = none) : Dying e (fired s e) p := by
  have ⟨hc, hi⟩ := h.parked hp hw
  refine { ctx := (fired_pc_ctx s e).2, pc := (fired_pc_ctx s e).1.trans hp, starved := ?_ }
  cases p with
  | pick | newStream => rw [fired_of_unwatched (h.unwatched (.inr (h.at_of hp).1))]; exact hi
  | wquota =>
    have ⟨hq, hsd, hs⟩ := hi
    rw [fired_streaming_created h hs (h.at_of hp).1 hc hsd]; exact ⟨hq, rfl, hs⟩
  | header | recv =>
    have ⟨hb, hsd⟩ := hi
    cases hw : s.watcher with
    | false => rw [fired_of_unwatched hw]; exact .inl hi
    | true =>
      have ⟨hs, hcr⟩ := h.watch_u hw
      rw [fired_streaming_created h hs hcr hc hsd]; exact .inr ⟨by simp [hb], rfl⟩

/-- What the context's firing does to a goroutine genuinely parked at any of the five selects,
    whatever the select choice. -/
theorem parked_ctxFire {p : Pos} (h : WF s) (hp : s.pc = .parked p) (hw : wake b s = none) :
    step b' s (.ctxFire e) = ctxExit (codeOfCtx e) (fired s e) p := by
  rw [step_ctxFire (h.parked hp hw).1, fuelOf]
  exact (dying_fired h hp hw).exit b' _

/-- `s.done` is closed, so the read's select does not touch the stream: the call takes one item
    from the buffer and, if that sends it back to application code or ends it, is over. -/
theorem step_appRecv_done (hp : s.pc = .app) (hh : s.hdr = true) (hsd : s.sdone = true)
    (ht : takeHead { s with pc := .parked .recv } = some s') (hw : wake b s' = none) : step b s .appRecv = s' := by
  have w : wake b { s with pc := .parked .recv } = some s' := by
    simp only [wake]; rw [recvClose_sdone]; exact ht; exact hsd
  simp only [step, hp]; rw [if_pos hh]
  exact resume_stop w hw _

theorem drain_returns (pref : Nat → Bool) (c : Nat) : ∀ (k n : Nat) (s : St), s.pc = .app → (0 < k → s.serverStreams = true) →
    s.hdr = true → s.sdone = true → s.buf = List.replicate k Item.msg ++ [.err c] →
    (run pref n s (List.replicate (k + 1) .appRecv)).pc = .returned c
      ∧ (run pref n s (List.replicate (k + 1) .appRecv)).delivered = s.delivered + k
  | 0, n, s, hp, _, hh, hsd, hb => by
    simp only [List.replicate, run]
    rw [step_appRecv_done hp hh hsd (takeHead_err hb) (wake_returned rfl)]
    exact ⟨rfl, rfl⟩
  | k + 1, n, s, hp, hs, hh, hsd, hb => by
    rw [List.replicate_succ, run,
      step_appRecv_done hp hh hsd (takeHead_msg (by rw [hb, List.replicate_succ]; rfl) (hs k.succ_pos)) (wake_app rfl)]
    have ih := drain_returns pref c k (n + 1) { s with buf := List.replicate k Item.msg ++ [.err c], delivered := s.delivered + 1, midMsg := false, pc := .app }
      rfl (fun _ => hs k.succ_pos) hh hsd rfl
    exact ⟨ih.1, ih.2.trans (by simp only []; omega)⟩

/-- The stream has been released on the client: `s.done` closed, RST_STREAM(CANCEL) on the wire, the
    status fixed to `c`. -/
structure Released (c : Nat) (s : St) : Prop where
  sdone : s.sdone = true
  rstSent : s.rstSent = true
  finished : s.finished = some c

theorem Released.frame (h : Released c s) (h1 : s'.sdone = s.sdone) (h2 : s'.rstSent = s.rstSent)
    (h3 : s'.finished = s.finished) : Released c s' :=
  ⟨h1.trans h.sdone, h2.trans h.rstSent, h3.trans h.finished⟩

theorem released_armWatcher (h : Released c s) : Released c (armWatcher s) := by
  unfold armWatcher; split
  · rw [finish, if_pos (by simp [h.finished])]; exact h.frame rfl rfl rfl
  · exact h.frame rfl rfl rfl

/-- On a released stream `closeStream`, the read's select and the watcher's `finish` do nothing, and
    nothing else in `wake` writes the three fields. -/
theorem released_wake (h : Released c s) (hw : wake b s = some s') : Released c s' := by
  obtain ⟨p, hp⟩ := parked_of_wake hw
  have hk := wake_cases hp hw
  cases p with
  | pick => obtain ⟨_, rfl⟩ | rfl := hk <;> exact h.frame rfl rfl rfl
  | newStream =>
    obtain ⟨_, rfl⟩ | ⟨_, rfl⟩ | ⟨_, rfl⟩ := hk
    · exact h.frame rfl rfl rfl
    · exact released_armWatcher (h.frame rfl rfl rfl)
    · exact h.frame rfl rfl rfl
  | wquota => obtain ⟨_, _, _, rfl⟩ := hk; exact h.frame rfl rfl rfl
  | header =>
    obtain ⟨_, rfl | ⟨_, _, rfl⟩, rfl⟩ := hk
    · exact h.frame rfl rfl rfl
    · rw [closeStream_of_sdone h.sdone]; exact h.frame rfl rfl rfl
  | recv =>
    rw [recvClose_sdone h.sdone] at hk
    cases hk <;> exact h.frame rfl rfl rfl

end GrpcProofs.Lemmas.Deadline
