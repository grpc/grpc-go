/-
Helper lemmas for C37 (ring hash): ring.pick and the two walks of picker.Pick. Core Lean only.
Each walk is put in closed form, as a `List.find?` over the positions it visits (`walkHash_eq`,
`walkRandom_eq`); what C37 says about the walks is read off these two equations.
-/
import GrpcModel.Model.Ring
import GrpcProofs.Lemmas.SortSearch
namespace GrpcProofs.Lemmas.RingWalk
open GrpcModel.Ring GrpcModel.SortSearch GrpcProofs.Lemmas.SortSearch

theorem pairwise_getD {α : Type} {r : α → α → Prop} (hr : ∀ a, r a a) {l : List α} (h : l.Pairwise r) (d : α)
    {i j : Nat} (hij : i ≤ j) (hj : j < l.length) : r (l.getD i d) (l.getD j d) := by
  rcases Nat.lt_or_ge i j with hlt | hge
  · have := List.pairwise_iff_getElem.mp h i j (by omega) hj hlt
    simpa [List.getD_eq_getElem?_getD, List.getElem?_eq_getElem hj,
      List.getElem?_eq_getElem (show i < l.length by omega)] using this
  · obtain rfl : i = j := by omega
    exact hr _

theorem ringPick_spec (items : List RingEntry) (hs : items.Pairwise (fun a b => a.hash ≤ b.hash)) (h : Nat) :
    ((∀ i, i < items.length → (items.getD i ⟨0, 0, 0⟩).hash < h) → ringPick items h = 0) ∧
    ((∃ i, i < items.length ∧ (items.getD i ⟨0, 0, 0⟩).hash ≥ h) →
      ringPick items h < items.length ∧ (items.getD (ringPick items h) ⟨0, 0, 0⟩).hash ≥ h ∧
        ∀ i, i < ringPick items h → (items.getD i ⟨0, 0, 0⟩).hash < h) := by
  have hk := search_splitAt items.length
    (fun i => decide ((items.getD i ⟨0, 0, 0⟩).hash ≥ h)) (by
      intro a b hab hb ha
      have := pairwise_getD (r := fun a b => a.hash ≤ b.hash) (fun _ => Nat.le_refl _) hs ⟨0, 0, 0⟩ hab hb
      simp only [decide_eq_true_eq] at ha ⊢
      omega)
  unfold ringPick
  simp only
  generalize search items.length (fun i => decide ((items.getD i ⟨0, 0, 0⟩).hash ≥ h)) = k at hk ⊢
  have hlo' : ∀ i, i < k → (items.getD i ⟨0, 0, 0⟩).hash < h := fun i hi => by simpa using hk.below i hi
  have hhi' : k < items.length → (items.getD k ⟨0, 0, 0⟩).hash ≥ h := fun hlt => by
    simpa using hk.above k (Nat.le_refl _) hlt
  split
  · refine ⟨fun _ => rfl, fun ⟨i, hi, hge⟩ => ?_⟩
    have := hlo' i (by omega); omega
  · have hlt : k < items.length := by have := hk.le; omega
    refine ⟨fun hall => ?_, fun _ => ⟨hlt, hhi' hlt, hlo'⟩⟩
    have := hall k hlt; have := hhi' hlt; omega

/-- `List.find?_range'_eq_some` for a whole walk (positions `0, …, n - 1`), with the hypotheses in the
    form in which the theorems about the walks have them -/
theorem find?_first {p : Nat → Prop} [DecidablePred p] {n j : Nat} (hj : j < n) (hp : p j)
    (hb : ∀ k, k < j → ¬p k) : (List.range' 0 n).find? (fun k => decide (p k)) = some j :=
  List.find?_range'_eq_some.mpr
    ⟨decide_eq_true hp, List.mem_range'_1.mpr ⟨Nat.zero_le _, by omega⟩, fun k _ hk => by simpa using hb k hk⟩

theorem find?_none {p : Nat → Prop} [DecidablePred p] {n : Nat} (h : ∀ k, k < n → ¬p k) :
    (List.range' 0 n).find? (fun k => decide (p k)) = none :=
  List.find?_range'_eq_none.mpr fun k _ hk => by simpa using h k (by omega)

theorem walkHash_eq (st : Nat → CState) (n start : Nat) : ∀ fuel i,
    walkHash st n start fuel i =
      match (List.range' i fuel).find? (fun k => st ((start + k) % n) ≠ .transientFailure) with
      | none => .delegate start
      | some k => if st ((start + k) % n) = .shutdown then .panic else .delegate ((start + k) % n) := by
  intro fuel
  induction fuel with
  | zero => intro i; rfl
  | succ fuel ih =>
    intro i
    rw [walkHash, List.range'_succ, List.find?_cons]
    cases hs : st ((start + i) % n) <;> simp [hs, ih]

/-- Of the positions `i, …, i + fuel - 1`: the first whose entry is READY or IDLE, if that entry is IDLE.
    This is the entry a random-hash pick sends `exitIdle()` to, unless a connection attempt is already
    under way. -/
def firstIdle (st : Nat → CState) (n start i fuel : Nat) : Option Nat :=
  ((List.range' i fuel).find? fun k => st ((start + k) % n) = .ready ∨ st ((start + k) % n) = .idle).filter
    fun k => st ((start + k) % n) = .idle

theorem firstIdle_some {st : Nat → CState} {n start i fuel k : Nat} (h : firstIdle st n start i fuel = some k) :
    st ((start + k) % n) = .idle := by
  simpa using (Option.filter_eq_some_iff.mp h).2

theorem firstIdle_none {st : Nat → CState} {n start : Nat} (h : firstIdle st n start 0 n = none)
    (hr : ∀ j, j < n → st ((start + j) % n) ≠ .ready) : ∀ j, j < n → st ((start + j) % n) ≠ .idle := by
  intro j hj hid
  cases hf : (List.range' 0 n).find? fun k => st ((start + k) % n) = .ready ∨ st ((start + k) % n) = .idle with
  | none => simpa [hid] using List.find?_range'_eq_none.mp hf j (Nat.zero_le _) (by omega)
  | some k =>
    -- the search stopped at `k`, which is not IDLE, so it is READY
    have hk := List.find?_range'_eq_some.mp hf
    have hnid : st ((start + k) % n) ≠ .idle := by
      rw [firstIdle, hf, Option.filter_some] at h
      simpa using h
    exact hr k (by have := List.mem_range'_1.mp hk.2.1; omega) ((of_decide_eq_true hk.1).resolve_right hnid)

theorem walkRandom_eq (st : Nat → CState) (n start : Nat) : ∀ fuel i requested ex,
    walkRandom st n start fuel i requested ex =
      let woken := if requested then none else firstIdle st n start i fuel
      (match (List.range' i fuel).find? (fun k => st ((start + k) % n) = .ready) with
        | some k => .delegate ((start + k) % n)
        | none => if requested || woken.isSome then .queue else .delegate start,
       ex ++ (woken.map fun k => (start + k) % n).toList) := by
  intro fuel
  induction fuel with
  | zero => intro i requested ex; cases requested <;> simp [walkRandom, firstIdle]
  | succ fuel ih =>
    intro i requested ex
    rw [walkRandom, firstIdle, List.range'_succ, List.find?_cons, List.find?_cons]
    by_cases hr : st ((start + i) % n) = .ready
    · cases requested <;> simp [hr]
    · by_cases hi : st ((start + i) % n) = .idle
      · cases requested <;> simp [hi, ih, Option.filter_some]
      · simp [hr, hi, ih, firstIdle]

end GrpcProofs.Lemmas.RingWalk
