import GrpcModel.Model.PubSub
import GrpcProofs.Lemmas.Serializer
/-! Helper lemmas for C31 (PubSub): how the serializer's pending queue evolves under the PubSub
actions, and the coupling between the model and the per-subscriber trace monitor. -/
namespace GrpcProofs.Lemmas.PubSub
open GrpcModel GrpcModel.PubSub
open GrpcProofs.Lemmas.Serializer (SInv View view step_view)

theorem trySchedule_spec (s : Serializer.St Cb) (cb : Cb) (h : SInv s) :
    SInv (trySchedule s cb) ∧
    Serializer.pending (trySchedule s cb) = (if s.fired then Serializer.pending s else Serializer.pending s ++ [cb]) ∧
    (trySchedule s cb).fired = s.fired := by
  have ha := (step_view s (.sched cb) h).1
  refine ⟨Serializer.step_sinv s _ h, ?_⟩
  rw [trySchedule, Serializer.step_pending s _ h, Serializer.step_fired s _ h]
  generalize (Serializer.step s (.sched cb)).2 = ev at ha
  cases ev <;> simp only [View.Allows] at ha <;> simp_all [View.next]

/-- `Publish`: one callback per subscriber is appended to the queue, unless `Close` has run. -/
theorem trySchedule_foldl (subs : List Nat) (v : Nat) (s : Serializer.St Cb) (h : SInv s) :
    SInv (subs.foldl (fun ser x => trySchedule ser (x, v)) s) ∧
    Serializer.pending (subs.foldl (fun ser x => trySchedule ser (x, v)) s) =
      (if s.fired then Serializer.pending s else Serializer.pending s ++ subs.map (·, v)) ∧
    (subs.foldl (fun ser x => trySchedule ser (x, v)) s).fired = s.fired := by
  induction subs generalizing s with
  | nil => simp [h]
  | cons x t ih =>
    obtain ⟨s1, s2, s3⟩ := trySchedule_spec s (x, v) h
    obtain ⟨t1, t2, t3⟩ := ih _ s1
    refine ⟨t1, ?_, t3.trans s3⟩
    rw [List.foldl_cons, t2, s2, s3]
    split <;> simp

/-- The part of the state the property rests on: neither the invariant nor what is owed reads `msg`. -/
structure PInv (q : Serializer.St Cb) (subs ever : List Nat) : Prop where
  ser : SInv q
  pending_ever : ∀ p ∈ Serializer.pending q, p.1 ∈ ever
  subs_ever : ∀ s ∈ subs, s ∈ ever

def owed (ser : Serializer.St Cb) (subs : List Nat) : List Cb :=
  (Serializer.pending ser).filter (fun p => subs.contains p.1)

/-- The monitor state is a function of the model state: what is owed is what is still queued for
    the current subscribers. -/
def monOf (st : St) : Mon := ⟨st.subs, st.msg, owed st.ser st.subs, st.ser.fired⟩

theorem pinv_init : PInv init.ser init.subs init.ever := by
  refine ⟨Serializer.sinv_init, ?_, ?_⟩ <;>
  simp [init, Serializer.pending, Serializer.init, Serializer.inflight, Unbounded.abs, Unbounded.init]

theorem firstFor_head (s v : Nat) (t : List Cb) : firstFor s ((s, v) :: t) = some v := by
  simp [firstFor]

theorem dropFirst_head (s v : Nat) (t : List Cb) : dropFirst s ((s, v) :: t) = t := by
  simp [dropFirst]

theorem filter_ne_nodup (l : List Nat) (s : Nat) (h : l.Nodup) : (l.filter (· ≠ s)).Nodup :=
  h.sublist List.filter_sublist

/-- A subscriber that never subscribed before has nothing queued: it joins without changing what the others are
    owed. -/
theorem PInv.subscribe {ser : Serializer.St Cb} {subs ever : List Nat} {s : Nat} (hi : PInv ser subs ever)
    (hf : s ∉ ever) : PInv ser (subs ++ [s]) (s :: ever) ∧ owed ser (subs ++ [s]) = owed ser subs := by
  refine ⟨⟨hi.ser, fun p hp => List.mem_cons_of_mem _ (hi.pending_ever p hp), fun x hx => ?_⟩, ?_⟩
  · rcases List.mem_append.mp hx with hx | hx
    · exact List.mem_cons_of_mem _ (hi.subs_ever x hx)
    · exact List.mem_singleton.mp hx ▸ List.mem_cons_self
  · apply List.filter_congr
    intro p hp
    have : p.1 ≠ s := fun hc => hf (hc ▸ hi.pending_ever p hp)
    simp [this]

/-- `hq` is what `trySchedule_spec` and `trySchedule_foldl` conclude. -/
theorem PInv.enqueue {ser ser' : Serializer.St Cb} {subs ever : List Nat} {l : List Cb} (hi : PInv ser subs ever)
    (hq : SInv ser' ∧
      Serializer.pending ser' = (if ser.fired then Serializer.pending ser else Serializer.pending ser ++ l) ∧
      ser'.fired = ser.fired)
    (hl : ∀ p ∈ l, p.1 ∈ subs) :
    PInv ser' subs ever ∧ owed ser' subs = if ser.fired then owed ser subs else owed ser subs ++ l := by
  obtain ⟨hs, hp, _⟩ := hq
  rw [owed, hp]
  refine ⟨⟨hs, fun p hpm => ?_, hi.subs_ever⟩, ?_⟩
  · rw [hp] at hpm
    split at hpm
    · exact hi.pending_ever p hpm
    · rcases List.mem_append.mp hpm with hpm | hpm
      · exact hi.pending_ever p hpm
      · exact hi.subs_ever _ (hl p hpm)
  · split
    · rfl
    · have hall : l.filter (fun p => subs.contains p.1) = l :=
        List.filter_eq_self.mpr fun p hpm => by simpa using hl p hpm
      rw [List.filter_append, hall]
      rfl

/-- what `Fresh` asks of one action -/
def FreshAct (st : St) : Act → Prop
  | .subscribe s => s ∉ st.ever
  | _ => True

structure Coupled (st : St) (m : Mon) : Prop where
  inv : PInv st.ser st.subs st.ever
  mon : m = monOf st

/-- The PubSub actions that are one action of the serializer. -/
def serAct : Act → Option (Serializer.Act Cb)
  | .cancel => some .cancel
  | .fire => some .fire
  | .run => some .run
  | .ret => some .ret
  | _ => none

theorem coupled_of_serAct (st : St) (a : Act) (a' : Serializer.Act Cb) (ha : serAct a = some a')
    (hi : PInv st.ser st.subs st.ever) :
    Coupled (step st a).1 (Mon.step (monOf st) (step st a).2).1 ∧
    ∀ c, (Mon.step (monOf st) (step st a).2).2 ≠ .viol c := by
  obtain ⟨iser, ipend, isubs⟩ := hi
  have hs := Serializer.step_sinv st.ser a' iser
  have hal := (step_view st.ser a' iser).1
  have hp := Serializer.step_pending st.ser a' iser
  have hf := Serializer.step_fired st.ser a' iser
  -- Each of the four actions against each event the serializer could answer with. `Allows` leaves eight pairs:
  -- cancel/cancelled, fire/closed, run/started, run/done, ret/ended, and `none` for fire, run, ret. `hp` and `hf`
  -- become what `View.next` says of the queue and of `fired`: only `started` changes the queue (the case below),
  -- only `closed` sets `fired`, which `monOf` shows as `stopped`; in the seven other pairs `hp` says that the queue
  -- is as before, so what was owed is still owed.
  cases a <;> cases ha <;> simp only [step] <;>
    generalize Serializer.step st.ser _ = r at * <;> obtain ⟨ser', ev⟩ := r <;>
    cases ev <;> simp only [View.Allows] at hal <;> simp only [View.next, view] at hp hf <;> dsimp only at hs ⊢
  case run.refl.started cb =>
    obtain ⟨s, v⟩ := cb
    cases hpd : Serializer.pending st.ser <;> simp [hpd] at hal hp
    obtain ⟨rfl, rfl⟩ := hal.1
    have ipend' : ∀ p ∈ Serializer.pending ser', p.1 ∈ st.ever :=
      fun p hpm => ipend p (by simp [hpd, hp ▸ hpm])
    dsimp only
    split <;> rename_i hsub <;> simp only [List.contains_eq_mem, decide_eq_true_eq] at hsub
    · refine ⟨⟨⟨hs, ipend', isubs⟩, ?_⟩, ?_⟩ <;>
        simp [Mon.step, monOf, owed, hp, hpd, hsub, hf, firstFor, dropFirst]
    · refine ⟨⟨⟨hs, ipend', isubs⟩, ?_⟩, ?_⟩ <;>
        simp [Mon.step, monOf, owed, hp, hpd, hsub, hf]
  all_goals
    exact ⟨⟨⟨hs, hp ▸ ipend, isubs⟩, by simp [Mon.step, monOf, owed, hp, hf]⟩, by simp [Mon.step]⟩

theorem step_coupled (st : St) (m : Mon) (a : Act) (h : Coupled st m) (hf : FreshAct st a) :
    Coupled (step st a).1 (Mon.step m (step st a).2).1 ∧ ∀ c, (Mon.step m (step st a).2).2 ≠ .viol c := by
  obtain ⟨hi, rfl⟩ := h
  cases a
  case subscribe s =>
    have hns : s ∉ st.subs := fun hc => hf (hi.subs_ever s hc)
    have hcs : st.subs.contains s = false := by simpa using hns
    obtain ⟨hi1, ho1⟩ := hi.subscribe hf
    cases hm : st.msg with
    | none =>
      simp only [step, hm, hcs]
      exact ⟨⟨hi1, by simp [Mon.step, monOf, ho1, hm, hns]⟩, by simp [Mon.step]⟩
    | some mv =>
      have hq := trySchedule_spec st.ser (s, mv) hi.ser
      obtain ⟨hi2, ho2⟩ := hi1.enqueue hq (by simp)
      simp only [step, hm, hcs]
      exact ⟨⟨hi2, by simp [Mon.step, monOf, ho2, ho1, hm, hns, hq.2.2]⟩, by simp [Mon.step]⟩
  case unsubscribe s =>
    obtain ⟨iser, ipend, isubs⟩ := hi
    refine ⟨⟨⟨iser, ipend, fun x hx => isubs x (List.mem_filter.mp hx).1⟩, ?_⟩, by simp [step, Mon.step]⟩
    simp only [step, Mon.step, monOf, owed, List.filter_filter]
    congr 1
    apply List.filter_congr
    intro p _
    simp [Bool.and_comm]
  case publish v =>
    have hq := trySchedule_foldl st.subs v st.ser hi.ser
    obtain ⟨hi', ho⟩ := hi.enqueue hq fun p hp => by
      obtain ⟨x, hx, rfl⟩ := List.mem_map.mp hp
      exact hx
    exact ⟨⟨hi', by cases hfd : st.ser.fired <;> simp [step, Mon.step, monOf, ho, hq.2.2, hfd]⟩,
      by simp [step, Mon.step]⟩
  case cancel => exact coupled_of_serAct st _ _ rfl hi
  case fire => exact coupled_of_serAct st _ _ rfl hi
  case run => exact coupled_of_serAct st _ _ rfl hi
  case ret => exact coupled_of_serAct st _ _ rfl hi

theorem fresh_cons (st : St) (a : Act) (as : List Act) (h : Fresh st.ever (a :: as)) :
    FreshAct st a ∧ Fresh (step st a).1.ever as := by
  cases a <;> simp only [step]
  case subscribe s => exact h
  case run => (repeat' split) <;> exact ⟨trivial, h⟩
  all_goals exact ⟨trivial, h⟩

theorem run_coupled (as : List Act) (st : St) (m : Mon) (h : Coupled st m) (hf : Fresh st.ever as) :
    Coupled (run st as).1 (Mon.run m (run st as).2).1 ∧
    ∀ v ∈ (Mon.run m (run st as).2).2, ∀ c, v ≠ .viol c := by
  induction as generalizing st m with
  | nil => simpa [run, Mon.run]
  | cons a as ih =>
    obtain ⟨hfa, hft⟩ := fresh_cons st a as hf
    obtain ⟨hs, hv⟩ := step_coupled st m a h hfa
    obtain ⟨r1, r2⟩ := ih _ _ hs hft
    exact ⟨r1, List.forall_mem_cons.mpr ⟨hv, r2⟩⟩

end GrpcProofs.Lemmas.PubSub
