import GrpcModel.Model.Compression
namespace GrpcProofs.Lemmas.Compression
open GrpcModel.Compression GrpcModel.Generated

/-!
Each side of a stream is seen through two values: the name in grpc-encoding (announced, or read) and the one
compressor or decompressor that `prepareMsg` / `recvMsg` will use, `usedComp` of its legacy and its
registered slot. The theorems of the section `link` are about those values alone; `clientOpen_used`,
`SrvSends`, `serverOpen_decomp`, `clientRecvInit_decomp` compute them for the four ways a side is set up.
-/

theorem cNone : compressionNone = 0 := rfl
theorem cMade : compressionMade = 1 := rfl

/-- the name of the compressor prepareMsg uses: the registered one has priority -/
def usedComp (cp comp : Option String) : Option String := match comp with | some n => some n | none => cp

theorem usedComp_none (u : Option String) : usedComp none u = u := by cases u <;> rfl

theorem prepareMsg_eq (k : Codec) (cp comp : Option String) (d : Bytes) :
    prepareMsg k cp comp d =
      match usedComp cp comp with
      | some n => if d = [] then ⟨0, d⟩ else ⟨1, k.comp n d⟩
      | none => ⟨0, d⟩ := by
  cases comp <;> cases cp <;> cases d <;> simp [prepareMsg, usedComp, cNone, cMade]

theorem prepareMsg_congr (k : Codec) {cp comp cp' comp' : Option String}
    (h : usedComp cp comp = usedComp cp' comp') (d : Bytes) :
    prepareMsg k cp comp d = prepareMsg k cp' comp' d := by
  rw [prepareMsg_eq, prepareMsg_eq, h]

theorem usedComp_isSome (cp comp : Option String) : (usedComp cp comp).isSome = (comp.isSome || cp.isSome) := by
  cases comp <;> rfl

theorem prepareMsg_flag (k : Codec) (cp comp : Option String) (d : Bytes) :
    (prepareMsg k cp comp d).flag = if (comp.isSome || cp.isSome) && d != [] then 1 else 0 := by
  rw [prepareMsg_eq, ← usedComp_isSome]
  cases usedComp cp comp <;> by_cases hd : d = [] <;> simp [hd]

theorem prepareMsg_flag_le (k : Codec) (cp comp : Option String) (d : Bytes) :
    (prepareMsg k cp comp d).flag = 0 ∨ (prepareMsg k cp comp d).flag = 1 := by
  rw [prepareMsg_flag]; split <;> simp

theorem prepareMsg_data (k : Codec) (cp comp : Option String) (d : Bytes) :
    (prepareMsg k cp comp d).data =
      match usedComp cp comp with
      | some n => if d = [] then d else k.comp n d
      | none => d := by
  rw [prepareMsg_eq]; cases usedComp cp comp <;> by_cases hd : d = [] <;> simp [hd]

theorem nonIdentity_iff (x : String) : nonIdentity x = true ↔ (x ≠ "" ∧ x ≠ identity) := by
  simp [nonIdentity]

theorem nonIdentity_false_iff (x : String) : nonIdentity x = false ↔ (x = "" ∨ x = identity) := by
  by_cases h1 : x = "" <;> by_cases h2 : x = identity <;> simp [nonIdentity, h1, h2]

theorem decompress_eq (k : Codec) (dc comp : Option String) (w : Bytes) :
    decompress k dc comp w =
      match usedComp comp dc with
      | some n => match k.decomp n w with
        | some d => .ok d
        | none => .error .internal
      | none => .error .internal := by
  cases dc <;> cases comp <;> rfl

/-- of the two decompressor slots only `usedComp comp dc` matters (the legacy one has priority) -/
theorem recvMsg_eq (k : Codec) (rc : String) (dc comp : Option String) (srv : Bool) (f : Frame) :
    recvMsg k rc dc comp srv f =
      if f.flag = 0 then .ok f.data
      else if f.flag = 1 ∧ nonIdentity rc = true then
        match usedComp comp dc with
        | some n => match k.decomp n f.data with
          | some d => .ok d
          | none => .error .internal
        | none => .error (if srv then .unimplemented else .internal)
      else .error .internal := by
  -- a decompressor is at hand iff `usedComp comp dc` is one
  rw [recvMsg, decompress_eq, Bool.or_comm, ← usedComp_isSome]
  by_cases h0 : f.flag = 0
  · simp [checkRecvPayload, cNone, cMade, h0]
  · by_cases h1 : f.flag = 1
    · by_cases hn : nonIdentity rc = true
      · have := (nonIdentity_iff rc).1 hn
        cases usedComp comp dc with
        | none => cases srv <;> simp [checkRecvPayload, cNone, cMade, h1, hn, this]
        | some n => simp [checkRecvPayload, cNone, cMade, h1, hn, this]
      · have := (nonIdentity_false_iff rc).1 (by simpa using hn)
        simp [checkRecvPayload, cNone, cMade, h1, hn, this]
    · simp [checkRecvPayload, cNone, cMade, h0, h1]

theorem recvMsg_flag0 (k : Codec) (rc : String) (dc comp : Option String) (srv : Bool) {f : Frame}
    (h : f.flag = 0) : recvMsg k rc dc comp srv f = .ok f.data := by
  rw [recvMsg_eq, if_pos h]

theorem recvMsg_flagged_identity (k : Codec) (rc : String) (dc comp : Option String) (srv : Bool) (w : Bytes)
    (h : rc = "" ∨ rc = identity) : recvMsg k rc dc comp srv ⟨1, w⟩ = .error .internal := by
  simp [recvMsg_eq, (nonIdentity_false_iff rc).2 h]

theorem recvMsg_bad_flag (k : Codec) (rc : String) (dc comp : Option String) (srv : Bool) (fl : Nat) (w : Bytes)
    (h : 2 ≤ fl) : recvMsg k rc dc comp srv ⟨fl, w⟩ = .error .internal := by
  have h0 : fl ≠ 0 := by omega
  have h1 : fl ≠ 1 := by omega
  simp [recvMsg_eq, h0, h1]

/-- the compressor a stream that announces `nm` in grpc-encoding should be using: the one of that
    name, if it is the name of one -/
def named (nm : String) : Option String := if nonIdentity nm then some nm else none

theorem named_of_nonIdentity {nm : String} (h : nonIdentity nm = true) : named nm = some nm := if_pos h
theorem named_empty : named "" = none := by decide
theorem named_identity : named identity = none := by decide

/-- "grpc-encoding names a compressor", of the header as sent and of the name as the peer reads it -/
theorem exists_nonIdentity_iff (e : Option String) :
    (∃ n, e = some n ∧ nonIdentity n = true) ↔ nonIdentity (e.getD "") = true := by
  cases e with
  | none => exact ⟨nofun, fun h => absurd h (by decide)⟩
  | some x => simp

theorem getD_ite (s : String) : (if s ≠ "" then some s else none).getD "" = s := by
  by_cases h : s = "" <;> simp [h]

section link
/- A sender that announced `nm` and compresses with `named nm`; a receiver that read `nm` and has the
   decompressor of that name under some condition `p` (and none otherwise). -/
variable (k : Codec) {nm : String} {cp comp d0 d1 : Option String} {p : Prop} [Decidable p] (srv : Bool)

theorem prepareMsg_flag_eq_one_iff (hu : usedComp cp comp = named nm) (d : Bytes) :
    (prepareMsg k cp comp d).flag = 1 ↔ d ≠ [] ∧ nonIdentity nm = true := by
  rw [prepareMsg_eq, hu]; unfold named
  by_cases hn : nonIdentity nm = true <;> by_cases hd : d = [] <;> simp [hn, hd]

theorem recvMsg_delivers (hv : usedComp d1 d0 = if p then some nm else none) {f : Frame} {m : Bytes}
    (h : recvMsg k nm d0 d1 srv f = .ok m) :
    (f.flag = 0 ∧ m = f.data) ∨ (f.flag = 1 ∧ nonIdentity nm = true ∧ k.decomp nm f.data = some m) := by
  rw [recvMsg_eq, hv] at h
  by_cases h0 : f.flag = 0
  · rw [if_pos h0] at h; exact Or.inl ⟨h0, (Except.ok.inj h).symm⟩
  · rw [if_neg h0] at h
    by_cases h1 : f.flag = 1 ∧ nonIdentity nm = true
    · rw [if_pos h1] at h
      by_cases hp : p
      · simp only [if_pos hp] at h
        cases hd : k.decomp nm f.data <;> rw [hd] at h <;> cases h
        exact Or.inr ⟨h1.1, h1.2, rfl⟩
      · rw [if_neg hp] at h; cases h
    · rw [if_neg h1] at h; cases h

theorem recvMsg_undecodable (hv : usedComp d1 d0 = if p then some nm else none) (hn : nonIdentity nm = true)
    (hp : ¬ p) (w : Bytes) :
    recvMsg k nm d0 d1 srv ⟨1, w⟩ = .error (if srv then .unimplemented else .internal) := by
  rw [recvMsg_eq, hv, if_neg hp]; simp [hn]

theorem recvMsg_prepareMsg (hk : ∀ n d, k.decomp n (k.comp n d) = some d)
    (hu : usedComp cp comp = named nm) (hv : usedComp d1 d0 = if p then some nm else none)
    (hp : nonIdentity nm = true → p) (d : Bytes) :
    recvMsg k nm d0 d1 srv (prepareMsg k cp comp d) = .ok d := by
  rw [prepareMsg_eq, hu, recvMsg_eq, hv]; unfold named
  by_cases hn : nonIdentity nm = true
  · by_cases hd : d = [] <;> simp [hn, hd, hp hn, hk]
  · simp [hn]

end link

theorem recvMsg_no_decompressor (k : Codec) (rc : String) (srv : Bool) (w : Bytes) (h : nonIdentity rc = true) :
    recvMsg k rc none none srv ⟨1, w⟩ = .error (if srv then .unimplemented else .internal) :=
  recvMsg_undecodable (p := False) k srv rfl h id w

/-- The client sends with the compressor its grpc-encoding names, provided that name is a real one or
    the legacy WithCompressor reports a real name (it is announced and used whatever it calls itself). -/
theorem clientOpen_used (reg : List String) (c : Client) (cs : ClientStream) (h : clientOpen reg c = .ok cs)
    (hq : nonIdentity (cs.hdr.enc.getD "") = true ∨ ∀ t, c.legacyComp = some t → nonIdentity t = true) :
    usedComp cs.cp cs.comp = named (cs.hdr.enc.getD "") := by
  revert h
  fun_cases clientOpen reg c
  -- the last branch alone opens a stream; `hch`: how (sendCompress, cp, comp) were chosen; `u`: the UseCompressor name,
  -- "" if there is none, and then the legacy compressor decides
  case case3 u choice sc cp comp hch _ _ =>
    rintro ⟨⟩
    simp only [getD_ite] at hq ⊢
    by_cases h0 : u = ""
    · rw [show choice = _ from if_neg (Classical.not_not.2 h0)] at hch
      cases hl : c.legacyComp <;> rw [hl] at hch <;> cases hch
      · exact named_empty.symm
      · exact (named_of_nonIdentity (hq.elim id fun hleg => hleg _ hl)).symm
    rw [show choice = _ from if_pos h0] at hch
    by_cases h1 : u = identity
    · rw [if_neg (Classical.not_not.2 h1)] at hch; cases hch; rw [h1]; exact named_identity.symm
    rw [if_pos h1] at hch
    split at hch
    · cases hch; exact (named_of_nonIdentity ((nonIdentity_iff _).2 ⟨h0, h1⟩)).symm
    · cases hch
  all_goals nofun

theorem selectDecomp_used (reg : List String) (ld : Option String) (rc : String) (d0 d1 : Option String)
    (h : selectDecomp reg ld rc = .ok (d0, d1)) :
    usedComp d1 d0 = if ld = some rc ∨ nonIdentity rc = true then some rc else none := by
  unfold selectDecomp at h
  by_cases h1 : ld = some rc
  · rw [if_pos h1] at h; cases h; rw [if_pos (Or.inl h1)]; rfl
  · rw [if_neg h1] at h
    by_cases h2 : rc ≠ "" ∧ rc ≠ identity
    · rw [if_pos h2] at h; split at h
      · cases h; rw [if_pos (Or.inr ((nonIdentity_iff rc).2 h2))]; rfl
      · cases h
    · rw [if_neg h2] at h; cases h
      rw [if_neg (not_or.2 ⟨h1, fun hn => h2 ((nonIdentity_iff rc).1 hn)⟩)]; rfl

theorem selectDecomp_unsupported (reg : List String) (ld : Option String) (rc : String)
    (hn : nonIdentity rc = true) (hr : reg.contains rc = false) (hl : ld ≠ some rc) :
    selectDecomp reg ld rc = .error .unimplemented := by
  have := (nonIdentity_iff rc).1 hn
  have hr' : rc ∉ reg := by simpa using hr
  simp [selectDecomp, hl, this, hr']

theorem selectComp_cases (reg : List String) (lc : Option String) (rc : String) :
    (∃ t, lc = some t ∧ selectComp reg lc rc = (some t, none, t))
    ∨ (lc = none ∧ nonIdentity rc = true ∧ reg.contains rc = true ∧ selectComp reg lc rc = (none, some rc, rc))
    ∨ (lc = none ∧ selectComp reg lc rc = (none, none, "")) := by
  cases lc with
  | some t => exact Or.inl ⟨t, rfl, rfl⟩
  | none =>
    right
    unfold selectComp
    by_cases h2 : rc ≠ "" ∧ rc ≠ identity
    · by_cases h3 : rc ∈ reg
      · exact Or.inl ⟨rfl, (nonIdentity_iff rc).2 h2, by simpa using h3, by simp [h2, h3]⟩
      · exact Or.inr ⟨rfl, by simp [h2, h3]⟩
    · exact Or.inr ⟨rfl, by simp [h2]⟩

theorem serverOpen_eq (reg : List String) (s : Server) (h : ReqHdr) (ss : SrvStream)
    (ho : serverOpen reg s h = .ok ss) :
    ∃ d0 d1, selectDecomp reg s.legacyDecomp (h.enc.getD "") = .ok (d0, d1) ∧
      ss = { rc := h.enc.getD "", decompV0 := d0, decompV1 := d1,
             compV0 := (selectComp reg s.legacyComp (h.enc.getD "")).1,
             compV1 := (selectComp reg s.legacyComp (h.enc.getD "")).2.1,
             sendName := (selectComp reg s.legacyComp (h.enc.getD "")).2.2,
             sendCompress := (selectComp reg s.legacyComp (h.enc.getD "")).2.2,
             advertised := h.acc.getD "", headerSent := false } := by
  unfold serverOpen at ho
  simp only [] at ho
  split at ho
  · cases ho
  · rename_i d0 d1 hsel
    simp only [Except.ok.injEq] at ho
    exact ⟨d0, d1, hsel, ho.symm⟩

theorem serverOpen_error (reg : List String) (s : Server) (h : ReqHdr) (c : Code)
    (hsel : selectDecomp reg s.legacyDecomp (h.enc.getD "") = .error c) : serverOpen reg s h = .error c := by
  unfold serverOpen
  simp only [hsel]

theorem serverOpen_decomp (reg : List String) (s : Server) (h : ReqHdr) (ss : SrvStream)
    (ho : serverOpen reg s h = .ok ss) :
    ss.rc = h.enc.getD "" ∧
    usedComp ss.decompV1 ss.decompV0 =
      if s.legacyDecomp = some ss.rc ∨ nonIdentity ss.rc = true then some ss.rc else none := by
  obtain ⟨d0, d1, hsel, rfl⟩ := serverOpen_eq reg s h ss ho
  exact ⟨rfl, selectDecomp_used _ _ _ _ _ hsel⟩

/-- the compressor SendMsg will use: once SetSendCompressor has changed the name, the registered one of
    the new name (the legacy one is dropped); until then the one chosen at stream start -/
def effComp (reg : List String) (ss : SrvStream) : Option String :=
  if ss.sendCompress ≠ ss.sendName then (if reg.contains ss.sendCompress then some ss.sendCompress else none)
  else usedComp ss.compV0 ss.compV1

theorem send_frame (k : Codec) (reg : List String) (ss : SrvStream) (d : Bytes) :
    (ss.send k reg d).2 = prepareMsg k (effComp reg ss) none d := by
  refine prepareMsg_congr k ?_ d
  show _ = effComp reg ss
  unfold effComp
  by_cases h : ss.sendCompress ≠ ss.sendName <;> simp [h, usedComp_none]

theorem send_state (k : Codec) (reg : List String) (ss : SrvStream) (d : Bytes) :
    effComp reg (ss.send k reg d).1 = effComp reg ss := by
  unfold SrvStream.send effComp
  by_cases h : ss.sendCompress ≠ ss.sendName <;> simp [h, usedComp_none]

theorem sendAll_frames (k : Codec) (reg : List String) (ss : SrvStream) (ds : List Bytes) :
    (sendAll k reg ss ds).2 = ds.map (prepareMsg k (effComp reg ss) none) := by
  induction ds generalizing ss with
  | nil => rfl
  | cons d t ih => simp only [sendAll, List.map_cons]; rw [ih, send_state, send_frame]

def applySetSend (reg : List String) (ss : SrvStream) : Option String → SrvStream
  | some n => (ss.setSend reg n).1
  | none => ss

theorem setSend_cases (reg : List String) (ss : SrvStream) (n : String) :
    (ss.setSend reg n).1 = ss ∨
    ((ss.setSend reg n).1 = { ss with sendCompress := n } ∧
      (n = identity ∨ (n ∈ reg ∧ n ∈ advertisedList ss.advertised))) := by
  unfold SrvStream.setSend
  by_cases h1 : n = identity
  · by_cases hs : ss.headerSent = true
    · left; simp [h1, hs]
    · right; simp [h1, hs]
  · by_cases h2 : n ∈ reg
    · by_cases h3 : n ∈ advertisedList ss.advertised
      · by_cases hs : ss.headerSent = true
        · left; simp [h1, h2, h3, hs]
        · right; simp [h1, h2, h3, hs]
      · left; simp [h1, h2, h3]
    · left; simp [h1, h2]

theorem applySetSend_cases (reg : List String) (ss : SrvStream) (o : Option String) :
    applySetSend reg ss o = ss ∨
    ∃ n, applySetSend reg ss o = { ss with sendCompress := n } ∧
      (n = identity ∨ (n ∈ reg ∧ n ∈ advertisedList ss.advertised)) := by
  cases o with
  | none => exact Or.inl rfl
  | some n => exact (setSend_cases reg ss n).imp_right fun h => ⟨n, h⟩

/-- The sending half of the stream `serverOpen reg s h` made, at any time before the first SendMsg:
    the stored compressors are those of the stored name, which came from RPCCompressor or the request's
    grpc-encoding; the name for the response header is that one or one SetSendCompressor accepted. -/
structure SrvSends (reg : List String) (s : Server) (h : ReqHdr) (ss : SrvStream) : Prop where
  stored : usedComp ss.compV0 ss.compV1 = named ss.sendName
  origin : ss.sendName = "" ∨ s.legacyComp = some ss.sendName ∨ h.enc = some ss.sendName
  chosen : ss.sendCompress = ss.sendName ∨ ss.sendCompress = identity ∨
    (ss.sendCompress ∈ reg ∧ ss.sendCompress ∈ advertisedList (h.acc.getD ""))
  adv : ss.advertised = h.acc.getD ""

theorem serverOpen_sends (reg : List String) (s : Server) (h : ReqHdr) (ss : SrvStream)
    (ho : serverOpen reg s h = .ok ss) (hleg : ∀ t, s.legacyComp = some t → nonIdentity t = true) :
    SrvSends reg s h ss := by
  obtain ⟨d0, d1, _, rfl⟩ := serverOpen_eq reg s h ss ho
  rcases selectComp_cases reg s.legacyComp (h.enc.getD "") with ⟨t, hl, hsel⟩ | ⟨_, hni, _, hsel⟩ | ⟨_, hsel⟩ <;>
    simp only [hsel]
  · exact ⟨(named_of_nonIdentity (hleg t hl)).symm, Or.inr (Or.inl hl), Or.inl rfl, rfl⟩
  · obtain ⟨n, hen, _⟩ := (exists_nonIdentity_iff h.enc).2 hni
    exact ⟨(named_of_nonIdentity hni).symm, Or.inr (Or.inr (by rw [hen]; rfl)), Or.inl rfl, rfl⟩
  · exact ⟨named_empty.symm, Or.inl rfl, Or.inl rfl, rfl⟩

theorem SrvSends.applySetSend {reg : List String} {s : Server} {h : ReqHdr} {ss : SrvStream}
    (hI : SrvSends reg s h ss) (o : Option String) : SrvSends reg s h (applySetSend reg ss o) := by
  rcases applySetSend_cases reg ss o with he | ⟨n, he, hn⟩ <;> rw [he]
  · exact hI
  · exact ⟨hI.stored, hI.origin, Or.inr (hI.adv ▸ hn), hI.adv⟩

theorem SrvSends.effComp_eq {reg : List String} {s : Server} {h : ReqHdr} {ss : SrvStream}
    (hI : SrvSends reg s h ss) (hreg : identity ∉ reg ∧ "" ∉ reg) :
    usedComp (effComp reg ss) none = named ss.sendCompress := by
  obtain ⟨hid, hempty⟩ := hreg
  show effComp reg ss = _
  unfold effComp
  by_cases h : ss.sendCompress = ss.sendName
  · rw [if_neg (fun hne => hne h), h]; exact hI.stored
  · rw [if_pos h]
    rcases hI.chosen with hc | hc | ⟨hc, _⟩
    · exact absurd hc h
    · rw [hc, if_neg (by simpa using hid), named_identity]
    · rw [if_pos (by simpa using hc), named_of_nonIdentity
        ((nonIdentity_iff _).2 ⟨fun e => hempty (e ▸ hc), fun e => hid (e ▸ hc)⟩)]

theorem respEnc_eq_some_iff (ss : SrvStream) (n : String) : ss.respEnc = some n ↔ ss.sendCompress = n ∧ n ≠ "" := by
  unfold SrvStream.respEnc
  by_cases h0 : ss.sendCompress = ""
  · rw [if_neg (fun h => h h0)]
    exact ⟨nofun, fun h => absurd (h.1 ▸ h0) h.2⟩
  · rw [if_pos h0]
    exact ⟨fun h => ⟨Option.some.inj h, Option.some.inj h ▸ h0⟩, fun h => congrArg some h.1⟩

theorem respEnc_getD (ss : SrvStream) : ss.respEnc.getD "" = ss.sendCompress := getD_ite _

theorem clientRecvInit_cases (reg : List String) (c : Client) (accepted : List String) (e : Option String) :
    (nonIdentity (e.getD "") = true ∧ acceptedAllows accepted (e.getD "") = false ∧
      clientRecvInit reg c accepted e = .error .internal) ∨
    ∃ r, clientRecvInit reg c accepted e = .ok r ∧ r.ct = e.getD "" ∧
      usedComp r.dcV1 r.dcV0 =
        if nonIdentity r.ct = true ∧ (r.ct ∈ reg ∨ c.legacyDecomp = some r.ct) then some r.ct else none := by
  unfold clientRecvInit
  simp only []
  by_cases h1 : e.getD "" ≠ "" ∧ e.getD "" ≠ identity
  · have hn := (nonIdentity_iff _).2 h1
    rw [if_pos h1]
    cases ha : acceptedAllows accepted (e.getD "")
    · exact .inl ⟨hn, rfl, rfl⟩
    · refine .inr ⟨_, rfl, rfl, ?_⟩
      by_cases h2 : c.legacyDecomp = some (e.getD "")
      · simp [h2, hn, usedComp]
      · by_cases h3 : e.getD "" ∈ reg <;> simp [h2, h3, hn, usedComp]
  · rw [if_neg h1]
    exact .inr ⟨_, rfl, rfl, by rw [if_neg fun hn => h1 ((nonIdentity_iff _).1 hn.1)]; rfl⟩

theorem clientRecvInit_decomp (reg : List String) (c : Client) (accepted : List String) (e : Option String)
    (r : CliRecv) (h : clientRecvInit reg c accepted e = .ok r) :
    r.ct = e.getD "" ∧
    usedComp r.dcV1 r.dcV0 =
      if nonIdentity r.ct = true ∧ (r.ct ∈ reg ∨ c.legacyDecomp = some r.ct) then some r.ct else none := by
  rcases clientRecvInit_cases reg c accepted e with ⟨_, _, he⟩ | ⟨r', hr', hd⟩
  · rw [he] at h; cases h
  · cases hr'.symm.trans h; exact hd

theorem stripPrefix_append (p x : Bytes) : stripPrefix p (p ++ x) = some x := by
  induction p with
  | nil => rfl
  | cons a t ih => simp [stripPrefix, ih]

theorem xor_invol (l : Bytes) : (l.map (· ^^^ 0x5a)).map (· ^^^ 0x5a) = l := by
  induction l with
  | nil => rfl
  | cons a t ih =>
    simp only [List.map_cons, ih]
    congr 1
    rw [UInt8.xor_assoc]; simp

theorem recvAll_append_of_ok (recv : Frame → Except Code Bytes) (pre : List Frame)
    (h0 : ∀ f ∈ pre, recv f = .ok f.data) (rest : List Frame) :
    recvAll recv (pre ++ rest) = ((pre.map (·.data)) ++ (recvAll recv rest).1, (recvAll recv rest).2) := by
  induction pre with
  | nil => simp
  | cons f t ih =>
    have hf := h0 f (by simp)
    have := ih (fun g hg => h0 g (List.mem_cons_of_mem _ hg))
    simp [recvAll, hf, this]

theorem serverSide_rejected (k : Codec) (reg : List String) (s : Server) (o : Option String) (h : ReqHdr)
    (frames : List Frame) (resps : List Bytes) (c : Code) (ho : serverOpen reg s h = .error c) :
    serverSide k reg s o h frames resps = ⟨.norun, [], none, none, [], c⟩ := by
  simp [serverSide, ho]

theorem serverSide_ok (k : Codec) (reg : List String) (s : Server) (o : Option String) (h : ReqHdr)
    (frames : List Frame) (resps : List Bytes) (ss : SrvStream) (got : List Bytes)
    (ho : serverOpen reg s h = .ok ss) (hr : recvAll (ss.recv k) frames = (got, none)) :
    (serverSide k reg s o h frames resps).result = .ok ∧
    (serverSide k reg s o h frames resps).got = got ∧
    (serverSide k reg s o h frames resps).resps = (sendAll k reg (applySetSend reg ss o) resps).2 ∧
    (serverSide k reg s o h frames resps).respHdr =
      (if resps.isEmpty then none else some (applySetSend reg ss o).respEnc) := by
  cases o <;> simp [serverSide, ho, hr, applySetSend]

theorem serverSide_recv_error (k : Codec) (reg : List String) (s : Server) (o : Option String) (h : ReqHdr)
    (frames : List Frame) (resps : List Bytes) (ss : SrvStream) (got : List Bytes) (c : Code)
    (ho : serverOpen reg s h = .ok ss) (hr : recvAll (ss.recv k) frames = (got, some c)) :
    serverSide k reg s o h frames resps = ⟨.err c, got, none, none, [], c⟩ := by
  simp [serverSide, ho, hr]

end GrpcProofs.Lemmas.Compression
