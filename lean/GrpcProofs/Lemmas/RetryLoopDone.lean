/-
csAttempt.finish exactly once (C23): the Done bookkeeping `FInv` of GrpcModel.RetryLoop, together with the
shape of the replay buffer it needs (`OnceInv`), is kept by every move (`Move.fo`), hence by `withRetry` and the
application operations; `newClientStream` establishes it.
-/
import GrpcProofs.Lemmas.RetryLoopMoves
namespace GrpcProofs.Lemmas.RetryLoop
open GrpcModel.Retry GrpcModel.RetryLoop GrpcProofs.Lemmas.Retry

/-- Done bookkeeping: every attempt but the current one has been finished exactly once, no attempt
    more than once, and after `clientStream.finish` every attempt exactly once. -/
structure FInv (st : St) : Prop where
  older : ∀ a ∈ st.atts.dropLast, a.finishCalls = 1
  most : ∀ a ∈ st.atts, a.finishCalls ≤ 1
  fin : st.cs.finished = true → (∀ a ∈ st.atts, a.finishCalls = 1) ∧ st.cs.committed = true

theorem FInv.pointwise {st st' : St} (h : FInv st) (hcs : st'.cs = st.cs)
    (hp : Pointwise (fun a a' => a'.finishCalls = a.finishCalls) st.atts st'.atts) : FInv st' := by
  refine ⟨fun x' hx => ?_, fun x' hx => ?_, fun hfin => ⟨fun x' hx => ?_, ?_⟩⟩
  · obtain ⟨x, hx, hl⟩ := hp.older x' hx; rw [hl]; exact h.older x hx
  · obtain ⟨x, hx, hl⟩ := hp.mem x' hx; rw [hl]; exact h.most x hx
  · obtain ⟨x, hx, hl⟩ := hp.mem x' hx; rw [hl]; exact (h.fin (hcs ▸ hfin)).1 x hx
  · rw [hcs] at hfin ⊢; exact (h.fin hfin).2

theorem updCur_finv (st : St) (f : Att → Att) (hf : ∀ a, (f a).finishCalls = a.finishCalls) (h : FInv st) :
    FInv (st.updCur f) :=
  h.pointwise (updCur_same st f).cs (updCur_pointwise st f (fun _ => rfl) hf)

theorem settle_finv (st : St) (h : FInv st) : FInv st.settle :=
  h.pointwise rfl (settle_pointwise st (fun _ => rfl) fun _ => rfl)

theorem commit_finv (st : St) (h : FInv st) : FInv st.commit :=
  ⟨h.older, h.most, fun hf => ⟨(h.fin hf).1, rfl⟩⟩

theorem FInv.congr {st st' : St} (h : FInv st) (ha : st'.atts = st.atts) (hf : st'.cs.finished = st.cs.finished)
    (hc : st'.cs.committed = st.cs.committed) : FInv st' := by
  refine ⟨?_, ?_, ?_⟩
  · rw [ha]; exact h.older
  · rw [ha]; exact h.most
  · rw [ha, hf, hc]; exact h.fin

theorem FInv.of_all {st : St} (hall : ∀ a ∈ st.atts, a.finishCalls = 1)
    (hc : st.cs.finished = true → st.cs.committed = true) : FInv st :=
  ⟨fun x hx => hall x (List.mem_of_mem_dropLast hx), fun x hx => by rw [hall x hx], fun hf => ⟨hall, hc hf⟩⟩

theorem FInv.all {st : St} (h : FInv st) (hc : ∀ a, st.cur = some a → 0 < a.finishCalls) :
    ∀ x ∈ st.atts, x.finishCalls = 1 := by
  intro x hx
  rcases List.eq_nil_or_concat st.atts with hnil | ⟨l, b, hl⟩
  · rw [hnil] at hx; cases hx
  · have hb : st.cur = some b := by simp [St.cur, hl]
    rw [hl] at hx
    simp only [List.concat_eq_append, List.mem_append, List.mem_singleton] at hx
    rcases hx with hx | hx
    · exact h.older x (by rw [hl]; simpa using hx)
    · subst hx; have := h.most x (cur_mem st x hb); have := hc x hb; omega

theorem finishAttempt_all (st : St) (code : Nat) (ho : ∀ a ∈ st.atts.dropLast, a.finishCalls = 1)
    (hm : ∀ a ∈ st.atts, a.finishCalls ≤ 1) : ∀ x ∈ (st.finishAttempt code).atts, x.finishCalls = 1 := by
  intro x hx
  obtain ⟨g, hg, e⟩ := finishAttempt_eq st code
  rw [e] at hx
  rcases mem_updCur st g x hx with hx | ⟨a, hc, rfl⟩
  · exact ho x hx
  · exact (hg a).once (hm a (cur_mem st a hc))

theorem finishAttempt_finv (st : St) (code : Nat) (h : FInv st) : FInv (st.finishAttempt code) :=
  FInv.of_all (finishAttempt_all st code h.older h.most) (fun hf => by
    rw [(finishAttempt_same st code).cs] at hf ⊢; exact (h.fin hf).2)

theorem decideRetry_all {st : St} {raw : Raw} {st3 : St} {d : Decision} (e : st.decideRetry raw = (st3, d)) (h : FInv st) :
    ∀ a ∈ st3.atts, a.finishCalls = 1 := by
  rcases decideRetry_cases e with ⟨_, rfl, _⟩ | ⟨a, _, rfl, _⟩ <;> exact finishAttempt_all st raw.code h.older h.most

/-- the buffer of a started, uncommitted RPC begins with its only stream-creating op -/
def OnceInv (st : St) : Prop := st.cs.committed = false → st.atts.length ≠ 0 → startsOnce st.replay = true

theorem OnceInv.congr {st st' : St} (h : OnceInv st) (hc : st'.cs.committed = st.cs.committed)
    (hl : st'.atts.length = st.atts.length) (hr : st'.replay = st.replay) : OnceInv st' := by
  unfold OnceInv; rw [hc, hl, hr]; exact h

theorem Same.once {st st' : St} (hs : Same st st') (h : OnceInv st) : OnceInv st' :=
  h.congr (by rw [hs.cs]) hs.len hs.replay

/-- the two go together: a retry keeps `FInv` because the buffer creates exactly one new attempt (`OnceInv`) -/
def FO (st : St) : Prop := FInv st ∧ OnceInv st

theorem FO.finv {st : St} (h : FO st) : FInv st := h.1

theorem FO.once {st : St} (h : FO st) : OnceInv st := h.2

theorem startRetry_fo (st : St) (d : Decision) (h : FO st) (hd : Decided st d) : FO (st.startRetry d).1 := by
  obtain ⟨a, hc, hpos⟩ := hd.curDone
  have hall := h.finv.all (fun b hb => by rw [hc] at hb; injection hb with hb; exact hb ▸ hpos)
  have hso : startsOnce st.replay = true :=
    h.once hd.uncommitted (Nat.ne_of_gt (List.length_pos_of_mem (cur_mem st a hc)))
  rw [startRetry_eq st d hso]
  refine ⟨⟨fun x hx => hall x (by simpa using hx), fun x hx => ?_, fun hf => ?_⟩, fun _ _ => hso⟩
  · simp only [List.mem_append, List.mem_singleton] at hx
    rcases hx with hx | rfl
    · rw [hall x hx]
    · exact Nat.zero_le 1
  · rw [show (afterDecision st.cs d).finished = false from (afterDecision_finished _ d).trans hd.unfinished] at hf
    cases hf

/-- only `finishAttempt` (also inside `close`) raises a `finishCalls`, from 0 to 1; `close` has just finished the
    current attempt when it marks the stream finished; a retry leaves no unfinished attempt behind -/
theorem Move.fo {st st' : St} (m : Move st st') (h : FO st) : FO st' := by
  cases m with
  | write w =>
    exact ⟨write_updCur st w ▸ updCur_finv st _ (fun a => by split <;> rfl) h.finv, (write_same st w).once h.once⟩
  | settle => exact ⟨settle_finv st h.finv, (settle_same st).once h.once⟩
  | read =>
    exact ⟨(updCur_finv st (fun a => { a with respRead := 1 }) (fun _ => rfl) h.finv).congr rfl rfl rfl,
      (updCur_same st _).once h.once⟩
  | overflow sz => exact ⟨commit_finv _ (h.finv.congr rfl rfl rfl), nofun⟩
  | append sz op hop hu => exact ⟨h.finv.congr rfl rfl rfl, fun _ hl => startsOnce_append _ _ (h.once hu hl) hop⟩
  | commit => exact ⟨commit_finv st h.finv, nofun⟩
  | finishAttempt code => exact ⟨finishAttempt_finv st code h.finv, (finishAttempt_same st code).once h.once⟩
  | judge v =>
    have hk := sr_keeps st.disableRetry st.pol st.cs v 0
    exact ⟨h.finv.congr rfl hk.finished hk.committed, h.once.congr hk.committed rfl rfl⟩
  | advance d =>
    exact ⟨h.finv.congr rfl (afterDecision_finished _ d) (afterDecision_committed _ d),
      h.once.congr (afterDecision_committed _ d) rfl rfl⟩
  | retry d hd => exact startRetry_fo st d h hd
  | close code =>
    have hcs := (finishAttempt_same ({ st with cs := { st.cs with finished := true } } : St).commit code).cs
    refine ⟨FInv.of_all (finishAttempt_all _ code h.finv.older h.finv.most) (fun _ => by rw [hcs]; rfl), fun hc => ?_⟩
    rw [hcs] at hc; cases hc
  | _ => exact ⟨h.finv.congr rfl rfl rfl, h.once⟩

theorem finish_fo (st : St) (code : Nat) (h : FO st) : FO (st.finish code) :=
  (finish_reach st code).preserves Move.fo h

theorem finish_finished (st : St) (code : Nat) : (st.finish code).cs.finished = true := by
  rcases finish_cases st code with ⟨hf, e⟩ | ⟨_, thr, e⟩ <;> rw [e]
  · exact hf
  · exact congrArg CS.finished (finishAttempt_same _ code).cs

theorem step_fo (fuel : Nat) (st : St) (op : AppOp) (hop : op ≠ .new) (h : FO st) : FO (st.step fuel op).1 :=
  (step_runs fuel st op hop).preserves Move.fo (fun _ _ _ _ hs => ⟨hs.finv.congr rfl rfl rfl, hs.once⟩) h

theorem finv_of_first (s : St) (a : Att) (ha : s.atts = [a]) (h0 : a.finishCalls = 0) (hf : s.cs.finished = false) :
    FInv s :=
  ⟨by simp [ha], by simp [ha, h0], fun h => by rw [hf] at h; cases h⟩

theorem opNewOk_fo (st : St) (h0 : Unstarted st) : FO st.opNewOk.1 := by
  rw [opNewOk_eq st h0]
  apply Move.fo (.settle _)
  split_ifs
  · exact ⟨finv_of_first _ _ rfl rfl h0.unfinished, nofun⟩
  · exact ⟨finv_of_first _ _ rfl rfl h0.unfinished, fun _ _ => rfl⟩

theorem fo_of_no_atts (st : St) (ha : st.atts = []) (hf : st.cs.finished = false) : FO st := by
  refine ⟨⟨by simp [ha], by simp [ha], ?_⟩, ?_⟩
  · intro hff; rw [hf] at hff; cases hff
  · intro _ hl; simp [ha] at hl

theorem opNew_fo (fuel : Nat) (st : St) (h0 : Unstarted st) : FO (st.opNew fuel).1 := by
  rcases opNew_cases fuel st with ⟨s, _, hc, e, _⟩ | ⟨hr, _⟩
  · rw [e]; exact opNewOk_fo s (h0.core hc)
  · exact hr.preserves Move.fo (fo_of_no_atts st h0.atts h0.unfinished)

theorem run_fo (fuel : Nat) (ops : List AppOp) (st : St) (hops : ∀ o ∈ ops, o ≠ .new) (h : FO st) :
    FO (St.run fuel st ops).1 :=
  (run_preserves (Q := fun _ => True) (fun s op hop hs => ⟨step_fo fuel s op hop hs, trivial⟩) ops st hops h).1

theorem run_new_fo (f0 fuel : Nat) (ops : List AppOp) (st : St) (h0 : Unstarted st) (hops : ∀ o ∈ ops, o ≠ .new) :
    FO (St.run fuel (st.opNew f0).1 ops).1 :=
  run_fo fuel ops _ hops (opNew_fo f0 st h0)

end GrpcProofs.Lemmas.RetryLoop
