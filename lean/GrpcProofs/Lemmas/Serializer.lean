import GrpcModel.Model.Serializer
import GrpcProofs.Lemmas.Unbounded
/-! For C31 (callback serializer). The serializer as its users see it is an event machine on `View` (pending queue,
running callback, three flags), which the model refines (`step_view`). The list laws, the trace monitor and
`Lemmas/PubSub.lean` rest on that machine; the program counter is read again only to say what `SInv` means for a view
(`view_ok`) and in the progress lemmas. -/
namespace GrpcProofs.Lemmas.Serializer
open GrpcModel GrpcModel.Serializer

variable {α : Type}

attribute [local simp] startedOf acceptedOf endedOf pending inflight

/-- Invariant of every reachable state (any interleaving). The last clause is the
    close-while-draining / lost-item invariant: except between the receive and the `Load` that
    follows it, an empty channel slot means an empty backlog and a carried-out close. -/
def SInv (s : St α) : Prop :=
  Lemmas.Unbounded.Inv s.buf ∧
  s.buf.closing = s.fired ∧
  (s.fired = true → s.cancelled = true ∧ s.registered = true) ∧
  (s.registered = false ↔ s.pc = .start) ∧
  (s.done = true ↔ s.pc = .exited) ∧
  (s.pc = .exited → s.buf.chanClosed = true ∧ s.buf.chan = none) ∧
  ((∀ cb, s.pc ≠ .load cb) → s.buf.chan = none →
      s.buf.backlog = [] ∧ (s.buf.closing = true → s.buf.closed = true))

theorem sinv_init : SInv (init : St α) := by
  simp [SInv, init, Lemmas.Unbounded.Inv, Unbounded.init]

namespace SInv
variable {s : St α} (h : SInv s)
include h
theorem buf : Lemmas.Unbounded.Inv s.buf := h.1
theorem closing_eq_fired : s.buf.closing = s.fired := h.2.1
theorem of_fired : s.fired = true → s.cancelled = true ∧ s.registered = true := h.2.2.1
theorem registered_iff : s.registered = false ↔ s.pc = .start := h.2.2.2.1
theorem done_iff : s.done = true ↔ s.pc = .exited := h.2.2.2.2.1
theorem of_exited : s.pc = .exited → s.buf.chanClosed = true ∧ s.buf.chan = none := h.2.2.2.2.2.1
theorem settled : (∀ cb, s.pc ≠ .load cb) → Lemmas.Unbounded.Settled s.buf := h.2.2.2.2.2.2
end SInv

theorem step_eq (s : St α) (a : Act α) (h : Lemmas.Unbounded.Inv s.buf) :
    step s a = match a with
      | .sched cb => ({ s with buf := (Unbounded.step s.buf (.put cb)).1 },
          if s.buf.closing then .rejected cb else .accepted cb)
      | .cancel => ({ s with cancelled := true }, .cancelled)
      | .fire => if s.cancelled && s.registered && !s.fired
          then ({ s with buf := (Unbounded.step s.buf .close).1, fired := true }, .closed)
          else (s, .none)
      | .run => match s.pc with
        | .start => ({ s with registered := true, pc := .recv }, .none)
        | .recv => match s.buf.chan with
          | some cb => ({ s with buf := { s.buf with chan := none }, pc := .load cb }, .none)
          | none => if s.buf.chanClosed then ({ s with pc := .exited, done := true }, .done) else (s, .none)
        | .load cb => ({ s with buf := (Unbounded.step s.buf .load).1, pc := .call cb }, .none)
        | .call cb => ({ s with pc := .running cb }, .started cb)
        | _ => (s, .none)
      | .ret => match s.pc with
        | .running cb => ({ s with pc := .recv }, .ended cb)
        | _ => (s, .none) := by
  cases a <;> simp only [step, Lemmas.Unbounded.step_out _ _ h]
  case sched cb => cases s.buf.closing <;> rfl
  case ret => cases s.pc <;> rfl
  case run =>
    cases s.pc <;> simp only
    simp only [Lemmas.Unbounded.step_eq _ _ h]
    cases s.buf.chan <;> simp only
    cases s.buf.chanClosed <;> rfl

theorem closing_of_exited {s : St α} (h : SInv s) (hpc : s.pc = .exited) : s.buf.closing = true :=
  (h.buf.of_chanClosed (h.of_exited hpc).1).1

theorem SInv.move {s : St α} (h : SInv s) {b : Unbounded.St α} {pc' : Pc α} (hb : Lemmas.Unbounded.Inv b)
    (hcl : b.closing = s.buf.closing) (hpc : s.pc ≠ .start ∧ s.pc ≠ .exited) (hpc' : pc' ≠ .start ∧ pc' ≠ .exited)
    (hs : (∀ cb, pc' ≠ .load cb) → Lemmas.Unbounded.Settled b) : SInv { s with buf := b, pc := pc' } :=
  ⟨hb, hcl.trans h.closing_eq_fired, h.of_fired,
    ⟨fun hr => absurd (h.registered_iff.mp hr) hpc.1, fun e => absurd e hpc'.1⟩,
    ⟨fun hd => absurd (h.done_iff.mp hd) hpc.2, fun e => absurd e hpc'.2⟩, fun e => absurd e hpc'.2, hs⟩

theorem step_sinv (s : St α) (a : Act α) (h : SInv s) : SInv (step s a).1 := by
  have hex := closing_of_exited h
  cases a
  case sched cb =>
    simp only [step_eq _ _ h.buf]
    refine ⟨Lemmas.Unbounded.step_inv _ _ h.buf, (Lemmas.Unbounded.step_closing _ _ h.buf).trans h.closing_eq_fired,
      h.of_fired, h.registered_iff, h.done_iff, fun hpc => ?_,
      fun hn => Lemmas.Unbounded.step_settled _ _ h.buf (.inr (h.settled hn)) (by simp)⟩
    simp only [Lemmas.Unbounded.put_closing _ _ (hex hpc)]
    exact h.of_exited hpc
  case cancel =>
    exact ⟨h.buf, h.closing_eq_fired, fun hf => ⟨rfl, (h.of_fired hf).2⟩, h.registered_iff, h.done_iff, h.of_exited,
      h.settled⟩
  case fire =>
    simp only [step_eq _ _ h.buf]
    split
    · rename_i hg
      simp only [Bool.and_eq_true, Bool.not_eq_true'] at hg
      exact ⟨Lemmas.Unbounded.step_inv _ _ h.buf, Lemmas.Unbounded.step_closing _ _ h.buf, fun _ => hg.1,
        h.registered_iff, h.done_iff, fun hpc => absurd (h.closing_eq_fired ▸ hex hpc) (by simp [hg.2]),
        fun hn => Lemmas.Unbounded.step_settled _ _ h.buf (.inr (h.settled hn)) (by simp)⟩
    · exact h
  case run =>
    simp only [step_eq _ _ h.buf]
    split <;> rename_i hpc
    · exact ⟨h.buf, h.closing_eq_fired, fun hf => absurd (h.of_fired hf).2 (by simp [h.registered_iff.mpr hpc]),
        by simp, by simpa [hpc] using h.done_iff, by simp, fun _ => h.settled (by simp [hpc])⟩
    · split
      · exact h.move h.buf rfl (by simp [hpc]) (by simp) (by simp)
      · rename_i hch
        split
        · rename_i hcc
          exact ⟨h.buf, h.closing_eq_fired, h.of_fired, by simpa [hpc] using h.registered_iff, by simp,
            fun _ => ⟨hcc, hch⟩, fun _ => h.settled (by simp [hpc])⟩
        · exact h
    · exact h.move (Lemmas.Unbounded.step_inv _ _ h.buf) (Lemmas.Unbounded.step_closing _ _ h.buf) (by simp [hpc]) (by simp)
        fun _ => Lemmas.Unbounded.step_settled _ _ h.buf (.inl rfl) (by simp)
    · exact h.move h.buf rfl (by simp [hpc]) (by simp) fun _ => h.settled (by simp [hpc])
    · exact h
  case ret =>
    simp only [step]
    split <;> rename_i hpc
    · exact h.move h.buf rfl (by simp [hpc]) (by simp) fun _ => h.settled (by simp [hpc])
    · exact h

theorem run_sinv (as : List (Act α)) (s : St α) (h : SInv s) : SInv (run s as).1 := by
  fun_induction run s as with
  | case1 => exact h
  | case2 s a as r q ih => exact ih (step_sinv s a h)

def curOf : Pc α → Option α
  | .running cb => some cb
  | _ => none

/-- What the properties, the trace monitor and PubSub see of a serializer state. -/
structure View (α : Type) where
  pending : List α
  cur : Option α
  cancelled : Bool
  fired : Bool
  done : Bool

@[simp] def view (s : St α) : View α := ⟨pending s, curOf s.pc, s.cancelled, s.fired, s.done⟩

/-- The serializer as an event machine on the view: what an event does to it … -/
def View.next (v : View α) : Ev α → View α
  | .accepted cb => { v with pending := v.pending ++ [cb] }
  | .cancelled => { v with cancelled := true }
  | .closed => { v with fired := true }
  | .started cb => { v with pending := v.pending.tail, cur := some cb }
  | .ended _ => { v with cur := none }
  | .done => { v with done := true }
  | _ => v

/-- … and which event an action can produce in which view. -/
def View.Allows (v : View α) : Act α → Ev α → Prop
  | .sched cb, .accepted cb' => cb' = cb ∧ v.fired = false
  | .sched cb, .rejected cb' => cb' = cb ∧ v.fired = true
  | .cancel, .cancelled => True
  | .fire, .closed => v.cancelled = true ∧ v.fired = false
  | .run, .started cb => v.pending.head? = some cb ∧ v.cur = none
  | .run, .done => v.fired = true ∧ v.pending = [] ∧ v.cur = none ∧ v.done = false
  | .ret, .ended cb => v.cur = some cb
  | .fire, .none | .run, .none | .ret, .none => True
  | _, _ => False

attribute [local simp] curOf View.next View.Allows

theorem step_view (s : St α) (a : Act α) (h : SInv s) :
    (view s).Allows a (step s a).2 ∧ view (step s a).1 = (view s).next (step s a).2 := by
  have hbuf := h.buf
  have hclf := h.closing_eq_fired
  cases a <;> simp only [step_eq _ _ hbuf]
  case sched cb => split <;> rename_i hc <;> simp [Lemmas.Unbounded.step_abs _ _ hbuf, ← hclf, hc]
  case cancel => simp
  case fire => split <;> simp_all [Lemmas.Unbounded.step_abs _ _ hbuf]
  case run =>
    split <;> rename_i hpc
    · simp [hpc]
    · split <;> rename_i hch
      · simp [hpc, Unbounded.abs, hch]
      · split <;> rename_i hcc
        · -- end of stream: `Close` ran and nothing is buffered
          obtain ⟨hcl, hbl⟩ := hbuf.of_chanClosed hcc
          have hd : s.done = false := by simpa [hpc] using h.done_iff
          simp [hpc, Unbounded.abs, hch, hbl, ← hclf, hcl, hd]
        · simp
    · simp [hpc, Lemmas.Unbounded.step_abs _ _ hbuf]
    · simp [hpc]
    · simp
  case ret => split <;> simp [*]

theorem step_pending (s : St α) (a : Act α) (h : SInv s) :
    pending (step s a).1 = ((view s).next (step s a).2).pending :=
  congrArg View.pending (step_view s a h).2

theorem step_fired (s : St α) (a : Act α) (h : SInv s) : (step s a).1.fired = ((view s).next (step s a).2).fired :=
  congrArg View.fired (step_view s a h).2

theorem step_no_panic (s : St α) (a : Act α) (h : SInv s) : (step s a).2 ≠ .panic := fun hp => by
  have hal := (step_view s a h).1
  rw [hp] at hal
  cases a <;> exact hal

theorem View.fired_next {v : View α} (e : Ev α) (h : v.fired = true) : (v.next e).fired = true := by
  cases e <;> simp [h]

/-- What `SInv` says about the view. -/
structure View.Ok (v : View α) : Prop where
  cancelled_of_fired : v.fired = true → v.cancelled = true
  of_done : v.done = true → v.fired = true ∧ v.pending = [] ∧ v.cur = none

theorem view_ok {s : St α} (h : SInv s) : (view s).Ok := by
  refine ⟨fun hf => (h.of_fired hf).1, fun hd => ?_⟩
  have hpc := h.done_iff.mp hd
  obtain ⟨hcc, hch⟩ := h.of_exited hpc
  exact ⟨h.closing_eq_fired.symm.trans (closing_of_exited h hpc),
    by simp [hpc, Unbounded.abs, hch, (h.buf.of_chanClosed hcc).2], by simp [hpc]⟩

theorem View.fifo {v : View α} {a : Act α} {e : Ev α} (h : v.Allows a e) :
    startedOf [e] ++ (v.next e).pending = v.pending ++ acceptedOf [e] ∧
    endedOf [e] ++ (v.next e).cur.toList = v.cur.toList ++ startedOf [e] := by
  cases a <;> cases e <;> simp_all
  case run.started cb => cases hp : v.pending <;> simp_all

theorem startedOf_cons (e : Ev α) (t : List (Ev α)) : startedOf (e :: t) = startedOf [e] ++ startedOf t := by
  cases e <;> simp

theorem acceptedOf_cons (e : Ev α) (t : List (Ev α)) : acceptedOf (e :: t) = acceptedOf [e] ++ acceptedOf t := by
  cases e <;> simp

theorem endedOf_cons (e : Ev α) (t : List (Ev α)) : endedOf (e :: t) = endedOf [e] ++ endedOf t := by
  cases e <;> simp

theorem fifo (as : List (Act α)) (s : St α) (h : SInv s) :
    startedOf (run s as).2 ++ pending (run s as).1 = pending s ++ acceptedOf (run s as).2 ∧
    endedOf (run s as).2 ++ (curOf (run s as).1.pc).toList = (curOf s.pc).toList ++ startedOf (run s as).2 := by
  fun_induction run s as with
  | case1 => simp
  | case2 s a as r q ih =>
    obtain ⟨hal, hv⟩ := step_view s a h
    obtain ⟨h1, h2⟩ := View.fifo hal
    obtain ⟨i1, i2⟩ := ih (step_sinv s a h)
    rw [← hv] at h1 h2
    rw [startedOf_cons, acceptedOf_cons, endedOf_cons]
    exact ⟨Lemmas.Unbounded.fifo_glue h1 i1, Lemmas.Unbounded.fifo_glue h2 i2⟩

/-- The monitor state is the view; `rejSeen` is history and only says that `Close` has run. -/
def Sees (m : Mon α) (v : View α) : Prop :=
  m.acc = v.pending ∧ m.cur = v.cur ∧ m.cancelSeen = v.cancelled ∧ m.doneSeen = v.done ∧
  (m.rejSeen = true → v.fired = true)

theorem Mon.step_sees [DecidableEq α] {m : Mon α} {v : View α} (hm : Sees m v) (hv : v.Ok) {a : Act α} {e : Ev α}
    (h : v.Allows a e) : Sees (Mon.step m e).1 (v.next e) ∧ ∀ c, (Mon.step m e).2 ≠ .viol c := by
  obtain ⟨acc, cur, cancelSeen, rejSeen, doneSeen⟩ := m
  obtain ⟨m1, m2, m3, m4, m5⟩ := hm
  simp only at m1 m2 m3 m4 m5
  subst m1 m2 m3 m4
  obtain ⟨hfc, hdn⟩ := hv
  cases a <;> cases e <;> simp only [View.Allows] at h
  case sched.accepted cb cb' =>
    have hd : v.done = false := Bool.eq_false_iff.mpr fun hd => by simp [(hdn hd).1] at h
    have hr : rejSeen = false := Bool.eq_false_iff.mpr fun hr => by simp [m5 hr] at h
    simp [Sees, Mon.step, hd, hr, h]
  case sched.rejected cb cb' => simp [Sees, Mon.step, hfc h.2, h]
  case run.started cb =>
    have hd : v.done = false := Bool.eq_false_iff.mpr fun hd => by simp [(hdn hd).2.1] at h
    cases hp : v.pending <;> simp_all [Sees, Mon.step]
  case ret.ended cb => simpa [Sees, Mon.step, h] using m5
  case run.done => simp [Sees, Mon.step, h, hfc h.1]
  case fire.closed => simp [Sees, Mon.step]
  -- `cancelled` and the three silent pairs: the monitor's queue, slot and `rejSeen` stay, and so does `fired`
  all_goals simpa [Sees, Mon.step] using m5

theorem Sees.acc {m : Mon α} {v : View α} (h : Sees m v) : m.acc = v.pending := h.1

theorem Sees.doneSeen {m : Mon α} {v : View α} (h : Sees m v) : m.doneSeen = v.done := h.2.2.2.1

structure Coupled (s : St α) (m : Mon α) : Prop where
  inv : SInv s
  sees : Sees m (view s)

theorem coupled_init : Coupled (init : St α) Mon.init :=
  ⟨sinv_init, by simp [Sees, init, Mon.init, Unbounded.abs, Unbounded.init]⟩

theorem step_coupled [DecidableEq α] (s : St α) (m : Mon α) (a : Act α) (h : Coupled s m) :
    Coupled (step s a).1 (Mon.step m (step s a).2).1 ∧ ∀ c, (Mon.step m (step s a).2).2 ≠ .viol c := by
  obtain ⟨hal, hv⟩ := step_view s a h.inv
  obtain ⟨hs, hok⟩ := Mon.step_sees h.sees (view_ok h.inv) hal
  exact ⟨⟨step_sinv s a h.inv, hv ▸ hs⟩, hok⟩

theorem run_coupled [DecidableEq α] (as : List (Act α)) (s : St α) (m : Mon α) (h : Coupled s m) :
    Coupled (run s as).1 (Mon.run m (run s as).2).1 ∧ ∀ v ∈ (Mon.run m (run s as).2).2, ∀ c, v ≠ .viol c := by
  fun_induction run s as generalizing m with
  | case1 => simpa [Mon.run]
  | case2 s a as r q ih =>
    obtain ⟨hs, hv⟩ := step_coupled s m a h
    obtain ⟨r1, r2⟩ := ih _ hs
    exact ⟨r1, List.forall_mem_cons.mpr ⟨hv, r2⟩⟩

theorem tick_progress (s : St α) (h : SInv s) :
    work (tick s) < work s ∨
    (s.pc = .recv ∧ pending s = [] ∧ s.fired = false) ∨ s.done = true := by
  have hbuf := h.buf
  cases hpc : s.pc <;> simp only [tick, hpc]
  case running cb => simp [step, hpc, work]
  case exited => exact .inr (.inr (h.done_iff.mpr hpc))
  all_goals simp only [step_eq _ _ hbuf]; simp only [hpc]
  case recv =>
    split <;> rename_i hch
    · simp [work, hpc, Unbounded.abs, hch]; omega
    · split <;> rename_i hcc
      · simp [work, hpc]
      · -- parked on an empty open channel: settled, so nothing is buffered and no close is owed
        obtain ⟨hbl, hcl⟩ := (h.settled (by simp [hpc])).idle hbuf hch (by simpa using hcc)
        exact .inr (.inl ⟨trivial, by simp [hpc, Unbounded.abs, hch, hbl], h.closing_eq_fired ▸ hcl⟩)
  all_goals simp [work, hpc, Lemmas.Unbounded.step_abs _ _ hbuf]

theorem tick_fired (s : St α) (h : SInv s) (hf : s.fired = true) : (tick s).fired = true := by
  unfold tick
  split <;> exact (step_fired s _ h).trans (View.fired_next _ hf)

theorem ticks_exited (n : Nat) (s : St α) (h : s.pc = .exited) : ticks n s = s := by
  induction n with
  | zero => rfl
  | succ n ih => simpa [ticks, tick, step, h] using ih

theorem tick_progress_fired (s : St α) (h : SInv s) (hf : s.fired = true) : work (tick s) < work s ∨ s.done = true :=
  (tick_progress s h).imp_right fun
    | .inl ⟨_, _, hp⟩ => nomatch hp.symm.trans hf
    | .inr hd => hd

theorem terminates (n : Nat) (s : St α) (h : SInv s) (hf : s.fired = true) (hn : work s ≤ n) :
    (ticks n s).done = true := by
  induction n generalizing s with
  | zero =>
    rcases tick_progress_fired s h hf with hp | hp
    · omega
    · simpa [ticks]
  | succ n ih =>
    rcases tick_progress_fired s h hf with hp | hp
    · exact ih (tick s) (by unfold tick; split <;> exact step_sinv _ _ h) (tick_fired s h hf) (by omega)
    · rw [ticks_exited _ s (h.done_iff.mp hp)]; exact hp

end GrpcProofs.Lemmas.Serializer
