import GrpcModel.Model.InFlow
/-! C04, stream level: `FInv` relates the ported uint32 bookkeeping `s.f` to the ledger `s.g` of what the peer holds. The wrapped
arithmetic is met once per Go function (`onData_spec`, `onRead_spec`, `maybeAdjust_spec`); one lemma per op (`step_*`) keeps
`FInv`, `run_inv` carries it along a legal history. At the end `TInv`, the same for the connection window `trInFlow`. -/
namespace GrpcProofs.Lemmas.InFlow
open GrpcModel.InFlow GrpcModel.Generated

/-- The simulation relation between the ported bookkeeping `s.f` and the ledger `s.g` of what the peer holds and the application
has asked for, with the bounds that keep the uint32 operations from wrapping. `strict`: the history has no BDP update while
`limit + delta` would pass 2^31−1. -/
structure FInv (strict : Bool) (s : State) : Prop where
  alive : s.g.failed = false
  cfg : s.g.cfg = s.f.limit
  ledger : s.g.adv = (s.f.limit : Int) + s.f.delta - ((s.f.pd : Int) + s.f.pu)
  pd : s.f.pd = s.g.outstanding
  delta : s.f.delta ≤ s.g.want   -- a read is requested only once the last one is read (`want = 0`): then `delta = 0`, as `maybeAdjust_spec` asks
  pu : s.f.pu = 0 ∨ s.f.pu < s.f.limit / 4   -- `onRead` flushes the batched credit at a quarter window
  limMax : s.f.limit ≤ 2147483647
  deltaMax : s.f.delta ≤ 2147483647
  -- `maybeAdjust` keeps `limit + delta ≤ 2^31-1`; a BDP update (`limit ≤ 2^24`) may break that, but
  -- either way `onData`'s uint32 sums of a frame below 2^24 do not wrap
  sumMax : s.f.limit + s.f.delta ≤ 2147483647 ∨ s.f.limit ≤ 16777216
  strictMax : strict = true → s.f.limit + s.f.delta ≤ 2147483647
  nonneg : 0 ≤ s.g.adv
  infl : ∀ sz p, s.g.inflight = some (sz, p) → p ≤ sz ∧ 0 < sz ∧ sz < 16777216   -- `legal (.data sz (some p))`

theorem c_max : fcMaxWindowSize = 2147483647 := rfl
theorem c_bdp : fcBdpLimit = 16777216 := rfl

theorem add32_small (a b : Nat) (h : a + b < 4294967296) : add32 a b = a + b := Nat.mod_eq_of_lt h

theorem sub32_small (a b : Nat) (h : b ≤ a) (ha : a < 4294967296) : sub32 a b = a - b := by
  unfold sub32
  rw [Nat.mod_eq_of_lt (Nat.lt_of_le_of_lt h ha), Nat.sub_add_comm h, Nat.add_mod_right,
    Nat.mod_eq_of_lt (Nat.lt_of_le_of_lt (Nat.sub_le _ _) ha)]

theorem i32_sub32 (a b : Nat) (ha : a ≤ 2147483647) (hb : b ≤ 2147483647) :
    i32 (sub32 a b) = (a : Int) - b := by
  unfold i32
  by_cases h : b ≤ a
  · rw [sub32_small a b h (by omega), if_pos (by omega)]; omega
  · have e : sub32 a b = a + 4294967296 - b := by
      unfold sub32
      rw [Nat.mod_eq_of_lt (show b < 4294967296 by omega)]
      exact Nat.mod_eq_of_lt (show a + 4294967296 - b < 4294967296 by omega)
    rw [e, if_neg (by omega)]; simp only [W]; omega

theorem onData_spec (f : InFlow) (n : Nat) (h1 : f.pd + f.pu ≤ f.limit + f.delta)
    (h2 : f.limit + f.delta ≤ 2147483647 + 16777216) (hn : n < 16777216) :
    (f.onData n).1 = { f with pd := f.pd + n }
    ∧ ((f.onData n).2 = true ↔ f.pd + n + f.pu > f.limit + f.delta) := by
  simp only [InFlow.onData, add32_small f.pd n (by omega), add32_small (f.pd + n) f.pu (by omega),
    add32_small f.limit f.delta (by omega), decide_eq_true_eq, and_self]

theorem onRead_spec (f : InFlow) (k : Nat) (hk : k ≤ f.pd) (hsum : f.pd + f.pu < 4294967296)
    (hd : f.delta < 4294967296) (hpu : f.pu = 0 ∨ f.pu < f.limit / 4) :
    ∃ w pu', (f.onRead k) = ({ f with pd := f.pd - k, delta := f.delta - k, pu := pu' }, w)
      ∧ pu' + w = f.pu + (k - f.delta)
      ∧ (pu' = 0 ∨ (w = 0 ∧ pu' < f.limit / 4)) := by
  unfold InFlow.onRead
  by_cases h0 : f.pd = 0
  · obtain rfl : k = 0 := Nat.le_zero.mp (h0 ▸ hk)
    rw [if_pos h0]
    exact ⟨0, f.pu, rfl, by rw [Nat.zero_sub], hpu.imp_right fun h => ⟨rfl, h⟩⟩
  · have hpd : f.pd < 4294967296 := Nat.lt_of_le_of_lt (Nat.le_add_right _ _) hsum
    have hkW : k < 4294967296 := Nat.lt_of_le_of_lt hk hpd
    -- both branches of each `if n > delta` are the truncated difference
    have e1 : sub32 f.pd k = f.pd - k := sub32_small _ _ hk hpd
    have e2 : (if k > f.delta then sub32 k f.delta else 0) = k - f.delta := by
      split
      next h => exact sub32_small _ _ (Nat.le_of_lt h) hkW
      next h => exact (Nat.sub_eq_zero_of_le (Nat.le_of_not_lt h)).symm
    have e3 : (if k > f.delta then 0 else sub32 f.delta k) = f.delta - k := by
      split
      next h => exact (Nat.sub_eq_zero_of_le (Nat.le_of_lt h)).symm
      next h => exact sub32_small _ _ (Nat.le_of_not_lt h) hd
    have e4 : add32 f.pu (k - f.delta) = f.pu + (k - f.delta) :=
      add32_small _ _ (Nat.lt_of_le_of_lt
        (Nat.add_le_add_left (Nat.le_trans (Nat.sub_le _ _) hk) _) (Nat.add_comm f.pd f.pu ▸ hsum))
    simp only [if_neg h0, e1, e2, e3, e4]
    split
    next h => exact ⟨_, 0, rfl, Nat.zero_add _, Or.inl rfl⟩
    next h => exact ⟨0, _, rfl, rfl, Or.inr ⟨rfl, Nat.not_le.mp h⟩⟩

theorem maybeAdjust_spec (f : InFlow) (n : Nat) (h1 : f.pd + f.pu ≤ f.limit) (hl : f.limit ≤ 2147483647)
    (hd : f.delta = 0) :
    ∃ d, f.maybeAdjust n = ({ f with delta := d }, d) ∧ d ≤ n ∧ f.limit + d ≤ 2147483647
      ∧ (((if n > 2147483647 then 2147483647 else n : Nat) : Int) - f.pd
            ≤ (f.limit : Int) + d - ((f.pd : Int) + f.pu)
          ∨ f.limit + d = 2147483647) := by
  have hn1 : (if n > 2147483647 then 2147483647 else n) ≤ 2147483647 := by split <;> omega
  have hn1n : (if n > 2147483647 then 2147483647 else n) ≤ n := by split <;> omega
  unfold InFlow.maybeAdjust
  simp only [maxInt32, c_max]
  generalize (if n > 2147483647 then 2147483647 else n) = n1 at *
  have hs : f.pd + f.pu ≤ 2147483647 := Nat.le_trans h1 hl
  rw [add32_small f.pd f.pu (Nat.lt_of_le_of_lt hs (by decide)), i32_sub32 f.limit (f.pd + f.pu) hl hs,
    i32_sub32 n1 f.pd hn1 (Nat.le_trans (Nat.le_add_right _ _) hs),
    add32_small f.limit n1 (Nat.lt_of_le_of_lt (Nat.add_le_add hl hn1) (by decide)),
    sub32_small 2147483647 f.limit hl (by decide)]
  split
  · split
    next hcl =>
      exact ⟨_, rfl, by omega, Nat.le_of_eq (Nat.add_sub_cancel' hl), Or.inr (Nat.add_sub_cancel' hl)⟩
    next hcl => exact ⟨_, rfl, hn1n, Nat.le_of_not_gt hcl, Or.inl (by omega)⟩
  · exact ⟨0, by rw [← hd], Nat.zero_le _, hl, Or.inl (by omega)⟩

theorem step_eq (s : State) (op : Op) :
    step s op = ({ f := (implStep s.f op).1, g := s.g.next op (implStep s.f op).2 }, (implStep s.f op).2) := rfl

theorem step_data (strict : Bool) (s : State) (size : Nat) (pad : Option Nat) (hi : FInv strict s)
    (hl : s.g.legal strict s.f.delta (.data size pad) = true) :
    (step s (.data size pad)).2 = (if (size : Int) ≤ s.g.adv then .accepted else .rejected)
    ∧ ((size : Int) ≤ s.g.adv → FInv strict (step s (.data size pad)).1) := by
  simp only [Ghost.legal, Bool.and_eq_true, Bool.not_eq_true', decide_eq_true_eq,
    Option.isNone_iff_eq_none] at hl
  obtain ⟨⟨⟨⟨_, hnone⟩, hpos⟩, hsz⟩, hpad⟩ := hl
  have hled := hi.ledger
  have hpd : s.f.pd = s.g.avail := by rw [hi.pd, Ghost.outstanding, hnone]; rfl
  have hpu := hi.pu
  have hlm := hi.limMax
  have hsm := hi.sumMax
  have hdm := hi.deltaMax
  have hnn := hi.nonneg
  obtain ⟨e1, e2⟩ := onData_spec s.f size (by omega) (by omega) hsz
  have hf : (implStep s.f (.data size pad)).1 = { s.f with pd := s.f.pd + size } := e1
  have hrej : (s.f.onData size).2 = true ↔ ¬ (size : Int) ≤ s.g.adv := e2.trans (by omega)
  have ho : (implStep s.f (.data size pad)).2 = if (size : Int) ≤ s.g.adv then .accepted else .rejected := by
    simp only [implStep, hrej, ite_not]
  refine ⟨ho, fun h => ?_⟩
  rw [step_eq, hf, ho, if_pos h]
  have hled' : s.g.adv - size
      = (s.f.limit : Int) + s.f.delta - (((s.f.pd + size : Nat) : Int) + s.f.pu) := by omega
  have hnn' : 0 ≤ s.g.adv - size := Int.sub_nonneg.mpr h
  cases pad with
  | none =>
    refine { hi with ledger := hled', nonneg := hnn', pd := ?_ }
    show s.f.pd + size = s.g.avail + size + (match s.g.inflight with | some (s, _) => s | none => 0)
    rw [hnone, hpd]; rfl
  | some p =>
    refine { hi with ledger := hled', nonneg := hnn', pd := ?_, infl := ?_ }
    · show s.f.pd + size = s.g.avail + size
      rw [hpd]
    · intro sz p' e
      cases e
      exact ⟨of_decide_eq_true hpad, hpos, hsz⟩

theorem step_data_iff {strict : Bool} {s : State} {size : Nat} {pad : Option Nat} (hi : FInv strict s)
    (hl : s.g.legal strict s.f.delta (.data size pad) = true) :
    ((step s (.data size pad)).2 = .accepted ↔ (size : Int) ≤ s.g.adv)
    ∧ ((step s (.data size pad)).2 = .rejected ↔ (size : Int) > s.g.adv) := by
  rw [(step_data strict s size pad hi hl).1]
  by_cases h : (size : Int) ≤ s.g.adv
  · rw [if_pos h]; exact ⟨⟨fun _ => h, fun _ => rfl⟩, nofun, fun h' => absurd h (Int.not_le.mpr h')⟩
  · rw [if_neg h]; exact ⟨⟨nofun, fun h' => absurd h' h⟩, fun _ => Int.not_le.mp h, fun _ => rfl⟩

/-- `g'`: the application read `k` bytes, or `k` bytes of padding are given back. -/
theorem finv_onRead (strict : Bool) (s : State) (k : Nat) (g' : Ghost) (hi : FInv strict s)
    (hk : k ≤ s.g.outstanding) (halive : g'.failed = false) (hcfg : g'.cfg = s.g.cfg)
    (hadv : g'.adv = s.g.adv + (s.f.onRead k).2) (hout : g'.outstanding = s.g.outstanding - k)
    (hwant : s.f.delta - k ≤ g'.want)
    (hinf : ∀ sz p, g'.inflight = some (sz, p) → p ≤ sz ∧ 0 < sz ∧ sz < 16777216) :
    FInv strict { f := (s.f.onRead k).1, g := g' } := by
  have hpd := hi.pd
  have hled := hi.ledger
  have hnn := hi.nonneg
  have hdm := hi.deltaMax
  have hW : s.f.pd + s.f.pu < 4294967296 := by
    have := hi.limMax
    omega
  obtain ⟨w, pu', e, hsum, hpu'⟩ :=
    onRead_spec s.f k (hpd ▸ hk) hW (Nat.lt_of_le_of_lt hdm (by decide)) hi.pu
  rw [e] at hadv ⊢
  refine {
    alive := halive
    cfg := hcfg.trans hi.cfg
    ledger := ?_
    pd := hout ▸ hpd ▸ rfl
    delta := hwant
    pu := hpu'.imp_right And.right
    limMax := hi.limMax
    deltaMax := Nat.le_trans (Nat.sub_le _ _) hi.deltaMax
    sumMax := hi.sumMax.imp_left (Nat.le_trans (Nat.add_le_add_left (Nat.sub_le _ _) _))
    strictMax := fun h => Nat.le_trans (Nat.add_le_add_left (Nat.sub_le _ _) _) (hi.strictMax h)
    nonneg := hadv ▸ Int.add_nonneg hnn (Int.natCast_nonneg w)
    infl := hinf }
  show g'.adv = (s.f.limit : Int) + ((s.f.delta - k : Nat) : Int) - (((s.f.pd - k : Nat) : Int) + pu')
  clear hpu' hnn hW hdm hwant hout  -- facts the ledger does not need; `omega` would split on the disjunction
  omega

theorem step_read (strict : Bool) (s : State) (k : Nat) (hi : FInv strict s)
    (hl : s.g.legal strict s.f.delta (.read k) = true) : FInv strict (step s (.read k)).1 := by
  simp only [Ghost.legal, Bool.and_eq_true, decide_eq_true_eq] at hl
  have hdl := hi.delta
  refine finv_onRead strict s k _ hi ?_ (halive := hi.alive) (hcfg := rfl) (hadv := rfl) ?_ ?_ (hinf := hi.infl)
  · unfold Ghost.outstanding; omega
  · simp only [Ghost.outstanding, Ghost.next, implStep]; omega
  · show s.f.delta - k ≤ s.g.want - k
    omega

theorem step_pad (strict : Bool) (s : State) (p : Nat) (hi : FInv strict s)
    (hl : s.g.legal strict s.f.delta (.pad p) = true) : FInv strict (step s (.pad p)).1 := by
  simp only [Ghost.legal, Bool.and_eq_true] at hl
  cases hin : s.g.inflight with
  | none => rw [hin] at hl; cases hl.2
  | some sp =>
    obtain ⟨sz, p'⟩ := sp
    rw [hin] at hl
    obtain rfl : p = p' := of_decide_eq_true hl.2
    have hple := (hi.infl sz p hin).1
    have hnext : s.g.next (.pad p) (.wu (s.f.onRead p).2) = { s.g with
        adv := s.g.adv + (s.f.onRead p).2, avail := s.g.avail + (sz - p), inflight := none } := by
      simp only [Ghost.next, hin]
    rw [step_eq]
    show FInv strict { f := (s.f.onRead p).1, g := s.g.next (.pad p) (.wu (s.f.onRead p).2) }
    rw [hnext]
    refine finv_onRead strict s p _ hi ?_ (halive := hi.alive) (hcfg := rfl) (hadv := rfl) ?_
      (hwant := Nat.le_trans (Nat.sub_le _ _) hi.delta) (hinf := nofun)
    · simp only [Ghost.outstanding, hin]; omega
    · simp only [Ghost.outstanding, hin]; omega

theorem step_bdp (strict : Bool) (s : State) (n : Nat) (hi : FInv strict s)
    (hl : s.g.legal strict s.f.delta (.bdp n) = true) : FInv strict (step s (.bdp n)).1 := by
  simp only [Ghost.legal, Bool.and_eq_true, Bool.not_eq_true', decide_eq_true_eq, c_bdp, c_max,
    Bool.or_eq_true] at hl
  obtain ⟨⟨⟨_, hge⟩, hle⟩, hs⟩ := hl
  have hle : n ≤ 16777216 := of_decide_eq_true hle
  have hled := hi.ledger
  have hnn := hi.nonneg
  rw [hi.cfg] at hge
  exact { hi with
    cfg := rfl
    ledger := by
      show s.g.adv + ((n : Int) - s.g.cfg) = (n : Int) + s.f.delta - ((s.f.pd : Int) + s.f.pu)
      rw [hi.cfg]; omega
    pu := hi.pu.imp_right fun h => show s.f.pu < n / 4 by omega
    limMax := show n ≤ 2147483647 by omega
    sumMax := Or.inr hle
    strictMax := fun h => by
      subst h
      exact of_decide_eq_true (hs.resolve_left (by decide))
    nonneg := by
      show 0 ≤ s.g.adv + ((n : Int) - s.g.cfg)
      rw [hi.cfg]; omega }

/-- a new read request: `maybeAdjust(uint32(n))` opens an extra window `d`; a read larger than the
    window is granted -/
theorem step_req (strict : Bool) (s : State) (n : Nat) (hi : FInv strict s)
    (hl : s.g.legal strict s.f.delta (.req n) = true) :
    ∃ d, step s (.req n)
        = ({ f := { s.f with delta := d }, g := { s.g with adv := s.g.adv + d, want := n } }, .wu d)
      ∧ FInv strict (step s (.req n)).1
      ∧ (s.g.adv + d ≥ ((if n > 2147483647 then 2147483647 else n : Nat) : Int) - s.f.pd
          ∨ s.f.limit + d = 2147483647) := by
  simp only [Ghost.legal, Bool.and_eq_true, Bool.not_eq_true', decide_eq_true_eq] at hl
  obtain ⟨⟨_, hw0⟩, hnW⟩ := hl
  have hled := hi.ledger
  have hnn := hi.nonneg
  have hd0 : s.f.delta = 0 := Nat.le_zero.mp (hw0 ▸ hi.delta)
  obtain ⟨d, e, hdn, hmax, hgr⟩ := maybeAdjust_spec s.f n (by omega) hi.limMax hd0
  have hs : step s (.req n)
      = ({ f := { s.f with delta := d }, g := { s.g with adv := s.g.adv + d, want := n } }, .wu d) := by
    simp only [step_eq, implStep, Nat.mod_eq_of_lt hnW, e, Ghost.next]
  have hled' : s.g.adv + d = (s.f.limit : Int) + d - ((s.f.pd : Int) + s.f.pu) := by omega
  refine ⟨d, hs, ?_, ?_⟩
  · rw [hs]
    exact { hi with
      ledger := hled'
      delta := hdn
      deltaMax := Nat.le_trans (Nat.le_add_left _ _) hmax
      sumMax := Or.inl hmax
      strictMax := fun _ => hmax
      nonneg := Int.add_nonneg hnn (Int.natCast_nonneg d) }
  · rw [hled']
    exact hgr

theorem run_nil (s : State) : run s [] = (s, []) := rfl
theorem run_cons (s : State) (o : Op) (os : List Op) :
    run s (o :: os) = ((run (step s o).1 os).1, (step s o).2 :: (run (step s o).1 os).2) := rfl

theorem run_append (s : State) (a b : List Op) :
    run s (a ++ b) = ((run (run s a).1 b).1, (run s a).2 ++ (run (run s a).1 b).2) := by
  induction a generalizing s with
  | nil => rfl
  | cons o os ih => simp only [List.cons_append, run_cons, ih]

theorem legalRun_append (strict : Bool) (s : State) (a b : List Op) :
    legalRun strict s (a ++ b) = (legalRun strict s a && legalRun strict (run s a).1 b) := by
  induction a generalizing s with
  | nil => simp [legalRun, run_nil]
  | cons o os ih => simp only [List.cons_append, legalRun, ih, run_cons, Bool.and_assoc]

theorem finv_init (strict : Bool) (l : Nat) (hl : l ≤ 2147483647) : FInv strict (State.init l) :=
  { alive := rfl
    cfg := rfl
    ledger := by show (l : Int) = (l : Int) + (0 : Nat) - (((0 : Nat) : Int) + (0 : Nat)); omega
    pd := rfl
    delta := Nat.le_refl _
    pu := Or.inl rfl
    limMax := hl
    deltaMax := Nat.zero_le _
    sumMax := Or.inl hl
    strictMax := fun _ => hl
    nonneg := Int.natCast_nonneg l
    infl := nofun }

theorem step_finv (strict : Bool) (s : State) (op : Op) (hi : FInv strict s)
    (hl : s.g.legal strict s.f.delta op = true) (hacc : (step s op).2 ≠ .rejected) :
    FInv strict (step s op).1 := by
  cases op with
  | data size pad =>
    obtain ⟨hout, hinv⟩ := step_data strict s size pad hi hl
    exact hinv (Decidable.by_contra fun hn => hacc (by rw [hout, if_neg hn]))
  | pad p => exact step_pad strict s p hi hl
  | req n => obtain ⟨_, _, h, _⟩ := step_req strict s n hi hl; exact h
  | read k => exact step_read strict s k hi hl
  | bdp n => exact step_bdp strict s n hi hl

theorem rejected_failed (s : State) (op : Op) (h : (step s op).2 = .rejected) :
    (step s op).1.g.failed = true := by
  cases op with
  | data size pad =>
    rw [step_eq] at h ⊢
    simp only at h ⊢
    rw [h]; rfl
  | pad p | req n | read k | bdp n => cases h

theorem failed_not_legal (strict : Bool) (g : Ghost) (d : Nat) (op : Op) (h : g.failed = true) :
    g.legal strict d op = false := by
  cases op <;> simp [Ghost.legal, h]

/-- A rejection sets `failed`, and `failed` makes every further op illegal: in a legal history only the last op can have been
rejected, so the invariant holds in front of every op of it. -/
theorem run_inv (strict : Bool) (s : State) (pre : List Op) (op : Op) (hi : FInv strict s)
    (hl : legalRun strict s (pre ++ [op]) = true) :
    FInv strict (run s pre).1 ∧ (run s pre).1.g.legal strict (run s pre).1.f.delta op = true := by
  induction pre generalizing s with
  | nil => exact ⟨hi, by simpa [legalRun, run_nil] using hl⟩
  | cons o os ih =>
    simp only [List.cons_append, legalRun, Bool.and_eq_true] at hl
    rw [run_cons]
    refine ih _ (step_finv strict s o hi hl.1 fun hrej => ?_) hl.2
    have hf := rejected_failed s o hrej
    have := hl.2
    cases os <;> simp [legalRun, failed_not_legal strict _ _ _ hf] at this

theorem finv_of_legal_snoc (strict : Bool) (l : Nat) (pre : List Op) (op : Op) (hl0 : l ≤ 2147483647)
    (hl : legalRun strict (State.init l) (pre ++ [op]) = true) :
    FInv strict (run (State.init l) pre).1
    ∧ (run (State.init l) pre).1.g.legal strict (run (State.init l) pre).1.f.delta op = true :=
  run_inv strict _ pre op (finv_init strict l hl0) hl

theorem finv_of_alive (strict : Bool) (l : Nat) (ops : List Op) (hl0 : l ≤ 2147483647)
    (hl : legalRun strict (State.init l) ops = true)
    (ha : (run (State.init l) ops).1.g.failed = false) : FInv strict (run (State.init l) ops).1 := by
  rcases List.eq_nil_or_concat ops with rfl | ⟨pre, op, rfl⟩
  · exact finv_init strict l hl0
  · rw [List.concat_eq_append] at hl ha ⊢
    obtain ⟨h, hleg⟩ := finv_of_legal_snoc strict l pre op hl0 hl
    rw [run_append] at ha ⊢
    exact step_finv strict _ op h hleg fun hrej => by rw [show (run _ [op]).1 = (step _ op).1 from rfl, rejected_failed _ _ hrej] at ha; cases ha

/-- `Ghost.restored g` is `connRestored g.adv g.cfg` (the two are the same text), so this reads both. -/
theorem connRestored_iff (adv : Int) (limit : Nat) :
    connRestored adv limit = true ↔
      (adv ≥ (limit : Int) ∨ adv + ((limit / 4 : Nat) : Int) > (limit : Int)) ∧ (0 < limit → 0 < adv) := by
  simp only [connRestored, Bool.and_eq_true, Bool.or_eq_true, decide_eq_true_eq]
  exact and_congr_right fun _ => ⟨fun h hl => h.resolve_left (Nat.ne_of_gt hl), (Nat.eq_zero_or_pos limit).imp_right⟩

/-- The arithmetic behind "the window is restored", for the stream and the connection level alike: the
    peer holds `limit + extra` less a batched credit `u` that is zero or below a quarter of `limit`. -/
theorem restored_of_quarter (limit u extra : Nat) (adv : Int) (h : adv = (limit : Int) + extra - u)
    (hu : u = 0 ∨ u < limit / 4) : connRestored adv limit = true :=
  (connRestored_iff adv limit).mpr ⟨by omega, by omega⟩

theorem finv_restored (strict : Bool) (s : State) (hi : FInv strict s) (h0 : s.g.outstanding = 0) : s.g.restored = true := by
  show connRestored s.g.adv s.g.cfg = true
  rw [hi.cfg]
  have hled := hi.ledger
  have hpd := hi.pd
  exact restored_of_quarter s.f.limit s.f.pu s.f.delta s.g.adv (by omega) hi.pu

theorem finv_adv_le_max (s : State) (hi : FInv true s) : s.g.adv ≤ 2147483647 := by
  have hled := hi.ledger
  have hs := hi.strictMax rfl
  omega

theorem finv_windowErr (s : State) (hi : FInv true s) : s.g.windowErr = none := by
  have hmax := finv_adv_le_max s hi
  unfold Ghost.windowErr
  rw [if_neg (by simp only [maxInt32]; omega), if_neg (Int.not_lt.mpr hi.nonneg)]
  by_cases h0 : s.g.outstanding = 0
  · simp [h0, finv_restored true s hi h0]
  · simp [h0]

theorem step_verdict (s : State) (op : Op) (hi : FInv true s)
    (hl : s.g.legal true s.f.delta op = true) : s.g.verdict op (step s op).2 = .ok () := by
  cases op with
  | data size pad =>
    rw [(step_data true s size pad hi hl).1]
    by_cases h : (size : Int) ≤ s.g.adv
    · rw [if_pos h]; exact if_neg (Int.not_lt.mpr h)
    · rw [if_neg h]; exact if_neg h
  | pad p | read k | bdp n =>
    have he := finv_windowErr _ (step_finv true s _ hi hl nofun)
    rw [step_eq] at he ⊢
    simp only [implStep, Ghost.verdict] at he ⊢
    rw [he]
  | req n =>
    obtain ⟨d, e, hinv, hgr⟩ := step_req true s n hi hl
    have he := finv_windowErr _ hinv
    rw [e] at he ⊢
    have hg : s.g.readGranted { s.g with adv := s.g.adv + d, want := n } n d = true := by
      simp only [Ghost.readGranted, Bool.or_eq_true, decide_eq_true_eq, maxInt32]
      rw [hi.cfg, ← hi.pd]
      exact hgr
    simp only [Ghost.verdict, Ghost.next, he, hg, ↓reduceIte]

/-- The connection window `trInFlow` against what the peer holds of it. -/
structure TInv (s : TState) : Prop where
  limMax : s.f.limit ≤ 2147483647
  un : s.f.unacked = 0 ∨ s.f.unacked < s.f.limit / 4
  ledger : s.adv = (s.f.limit : Int) - s.f.unacked

theorem tinv_init (l : Nat) (h : l ≤ 2147483647) : TInv (TState.init l) :=
  { limMax := h, un := .inl rfl, ledger := by simp [TState.init] }

theorem tstep_inv (s : TState) (op : TOp) (hi : TInv s) (hl : s.legal op = true) :
    TInv (tstep s op).1 := by
  have hlm := hi.limMax
  have hun := hi.un
  have hled := hi.ledger
  cases op with
  | data n =>
    simp only [TState.legal, Bool.and_eq_true, decide_eq_true_eq] at hl
    obtain ⟨hn, hsz⟩ := hl
    have hsum : s.f.unacked + n ≤ s.f.limit := by omega
    simp only [tstep, TrInFlow.onData, TrInFlow.reset, TrInFlow.updateEws]
    rw [add32_small s.f.unacked n (by omega)]
    by_cases hq : s.f.unacked + n < s.f.limit / 4
    · simp only [hq, ↓reduceIte]
      exact { limMax := hlm, un := .inr hq, ledger := by simp only; omega }
    · simp only [hq, ↓reduceIte]
      exact { limMax := hlm, un := .inl rfl, ledger := by simp only; omega }
  | reset =>
    simp only [tstep, TrInFlow.reset, TrInFlow.updateEws]
    exact { limMax := hlm, un := .inl rfl, ledger := by simp only; omega }
  | bdp n =>
    simp only [TState.legal, Bool.and_eq_true, decide_eq_true_eq, c_bdp] at hl
    obtain ⟨hge, hle⟩ := hl
    have hle : n ≤ 16777216 := of_decide_eq_true hle
    simp only [tstep, TrInFlow.newLimit, TrInFlow.updateEws]
    rw [sub32_small n s.f.limit hge (by omega)]
    refine { limMax := by simp only; omega, un := ?_, ledger := by simp only; omega }
    simp only
    rcases hun with h | h
    · exact Or.inl h
    · right; omega

theorem trun_inv (s : TState) (ops : List TOp) (hi : TInv s) (hl : tlegalRun s ops = true) :
    TInv (trun s ops) := by
  induction ops generalizing s with
  | nil => exact hi
  | cons o os ih =>
    simp only [tlegalRun, Bool.and_eq_true] at hl
    exact ih _ (tstep_inv s o hi hl.1) hl.2

end GrpcProofs.Lemmas.InFlow
