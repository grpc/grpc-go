/-
Lemmas about GrpcModel/Prim/Base64.lean (used by C09 and C10): decoding inverts encoding for the
raw and the padded alphabet, and `decodeBinHeader` accepts both.
-/
import GrpcModel.Prim.Base64
namespace GrpcProofs.Lemmas.Base64
open GrpcModel.Base64

theorem decChar_encChar : ∀ n, n < 64 → decChar (encChar n) = some n := by decide

theorem decQ_quantum (pad : Bool) (a b c d : Nat) (ha : a < 64) (hb : b < 64) (hc : c < 64) (hd : d < 64) (rest : Bytes) :
    decQ pad [] (encChar a :: encChar b :: encChar c :: encChar d :: rest) = .done (finish [a, b, c, d]) rest := by
  simp [decQ, decChar_encChar a ha, decChar_encChar b hb, decChar_encChar c hc, decChar_encChar d hd]

theorem finish_eq (acc : List Nat) (x y z : UInt8)
    (h : acc.getD 0 0 * 262144 + acc.getD 1 0 * 4096 + acc.getD 2 0 * 64 + acc.getD 3 0 =
      x.toNat * 65536 + y.toNat * 256 + z.toNat) :
    finish acc = [x, y, z].take (acc.length - 1) := by
  have hx := x.toNat_lt; have hy := y.toNat_lt; have hz := z.toNat_lt
  have ⟨e1, e2, e3⟩ : (x.toNat * 65536 + y.toNat * 256 + z.toNat) / 65536 % 256 = x.toNat ∧
      (x.toNat * 65536 + y.toNat * 256 + z.toNat) / 256 % 256 = y.toNat ∧
      (x.toNat * 65536 + y.toNat * 256 + z.toNat) % 256 = z.toNat := by omega
  simp only [finish, h, e1, e2, e3, UInt8.ofNat_toNat]

theorem finish4 (x y z : UInt8) :
    finish [x.toNat / 4, x.toNat % 4 * 16 + y.toNat / 16, y.toNat % 16 * 4 + z.toNat / 64, z.toNat % 64] = [x, y, z] :=
  finish_eq _ x y z (by simp only [List.getD_cons_zero, List.getD_cons_succ]; omega)

theorem finish3 (x y : UInt8) :
    finish [x.toNat / 4, x.toNat % 4 * 16 + y.toNat / 16, y.toNat % 16 * 4] = [x, y] :=
  finish_eq _ x y 0 (by simp only [List.getD_cons_zero, List.getD_cons_succ, List.getD_nil, UInt8.toNat_zero]; omega)

theorem finish2 (x : UInt8) :
    finish [x.toNat / 4, x.toNat % 4 * 16] = [x] :=
  finish_eq _ x 0 0 (by simp only [List.getD_cons_zero, List.getD_cons_succ, List.getD_nil, UInt8.toNat_zero]; omega)

theorem decChar_padByte : decChar padByte = none := by decide
theorem isNL_padByte : isNL padByte = false := by decide

/-- The indices `encode` feeds to `encChar` are sextets. -/
theorem sextets3 (a b c : UInt8) :
    a.toNat / 4 < 64 ∧ a.toNat % 4 * 16 + b.toNat / 16 < 64 ∧ b.toNat % 16 * 4 + c.toNat / 64 < 64 ∧ c.toNat % 64 < 64 := by
  have := a.toNat_lt; have := b.toNat_lt; have := c.toNat_lt
  omega

/-- `encode` treats a last group of two or of one as filled up with zero bytes. -/
theorem sextets2 (a b : UInt8) : a.toNat / 4 < 64 ∧ a.toNat % 4 * 16 + b.toNat / 16 < 64 ∧ b.toNat % 16 * 4 < 64 :=
  have ⟨s1, s2, s3, _⟩ := sextets3 a b 0
  ⟨s1, s2, s3⟩

theorem sextets1 (a : UInt8) : a.toNat / 4 < 64 ∧ a.toNat % 4 * 16 < 64 :=
  have ⟨s1, s2, _⟩ := sextets2 a 0
  ⟨s1, s2⟩

/-- The last quantum when two bytes remain; after `=`, `decQ` accepts only newlines up to the end. -/
theorem decQ_tail3 (pad : Bool) (a b c : Nat) (ha : a < 64) (hb : b < 64) (hc : c < 64) :
    decQ pad [] ([encChar a, encChar b, encChar c] ++ if pad then [padByte] else []) = .done (finish [a, b, c]) [] := by
  cases pad <;> simp [decQ, decChar_encChar, ha, hb, hc, decChar_padByte, isNL_padByte, skipNL]

theorem decQ_tail2 (pad : Bool) (a b : Nat) (ha : a < 64) (hb : b < 64) :
    decQ pad [] ([encChar a, encChar b] ++ if pad then [padByte, padByte] else []) = .done (finish [a, b]) [] := by
  cases pad <;> simp [decQ, decChar_encChar, ha, hb, decChar_padByte, isNL_padByte, skipNL]

theorem decodeLoop_nil (pad : Bool) (fuel : Nat) : decodeLoop pad fuel [] = some [] := by cases fuel <;> rfl

theorem decodeLoop_succ (pad : Bool) (fuel : Nat) (src : Bytes) (h : src ≠ []) :
    decodeLoop pad (fuel + 1) src =
      match decQ pad [] src with
      | .err => none
      | .done out rest => (decodeLoop pad fuel rest).map (out ++ ·) := by
  cases src with
  | nil => exact absurd rfl h
  | cons => rfl

/-- Each turn of the loop reads back one group of `encode`. -/
theorem decodeLoop_encode (pad : Bool) (bs : Bytes) :
    ∀ fuel, (encode pad bs).length < fuel → decodeLoop pad fuel (encode pad bs) = some bs := by
  fun_induction encode pad bs with
  | case1 a b c rest ih =>
    intro fuel hf
    obtain ⟨s1, s2, s3, s4⟩ := sextets3 a b c
    cases fuel with
    | zero => cases hf
    | succ f =>
      rw [decodeLoop_succ _ _ _ (List.cons_ne_nil _ _), decQ_quantum pad _ _ _ _ s1 s2 s3 s4, finish4]
      simp only
      rw [ih f (by simp only [List.length_cons] at hf; omega)]
      rfl
  | case2 a b =>
    intro fuel hf
    obtain ⟨s1, s2, s3⟩ := sextets2 a b
    cases fuel with
    | zero => cases hf
    | succ f =>
      rw [decodeLoop_succ _ _ _ (List.append_ne_nil_of_left_ne_nil (List.cons_ne_nil _ _) _), decQ_tail3 pad _ _ _ s1 s2 s3, finish3]
      simp only [decodeLoop_nil]; rfl
  | case3 a =>
    intro fuel hf
    obtain ⟨s1, s2⟩ := sextets1 a
    cases fuel with
    | zero => cases hf
    | succ f =>
      rw [decodeLoop_succ _ _ _ (List.append_ne_nil_of_left_ne_nil (List.cons_ne_nil _ _) _), decQ_tail2 pad _ _ s1 s2, finish2]
      simp only [decodeLoop_nil]; rfl
  | case4 => exact fun fuel _ => decodeLoop_nil pad fuel

theorem decode_encode (pad : Bool) (bs : Bytes) : decode pad (encode pad bs) = some bs :=
  decodeLoop_encode pad bs _ (Nat.lt_succ_self _)

theorem encode_all (P : UInt8 → Bool) (hc : ∀ n, n < 64 → P (encChar n) = true) (hp : P padByte = true)
    (pad : Bool) (bs : Bytes) : (encode pad bs).all P = true := by
  fun_induction encode pad bs with
  | case1 a b c rest ih =>
    obtain ⟨s1, s2, s3, s4⟩ := sextets3 a b c
    simp only [List.all_cons, ih, Bool.and_true, hc _ s1, hc _ s2, hc _ s3, hc _ s4]
  | case2 a b =>
    obtain ⟨s1, s2, s3⟩ := sextets2 a b
    cases pad <;> simp [hc _ s1, hc _ s2, hc _ s3, hp]
  | case3 a =>
    obtain ⟨s1, s2⟩ := sextets1 a
    cases pad <;> simp [hc _ s1, hc _ s2, hp]
  | case4 => rfl

/-- `EncodedLen`: four characters for every three bytes, the last group filled up when padded. -/
theorem length_encode (pad : Bool) (bs : Bytes) :
    (encode pad bs).length = if pad then (bs.length + 2) / 3 * 4 else (bs.length * 4 + 2) / 3 := by
  fun_induction encode pad bs with
  | case1 a b c rest ih =>
    -- three more bytes are four more characters, in either form
    have raw : ((rest.length + 3) * 4 + 2) / 3 = (rest.length * 4 + 2) / 3 + 4 := by
      rw [Nat.add_mul, Nat.add_right_comm]; exact Nat.add_mul_div_left _ 4 (by decide)
    have std : (rest.length + 3 + 2) / 3 * 4 = (rest.length + 2) / 3 * 4 + 4 := by
      rw [Nat.add_right_comm, Nat.add_div_right _ (by decide), Nat.succ_mul]
    simp only [List.length_cons, ih]
    cases pad
    · exact raw.symm
    · exact std.symm
  | case2 a b => cases pad <;> simp
  | case3 a => cases pad <;> simp
  | case4 => cases pad <;> simp

theorem encode_raw_eq_std (bs : Bytes) (h : bs.length % 3 = 0) : encode false bs = encode true bs := by
  fun_induction encode false bs with
  | case1 a b c rest ih => rw [encode, ih (by simp only [List.length_cons] at h; omega)]
  | case2 a b => cases h
  | case3 a => cases h
  | case4 => rfl

theorem decodeBinHeader_encodeBinHeader (bs : Bytes) : decodeBinHeader (encodeBinHeader bs) = some bs := by
  unfold decodeBinHeader encodeBinHeader encodeRaw
  split
  · rename_i h
    -- an unpadded text of 4k characters stands for 3k bytes
    rw [length_encode, if_neg Bool.false_ne_true] at h
    rw [decodeStd, encode_raw_eq_std bs (by omega)]; exact decode_encode true bs
  · exact decode_encode false bs

/-- A peer that pads (`base64.StdEncoding`) is understood as well. -/
theorem decodeBinHeader_encodeStd (bs : Bytes) : decodeBinHeader (encodeStd bs) = some bs := by
  unfold decodeBinHeader encodeStd
  -- padded text comes in whole groups of four characters
  rw [if_pos (by rw [length_encode, if_pos rfl]; exact Nat.mul_mod_left _ _)]; exact decode_encode true bs

end GrpcProofs.Lemmas.Base64
