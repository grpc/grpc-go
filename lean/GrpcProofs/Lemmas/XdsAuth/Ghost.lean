import GrpcProofs.Lemmas.XdsAuth.Inv
/-! C43, "never ResourceChanged for the content the watcher already holds". In histories where every `watch` brings a
new watcher (`FreshRun`) no watcher id is registered twice (`nodup_watchers_step`), so a watcher hears of one
resource. The per-watcher record `Spec.WG` of what a watcher has been told agrees with the resource it watches
(`Agree`), and no step delivers a forbidden callback (`ghost_step`). -/
namespace GrpcProofs.Lemmas.XdsAuth
open GrpcModel.XdsAuth GrpcModel.XdsAuth.Spec

def allWatchers (res : List (Key × RState)) : List Nat := res.flatMap (·.2.watchers)

/-- `watch` events use a watcher that is not registered (each watch call creates a new watcher object) -/
def Fresh (a : Auth) : AEv → Prop
  | .watch _ w => ∀ p ∈ a.res, w ∉ p.2.watchers
  | _ => True

theorem allWatchers_map_eq {f : Key × RState → Key × RState} (h : ∀ p, (f p).2.watchers = p.2.watchers)
    (l : List (Key × RState)) : allWatchers (l.map f) = allWatchers l := by
  simp [allWatchers, List.flatMap_map, h]

theorem allWatchers_sublist_drop (k : Key) (w : Nat) (res : List (Key × RState)) :
    (allWatchers (res.map (dropWatcher k w))).Sublist (allWatchers res) := by
  induction res with
  | nil => exact .slnil
  | cons p ps ih =>
    refine List.Sublist.append ?_ ih
    rw [dropWatcher_eq]; split
    · exact List.filter_sublist
    · exact List.Sublist.refl _

theorem allWatchers_sublist_filter (q : Key × RState → Bool) (res : List (Key × RState)) :
    (allWatchers (res.filter q)).Sublist (allWatchers res) := by
  induction res with
  | nil => exact .slnil
  | cons p ps ih =>
    simp only [allWatchers, List.filter_cons, List.flatMap_cons] at ih ⊢
    split
    · exact List.Sublist.append (List.Sublist.refl _) ih
    · exact List.Sublist.trans ih (List.sublist_append_right _ _)

/-- A new watcher on `k`: the lists stay duplicate-free because `w` is new, and pairwise disjoint because only
    the one entry with key `k` gains it. -/
theorem allWatchers_add {k : Key} {w : Nat} {res : List (Key × RState)} (hk : (res.map (·.1)).Nodup)
    (hnd : (allWatchers res).Nodup) (hf : ∀ p ∈ res, w ∉ p.2.watchers) :
    (allWatchers (res.map (addWatcher k w))).Nodup := by
  simp only [allWatchers, List.Nodup, List.flatMap_map, List.pairwise_flatMap, List.pairwise_map] at hk hnd ⊢
  obtain ⟨hin, hdis⟩ := hnd
  refine ⟨fun p hp => ?_, (hk.and hdis).imp_of_mem ?_⟩
  · rw [addWatcher_eq]; split
    · exact Basic.nodup_snoc (hin p hp) (hf p hp)
    · exact hin p hp
  · rintro p q hp hq ⟨hne, hd⟩ x hx y hy rfl
    rcases mem_addWatcher.mp hx with hx | ⟨rfl, hpk⟩ <;> rcases mem_addWatcher.mp hy with hy | ⟨hxw, hqk⟩
    · exact hd x hx x hy rfl
    · exact hf p hp (hxw ▸ hx)
    · exact hf q hq hy
    · exact hne (hpk.trans hqk.symm)

theorem Reverted.allWatchers {a b : Auth} {srv : Nat} {cmds : List Cmd} (h : Reverted a srv b cmds) :
    allWatchers b.res = allWatchers a.res := by
  obtain ⟨cs, hres, _⟩ := h.res
  rw [hres, allWatchers_map_eq (f := setChans cs) fun _ => rfl]

/-- No watcher id is registered twice: the one invariant of the table that needs `Fresh`; `ghost_step` alone uses it. -/
theorem nodup_watchers_step {a : Auth} {e : AEv} (hi : AInv a) (hnd : (allWatchers a.res).Nodup) (hf : Fresh a e) :
    (allWatchers (a.step e).auth.res).Nodup := by
  have h := step_shape a e
  generalize a.step e = o at h ⊢
  cases h with
  | silent _ | report _ _ | refused _ _ _ | env _ => exact hnd
  | processed srv gen typ ver es b cmds hb =>
    rw [allWatchers_map_eq fun p => (upd_rstep ..).2.frame.1, hb.allWatchers]; exact hnd
  | dne k => rw [allWatchers_map_eq fun p => (dne_rstep k p).2.frame.1]; exact hnd
  | fallback srv j _ _ => rw [allWatchers_map_eq (f := addChan j) fun _ => rfl]; exact hnd
  | watchNew k w _ _ =>
    simp only [allWatchers, List.flatMap_append, List.flatMap_cons, List.flatMap_nil, List.append_nil, newRState]
    exact Basic.nodup_snoc hnd fun hx => by
      obtain ⟨p, hp, hxp⟩ := List.mem_flatMap.mp hx
      exact hf p hp hxp
  | watchOld k r w _ _ => exact allWatchers_add hi.keys hnd hf
  | dropped k w r _ _ => exact (allWatchers_sublist_drop k w a.res).nodup hnd
  | last k w r _ _ _ => exact (allWatchers_sublist_filter _ a.res).nodup hnd
  | lastOfAll k w r _ _ _ => exact .nil

/-- histories in which every `watch` call brings a new watcher (as `WatchResource` does: the returned cancel
    function is tied to that registration) -/
def FreshRun : Auth → List AEv → Prop
  | _, [] => True
  | a, e :: es => Fresh a e ∧ FreshRun (a.step e).auth es

theorem cbsFor_append (w : Nat) (l1 l2 : List Cb) : cbsFor w (l1 ++ l2) = cbsFor w l1 ++ cbsFor w l2 := by
  simp [cbsFor]

theorem cbsFor_nil (w : Nat) : cbsFor w [] = [] := rfl

theorem cbsFor_map_mk (w w' : Nat) (ks : List CbKind) :
    cbsFor w (ks.map fun k => (⟨w', k⟩ : Cb)) = if w' = w then ks else [] := by
  induction ks with
  | nil => simp [cbsFor]
  | cons k ks ih =>
    simp only [cbsFor, List.map_cons, List.filter_cons] at ih ⊢
    split <;> simp_all

theorem cbsFor_bcast {r : RState} (w : Nat) (ks : List CbKind) (hnd : r.watchers.Nodup) :
    cbsFor w (bcast r ks) = if w ∈ r.watchers then ks else [] := by
  unfold bcast
  generalize r.watchers = ws at hnd
  induction ws with
  | nil => rfl
  | cons x xs ih =>
    rw [List.nodup_cons] at hnd
    rw [List.flatMap_cons, cbsFor_append, cbsFor_map_mk, ih hnd.2]
    by_cases hx : x = w
    · subst hx; simp [hnd.1]
    · simp [hx, Ne.symm hx]

/-- what watcher `w` hears of the callbacks `cbs`, when the watchers of every resource `p` are told `f p`: `f p` for
    the resource he watches, nothing if he watches none -/
structure Hears (res : List (Key × RState)) (cbs : List Cb) (f : Key × RState → List CbKind) (w : Nat) : Prop where
  of_mem : ∀ p ∈ res, w ∈ p.2.watchers → cbsFor w cbs = f p
  of_not_mem : (∀ p ∈ res, w ∉ p.2.watchers) → cbsFor w cbs = []

theorem Hears.append {res : List (Key × RState)} {c1 c2 : List Cb} {f g : Key × RState → List CbKind} {w : Nat}
    (h1 : Hears res c1 f w) (h2 : Hears res c2 g w) : Hears res (c1 ++ c2) (fun p => f p ++ g p) w where
  of_mem p hp hw := by rw [cbsFor_append, h1.of_mem p hp hw, h2.of_mem p hp hw]
  of_not_mem h := by rw [cbsFor_append, h1.of_not_mem h, h2.of_not_mem h]; rfl

theorem hears_table {res : List (Key × RState)} (hnd : (allWatchers res).Nodup) (f : Key × RState → List CbKind)
    (w : Nat) : Hears res (res.flatMap fun q => bcast q.2 (f q)) f w := by
  induction res with
  | nil => exact ⟨fun _ hp => (nomatch hp), fun _ => rfl⟩
  | cons q qs ih =>
    simp only [allWatchers, List.flatMap_cons] at hnd
    obtain ⟨h1, h2, h3⟩ := List.nodup_append.mp hnd
    have hcons : cbsFor w ((q :: qs).flatMap fun q => bcast q.2 (f q)) =
        (if w ∈ q.2.watchers then f q else []) ++ cbsFor w (qs.flatMap fun q => bcast q.2 (f q)) := by
      rw [List.flatMap_cons, cbsFor_append, cbsFor_bcast w _ h1]
    have hdis : w ∈ q.2.watchers → ∀ p ∈ qs, w ∉ p.2.watchers := fun hq p hp hw =>
      h3 w hq w (List.mem_flatMap.mpr ⟨p, hp, hw⟩) rfl
    constructor
    · intro p hp hw
      rw [hcons]
      rcases List.mem_cons.mp hp with rfl | hp
      · rw [if_pos hw, (ih h2).of_not_mem (hdis hw), List.append_nil]
      · rw [if_neg fun hq => hdis hq p hp hw, (ih h2).of_mem p hp hw, List.nil_append]
    · intro h
      rw [hcons, if_neg (h q (List.mem_cons_self ..)), (ih h2).of_not_mem fun p hp => h p (List.mem_cons_of_mem _ hp)]; rfl

theorem hears_processUpdate {a : Auth} (hnd : (allWatchers a.res).Nodup) (srv : Nat) (typ ver : String)
    (es : List (String × Upd)) (w : Nat) :
    Hears a.res (processUpdate a srv typ ver es).2 (updKinds typ ver (ignOf a srv) es) w :=
  processUpdate_cbs a srv typ ver es ▸ (hears_table hnd _ w).append (hears_table hnd _ w)

/-- the records `G w` of what each watcher has been told agree with the resources they watch -/
def Agree (res : List (Key × RState)) (G : Nat → WG) : Prop := ∀ p ∈ res, ∀ w ∈ p.2.watchers, AgreeR (G w) p.2

theorem Agree.map {res res' : List (Key × RState)} {G : Nat → WG} (hg : Agree res G) {F : Key × RState → Key × RState}
    (hres : res' = res.map F)
    (hF : ∀ p, (∀ w ∈ (F p).2.watchers, w ∈ p.2.watchers) ∧ (F p).2.cache = p.2.cache ∧ (F p).2.err = p.2.err) :
    Agree res' G := by
  rw [Agree, hres]
  refine List.forall_mem_map.mpr fun p hp w hw => ?_
  rw [AgreeR, (hF p).2.1, (hF p).2.2]
  exact hg p hp w ((hF p).1 w hw)

theorem ghost_heard {res res' : List (Key × RState)} {G : Nat → WG} (hg : Agree res G) {cbs : List Cb}
    {f : Key × RState → List CbKind} {F : Key × RState → Key × RState}
    (hcb : ∀ w, Hears res cbs f w) (hres : res' = res.map F) (hF : ∀ p, (F p).1 = p.1 ∧ RStep p.2 (F p).2 (f p)) :
    (∀ w, okSeq (G w) (cbsFor w cbs) = true) ∧ Agree res' fun w => (cbsFor w cbs).foldl WG.apply (G w) := by
  constructor
  · intro w
    by_cases hex : ∃ p ∈ res, w ∈ p.2.watchers
    · obtain ⟨p, hp, hw⟩ := hex
      rw [(hcb w).of_mem p hp hw]; exact ((hF p).2.agree (hg p hp w hw)).1
    · rw [(hcb w).of_not_mem fun p hp hw => hex ⟨p, hp, hw⟩]; rfl
  · rw [hres]
    refine List.forall_mem_map.mpr fun p hp w hw => ?_
    rw [(hF p).2.frame.1] at hw
    show AgreeR ((cbsFor w cbs).foldl WG.apply (G w)) _
    rw [(hcb w).of_mem p hp hw]; exact ((hF p).2.agree (hg p hp w hw)).2

theorem ghost_step {a : Auth} {G : Nat → WG} {e : AEv} (hi : AInv a) (hnd : (allWatchers a.res).Nodup)
    (hg : Agree a.res G) (hf : Fresh a e) :
    (∀ w, okSeq (ghost0 G e w) (cbsFor w (a.step e).cbs) = true) ∧
    Agree (a.step e).auth.res (ghostStep G e (a.step e).cbs) := by
  have h := step_shape a e
  generalize a.step e = o at h ⊢
  cases h with
  | silent hq => cases hq <;> exact ⟨fun w => rfl, hg⟩
  | env l => exact ⟨fun w => rfl, hg⟩
  | report srv _ => exact ghost_heard hg (hears_table hnd _) (List.map_id _).symm conn_rstep
  | processed srv gen typ ver es b cmds hb =>
    obtain ⟨cs, hres, _⟩ := hb.res
    exact ghost_heard (hg.map hres fun _ => ⟨fun _ hw => hw, rfl, rfl⟩)
      (hears_processUpdate (hb.allWatchers ▸ hnd) srv typ ver es) rfl (upd_rstep _ _ _ _)
  | dne k => exact ghost_heard hg (hears_table hnd _) rfl (dne_rstep k)
  | fallback srv j _ _ => exact ⟨fun w => rfl, hg.map (F := addChan j) rfl fun _ => ⟨fun _ hw => hw, rfl, rfl⟩⟩
  | refused k w' hc =>
    have hcb : ∀ w, cbsFor w [(⟨w', .resErr .other⟩ : Cb)] = if w' = w then [.resErr .other] else [] :=
      fun w => cbsFor_map_mk w w' [.resErr .other]
    constructor
    · intro w
      rw [hcb]; split
      · rfl
      · rfl
    · intro p hp w hw
      have hne : ¬ w' = w := fun h => hf p hp (h ▸ hw)
      simp only [ghostStep, ghost0, hcb, hne, ↓reduceIte, List.foldl_nil]
      exact hg p hp w hw
  | watchNew k w' _ hl =>
    refine ⟨fun w => rfl, fun p' hp' w hw => ?_⟩
    simp only [ghostStep, ghost0, cbsFor_nil, List.foldl_nil]
    rcases List.mem_append.mp hp' with hp' | hp'
    · rw [if_neg fun h : w' = w => hf p' hp' (h ▸ hw)]
      exact hg p' hp' w hw
    · rw [List.mem_singleton.mp hp'] at hw ⊢
      rw [if_pos (List.mem_singleton.mp hw).symm]
      exact ⟨rfl, nofun⟩
  | watchOld k r w' _ hl =>
    -- the one case that is neither a step of the resources nor a frame: the new watcher starts from the empty record
    -- and hears the greeting (`agree_initial`); `w'` is fresh, so everybody else's callbacks and record are untouched
    have hm := lookup_mem hl
    constructor
    · intro w
      simp only [ghost0, initialCbs, cbsFor_map_mk]
      split
      · exact (agree_initial (hi.rinv _ hm)).1
      · rfl
    · refine List.forall_mem_map.mpr fun p hp w hw => ?_
      simp only [ghostStep, ghost0, initialCbs, cbsFor_map_mk]
      rw [addWatcher_eq]
      rcases mem_addWatcher.mp hw with hw | ⟨rfl, hpk⟩
      · have hne : ¬ w' = w := fun h => hf p hp (h ▸ hw)
        rw [if_neg hne, if_neg hne]
        exact hg p hp w hw
      · rw [if_pos rfl, if_pos rfl, Basic.eq_of_nodup_map hi.keys hp hm hpk]
        exact (agree_initial (hi.rinv _ hm)).2
  | dropped k w' r _ _ =>
    refine ⟨fun w => rfl, hg.map rfl fun p => ?_⟩
    rw [dropWatcher_eq]
    refine ⟨fun w hw => ?_, rfl, rfl⟩
    split at hw
    · exact (List.mem_filter.mp hw).1
    · exact hw
  | last k w' r _ _ _ => exact ⟨fun w => rfl, fun p hp => hg p (List.mem_filter.mp hp).1⟩
  | lastOfAll k w' r _ _ _ => exact ⟨fun w => rfl, List.forall_mem_nil _⟩

/-- along a history, feed every watcher's callbacks (in order) to `Spec.okSeq`: the per-watcher record
    `WG` remembers the content of the last ResourceChanged (forgotten on a ResourceError) and whether a NACK
    was reported since; `okSeq` is false iff some ResourceChanged repeats the held content without a NACK in
    between. The same `okSeq` / `WG.apply` run in the monitor on the implementation's callback log. -/
def NoDupRun : Auth → (Nat → WG) → List AEv → Prop
  | _, _, [] => True
  | a, G, e :: es =>
    (∀ w, okSeq (ghost0 G e w) (cbsFor w (a.step e).cbs) = true) ∧
    NoDupRun (a.step e).auth (ghostStep G e (a.step e).cbs) es

/-- the records after a history: `ghostStep` along `Auth.run` -/
def ghostRun : Auth → (Nat → WG) → List AEv → (Nat → WG)
  | _, G, [] => G
  | a, G, e :: es => ghostRun (a.step e).auth (ghostStep G e (a.step e).cbs) es

theorem ghost_run (es : List AEv) (a : Auth) (G : Nat → WG) (hi : AInv a) (hnd : (allWatchers a.res).Nodup)
    (hg : Agree a.res G) (hf : FreshRun a es) : NoDupRun a G es ∧ Agree (Auth.run a es).res (ghostRun a G es) := by
  induction es generalizing a G with
  | nil => exact ⟨trivial, hg⟩
  | cons e es ih =>
    have hs := ghost_step hi hnd hg hf.1
    have := ih _ _ (inv_step hi) (nodup_watchers_step hi hnd hf.1) hs.2 hf.2
    exact ⟨⟨hs.1, this.1⟩, this.2⟩

end GrpcProofs.Lemmas.XdsAuth
