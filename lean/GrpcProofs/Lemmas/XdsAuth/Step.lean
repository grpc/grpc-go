import GrpcProofs.Lemmas.XdsAuth.Res
/-! The handlers of the xDS authority (GrpcModel/Model/XdsAuth.lean, layer A) by cases: `Auth.step` in normal form
(`Shape`), on which every invariant of C43 / C44 is a case analysis. -/
namespace GrpcProofs.Lemmas.XdsAuth
open GrpcModel.XdsAuth GrpcModel.XdsAuth.Spec

theorem mem_bcast {r : RState} {ks : List CbKind} {cb : Cb} :
    cb ∈ bcast r ks ↔ cb.w ∈ r.watchers ∧ cb.k ∈ ks := by
  unfold bcast
  simp only [List.mem_flatMap, List.mem_map]
  constructor
  · rintro ⟨w, hw, k, hk, rfl⟩; exact ⟨hw, hk⟩
  · rintro ⟨hw, hk⟩; exact ⟨cb.w, hw, cb.k, hk, rfl⟩

theorem mem_bcast_table {res : List (Key × RState)} {f : Key × RState → List CbKind} {cb : Cb} :
    cb ∈ res.flatMap (fun p => bcast p.2 (f p)) ↔ ∃ p ∈ res, cb.w ∈ p.2.watchers ∧ cb.k ∈ f p := by
  simp only [List.mem_flatMap, mem_bcast]

theorem lookup_mem {res : List (Key × RState)} {k : Key} {r : RState} (h : lookup res k = some r) : (k, r) ∈ res := by
  obtain ⟨p, hf, rfl⟩ := Option.map_eq_some_iff.mp h
  obtain ⟨hp, rfl⟩ := Basic.find_some hf
  exact hp

theorem lookup_none_not_mem {res : List (Key × RState)} {k : Key} (h : lookup res k = none) : k ∉ res.map (·.1) :=
  Basic.find_none_iff.mp (Option.map_eq_none_iff.mp h)

/-- who is subscribed where after a rewriting of the table in place, in the form `LedgerOK` reads a table -/
theorem mem_map_chans {res : List (Key × RState)} {f : Key × RState → Key × RState} (hk : ∀ p, (f p).1 = p.1) {k : Key}
    {i : Nat} : (∃ r', (k, r') ∈ res.map f ∧ i ∈ r'.chans) ↔ ∃ r, (k, r) ∈ res ∧ i ∈ (f (k, r)).2.chans := by
  constructor
  · rintro ⟨_, hm, hi⟩
    obtain ⟨p, hp, heq⟩ := List.mem_map.mp hm
    cases (hk p).symm.trans (congrArg Prod.fst heq)
    exact ⟨p.2, hp, heq ▸ hi⟩
  · rintro ⟨r, hr, hi⟩
    exact ⟨(f (k, r)).2, List.mem_map.mpr ⟨_, hr, Prod.ext (hk _) rfl⟩, hi⟩

theorem revert_none {a : Auth} {srv : Nat} (h : a.active = none) : revert a srv = (a, [], false) := by
  simp [revert, h]

theorem revert_same {a : Auth} {srv : Nat} (h : a.active = some srv) : revert a srv = (a, [], true) := by
  simp [revert, h]

theorem revert_below {a : Auth} {srv act : Nat} (h : a.active = some act) (hlt : act < srv) :
    revert a srv = (a, [], false) := by
  have : srv ≠ act := by omega
  simp [revert, h, this, hlt]

theorem revert_above {a : Auth} {srv act : Nat} (h : a.active = some act) (hlt : srv < act) :
    revert a srv = (revertTo a srv, revertCmds a srv, true) := by
  have h1 : srv ≠ act := by omega
  have h2 : ¬ act < srv := by omega
  simp [revert, h, h1, h2]

/-- the update from `srv` is processed: `srv` is the active server or one of higher priority -/
abbrev Processed (a : Auth) (srv : Nat) : Prop := (revert a srv).2.2 = true

/-- a failure of `srv`'s stream before any response is reported to the watchers, not answered by a fallback -/
abbrev Reported (a : Auth) (srv : Nat) : Prop := uncachedWatch a = false ∨ fallbackTarget a srv = none

theorem ignOf_revertTo (a : Auth) (srv i : Nat) : ignOf (revertTo a srv) i = ignOf a i := rfl

/-- every channel set changes, nothing else: a revert restricts them to the servers it keeps, a fallback adds its
    target -/
def setChans (cs : Key × RState → List Nat) (p : Key × RState) : Key × RState := (p.1, { p.2 with chans := cs p })

def addChan (j : Nat) : Key × RState → Key × RState := setChans fun p => p.2.chans ++ [j]

/-- the state the two loops of an update run on, with the commands issued on the way: the authority as it is when
    the update comes from the active server; `revertTo a srv`, written out, when it comes from a higher-priority one -/
inductive Reverted (a : Auth) (srv : Nat) : Auth → List Cmd → Prop
  | same : a.active = some srv → Reverted a srv a []
  | back (act) : a.active = some act → srv < act →
      Reverted a srv
        { a with active := some srv, opened := a.opened.filter (· ≤ srv),
                 res := a.res.map (setChans fun p => p.2.chans.filter (· ≤ srv)) } (revertCmds a srv)

theorem Reverted.revert_eq {a b : Auth} {srv : Nat} {cmds : List Cmd} (h : Reverted a srv b cmds) :
    revert a srv = (b, cmds, true) := by
  cases h with
  | same h => exact revert_same h
  | back act h hlt => exact revert_above h hlt

theorem revert_cases (a : Auth) (srv : Nat) : revert a srv = (a, [], false) ∨ ∃ b cmds, Reverted a srv b cmds := by
  cases hact : a.active with
  | none => exact .inl (revert_none hact)
  | some act =>
    rcases Nat.lt_trichotomy srv act with h | rfl | h
    · exact .inr ⟨_, _, .back act hact h⟩
    · exact .inr ⟨_, _, .same hact⟩
    · exact .inl (revert_below hact h)

/-- for the passes that do not care which: a revert on the way only shrinks channel sets -/
theorem Reverted.res {a b : Auth} {srv : Nat} {cmds : List Cmd} (h : Reverted a srv b cmds) :
    ∃ cs, b.res = a.res.map (setChans cs) ∧ ∀ p, ∀ i ∈ cs p, i ∈ p.2.chans := by
  cases h with
  | same _ => exact ⟨fun p => p.2.chans, (List.map_id'' (fun _ => rfl) _).symm, fun _ _ h => h⟩
  | back act _ _ => exact ⟨_, rfl, fun _ _ h => (List.mem_filter.mp h).1⟩

theorem processUpdate_res (a : Auth) (srv : Nat) (typ ver : String) (es : List (String × Upd)) :
    (processUpdate a srv typ ver es).1 = { a with res := a.res.map (updFull typ ver (ignOf a srv) es) } := by
  unfold processUpdate updFull
  by_cases hs : sotw typ = true
  · simp [hs, List.map_map, Function.comp_def]
  · simp [hs]

/-- The second loop runs on the table the first has rewritten, which has the watchers of the original: both loops
    broadcast over the original table. -/
theorem processUpdate_cbs (a : Auth) (srv : Nat) (typ ver : String) (es : List (String × Upd)) :
    (processUpdate a srv typ ver es).2 =
      (a.res.flatMap fun p => bcast p.2 (updRes typ ver es p).2) ++
      a.res.flatMap fun p => bcast p.2 (if sotw typ then (delRes typ (ignOf a srv) es (updRes typ ver es p).1).2 else []) := by
  unfold processUpdate
  by_cases hs : sotw typ = true
  · simp only [hs, Bool.not_true, Bool.false_eq_true, ↓reduceIte, List.flatMap_map]
    congr 2; funext p
    unfold bcast; rw [updRes_watchers]
  · simp [hs, bcast]

theorem mem_processUpdate_cbs {a : Auth} {srv : Nat} {typ ver : String} {es : List (String × Upd)} {cb : Cb} :
    cb ∈ (processUpdate a srv typ ver es).2 ↔
      ∃ p ∈ a.res, cb.w ∈ p.2.watchers ∧ cb.k ∈ updKinds typ ver (ignOf a srv) es p := by
  simp only [processUpdate_cbs, updKinds, List.mem_append, mem_bcast_table, ← exists_or, ← and_or_left]

theorem channelToUse_cases (a : Auth) :
    (∃ act, a.active = some act ∧ channelToUse a = (a, [], act)) ∨
    (a.active = none ∧ channelToUse a = ({ a with opened := a.opened ++ [0], active := some 0 }, [.build 0], 0)) := by
  unfold channelToUse
  cases a.active with
  | none => exact .inr ⟨rfl, rfl⟩
  | some act => exact .inl ⟨act, rfl, rfl⟩

theorem channelToUse_active (a : Auth) : (channelToUse a).1.active = some (channelToUse a).2.2 := by
  rcases channelToUse_cases a with ⟨act, hact, h⟩ | ⟨_, h⟩ <;> rw [h]
  exact hact

theorem watch_new {a : Auth} {k : Key} (w : Nat) (hl : lookup a.res k = none) :
    watch a k w =
      { auth := { (channelToUse a).1 with res := a.res ++ [(k, newRState w (channelToUse a).2.2)] },
        cmds := (channelToUse a).2.1 ++ [.sub (channelToUse a).2.2 k] } := by
  simp only [watch, hl]; rfl

theorem watch_old {a : Auth} {k : Key} {r : RState} (w : Nat) (hl : lookup a.res k = some r) :
    watch a k w =
      { auth := { (channelToUse a).1 with res := a.res.map (addWatcher k w) }, cbs := initialCbs w r,
        cmds := (channelToUse a).2.1 } := by
  simp only [watch, hl]

/-- the events that change nothing and reach nobody, with whether `onDone` is invoked -/
inductive Quiet (a : Auth) : AEv → Bool → Prop
  | ignored {srv gen typ ver es} : revert a srv = (a, [], false) → Quiet a (.update srv gen typ ver es) false
  | afterRecv {srv} : Quiet a (.failure srv true) true
  | unknown {k w} : lookup a.res k = none → Quiet a (.unwatch k w) true

/-- What an event does, with the guard under which it does it: exactly the graph of `Auth.step` (`Shape.eq`,
    `step_shape`), as a relation for the invariants to take cases on. The first three leave the authority as it is
    and differ in what the watchers hear; each of the others is one way the state moves. Where the table is rewritten
    in place it is by one of: a step of every resource state that its watchers hear (`upd_rstep`, `dne_rstep`;
    `conn_rstep` for `report`), `setChans`, `addWatcher` / `dropWatcher`. -/
inductive Shape (a : Auth) : AEv → Out → Prop
  | silent {e done} : Quiet a e done → Shape a e { auth := a, done := done }
  | report (srv) : Reported a srv →
      Shape a (.failure srv false) { auth := a, cbs := a.res.flatMap fun p => bcast p.2 (connKinds p) }
  | refused (k w) : cannotStart a = true → Shape a (.watch k w) { auth := a, cbs := [⟨w, .resErr .other⟩] }
  | env (l) : Shape a (.env l) { auth := { a with nobuild := l } }
  | processed (srv gen typ ver es b cmds) : Reverted a srv b cmds →
      Shape a (.update srv gen typ ver es)
        { auth := { b with res := b.res.map (updFull typ ver (ignOf b srv) es) },
          cbs := (processUpdate b srv typ ver es).2, cmds := cmds }
  | dne (k) :
      Shape a (.dne k)
        { auth := { a with res := a.res.map (dneFull k) }, cbs := a.res.flatMap fun p => bcast p.2 (dneKinds k p) }
  | fallback (srv j) : uncachedWatch a = true → fallbackTarget a srv = some j →
      Shape a (.failure srv false)
        { auth := { a with opened := a.opened ++ [j], active := some j, res := a.res.map (addChan j) },
          cmds := .build j :: a.res.map fun p => .sub j p.1 }
  | watchNew (k w) : cannotStart a = false → lookup a.res k = none →
      Shape a (.watch k w)
        { auth := { (channelToUse a).1 with res := a.res ++ [(k, newRState w (channelToUse a).2.2)] },
          cmds := (channelToUse a).2.1 ++ [.sub (channelToUse a).2.2 k] }
  | watchOld (k r w) : cannotStart a = false → lookup a.res k = some r →
      Shape a (.watch k w)
        { auth := { (channelToUse a).1 with res := a.res.map (addWatcher k w) }, cbs := initialCbs w r,
          cmds := (channelToUse a).2.1 }
  | dropped (k w r) : lookup a.res k = some r → r.watchers.filter (· ≠ w) ≠ [] →
      Shape a (.unwatch k w) { auth := { a with res := a.res.map (dropWatcher k w) } }
  | last (k w r) : lookup a.res k = some r → r.watchers.filter (· ≠ w) = [] → a.res.filter (·.1 ≠ k) ≠ [] →
      Shape a (.unwatch k w)
        { auth := { a with res := a.res.filter (·.1 ≠ k) }, cmds := r.chans.map fun i => .unsub i k }
  | lastOfAll (k w r) : lookup a.res k = some r → r.watchers.filter (· ≠ w) = [] → a.res.filter (·.1 ≠ k) = [] →
      Shape a (.unwatch k w)
        { auth := { a with res := [], opened := [], active := none },
          cmds := (r.chans.map fun i => .unsub i k) ++ a.opened.map .release }

/-- Nothing else unfolds a handler (but for `watch_new`, `watch_old`, cited here): a theorem of C43 / C44 that is
    stated on a handler under a guard rewrites with the case. -/
theorem Shape.eq {a : Auth} {e : AEv} {o : Out} (h : Shape a e o) : a.step e = o := by
  cases h with
  | silent hq =>
    cases hq with
    | ignored h => simp [Auth.step, handleUpdate, h]
    | afterRecv => rfl
    | unknown hl => simp only [Auth.step, unwatch, hl]
  | report srv hr =>
    have : handleFailure a srv false = { auth := a, cbs := propagate a } := by
      unfold handleFailure
      rcases hr with h | h
      · simp [h]
      · cases uncachedWatch a <;> simp [h]
    exact this
  | refused k w hc => simp [Auth.step, watchResource, hc]
  | env l | dne k => rfl
  | processed srv gen typ ver es b cmds hb =>
    simp only [Auth.step, handleUpdate, hb.revert_eq, ↓reduceIte, processUpdate_res]
  | fallback srv j hu ht =>
    have : handleFailure a srv false = fallbackTo a j := by simp [handleFailure, hu, ht]
    exact this
  | watchNew k w hc hl => simp only [Auth.step, watchResource, hc, Bool.false_eq_true, ↓reduceIte, watch_new w hl]
  | watchOld k r w hc hl => simp only [Auth.step, watchResource, hc, Bool.false_eq_true, ↓reduceIte, watch_old w hl]
  | dropped k w r hl hw => simp only [Auth.step, unwatch, hl, hw, ne_eq, not_false_eq_true, ↓reduceIte]
  | last k w r hl hw hr => simp only [Auth.step, unwatch, hl, hw, hr, ne_eq, not_true_eq_false, ↓reduceIte]
  | lastOfAll k w r hl hw hr => simp only [Auth.step, unwatch, hl, hw, hr, ne_eq, not_true_eq_false, ↓reduceIte]

theorem step_shape (a : Auth) (e : AEv) : Shape a e (a.step e) := by
  have key : ∀ {o}, Shape a e o → Shape a e (a.step e) := fun h => h.eq ▸ h
  cases e with
  | update srv gen typ ver es =>
    rcases revert_cases a srv with h | ⟨b, cmds, hb⟩
    · exact key (.silent (.ignored h))
    · exact key (.processed _ gen typ ver es _ _ hb)
  | dne k => exact .dne k
  | failure srv after =>
    cases after
    · cases hu : uncachedWatch a
      · exact key (.report _ (.inl hu))
      · cases ht : fallbackTarget a srv
        · exact key (.report _ (.inr ht))
        · exact key (.fallback _ _ hu ht)
    · exact .silent .afterRecv
  | env l => exact .env l
  | watch k w =>
    cases hc : cannotStart a
    · cases hl : lookup a.res k
      · exact key (.watchNew _ w hc hl)
      · exact key (.watchOld _ _ w hc hl)
    · exact key (.refused _ _ hc)
  | unwatch k w =>
    cases hl : lookup a.res k with
    | none => exact key (.silent (.unknown hl))
    | some r =>
      by_cases hw : r.watchers.filter (· ≠ w) = []
      · by_cases hr : a.res.filter (·.1 ≠ k) = []
        · exact key (.lastOfAll _ _ _ hl hw hr)
        · exact key (.last _ _ _ hl hw hr)
      · exact key (.dropped _ _ _ hl hw)

theorem run_snoc (a : Auth) (es : List AEv) (e : AEv) :
    Auth.run a (es ++ [e]) = ((Auth.run a es).step e).auth := by
  fun_induction Auth.run a es with
  | case1 => rfl
  | case2 a x xs ih => exact ih

theorem run_induction {P : Auth → Prop} {Q : AEv → Prop} (hstep : ∀ a e, Q e → P a → P (a.step e).auth) :
    ∀ (es : List AEv) (a : Auth), (∀ e ∈ es, Q e) → P a → P (Auth.run a es)
  | [], _, _, h => h
  | e :: es, a, hq, h =>
    run_induction hstep es _ (fun e' he' => hq e' (List.mem_cons_of_mem _ he')) (hstep a e (hq e (List.mem_cons_self ..)) h)

end GrpcProofs.Lemmas.XdsAuth
