import GrpcProofs.Lemmas.XdsAuth.Inv
import GrpcProofs.Lemmas.XdsAuth.Servers
/-! C43, "after all watchers are removed the resource is unsubscribed": the subscribe / unsubscribe / release
commands the authority issues, accumulated in a ledger, always amount to the channel sets of its resource states. -/
namespace GrpcProofs.Lemmas.XdsAuth
open GrpcModel.XdsAuth

/-- Every server the authority refers to is a configured one or server 0 (`channelToUse` opens server 0
    without looking at the configuration). Needed at one place: `revertCmds` unsubscribes on the servers
    `srv < i < a.n` only, so the revert case of `ledger_step` must know that no channel set names a server beyond. -/
structure Bounded (a : Auth) : Prop where
  act : ∀ i, a.active = some i → i ≤ a.n - 1
  chans : ∀ p ∈ a.res, ∀ i ∈ p.2.chans, i ≤ a.n - 1

/-- The active server stays in range by `step_moved`; a channel set only gains the server that is active afterwards. -/
theorem bounded_step {a : Auth} {e : AEv} (hb : Bounded a) : Bounded (a.step e).auth := by
  have hact : ∀ i, (a.step e).auth.active = some i → i ≤ a.n - 1 := by
    have h := step_moved a e
    generalize a.step e = o at h ⊢
    cases h with
    | same h1 _ => rw [h1]; exact hb.act
    | reverted srv act hact hlt h1 _ => rw [h1]; rintro _ ⟨⟩; have := hb.act act hact; omega
    | fellBack srv j _ ht => rintro _ ⟨⟩; have := (nextServer_some (fallbackTarget_some.mp ht).2).configured; omega
    | started _ h1 _ => rw [h1]; rintro _ ⟨⟩; exact Nat.zero_le _
    | closed h1 _ => rw [h1]; exact nofun
  refine ⟨step_n a e ▸ hact, step_n a e ▸ ?_⟩
  exact step_forall hb.chans (fun _ _ h => h) (fun _ _ hs h i hi => (hs i hi).elim (h i) (hact i))
    (fun _ _ _ _ hs _ h => hs.frame.2 ▸ h) fun _ _ i hi _ hj => List.mem_singleton.mp hj ▸ hact i hi

def ledgerCmd (L : List (Nat × Key)) : Cmd → List (Nat × Key)
  | .sub i k => L ++ [(i, k)]
  | .unsub i k => L.filter (· ≠ (i, k))
  | .release i => L.filter (·.1 ≠ i)
  | .build _ => L

def ledgerCmds (L : List (Nat × Key)) (cmds : List Cmd) : List (Nat × Key) := cmds.foldl ledgerCmd L

theorem ledgerCmds_append (L : List (Nat × Key)) (c1 c2 : List Cmd) :
    ledgerCmds L (c1 ++ c2) = ledgerCmds (ledgerCmds L c1) c2 := List.foldl_append ..

/-- the ledger agrees with the `xdsChannelConfigs` sets of the resource states -/
def LedgerOK (a : Auth) (L : List (Nat × Key)) : Prop :=
  ∀ i k, (i, k) ∈ L ↔ ∃ r, (k, r) ∈ a.res ∧ i ∈ r.chans

/-- the subscriptions a command takes out of the ledger, and (`adds`) the one it enters -/
def removes : Cmd → Nat × Key → Prop
  | .unsub i k, x => x = (i, k)
  | .release i, x => x.1 = i
  | _, _ => False

def adds : Cmd → Nat × Key → Prop
  | .sub i k, x => x = (i, k)
  | _, _ => False

theorem mem_ledgerCmd (L : List (Nat × Key)) (c : Cmd) (x : Nat × Key) :
    x ∈ ledgerCmd L c ↔ (x ∈ L ∧ ¬ removes c x) ∨ adds c x := by
  cases c <;> simp [ledgerCmd, removes, adds]

theorem ledger_removals (cmds : List Cmd) (L : List (Nat × Key)) (h : ∀ c ∈ cmds, ∀ x, ¬ adds c x) (x : Nat × Key) :
    x ∈ ledgerCmds L cmds ↔ x ∈ L ∧ ∀ c ∈ cmds, ¬ removes c x := by
  induction cmds generalizing L with
  | nil => simp [ledgerCmds]
  | cons c cs ih =>
    have := ih (ledgerCmd L c) fun c' hc' => h c' (List.mem_cons_of_mem _ hc')
    simp only [ledgerCmds, List.foldl_cons] at this ⊢
    rw [this, mem_ledgerCmd, or_iff_left (h c (List.mem_cons_self ..) x), List.forall_mem_cons, and_assoc]

theorem ledger_adds (cmds : List Cmd) (L : List (Nat × Key)) (h : ∀ c ∈ cmds, ∀ x, ¬ removes c x) (x : Nat × Key) :
    x ∈ ledgerCmds L cmds ↔ x ∈ L ∨ ∃ c ∈ cmds, adds c x := by
  induction cmds generalizing L with
  | nil => simp [ledgerCmds]
  | cons c cs ih =>
    have := ih (ledgerCmd L c) fun c' hc' => h c' (List.mem_cons_of_mem _ hc')
    simp only [ledgerCmds, List.foldl_cons] at this ⊢
    rw [this, mem_ledgerCmd, and_iff_left (h c (List.mem_cons_self ..) x), or_assoc]
    simp only [List.mem_cons, exists_eq_or_imp]

theorem mem_revertCmds {a : Auth} {srv : Nat} {c : Cmd} :
    c ∈ revertCmds a srv ↔ ∃ i, i < a.n ∧ srv < i ∧
      ((∃ p ∈ a.res, i ∈ p.2.chans ∧ c = .unsub i p.1) ∨ (i ∈ a.opened ∧ c = .release i)) := by
  simp [revertCmds, and_assoc, eq_comm]

theorem LedgerOK.map {a a' : Auth} {L : List (Nat × Key)} {f : Key × RState → Key × RState} (hl : LedgerOK a L)
    (hk : ∀ p, (f p).1 = p.1) (hc : ∀ p, (f p).2.chans = p.2.chans) (hres : a'.res = a.res.map f) :
    LedgerOK a' L := by
  intro i k
  rw [hl i k, hres, mem_map_chans hk]
  simp only [hc]

theorem channelToUse_ledger (a : Auth) (L : List (Nat × Key)) : ledgerCmds L (channelToUse a).2.1 = L := by
  rcases channelToUse_cases a with ⟨_, _, h⟩ | ⟨_, h⟩ <;> rw [h] <;> rfl

theorem ledger_last {a : Auth} {L : List (Nat × Key)} (hi : AInv a) (hl : LedgerOK a L) {k' : Key} {r : RState}
    (hlk : lookup a.res k' = some r) (i : Nat) (k : Key) :
    (i, k) ∈ ledgerCmds L (r.chans.map fun j => Cmd.unsub j k') ↔
      ∃ r', (k, r') ∈ a.res.filter (·.1 ≠ k') ∧ i ∈ r'.chans := by
  rw [ledger_removals _ _ fun c hc x => by obtain ⟨_, _, rfl⟩ := List.mem_map.mp hc; exact id, hl i k]
  simp only [List.mem_filter, decide_eq_true_eq, List.forall_mem_map]
  constructor
  · rintro ⟨⟨r', hr', hic⟩, hnr⟩
    refine ⟨r', ⟨hr', fun hkk : k = k' => ?_⟩, hic⟩
    subst hkk
    obtain ⟨-, rfl⟩ := Prod.mk.inj (Basic.eq_of_nodup_map hi.keys hr' (lookup_mem hlk) rfl)
    exact hnr i hic rfl
  · rintro ⟨r', ⟨hr', hne⟩, hic⟩
    exact ⟨⟨r', hr', hic⟩, fun j _ hrm => hne (Prod.mk.inj hrm).2⟩

theorem ledger_step {a : Auth} {e : AEv} {L : List (Nat × Key)} (hi : AInv a) (hb : Bounded a)
    (hl : LedgerOK a L) : LedgerOK (a.step e).auth (ledgerCmds L (a.step e).cmds) := by
  have h := step_shape a e
  generalize a.step e = o at h ⊢
  cases h with
  | silent _ | report _ _ | refused _ _ _ | env _ => exact hl
  | processed srv gen typ ver es b cmds hb' =>
    have hlb : LedgerOK b (ledgerCmds L cmds) := by
      cases hb' with
      | same _ => exact hl
      | back act _ _ =>
        -- the revert removes exactly the subscriptions on servers below `srv`
        intro i k
        rw [ledger_removals _ _ fun c hc x => by
          obtain ⟨_, _, _, ⟨_, _, _, rfl⟩ | ⟨_, rfl⟩⟩ := mem_revertCmds.mp hc <;> exact id, hl i k]
        refine .trans ?_ (mem_map_chans (f := setChans fun p => p.2.chans.filter (· ≤ srv)) fun _ => rfl).symm
        constructor
        · rintro ⟨⟨r, hr, hic⟩, hnr⟩
          have hle : i ≤ srv := Nat.le_of_not_lt fun hgt =>
            hnr (.unsub i k) (mem_revertCmds.mpr
              ⟨i, by have := hb.chans _ hr i hic; omega, hgt, .inl ⟨_, hr, hic, rfl⟩⟩) rfl
          exact ⟨r, hr, List.mem_filter.mpr ⟨hic, decide_eq_true hle⟩⟩
        · rintro ⟨r, hr, hic⟩
          obtain ⟨hic, hle⟩ := List.mem_filter.mp hic
          have hle := of_decide_eq_true hle
          refine ⟨⟨r, hr, hic⟩, fun c hc hrem => ?_⟩
          obtain ⟨j, _, hj, ⟨_, _, _, rfl⟩ | ⟨_, rfl⟩⟩ := mem_revertCmds.mp hc
          · rw [(Prod.mk.inj hrem).1] at hle; omega
          · rw [show i = j from hrem] at hle; omega
    exact hlb.map (fun p => (upd_rstep ..).1) (fun p => (upd_rstep ..).2.frame.2) rfl
  | dne k' => exact hl.map (fun p => (dne_rstep k' p).1) (fun p => (dne_rstep k' p).2.frame.2) rfl
  | fallback srv j _ _ =>
    intro i k
    rw [ledger_adds _ _ fun c hc x => by
      rcases List.mem_cons.mp hc with rfl | hc
      · exact id
      · obtain ⟨p, _, rfl⟩ := List.mem_map.mp hc; exact id, hl i k]
    refine .trans ?_ (mem_map_chans (f := addChan j) fun _ => rfl).symm
    simp only [List.mem_cons, List.mem_map, exists_eq_or_imp, adds, false_or]
    constructor
    · rintro (⟨r, hr, hic⟩ | ⟨c, ⟨p, hp, rfl⟩, hadd⟩)
      · exact ⟨r, hr, List.mem_append_left _ hic⟩
      · cases hadd; exact ⟨p.2, hp, List.mem_append_right _ (List.mem_singleton_self _)⟩
    · rintro ⟨r, hr, hic⟩
      rcases List.mem_append.mp hic with hic | hic
      · exact .inl ⟨r, hr, hic⟩
      · exact .inr ⟨_, ⟨_, hr, rfl⟩, Prod.ext (List.mem_singleton.mp hic) rfl⟩
  | watchNew k' w _ _ =>
    intro i k
    rw [ledgerCmds_append, channelToUse_ledger]
    show (i, k) ∈ L ++ [_] ↔ _
    rw [List.mem_append, hl i k]
    simp only [List.mem_append, List.mem_singleton]
    constructor
    · rintro (⟨r, hr, hic⟩ | heq)
      · exact ⟨r, .inl hr, hic⟩
      · cases heq; exact ⟨_, .inr rfl, List.mem_singleton_self _⟩
    · rintro ⟨r, hr | heq, hic⟩
      · exact .inl ⟨r, hr, hic⟩
      · cases heq; exact .inr (Prod.ext (List.mem_singleton.mp hic) rfl)
  | watchOld k' r w _ _ =>
    exact LedgerOK.map (f := addWatcher k' w) ((channelToUse_ledger a L).symm ▸ hl) (fun p => by rw [addWatcher_eq])
      (fun p => by rw [addWatcher_eq]) rfl
  | dropped k' w r _ _ =>
    exact hl.map (f := dropWatcher k' w) (fun p => by rw [dropWatcher_eq]) (fun p => by rw [dropWatcher_eq]) rfl
  | last k' w r hlk _ _ => exact ledger_last hi hl hlk
  | lastOfAll k' w r hlk _ hnil =>
    -- the releases only remove, and the unsubscriptions have left nothing
    intro i k
    rw [ledgerCmds_append, ledger_removals _ _ fun c hc x => by obtain ⟨_, _, rfl⟩ := List.mem_map.mp hc; exact id,
      ledger_last hi hl hlk i k, hnil]
    constructor
    · rintro ⟨⟨_, h, _⟩, _⟩; exact nomatch h
    · rintro ⟨_, h, _⟩; exact nomatch h

/-- the ledger after a history: the commands of every step of `Auth.run`, applied in order -/
def ledgerRun : Auth → List (Nat × Key) → List AEv → List (Nat × Key)
  | _, L, [] => L
  | a, L, e :: es => ledgerRun (a.step e).auth (ledgerCmds L (a.step e).cmds) es

theorem ledger_run (es : List AEv) (a : Auth) (L : List (Nat × Key)) (hi : AInv a) (hb : Bounded a)
    (hl : LedgerOK a L) : LedgerOK (Auth.run a es) (ledgerRun a L es) := by
  induction es generalizing a L with
  | nil => exact hl
  | cons e es ih => exact ih _ _ (inv_step hi) (bounded_step hb) (ledger_step hi hb hl)

end GrpcProofs.Lemmas.XdsAuth
