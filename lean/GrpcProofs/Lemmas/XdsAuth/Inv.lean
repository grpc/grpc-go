import GrpcProofs.Lemmas.XdsAuth.Step
/-! Invariants of the authority's resource table (C43): what holds of single resource states is lifted from `RStep`
by `step_forall`; unique keys and no state without a watcher (`AInv`); where a cached value comes from; and that every
callback fits the state the resource is in afterwards. None of it needs the watcher of a `watch` event to be new
(`Fresh`, Ghost.lean). -/
namespace GrpcProofs.Lemmas.XdsAuth
open GrpcModel.XdsAuth

theorem addWatcher_eq (k : Key) (w : Nat) (p : Key × RState) :
    addWatcher k w p = (p.1, { p.2 with watchers := if p.1 = k then p.2.watchers ++ [w] else p.2.watchers }) := by
  unfold addWatcher; split <;> rfl

theorem mem_addWatcher {k : Key} {w x : Nat} {p : Key × RState} :
    x ∈ (addWatcher k w p).2.watchers ↔ x ∈ p.2.watchers ∨ (x = w ∧ p.1 = k) := by
  rw [addWatcher_eq]
  split
  · rename_i h; simp only [List.mem_append, List.mem_singleton, h, and_true]
  · rename_i h; simp only [h, and_false, or_false]

theorem dropWatcher_eq (k : Key) (w : Nat) (p : Key × RState) :
    dropWatcher k w p =
      (p.1, { p.2 with watchers := if p.1 = k then p.2.watchers.filter (· ≠ w) else p.2.watchers }) := by
  unfold dropWatcher; split <;> rfl

/-- the decoder accepted content `c` for resource `k` in some response of the history -/
def Accepted (hist : List AEv) (k : Key) (c : String) : Prop :=
  ∃ srv gen ver es, AEv.update srv gen k.typ ver es ∈ hist ∧ entLookup es k.name = some (.ok c)

/-- Induction over the ways one event changes a single entry of the table: its watchers change (any list: a property
    that depends on them is not for this lemma), its channel set changes to servers it had or the server that is
    active afterwards, the event reaches it as a step `RStep` (a content it announces was accepted in this event), or
    the entry is new, subscribed on the server that is active afterwards. -/
theorem step_forall {P : Key × RState → Prop} {a : Auth} {e : AEv} (hold : ∀ p ∈ a.res, P p)
    (hws : ∀ p ws, P p → P (p.1, { p.2 with watchers := ws }))
    (hcs : ∀ p cs, (∀ i ∈ cs, i ∈ p.2.chans ∨ (a.step e).auth.active = some i) → P p →
      P (p.1, { p.2 with chans := cs }))
    (hstep : ∀ p q ks, q.1 = p.1 → RStep p.2 q.2 ks → (∀ c, .changed c ∈ ks → Accepted [e] p.1 c) → P p → P q)
    (hnew : ∀ k w i, (a.step e).auth.active = some i → P (k, newRState w i)) : ∀ p ∈ (a.step e).auth.res, P p := by
  have h := step_shape a e
  generalize a.step e = o at h hcs hnew ⊢
  cases h with
  | silent _ | report _ _ | refused _ _ _ | env _ => exact hold
  | processed srv gen typ ver es b cmds hb =>
    obtain ⟨cs, hres, hcs'⟩ := hb.res
    refine List.forall_mem_map.mpr fun q hq => ?_
    obtain ⟨p, hp, rfl⟩ := List.mem_map.mp (hres ▸ hq)
    obtain ⟨hk, hs⟩ := upd_rstep typ ver (ignOf b srv) es (setChans cs p)
    refine hstep _ _ _ hk hs (fun c hc => ?_) (hcs p (cs p) (fun i hi => .inl (hcs' p i hi)) (hold p hp))
    obtain ⟨ht, he⟩ := changed_mem_updKinds hc
    exact ⟨srv, gen, ver, es, by rw [← ht]; exact List.mem_singleton_self _, he⟩
  | dne k =>
    exact List.forall_mem_map.mpr fun p hp =>
      hstep p _ _ (dne_rstep k p).1 (dne_rstep k p).2 (fun _ hc => nomatch (mem_dneKinds.mp hc).2) (hold p hp)
  | fallback srv j _ ht =>
    exact List.forall_mem_map.mpr fun p hp => hcs p (p.2.chans ++ [j]) (fun i hi => (List.mem_append.mp hi).imp_right
      fun h => congrArg some (List.mem_singleton.mp h).symm) (hold p hp)
  | watchNew k w _ _ =>
    intro p hp
    rcases List.mem_append.mp hp with hp | hp
    · exact hold p hp
    · rw [List.mem_singleton.mp hp]; exact hnew k w _ (channelToUse_active a)
  | watchOld k r w _ _ =>
    refine List.forall_mem_map.mpr fun p hp => ?_
    rw [addWatcher_eq]; exact hws p _ (hold p hp)
  | dropped k w r _ _ =>
    refine List.forall_mem_map.mpr fun p hp => ?_
    rw [dropWatcher_eq]; exact hws p _ (hold p hp)
  | last k w r _ _ _ => exact fun p hp => hold p (List.mem_filter.mp hp).1
  | lastOfAll k w r _ _ _ => exact List.forall_mem_nil _

theorem rinv_step {a : Auth} {e : AEv} (hr : ∀ p ∈ a.res, RInv p.2) : ∀ p ∈ (a.step e).auth.res, RInv p.2 :=
  -- the invariant reads neither watchers nor channels
  step_forall hr (fun _ _ h => ⟨h.req, h.err, h.ne, h.ack⟩) (fun _ _ _ h => ⟨h.req, h.err, h.ne, h.ack⟩)
    (fun _ _ _ _ hs _ h => hs.rinv h) fun _ _ _ _ =>
      { req := fun _ => rfl, err := by simp [newRState], ne := nofun, ack := nofun }

structure AInv (a : Auth) : Prop where
  keys : (a.res.map (·.1)).Nodup
  rinv : ∀ p ∈ a.res, RInv p.2
  /-- a resourceState exists only while somebody watches the resource -/
  watched : ∀ p ∈ a.res, p.2.watchers ≠ []

theorem inv_init (n : Nat) (ign : List Bool) : AInv (Auth.init n ign) := by
  constructor <;> simp [Auth.init]

theorem AInv.map {a a' : Auth} (hi : AInv a) {F : Key × RState → Key × RState} (hk : ∀ p, (F p).1 = p.1)
    (hw : ∀ p, (F p).2.watchers = p.2.watchers) (hres : a'.res = a.res.map F) (hr : ∀ p ∈ a'.res, RInv p.2) :
    AInv a' where
  keys := by rw [hres, Basic.keys_map hk]; exact hi.keys
  rinv := hr
  watched := by rw [hres]; exact List.forall_mem_map.mpr fun p hp => hw p ▸ hi.watched p hp

theorem inv_step {a : Auth} {e : AEv} (hi : AInv a) : AInv (a.step e).auth := by
  have hr := rinv_step (e := e) hi.rinv
  have h := step_shape a e
  generalize a.step e = o at h hr ⊢
  cases h with
  | silent _ | report _ _ | refused _ _ _ => exact hi
  | env l => exact { keys := hi.keys, rinv := hr, watched := hi.watched }
  | processed srv gen typ ver es b cmds hb =>
    obtain ⟨cs, hres, _⟩ := hb.res
    exact hi.map (F := updFull typ ver (ignOf b srv) es ∘ setChans cs) (fun p => (upd_rstep ..).1)
      (fun p => (upd_rstep ..).2.frame.1) (by rw [hres, List.map_map]) hr
  | dne k => exact hi.map (fun p => (dne_rstep k p).1) (fun p => (dne_rstep k p).2.frame.1) rfl hr
  | fallback srv j _ _ => exact hi.map (F := addChan j) (fun _ => rfl) (fun _ => rfl) rfl hr
  | watchNew k w _ hl =>
    refine { keys := ?_, rinv := hr, watched := fun p hp => ?_ }
    · simp only [List.map_append, List.map_cons, List.map_nil]
      exact Basic.nodup_snoc hi.keys (lookup_none_not_mem hl)
    · rcases List.mem_append.mp hp with hp | hp
      · exact hi.watched p hp
      · rw [List.mem_singleton.mp hp]; exact nofun
  | watchOld k r w _ _ =>
    refine { keys := ?_, rinv := hr, watched := List.forall_mem_map.mpr fun p hp => ?_ }
    · show ((a.res.map (addWatcher k w)).map (·.1)).Nodup
      rw [Basic.keys_map fun p => by rw [addWatcher_eq]]; exact hi.keys
    · rw [addWatcher_eq]; split
      · exact List.append_ne_nil_of_right_ne_nil _ nofun
      · exact hi.watched p hp
  | dropped k w r hl hne =>
    refine { keys := ?_, rinv := hr, watched := List.forall_mem_map.mpr fun p hp => ?_ }
    · show ((a.res.map (dropWatcher k w)).map (·.1)).Nodup
      rw [Basic.keys_map fun p => by rw [dropWatcher_eq]]; exact hi.keys
    · rw [dropWatcher_eq]; split
      · rename_i hpk
        rw [Basic.eq_of_nodup_map hi.keys hp (lookup_mem hl) hpk]; exact hne
      · exact hi.watched p hp
  | last k w r _ _ _ =>
    exact { keys := Basic.nodup_keys_filter hi.keys _, rinv := hr,
            watched := fun p hp => hi.watched p (List.mem_filter.mp hp).1 }
  | lastOfAll k w r _ _ _ => exact { keys := .nil, rinv := hr, watched := List.forall_mem_nil _ }

theorem inv_run (n : Nat) (ign : List Bool) (hist : List AEv) : AInv (Auth.run (Auth.init n ign) hist) :=
  run_induction (Q := fun _ => True) (fun _ _ _ => inv_step) hist _ (fun _ _ => trivial) (inv_init n ign)

/-- `Accepted` only grows with the history, so it is stated for a history `H` that contains the events to come. -/
theorem cacheAcc_run (H : List AEv) :
    ∀ (es : List AEv) (a : Auth), (∀ e ∈ es, e ∈ H) → (∀ p ∈ a.res, ∀ c, p.2.cache = some c → Accepted H p.1 c) →
      ∀ p ∈ (Auth.run a es).res, ∀ c, p.2.cache = some c → Accepted H p.1 c :=
  run_induction (Q := (· ∈ H)) fun a e he h =>
    step_forall (P := fun p => ∀ c, p.2.cache = some c → Accepted H p.1 c) h (fun _ _ h => h) (fun _ _ _ h => h)
      (fun p q ks hk hs hacc hP c hc => by
        rw [hk]
        rcases hs.cache hc with hc | hc
        · exact hP c hc
        · obtain ⟨srv, gen, ver, es', hm, he'⟩ := hacc c hc
          exact ⟨srv, gen, ver, es', List.mem_singleton.mp hm ▸ he, he'⟩)
      fun _ _ _ _ _ hc => nomatch hc

theorem fits_heard {res : List (Key × RState)} {F : Key × RState → Key × RState} {f : Key × RState → List CbKind}
    (hF : ∀ p, (F p).1 = p.1 ∧ RStep p.2 (F p).2 (f p)) {cb : Cb}
    (h : ∃ p ∈ res, cb.w ∈ p.2.watchers ∧ cb.k ∈ f p) :
    ∃ p' ∈ res.map F, cb.w ∈ p'.2.watchers ∧ Fits cb.k p'.2.cache p'.2.status := by
  obtain ⟨p, hp, hw, hk⟩ := h
  exact ⟨_, List.mem_map_of_mem hp, (hF p).2.frame.1 ▸ hw, (hF p).2.fits hk⟩

/-- The first disjunct is the error a watch is refused with, which registers nothing. -/
theorem fits_step {a : Auth} {e : AEv} {cb : Cb} (h : cb ∈ (a.step e).cbs) :
    (∃ k, e = .watch k cb.w ∧ cannotStart a = true ∧ cb.k = .resErr .other) ∨
    ∃ p' ∈ (a.step e).auth.res, cb.w ∈ p'.2.watchers ∧ Fits cb.k p'.2.cache p'.2.status := by
  have hs := step_shape a e
  generalize a.step e = o at hs h ⊢
  cases hs with
  | silent _ | env _ | fallback _ _ _ _ | watchNew _ _ _ _ | dropped _ _ _ _ _ | last _ _ _ _ _ _
  | lastOfAll _ _ _ _ _ _ => exact nomatch h
  | report srv _ => exact .inr (List.map_id a.res ▸ fits_heard conn_rstep (mem_bcast_table.mp h))
  | refused k w hc => rw [List.mem_singleton.mp h]; exact .inl ⟨k, rfl, hc, rfl⟩
  | processed srv gen typ ver es b cmds hb => exact .inr (fits_heard (upd_rstep _ _ _ _) (mem_processUpdate_cbs.mp h))
  | dne k => exact .inr (fits_heard (dne_rstep k) (mem_bcast_table.mp h))
  | watchOld k r w _ hl =>
    obtain ⟨kd, hkd, rfl⟩ := List.mem_map.mp h
    refine .inr ⟨_, List.mem_map_of_mem (lookup_mem hl), ?_⟩
    rw [addWatcher_eq]
    exact ⟨by simp, fits_initial hkd⟩

theorem error_step {a : Auth} {e : AEv} {w : Nat} {er : Err} (hr : ∀ p ∈ a.res, RInv p.2)
    (hns : ∀ k w', e = .watch k w' → cannotStart a = false) :
    ((⟨w, .resErr er⟩ : Cb) ∈ (a.step e).cbs → ∃ p' ∈ (a.step e).auth.res, w ∈ p'.2.watchers ∧ p'.2.cache = none) ∧
    ((⟨w, .ambErr er⟩ : Cb) ∈ (a.step e).cbs → ∃ p' ∈ (a.step e).auth.res, w ∈ p'.2.watchers ∧ p'.2.cache.isSome = true) := by
  have hr := rinv_step (e := e) hr
  constructor <;> intro h <;> rcases fits_step h with ⟨k, he, hc, _⟩ | ⟨p', hp', hw, hf⟩
  · rw [hns k w he] at hc; exact nomatch hc
  · exact ⟨p', hp', hw, hf.elim id (hr p' hp').ne⟩
  · rw [hns k w he] at hc; exact nomatch hc
  · exact ⟨p', hp', hw, hf⟩

end GrpcProofs.Lemmas.XdsAuth
