import GrpcModel.Model.XdsAuth
import GrpcModel.Model.XdsAuthSpec
import GrpcProofs.Lemmas.Basic
/-! One resource state of the xDS authority (GrpcModel/Model/XdsAuth.lean, layer A). It is a small machine of its own:
an event that reaches it (an entry of a response, an omission from a state-of-the-world response, the expiry of its
watch timer, a stream failure) rewrites cache / status / error and tells the watchers something. `RStep` lists what
can happen; what C43 says about a single resource (`RInv`, `Fits`, where a cached value comes from, `AgreeR`) is a case
analysis on it. -/
namespace GrpcProofs.Lemmas.XdsAuth
open GrpcModel.XdsAuth

structure RInv (r : RState) : Prop where
  req : r.status = .requested → r.cache = none
  err : r.err.isSome = true ↔ r.status = .nacked
  ne : r.status = .notExist → r.cache = none
  ack : r.status = .acked → r.cache.isSome = true

theorem RInv.err_none {r : RState} (h : RInv r) (hs : r.status ≠ .nacked) : r.err = none :=
  Option.not_isSome_iff_eq_none.mp fun he => hs (h.err.mp he)

/-- what a callback claims about cache and status of the resource it is about -/
def Fits : CbKind → Option String → Status → Prop
  | .changed c, cache, _ => cache = some c
  | .resErr _, cache, status => cache = none ∨ status = .notExist
  | .ambErr _, cache, _ => cache.isSome = true

/-- how an error that leaves the cache alone is delivered: as a resource error while nothing is cached, as an
    ambient error beside a cached value -/
def errKind (cache : Option String) (e : Err) : CbKind := if cache.isNone then .resErr e else .ambErr e

theorem errKind_eq_resErr {cache : Option String} {e e' : Err} : errKind cache e = .resErr e' ↔ cache = none ∧ e = e' := by
  cases cache <;> simp [errKind]

theorem errKind_eq_ambErr {cache : Option String} {e e' : Err} :
    errKind cache e = .ambErr e' ↔ cache.isSome = true ∧ e = e' := by
  cases cache <;> simp [errKind]

theorem errKind_ne_changed {cache : Option String} {e : Err} {c : String} : errKind cache e ≠ .changed c := by
  cases cache <;> exact nofun

theorem fits_errKind (e : Err) (cache : Option String) (status : Status) : Fits (errKind cache e) cache status := by
  cases cache
  · exact .inl rfl
  · exact rfl

/-- What an event does to the resource state it reaches, and what the watchers of the resource are told. The
    guards are those the invariants need; `mem_updKinds_iff` has all of them. -/
inductive RStep (r : RState) : RState → List CbKind → Prop
  | skip : RStep r r []
  | accept (ver c) : r.cache ≠ some c ∨ r.err.isSome = true →
      RStep r { r with delIgnored := false, cache := some c, version := ver, err := none, status := .acked } [.changed c]
  | confirm (ver c) : r.cache = some c →
      RStep r { r with delIgnored := false, version := ver, err := none, status := .acked } []
  | reject (ver t) : RStep r { r with status := .nacked, err := some (t, ver) } [errKind r.cache (.nack t)]
  | rejectAgain (ver t v) : r.err = some (t, v) → RStep r { r with status := .nacked, err := some (t, ver) } []
  | deletionIgnored : RStep r { r with delIgnored := true } []
  | gone : RStep r { r with cache := none, status := .notExist, version := "", err := none } [.resErr .notFound]
  | connFailed : RStep r r [errKind r.cache .conn]

namespace RStep

theorem frame {r r' : RState} {ks : List CbKind} (h : RStep r r' ks) :
    r'.watchers = r.watchers ∧ r'.chans = r.chans := by
  cases h <;> exact ⟨rfl, rfl⟩

theorem rinv {r r' : RState} {ks : List CbKind} (h : RStep r r' ks) (hr : RInv r) : RInv r' := by
  cases h with
  | skip | connFailed => exact hr
  | accept ver c _ => exact { req := nofun, err := by simp, ne := nofun, ack := fun _ => rfl }
  | confirm ver c hc => exact { req := nofun, err := by simp, ne := nofun, ack := fun _ => by simp [hc] }
  | reject ver t | rejectAgain ver t v _ => exact { req := nofun, err := by simp, ne := nofun, ack := nofun }
  | deletionIgnored => exact ⟨hr.req, hr.err, hr.ne, hr.ack⟩
  | gone => exact { req := nofun, err := by simp, ne := fun _ => rfl, ack := nofun }

/-- A new content is named through the callback that announces it, so `RStep` needs no record of which entry of
    which response reached the resource. -/
theorem cache {r r' : RState} {ks : List CbKind} (h : RStep r r' ks) {c : String} (hc : r'.cache = some c) :
    r.cache = some c ∨ .changed c ∈ ks := by
  cases h with
  | accept ver c' _ => cases hc; exact .inr (List.mem_singleton_self _)
  | gone => exact nomatch hc
  | _ => exact .inl hc

theorem fits {r r' : RState} {ks : List CbKind} (h : RStep r r' ks) {kd : CbKind} (hk : kd ∈ ks) :
    Fits kd r'.cache r'.status := by
  cases h with
  | skip | confirm _ _ _ | rejectAgain _ _ _ _ | deletionIgnored => exact nomatch hk
  | accept ver c _ => cases List.mem_singleton.mp hk; exact rfl
  | reject ver t | connFailed => cases List.mem_singleton.mp hk; exact fits_errKind ..
  | gone => cases List.mem_singleton.mp hk; exact .inl rfl

end RStep

theorem onOk_eq (ver c : String) (r : RState) :
    onOk ver c r =
      if r.cache ≠ some c ∨ r.err.isSome = true then
        ({ r with delIgnored := false, cache := some c, version := ver, err := none, status := .acked }, [.changed c])
      else ({ r with delIgnored := false, version := ver, err := none, status := .acked }, []) := by
  by_cases h : r.cache ≠ some c ∨ r.err.isSome = true <;> simp [onOk, h]

theorem onBad_eq (ver t : String) (r : RState) :
    onBad ver t r = ({ r with status := .nacked, err := some (t, ver) },
      if r.err.map (·.1) ≠ some t then [errKind r.cache (.nack t)] else []) := by
  cases herr : r.err with
  | none => simp [onBad, errKind, herr]
  | some tv => by_cases hd : tv.1 = t <;> simp [onBad, errKind, herr, hd]

theorem updOne_rstep (ver : String) (r : RState) (u : Upd) : RStep r (updOne ver r u).1 (updOne ver r u).2 := by
  cases u with
  | ok c =>
    simp only [updOne, onOk_eq]
    split
    next h => exact .accept ver c h
    next h => exact .confirm ver c (Decidable.not_not.mp fun hc => h (.inl hc))
  | bad t =>
    simp only [updOne, onBad_eq]
    split
    next => exact .reject ver t
    next h =>
      obtain ⟨⟨_, v⟩, he, rfl⟩ := Option.map_eq_some_iff.mp (Decidable.not_not.mp h)
      exact .rejectAgain ver _ v he

theorem delOne_present (ign : Bool) (r : RState) : delOne ign true r = (r, []) := by
  simp [delOne]

theorem delOne_absent (ign : Bool) (r : RState) :
    delOne ign false r =
      if r.cache = none ∨ r.status = .notExist then (r, [])
      else if ign then ({ r with delIgnored := true }, [])
      else ({ r with cache := none, status := .notExist, version := "", err := none }, [.resErr .notFound]) := by
  unfold delOne
  cases r.cache <;> by_cases hs : r.status = .notExist <;> simp [hs]

theorem delOne_rstep (ign : Bool) (r : RState) : RStep r (delOne ign false r).1 (delOne ign false r).2 := by
  rw [delOne_absent]
  split
  · exact .skip
  · split
    · exact .deletionIgnored
    · exact .gone

/-- what the watchers of one resource are told by an update that is processed -/
def updKinds (typ ver : String) (ign : Bool) (es : List (String × Upd)) (p : Key × RState) : List CbKind :=
  (updRes typ ver es p).2 ++ (if sotw typ then (delRes typ ign es (updRes typ ver es p).1).2 else [])

/-- the new state of one resource after an update that is processed -/
def updFull (typ ver : String) (ign : Bool) (es : List (String × Upd)) (p : Key × RState) : Key × RState :=
  if sotw typ then (delRes typ ign es (updRes typ ver es p).1).1 else (updRes typ ver es p).1

theorem upd_other {typ ver : String} {ign : Bool} {es : List (String × Upd)} {p : Key × RState}
    (h : p.1.typ ≠ typ) : updKinds typ ver ign es p = [] ∧ updFull typ ver ign es p = p := by
  unfold updKinds updFull updRes delRes
  simp [h]

theorem upd_present {typ ver : String} {ign : Bool} {es : List (String × Upd)} {p : Key × RState} {u : Upd}
    (h : p.1.typ = typ) (he : entLookup es p.1.name = some u) :
    updKinds typ ver ign es p = (updOne ver p.2 u).2 ∧ updFull typ ver ign es p = (p.1, (updOne ver p.2 u).1) := by
  unfold updKinds updFull updRes delRes
  simp [h, he, delOne_present]

theorem upd_absent {typ ver : String} {ign : Bool} {es : List (String × Upd)} {p : Key × RState}
    (h : p.1.typ = typ) (he : entLookup es p.1.name = none) :
    updKinds typ ver ign es p = (if sotw typ then (delOne ign false p.2).2 else []) ∧
    updFull typ ver ign es p = (if sotw typ then (p.1, (delOne ign false p.2).1) else p) := by
  unfold updKinds updFull updRes delRes
  simp [h, he]

/-- the two loops of an update amount to one step of each resource -/
theorem upd_rstep (typ ver : String) (ign : Bool) (es : List (String × Upd)) (p : Key × RState) :
    (updFull typ ver ign es p).1 = p.1 ∧ RStep p.2 (updFull typ ver ign es p).2 (updKinds typ ver ign es p) := by
  by_cases ht : p.1.typ = typ
  · cases he : entLookup es p.1.name with
    | some u => rw [(upd_present ht he).1, (upd_present ht he).2]; exact ⟨rfl, updOne_rstep ..⟩
    | none =>
      rw [(upd_absent ht he).1, (upd_absent ht he).2]
      split
      · exact ⟨rfl, delOne_rstep ..⟩
      · exact ⟨rfl, .skip⟩
  · rw [(upd_other ht).1, (upd_other ht).2]; exact ⟨rfl, .skip⟩

theorem updRes_watchers (typ ver : String) (es : List (String × Upd)) (p : Key × RState) :
    (updRes typ ver es p).1.2.watchers = p.2.watchers := by
  unfold updRes; split
  · split
    · exact (updOne_rstep ..).frame.1
    · rfl
  · rfl

/-- the watch timer of `k` expires (the server has not sent the resource): the state of `k` and what its watchers hear -/
def dneFull (k : Key) (p : Key × RState) : Key × RState :=
  if p.1 = k then (p.1, { p.2 with cache := none, status := .notExist, version := "", err := none }) else p

def dneKinds (k : Key) (p : Key × RState) : List CbKind := if p.1 = k then [.resErr .notFound] else []

theorem dne_rstep (k : Key) (p : Key × RState) : (dneFull k p).1 = p.1 ∧ RStep p.2 (dneFull k p).2 (dneKinds k p) := by
  unfold dneFull dneKinds
  split
  · exact ⟨rfl, .gone⟩
  · exact ⟨rfl, .skip⟩

theorem mem_dneKinds {k : Key} {p : Key × RState} {kd : CbKind} :
    kd ∈ dneKinds k p ↔ p.1 = k ∧ kd = .resErr .notFound := by
  unfold dneKinds; split <;> simp [*]

/-- what the watchers of one resource are told when a stream failure is reported -/
def connKinds (p : Key × RState) : List CbKind := [errKind p.2.cache .conn]

/-- stated with `id` for the lemmas that take the step `F` of every resource -/
theorem conn_rstep (p : Key × RState) : (id p).1 = p.1 ∧ RStep p.2 (id p).2 (connKinds p) := ⟨rfl, .connFailed⟩

/-- Why an update that is processed tells the watchers of `p` the callback `kd`: the response accepts the resource
    with a content that is new or follows an error; it rejects it with an error other than the one recorded; or it
    is a state-of-the-world response that omits the cached resource, from a server whose deletions count. -/
inductive UpdKind (typ : String) (ign : Bool) (es : List (String × Upd)) (p : Key × RState) (kd : CbKind) : Prop
  | accepted (c) : entLookup es p.1.name = some (.ok c) → p.2.cache ≠ some c ∨ p.2.err.isSome = true →
      kd = .changed c → UpdKind typ ign es p kd
  | rejected (t) : entLookup es p.1.name = some (.bad t) → p.2.err.map (·.1) ≠ some t →
      kd = errKind p.2.cache (.nack t) → UpdKind typ ign es p kd
  | omitted : entLookup es p.1.name = none → sotw typ = true → p.2.cache.isSome = true → p.2.status ≠ .notExist →
      ign = false → kd = .resErr .notFound → UpdKind typ ign es p kd

theorem mem_onOk {ver c : String} {r : RState} {kd : CbKind} :
    kd ∈ (onOk ver c r).2 ↔ (r.cache ≠ some c ∨ r.err.isSome = true) ∧ kd = .changed c := by
  rw [onOk_eq]; split <;> simp [*]

theorem mem_onBad {ver t : String} {r : RState} {kd : CbKind} :
    kd ∈ (onBad ver t r).2 ↔ r.err.map (·.1) ≠ some t ∧ kd = errKind r.cache (.nack t) := by
  rw [onBad_eq]; split <;> simp [*]

theorem mem_delOne_absent {ign : Bool} {r : RState} {kd : CbKind} :
    kd ∈ (delOne ign false r).2 ↔
      r.cache.isSome = true ∧ r.status ≠ .notExist ∧ ign = false ∧ kd = .resErr .notFound := by
  rw [delOne_absent]
  cases hc : r.cache <;> by_cases hst : r.status = .notExist <;> cases ign <;> simp [hst]

theorem mem_updKinds_iff {typ ver : String} {ign : Bool} {es : List (String × Upd)} {p : Key × RState} {kd : CbKind} :
    kd ∈ updKinds typ ver ign es p ↔ p.1.typ = typ ∧ UpdKind typ ign es p kd := by
  constructor
  · intro h
    by_cases ht : p.1.typ = typ
    · refine ⟨ht, ?_⟩
      cases he : entLookup es p.1.name with
      | some u =>
        rw [(upd_present ht he).1] at h
        cases u with
        | ok c => exact .accepted c he (mem_onOk.mp h).1 (mem_onOk.mp h).2
        | bad t => exact .rejected t he (mem_onBad.mp h).1 (mem_onBad.mp h).2
      | none =>
        rw [(upd_absent ht he).1] at h
        split at h
        · obtain ⟨h1, h2, h3, h4⟩ := mem_delOne_absent.mp h
          exact .omitted he ‹_› h1 h2 h3 h4
        · exact nomatch h
    · rw [(upd_other ht).1] at h; exact nomatch h
  · rintro ⟨ht, h⟩
    cases h with
    | accepted c he h hk => rw [(upd_present ht he).1]; exact mem_onOk.mpr ⟨h, hk⟩
    | rejected t he h hk => rw [(upd_present ht he).1]; exact mem_onBad.mpr ⟨h, hk⟩
    | omitted he hs h1 h2 h3 hk => rw [(upd_absent ht he).1, if_pos hs]; exact mem_delOne_absent.mpr ⟨h1, h2, h3, hk⟩

theorem UpdKind.congr {typ : String} {ign : Bool} {es : List (String × Upd)} {p q : Key × RState} {kd : CbKind}
    (hk : q.1 = p.1) (hc : q.2.cache = p.2.cache) (he : q.2.err = p.2.err) (hs : q.2.status = p.2.status)
    (h : UpdKind typ ign es p kd) : UpdKind typ ign es q kd := by
  cases h with
  | accepted c h1 h2 h3 => exact .accepted c (hk ▸ h1) (hc ▸ he ▸ h2) h3
  | rejected t h1 h2 h3 => exact .rejected t (hk ▸ h1) (he ▸ h2) (hc ▸ h3)
  | omitted h1 h2 h3 h4 h5 h6 => exact .omitted (hk ▸ h1) h2 (hc ▸ h3) (hs ▸ h4) h5 h6

theorem mem_updKinds_chans {typ ver : String} {ign : Bool} {es : List (String × Upd)} {p : Key × RState} {kd : CbKind}
    (x : List Nat) : kd ∈ updKinds typ ver ign es (p.1, { p.2 with chans := x }) ↔ kd ∈ updKinds typ ver ign es p := by
  rw [mem_updKinds_iff, mem_updKinds_iff]
  exact and_congr_right fun _ => ⟨.congr rfl rfl rfl rfl, .congr rfl rfl rfl rfl⟩

theorem changed_mem_updKinds {typ ver : String} {ign : Bool} {es : List (String × Upd)} {p : Key × RState} {c : String}
    (h : .changed c ∈ updKinds typ ver ign es p) : p.1.typ = typ ∧ entLookup es p.1.name = some (.ok c) := by
  obtain ⟨ht, hk⟩ := mem_updKinds_iff.mp h
  cases hk with
  | accepted c' he _ hk => cases hk; exact ⟨ht, he⟩
  | rejected t _ _ hk => exact absurd hk.symm errKind_ne_changed
  | omitted _ _ _ _ _ hk => exact nomatch hk

theorem mem_initialKinds {r : RState} {kd : CbKind} :
    kd ∈ initialKinds r ↔
      (∃ c, r.cache = some c ∧ kd = .changed c) ∨
      (r.status = .nacked ∧ ∃ t v, r.err = some (t, v) ∧ kd = errKind r.cache (.nack t)) ∨
      (r.status = .notExist ∧ kd = .resErr .notFound) := by
  simp only [initialKinds, errKind, List.mem_append, or_assoc]
  refine or_congr ?_ (or_congr ?_ ?_)
  · cases r.cache <;> simp
  · by_cases hs : r.status = .nacked
    · cases he : r.err with
      | none => simp [hs]
      | some tv => obtain ⟨t, v⟩ := tv; simp [hs]
    · simp [hs]
  · by_cases hs : r.status = .notExist <;> simp [hs]

theorem fits_initial {r : RState} {kd : CbKind} (h : kd ∈ initialKinds r) : Fits kd r.cache r.status := by
  obtain ⟨c, hc, rfl⟩ | ⟨_, t, _, _, rfl⟩ | ⟨hs, rfl⟩ := mem_initialKinds.mp h
  · exact hc
  · exact fits_errKind ..
  · exact .inr hs

/-- What a new watcher of a resource is told at once, by the state the resource is in; the invariant leaves these
    five. -/
theorem greeting {r : RState} (hr : RInv r) :
    (∃ c, r.cache = some c ∧ r.status = .acked ∧ initialKinds r = [.changed c]) ∨
    (∃ c t v, r.cache = some c ∧ r.status = .nacked ∧ r.err = some (t, v) ∧
      initialKinds r = [.changed c, .ambErr (.nack t)]) ∨
    (r.cache = none ∧ r.status = .requested ∧ initialKinds r = []) ∨
    (∃ t v, r.cache = none ∧ r.status = .nacked ∧ r.err = some (t, v) ∧ initialKinds r = [.resErr (.nack t)]) ∨
    (r.cache = none ∧ r.status = .notExist ∧ initialKinds r = [.resErr .notFound]) := by
  cases hs : r.status with
  | requested =>
    have hc := hr.req hs
    exact .inr (.inr (.inl ⟨hc, rfl, by simp [initialKinds, hc, hs]⟩))
  | notExist =>
    have hc := hr.ne hs
    exact .inr (.inr (.inr (.inr ⟨hc, rfl, by simp [initialKinds, hc, hs]⟩)))
  | acked =>
    obtain ⟨c, hc⟩ := Option.isSome_iff_exists.mp (hr.ack hs)
    exact .inl ⟨c, hc, rfl, by simp [initialKinds, hc, hs]⟩
  | nacked =>
    obtain ⟨⟨t, v⟩, he⟩ := Option.isSome_iff_exists.mp (hr.err.mpr hs)
    cases hc : r.cache with
    | none => exact .inr (.inr (.inr (.inl ⟨t, v, rfl, rfl, he, by simp [initialKinds, hc, hs, he]⟩)))
    | some c => exact .inr (.inl ⟨c, t, v, rfl, rfl, he, by simp [initialKinds, hc, hs, he]⟩)

open GrpcModel.XdsAuth.Spec

/-- the record `g` of what a watcher of the resource has been told: he holds what is cached, and a recorded error is
    the last NACK he heard -/
def AgreeR (g : WG) (r : RState) : Prop := g.holds = r.cache ∧ (∀ t v, r.err = some (t, v) → g.nack = some t)

namespace RStep

/-- Whatever reaches the resource, no callback repeats the content the watcher holds, and the record agrees with the
    state afterwards. `accept` is the case the property is about: the content differs from the cached one, which the
    watcher holds, or an error is recorded, which the watcher has seen as a NACK. -/
theorem agree {r r' : RState} {ks : List CbKind} (h : RStep r r' ks) {g : WG} (hg : AgreeR g r) :
    okSeq g ks = true ∧ AgreeR (ks.foldl WG.apply g) r' := by
  obtain ⟨h1, h2⟩ := hg
  cases h with
  | skip | deletionIgnored => exact ⟨rfl, h1, h2⟩
  | accept ver c hch =>
    refine ⟨?_, rfl, nofun⟩
    rcases hch with hne | he
    · simp [okSeq, WG.dup, h1, hne]
    · obtain ⟨⟨t, v⟩, he⟩ := Option.isSome_iff_exists.mp he
      simp [okSeq, WG.dup, h2 t v he]
  | confirm ver c _ => exact ⟨rfl, h1, nofun⟩
  | reject ver t =>
    cases hc : r.cache
    · exact ⟨rfl, rfl, fun _ _ he => by cases he; rfl⟩
    · exact ⟨rfl, h1.trans hc, fun _ _ he => by cases he; rfl⟩
  | rejectAgain ver t v he => exact ⟨rfl, h1, fun _ _ he' => by cases he'; exact h2 t v he⟩
  | gone => exact ⟨rfl, rfl, nofun⟩
  | connFailed =>
    cases hc : r.cache
    · exact ⟨rfl, hc.symm, h2⟩
    · exact ⟨rfl, h1, h2⟩

end RStep

/-- Acceptable from an empty record: only the first callback of a greeting can be a ResourceChanged. -/
theorem agree_initial {r : RState} (hr : RInv r) :
    okSeq {} (initialKinds r) = true ∧ AgreeR ((initialKinds r).foldl WG.apply {}) r := by
  obtain ⟨c, hc, hs, h⟩ | ⟨c, t, v, hc, _, he, h⟩ | ⟨hc, hs, h⟩ | ⟨t, v, hc, _, he, h⟩ | ⟨hc, hs, h⟩ := greeting hr <;>
    rw [h] <;> refine ⟨rfl, hc.symm, fun t' v' he' => ?_⟩
  -- no error is recorded unless the status is NACKed; the one recorded is the one the greeting carried
  · exact nomatch (hr.err_none (hs ▸ nofun)).symm.trans he'
  · cases he.symm.trans he'; rfl
  · exact nomatch (hr.err_none (hs ▸ nofun)).symm.trans he'
  · cases he.symm.trans he'; rfl
  · exact nomatch (hr.err_none (hs ▸ nofun)).symm.trans he'

end GrpcProofs.Lemmas.XdsAuth
