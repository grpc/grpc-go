import GrpcProofs.Lemmas.XdsAuth.Step
/-! Which callbacks an event produces (C43, clauses 3 and 4): `Told`. From a callback to its reason by `step_shape`, from
a reason to the callback by `Shape.eq` of the case whose guard the reason carries. -/
namespace GrpcProofs.Lemmas.XdsAuth
open GrpcModel.XdsAuth

/-- a revert on the way changes the channel sets only, which the loops do not read -/
theorem mem_processed_cbs {a b : Auth} {srv : Nat} {cmds : List Cmd} (hb : Reverted a srv b cmds) {typ ver : String}
    {es : List (String × Upd)} {cb : Cb} :
    cb ∈ (processUpdate b srv typ ver es).2 ↔
      ∃ p ∈ a.res, cb.w ∈ p.2.watchers ∧ cb.k ∈ updKinds typ ver (ignOf a srv) es p := by
  obtain ⟨cs, hres, _⟩ := hb.res
  rw [mem_processUpdate_cbs, hres, show ignOf b = ignOf a by cases hb <;> rfl]
  simp only [List.mem_map]
  constructor
  · rintro ⟨_, ⟨p, hp, rfl⟩, hw, hk⟩; exact ⟨p, hp, hw, (mem_updKinds_chans _).mp hk⟩
  · rintro ⟨p, hp, hw, hk⟩; exact ⟨_, ⟨p, hp, rfl⟩, hw, (mem_updKinds_chans _).mpr hk⟩

/-- Why watcher `w` is told `kd` by event `e`: a processed update says it about a resource `w` watches; a watched
    resource expired; a stream failure is reported; `w` is a new watcher, refused or greeted with the present state.
    A callback that depends on what is cached is given by an equation (as in `UpdKind`), so that `cases` on a `Told`
    of a given callback unifies: the reasons that cannot produce it go by themselves. -/
inductive Told (a : Auth) : AEv → Nat → CbKind → Prop
  | update {srv gen ver es p w kd} : p ∈ a.res → w ∈ p.2.watchers → Processed a srv →
      UpdKind p.1.typ (ignOf a srv) es p kd → Told a (.update srv gen p.1.typ ver es) w kd
  | expired {p w} : p ∈ a.res → w ∈ p.2.watchers → Told a (.dne p.1) w (.resErr .notFound)
  | failed {srv p w kd} : p ∈ a.res → w ∈ p.2.watchers → Reported a srv → kd = errKind p.2.cache .conn →
      Told a (.failure srv false) w kd
  | refused {k w} : cannotStart a = true → Told a (.watch k w) w (.resErr .other)
  | greeted {k w r kd} : cannotStart a = false → lookup a.res k = some r → kd ∈ initialKinds r →
      Told a (.watch k w) w kd

theorem mem_step_cbs (a : Auth) (e : AEv) (w : Nat) (kd : CbKind) : ⟨w, kd⟩ ∈ (a.step e).cbs ↔ Told a e w kd := by
  constructor
  · intro hm
    have h := step_shape a e
    generalize a.step e = o at h hm
    cases h with
    | silent _ | env _ | fallback _ _ _ _ | watchNew _ _ _ _ | dropped _ _ _ _ _ | last _ _ _ _ _ _
    | lastOfAll _ _ _ _ _ _ => exact nomatch hm
    | report srv hg =>
      obtain ⟨p, hp, hw, hk⟩ := mem_bcast_table.mp hm
      exact .failed hp hw hg (List.mem_singleton.mp hk)
    | refused k w' hc => cases List.mem_singleton.mp hm; exact .refused hc
    | processed srv gen typ ver es b cmds hb =>
      obtain ⟨p, hp, hw, hk⟩ := (mem_processed_cbs hb).mp hm
      obtain ⟨rfl, hk⟩ := mem_updKinds_iff.mp hk
      exact .update hp hw (by rw [Processed, hb.revert_eq]) hk
    | dne k =>
      obtain ⟨p, hp, hw, hk⟩ := mem_bcast_table.mp hm
      obtain ⟨rfl, rfl⟩ := mem_dneKinds.mp hk
      exact .expired hp hw
    | watchOld k r w' hc hl =>
      obtain ⟨kd', hkd, heq⟩ := List.mem_map.mp hm
      cases heq
      exact .greeted hc hl hkd
  · intro ht
    cases ht with
    | @update srv gen ver es _ _ _ hp hw hc hk =>
      rcases revert_cases a srv with h | ⟨b, cmds, hb⟩
      · exact nomatch (congrArg (·.2.2) h).symm.trans hc
      · rw [(Shape.processed srv gen _ ver es b cmds hb).eq]
        exact (mem_processed_cbs hb).mpr ⟨_, hp, hw, mem_updKinds_iff.mpr ⟨rfl, hk⟩⟩
    | expired hp hw => exact mem_bcast_table.mpr ⟨_, hp, hw, mem_dneKinds.mpr ⟨rfl, rfl⟩⟩
    | @failed srv _ _ _ hp hw hg hk =>
      rw [(Shape.report srv hg).eq]
      exact mem_bcast_table.mpr ⟨_, hp, hw, List.mem_singleton.mpr hk⟩
    | @refused k _ hc => rw [(Shape.refused k w hc).eq]; exact List.mem_singleton_self _
    | @greeted k _ r _ hc hl hk => rw [(Shape.watchOld k r w hc hl).eq]; exact List.mem_map.mpr ⟨_, hk, rfl⟩

end GrpcProofs.Lemmas.XdsAuth
