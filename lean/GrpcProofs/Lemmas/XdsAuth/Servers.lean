import GrpcProofs.Lemmas.XdsAuth.Step
/-! The active server and the channels the authority holds (C44): how one event moves them (`Moved`, `step_moved`), and
the two invariants `NoBelow`, `Prefix`. -/
namespace GrpcProofs.Lemmas.XdsAuth
open GrpcModel.XdsAuth

/-- what the loop over `fallbackToServer` ends on: the first configured server after `srv` that has no channel yet
    and whose channel can be created -/
structure IsNext (a : Auth) (srv i : Nat) : Prop where
  configured : i < a.n
  after : srv < i
  unopened : i ∉ a.opened
  buildable : i ∉ a.nobuild
  first : ∀ x, srv < x → x < i → x ∈ a.opened ∨ x ∈ a.nobuild

theorem nextServer_some {a : Auth} {srv i : Nat} (h : nextServer a srv = some i) : IsNext a srv i := by
  rw [nextServer, List.head?_filter, List.find?_range_eq_some] at h
  simp only [Bool.and_eq_true, decide_eq_true_eq, Bool.not_eq_eq_eq_not, Bool.not_true, List.contains_eq_mem,
    decide_eq_false_iff_not, List.mem_range, Bool.not_and, Bool.or_eq_true, Bool.not_not] at h
  obtain ⟨⟨⟨hafter, hunopened⟩, hbuildable⟩, hconf, hfirst⟩ := h
  exact ⟨hconf, hafter, hunopened, hbuildable, fun x hx hxi => (hfirst x hxi).imp_left fun h => h.resolve_left (absurd hx)⟩

theorem nextServer_none {a : Auth} {srv : Nat} (hn : nextServer a srv = none) (x : Nat) (hx1 : srv < x) (hx2 : x < a.n) :
    x ∈ a.opened ∨ x ∈ a.nobuild := by
  rw [nextServer, List.head?_filter, List.find?_range_eq_none] at hn
  have := hn x hx2
  simp only [Bool.not_and, Bool.or_eq_true, Bool.not_eq_eq_eq_not, Bool.not_true, decide_eq_false_iff_not, Bool.not_not,
    List.contains_eq_mem, decide_eq_true_eq] at this
  exact this.imp_left fun h => h.resolve_left (absurd hx1)

theorem uncachedWatch_iff {a : Auth} : uncachedWatch a = true ↔ ∃ p ∈ a.res, p.2.status = .requested := by
  simp [uncachedWatch]

theorem fallbackTarget_some {a : Auth} {srv j : Nat} :
    fallbackTarget a srv = some j ↔ a.active = some srv ∧ nextServer a srv = some j := by
  unfold fallbackTarget
  by_cases hact : a.active = some srv <;> simp [hact]

theorem fallbackTarget_none {a : Auth} {srv : Nat} :
    fallbackTarget a srv = none ↔ a.active ≠ some srv ∨ nextServer a srv = none := by
  unfold fallbackTarget
  by_cases hact : a.active = some srv <;> simp [hact]

/-- The five ways an event moves the active server and the set of channels: not at all; back to a server of higher
    priority, dropping the channels below it; on to the target of a fallback, which gets a channel; the first watch
    opens server 0; the last unwatch closes everything. `fellBack` alone fixes event and output: `fellBack_of_lt` reads
    both off it. -/
inductive Moved (a : Auth) : AEv → Out → Prop
  | same {e o} : o.auth.active = a.active → o.auth.opened = a.opened → Moved a e o
  | reverted {e o} (srv act) : a.active = some act → srv < act →
      o.auth.active = some srv → o.auth.opened = a.opened.filter (· ≤ srv) → Moved a e o
  | fellBack (srv j) : uncachedWatch a = true → fallbackTarget a srv = some j →
      Moved a (.failure srv false) (fallbackTo a j)
  | started {e o} : a.active = none → o.auth.active = some 0 → o.auth.opened = a.opened ++ [0] → Moved a e o
  | closed {e o} : o.auth.active = none → o.auth.opened = [] → Moved a e o

theorem step_servers (a : Auth) (e : AEv) :
    (a.step e).auth.n = a.n ∧ ((∀ l, e ≠ .env l) → (a.step e).auth.nobuild = a.nobuild) ∧ Moved a e (a.step e) := by
  have h := step_shape a e
  generalize a.step e = o at h ⊢
  cases h with
  | silent _ | report _ _ | refused _ _ _ | dne _ | dropped _ _ _ _ _ | last _ _ _ _ _ _ =>
    exact ⟨rfl, fun _ => rfl, .same rfl rfl⟩
  | env l => exact ⟨rfl, fun h => absurd rfl (h l), .same rfl rfl⟩
  | processed srv gen typ ver es b cmds hb =>
    cases hb with
    | same _ => exact ⟨rfl, fun _ => rfl, .same rfl rfl⟩
    | back act hact hlt => exact ⟨rfl, fun _ => rfl, .reverted srv act hact hlt rfl rfl⟩
  | fallback srv j hu ht => exact ⟨rfl, fun _ => rfl, .fellBack srv j hu ht⟩
  | watchNew _ _ _ _ | watchOld _ _ _ _ _ =>
    rcases channelToUse_cases a with ⟨act, hact, h⟩ | ⟨hact, h⟩ <;> rw [h]
    · exact ⟨rfl, fun _ => rfl, .same rfl rfl⟩
    · exact ⟨rfl, fun _ => rfl, .started hact rfl rfl⟩
  | lastOfAll _ _ _ _ _ _ => exact ⟨rfl, fun _ => rfl, .closed rfl rfl⟩

theorem step_n (a : Auth) (e : AEv) : (a.step e).auth.n = a.n := (step_servers a e).1

theorem step_moved (a : Auth) (e : AEv) : Moved a e (a.step e) := (step_servers a e).2.2

theorem fellBack_of_lt {a : Auth} {e : AEv} {i j : Nat} (hi : a.active = some i)
    (hj : (a.step e).auth.active = some j) (hlt : i < j) :
    e = .failure i false ∧ uncachedWatch a = true ∧ nextServer a i = some j ∧ a.step e = fallbackTo a j := by
  have h := step_moved a e
  generalize a.step e = o at h hj ⊢
  cases h with
  | same h1 _ => rw [h1, hi] at hj; cases hj; omega
  | reverted srv act hact _ h1 _ => rw [h1] at hj; rw [hi] at hact; cases hj; cases hact; omega
  | fellBack srv j' hu ht =>
    obtain ⟨hact, hn⟩ := fallbackTarget_some.mp ht
    rw [hi] at hact; cases hact; cases hj
    exact ⟨rfl, hu, hn, rfl⟩
  | started hact _ _ => rw [hi] at hact; cases hact
  | closed h1 _ => rw [h1] at hj; cases hj

theorem handleUpdate_n (a : Auth) (srv : Nat) (typ ver : String) (es : List (String × Upd)) :
    (handleUpdate a srv typ ver es).auth.n = a.n :=
  step_n a (.update srv 0 typ ver es)

/-- no transport creation ever fails: the environment events of the history all say so -/
def NoBuildFault : AEv → Prop
  | .env l => l = []
  | _ => True

theorem step_nobuild {a : Auth} {e : AEv} (he : NoBuildFault e) (hnb : a.nobuild = []) :
    (a.step e).auth.nobuild = [] := by
  by_cases h : ∃ l, e = .env l
  · obtain ⟨l, rfl⟩ := h; exact he
  · rw [(step_servers a e).2.1 fun l hl => h ⟨l, hl⟩, hnb]

/-- the authority holds no channel to a server below its active one, and none at all when nothing is active -/
def NoBelow (a : Auth) : Prop :=
  (a.active = none → a.opened = []) ∧ ∀ act, a.active = some act → ∀ i ∈ a.opened, i ≤ act

theorem noBelow_step {a : Auth} {e : AEv} (hp : NoBelow a) : NoBelow (a.step e).auth := by
  obtain ⟨hp0, hp1⟩ := hp
  have h := step_moved a e
  generalize a.step e = o at h ⊢
  cases h with
  | same h1 h2 => rw [NoBelow, h1, h2]; exact ⟨hp0, hp1⟩
  | reverted srv act _ _ h1 h2 =>
    rw [NoBelow, h1, h2]
    refine ⟨nofun, ?_⟩
    rintro _ ⟨⟩ i hi
    exact of_decide_eq_true (List.mem_filter.mp hi).2
  | fellBack srv j _ ht =>
    obtain ⟨hact, hn⟩ := fallbackTarget_some.mp ht
    refine ⟨nofun, ?_⟩
    rintro _ ⟨⟩ i hi
    rcases List.mem_append.mp hi with hi | hi
    · exact Nat.le_trans (hp1 srv hact i hi) (Nat.le_of_lt (nextServer_some hn).after)
    · exact Nat.le_of_eq (List.mem_singleton.mp hi)
  | started hact h1 h2 =>
    rw [NoBelow, h1, h2, hp0 hact]
    refine ⟨nofun, ?_⟩
    rintro _ ⟨⟩ i hi
    exact Nat.le_of_eq (List.mem_singleton.mp hi)
  | closed h1 h2 => rw [NoBelow, h1, h2]; exact ⟨fun _ => rfl, nofun⟩

/-- the channels the authority holds are exactly those of the servers 0 … active -/
def Prefix (a : Auth) : Prop :=
  (a.active = none → a.opened = []) ∧ ∀ act, a.active = some act → ∀ i, i ∈ a.opened ↔ i ≤ act

theorem next_of_prefix {a : Auth} {srv j : Nat} (hp : Prefix a) (hnb : a.nobuild = []) (hact : a.active = some srv)
    (hn : nextServer a srv = some j) : j = srv + 1 := by
  have h1 : ¬ j ≤ srv := fun h => (nextServer_some hn).unopened ((hp.2 srv hact j).mpr h)
  rcases Nat.lt_or_ge (srv + 1) j with h2 | h2
  · have := (nextServer_some hn).first (srv + 1) (by omega) h2
    rw [hnb] at this
    have := (hp.2 srv hact (srv + 1)).mp (this.resolve_right List.not_mem_nil)
    omega
  · omega

theorem prefix_iff {a : Auth} :
    Prefix a ↔ NoBelow a ∧ ∀ act, a.active = some act → ∀ i, i ≤ act → i ∈ a.opened :=
  ⟨fun h => ⟨⟨h.1, fun act ha i => (h.2 act ha i).mp⟩, fun act ha i => (h.2 act ha i).mpr⟩,
   fun h => ⟨h.1.1, fun act ha i => ⟨h.1.2 act ha i, h.2 act ha i⟩⟩⟩

/-- Beyond `noBelow_step`: no step opens a gap. A fallback is the case that needs `nobuild = []`: it goes to the
    server right after the active one. -/
theorem prefix_step {a : Auth} {e : AEv} (hp : Prefix a) (hnb : a.nobuild = []) : Prefix (a.step e).auth := by
  obtain ⟨hnob, hfill⟩ := prefix_iff.mp hp
  refine prefix_iff.mpr ⟨noBelow_step hnob, ?_⟩
  have h := step_moved a e
  generalize a.step e = o at h ⊢
  cases h with
  | same h1 h2 => rw [h1, h2]; exact hfill
  | reverted srv act hact hlt h1 h2 =>
    rw [h1, h2]
    rintro _ ⟨⟩ i hi
    exact List.mem_filter.mpr ⟨hfill act hact i (by omega), decide_eq_true hi⟩
  | fellBack srv j _ ht =>
    obtain ⟨hact, hn⟩ := fallbackTarget_some.mp ht
    have hj := next_of_prefix hp hnb hact hn
    rintro _ ⟨⟩ i hi
    rcases Nat.lt_or_ge srv i with h2 | h2
    · exact List.mem_append_right _ (List.mem_singleton.mpr (by omega))
    · exact List.mem_append_left _ (hfill srv hact i h2)
  | started hact h1 h2 =>
    rw [h1, h2]
    rintro _ ⟨⟩ i hi
    exact List.mem_append_right _ (List.mem_singleton.mpr (Nat.le_zero.mp hi))
  | closed h1 h2 => rw [h1]; exact fun _ h => nomatch h

end GrpcProofs.Lemmas.XdsAuth
