import GrpcModel.Model.ServerAdmission
import GrpcProofs.Lemmas.Basic
import GrpcProofs.Lemmas.HeaderNames
/-!
Lemmas about the server admission model (C12): the header loop of operateHeaders as `any`s and counts of tests on single
fields; the chain of checks after it, read back from `handle` (`operate_handle`) and forwards as far as the stream limit
(`ReachesLimit.refused`); what an accepted, untruncated framer result looks like; the connection as a state machine, where
every op is quiet except a HEADERS frame, which records its id and then is quiet or admits one stream.
-/
namespace GrpcProofs.ServerAdmission
open GrpcModel.ServerAdmission GrpcModel.Generated Lemmas.Basic

theorem ite_beq_ind {α β : Type} [BEq α] [LawfulBEq α] (P : β → Prop) {n a : α} {k r : β}
    (hk : n = a → P k) (hr : P r) : P (if n == a then k else r) := by
  by_cases e : n == a
  · rw [if_pos e]; exact hk (eq_of_beq e)
  · rw [if_neg e]; exact hr

theorem eq_armName_of_ne_other (n : Bytes) : kindOf n ≠ .other → n = armName (kindOf n) := by
  unfold kindOf
  -- the seven tests `n == literal` of `kindOf`, in order
  iterate 7 (refine ite_beq_ind (α := Bytes) (fun k => k ≠ .other → n = armName k) ?_ ?_; exact fun e _ => e)
  exact fun h => absurd rfl h

theorem kindOf_armName (k : HKind) (hk : k ≠ .other) : kindOf (armName k) = k := (admission_names.arms k).1 hk
theorem armName_no_bin (k : HKind) : hasSuffix (armName k) (str "-bin") = false := (admission_names.arms k).2.1
theorem armName_ne_authority (k : HKind) : armName k ≠ str ":authority" := (admission_names.arms k).2.2.1
theorem armName_ne_host (k : HKind) : armName k ≠ str "host" := (admission_names.arms k).2.2.2

theorem kindOf_other {n : Bytes} (h : ∀ k, armName k ≠ n) : kindOf n = .other :=
  Decidable.byContradiction fun hk => h _ (eq_armName_of_ne_other n hk).symm

theorem kindOf_eq_iff {n : Bytes} {k : HKind} (hk : k ≠ .other) : kindOf n = k ↔ n = armName k :=
  ⟨fun h => h ▸ eq_armName_of_ne_other n (h ▸ hk), fun h => h ▸ kindOf_armName k hk⟩

theorem kindOf_contentType : kindOf (str "content-type") = .contentType := kindOf_armName .contentType nofun
theorem kindOf_method : kindOf (str ":method") = .method := kindOf_armName .method nofun
theorem kindOf_path : kindOf (str ":path") = .path := kindOf_armName .path nofun
theorem kindOf_timeout : kindOf (str "grpc-timeout") = .timeout := kindOf_armName .timeout nofun
theorem kindOf_connection : kindOf (str "connection") = .connection := kindOf_armName .connection nofun
theorem kindOf_authority : kindOf (str ":authority") = .other := kindOf_other armName_ne_authority
theorem kindOf_host : kindOf (str "host") = .other := kindOf_other armName_ne_host

theorem kindOf_eq_timeout {n : Bytes} (h : kindOf n = .timeout) : n = str "grpc-timeout" :=
  (kindOf_eq_iff (k := .timeout) nofun).1 h

theorem kindOf_eq_connection {n : Bytes} (h : kindOf n = .connection) : n = str "connection" :=
  (kindOf_eq_iff (k := .connection) nofun).1 h

theorem bin_suffix_other {n : Bytes} (h : hasSuffix n (str "-bin") = true) : kindOf n = .other :=
  Decidable.byContradiction fun hk => by
    rw [eq_armName_of_ne_other n hk, armName_no_bin] at h; cases h

def setsHeaderError (f : Field) : Bool :=
  match kindOf f.name with
  | .timeout => (GrpcModel.Timeout.decodeBytes f.value).isNone
  | .other => !(isReservedHeader f.name && !isWhitelistedHeader f.name) && !metadataHeaderOK f
  | _ => false

def setsGRPC (f : Field) : Bool :=
  match kindOf f.name with
  | .contentType => validContentType f.value
  | _ => false

def setsProtocolError (f : Field) : Bool :=
  match kindOf f.name with
  | .connection => true
  | _ => false

/-- the field is appended to `mdata[n]` by the default arm -/
def countsAs (n : Bytes) (f : Field) : Bool :=
  match kindOf f.name with
  | .other => !(isReservedHeader f.name && !isWhitelistedHeader f.name) && metadataHeaderOK f && f.name == n
  | _ => false

theorem of_setsGRPC {f : Field} (h : setsGRPC f = true) :
    f.name = str "content-type" ∧ validContentType f.value = true := by
  unfold setsGRPC at h
  cases hk : kindOf f.name <;> rw [hk] at h
  case contentType => exact ⟨(kindOf_eq_iff (k := .contentType) nofun).1 hk, h⟩
  all_goals cases h

theorem setsHeaderError_timeout {f : Field} (hn : f.name = str "grpc-timeout") :
    setsHeaderError f = (GrpcModel.Timeout.decodeBytes f.value).isNone := by
  rw [setsHeaderError, hn, kindOf_timeout]

theorem setsHeaderError_bin {f : Field} (hb : hasSuffix f.name (str "-bin") = true)
    (hr : (isReservedHeader f.name && !isWhitelistedHeader f.name) = false) :
    setsHeaderError f = !binHeaderOK f.value := by
  rw [setsHeaderError, bin_suffix_other hb, hr, metadataHeaderOK, if_pos hb]; rfl

theorem setsProtocolError_connection {f : Field} (hn : f.name = str "connection") : setsProtocolError f = true := by
  rw [setsProtocolError, hn, kindOf_connection]

theorem parseField_eq (p : Parsed) (f : Field) : parseField p f =
    { isGRPC := p.isGRPC || setsGRPC f
      method := if kindOf f.name = .method then some f.value else p.method
      path := if kindOf f.name = .path then f.value else p.path
      timeoutSet := if kindOf f.name = .timeout then true else p.timeoutSet
      timeout := if kindOf f.name = .timeout then (GrpcModel.Timeout.decodeBytes f.value).getD 0 else p.timeout
      headerError := p.headerError || setsHeaderError f
      protocolError := p.protocolError || setsProtocolError f
      nAuthority := p.nAuthority + if countsAs (str ":authority") f then 1 else 0
      nHost := p.nHost + if countsAs (str "host") f then 1 else 0 } := by
  unfold parseField setsGRPC setsHeaderError setsProtocolError countsAs
  cases kindOf f.name
  case contentType => cases validContentType f.value <;> simp
  case timeout => cases GrpcModel.Timeout.decodeBytes f.value <;> simp
  case acceptEncoding | encoding | method | path | connection => simp
  case other =>
    cases isReservedHeader f.name && !isWhitelistedHeader f.name
    case true => simp
    cases metadataHeaderOK f
    case false => simp
    -- appended to `mdata[f.name]`: counted under `:authority`, under `host`, or not at all
    have hne := admission_names.authority_ne_host
    by_cases ha : f.name = str ":authority"
    · simp [ha, hne]
    · by_cases hh : f.name = str "host" <;> simp [ha, hh, hne.symm]

theorem foldl_or {α β : Type} (step : β → α → β) (proj : β → Bool) (g : α → Bool)
    (h : ∀ b a, proj (step b a) = (proj b || g a)) (l : List α) (b : β) :
    proj (l.foldl step b) = (proj b || l.any g) := by
  fun_induction List.foldl step b l with
  | case1 => simp
  | case2 b a t ih => rw [ih, h, List.any_cons, Bool.or_assoc]

theorem foldl_count {α β : Type} (step : β → α → β) (proj : β → Nat) (g : α → Bool)
    (h : ∀ b a, proj (step b a) = proj b + (if g a then 1 else 0)) (l : List α) (b : β) :
    proj (l.foldl step b) = proj b + l.countP g := by
  fun_induction List.foldl step b l with
  | case1 => simp
  | case2 b a t ih => rw [ih, h, List.countP_cons]; omega

theorem parse_headerError (fs : List Field) : (parse fs).headerError = fs.any setsHeaderError :=
  foldl_or parseField (·.headerError) _ (fun p f => by rw [parseField_eq]) fs {}

theorem parse_isGRPC (fs : List Field) : (parse fs).isGRPC = fs.any setsGRPC :=
  foldl_or parseField (·.isGRPC) _ (fun p f => by rw [parseField_eq]) fs {}

theorem parse_protocolError (fs : List Field) : (parse fs).protocolError = fs.any setsProtocolError :=
  foldl_or parseField (·.protocolError) _ (fun p f => by rw [parseField_eq]) fs {}

theorem parse_nAuthority (fs : List Field) : (parse fs).nAuthority = fs.countP (countsAs (str ":authority")) :=
  (foldl_count parseField (·.nAuthority) _ (fun p f => by rw [parseField_eq]) fs {}).trans (Nat.zero_add _)

theorem countsAs_eq_beq {n : Bytes} (hk : kindOf n = .other)
    (hr : (isReservedHeader n && !isWhitelistedHeader n) = false) (hb : hasSuffix n (str "-bin") = false)
    (f : Field) : countsAs n f = (f.name == n) := by
  unfold countsAs
  by_cases h : f.name = n
  · simp only [h, hk, hr, metadataHeaderOK, hb, beq_self_eq_true, Bool.not_false, Bool.and_self, Bool.false_eq_true,
      ↓reduceIte]
  · rw [beq_eq_false_iff_ne.2 h, Bool.and_false]; cases kindOf f.name <;> rfl

theorem parse_nHost (fs : List Field) : (parse fs).nHost = countName fs (str "host") := by
  rw [countName, ← funext (countsAs_eq_beq kindOf_host admission_names.host_plain.1 admission_names.host_plain.2)]
  exact (foldl_count parseField (·.nHost) _ (fun p f => by rw [parseField_eq]) fs {}).trans (Nat.zero_add _)

theorem foldl_method (fs : List Field) (p : Parsed) :
    (fs.foldl parseField p).method =
      ((fs.filter (·.name == str ":method")).getLast?.map (·.value)).or p.method := by
  fun_induction List.foldl parseField p fs with
  | case1 => rfl
  | case2 p a t ih =>
    rw [ih, parseField_eq, List.filter_cons]
    by_cases h : a.name = str ":method"
    · rw [if_pos (by rw [h]; exact kindOf_method), if_pos (beq_iff_eq.2 h), List.getLast?_cons]
      cases (t.filter _).getLast? <;> rfl
    · rw [if_neg (mt (kindOf_eq_iff (k := .method) nofun).1 h), if_neg (mt beq_iff_eq.1 h)]

theorem parse_method_unique {fs : List Field} {v : Bytes} (h : (parse fs).method = some v)
    (hle : countName fs (str ":method") ≤ 1) :
    countName fs (str ":method") = 1 ∧ ∀ f ∈ fs, f.name = str ":method" → f.value = v := by
  unfold countName at hle ⊢
  rw [parse, foldl_method] at h
  rw [List.countP_eq_length_filter] at hle ⊢
  match hl : fs.filter (·.name == str ":method") with
  | [] => rw [hl] at h; cases h
  | _ :: _ :: _ => rw [hl] at hle; simp at hle
  | [g] =>
    rw [hl] at h ⊢
    refine ⟨rfl, fun f hf hn => ?_⟩
    have : f ∈ [g] := hl ▸ List.mem_filter.2 ⟨hf, beq_iff_eq.2 hn⟩
    rw [List.mem_singleton.1 this]
    simpa using h

/-- `operateHeaders` gets as far as the stream limit: every exit before it was passed -/
structure ReachesLimit (s : SrvState) (id : Nat) (fields : List Field) (tr : Bool) : Prop where
  complete : tr = false
  odd : id % 2 = 1
  fresh : id > s.maxStreamID
  nAuthority : (parse fields).nAuthority ≤ 1
  nHost : (parse fields).nHost ≤ 1
  noProtocolError : (parse fields).protocolError = false
  isGRPC : (parse fields).isGRPC = true
  noHeaderError : (parse fields).headerError = false
  reachable : s.reachable = true

/-- … and the limit and `:method` as well: every exit before `handle` but the last, the expired deadline, which
says nothing about the header block -/
structure PassedChecks (s : SrvState) (id : Nat) (fields : List Field) (tr : Bool) : Prop
    extends ReachesLimit s id fields tr where
  belowLimit : s.active.length < s.maxStreams
  post : (parse fields).method = some (str "POST")

theorem ReachesLimit.refused {s : SrvState} {id : Nat} {fields : List Field} {tr : Bool}
    (hp : ReachesLimit s id fields tr) (hfull : s.active.length ≥ s.maxStreams) :
    operateHeaders s id fields tr = .rst 7 := by
  have hid : (id % 2 != 1 || decide (id ≤ s.maxStreamID)) = false := by simp [hp.odd, hp.fresh]
  have hn : (decide ((parse fields).nAuthority > 1) || decide ((parse fields).nHost > 1)) = false := by
    simp [Nat.not_lt.2 hp.nAuthority, Nat.not_lt.2 hp.nHost]
  simp only [operateHeaders, hp.complete, hid, hn, hp.noProtocolError, hp.isGRPC, hp.noHeaderError, hp.reachable,
    Bool.false_eq_true, Bool.not_true, if_false]
  exact if_pos (by simpa using hfull)

theorem operate_handle {s : SrvState} {id : Nat} {fields : List Field} {tr : Bool} {to : Option Nat}
    (h : operateHeaders s id fields tr = .handle to) : PassedChecks s id fields tr := by
  revert h
  fun_cases operateHeaders s id fields tr
  -- the last branch is the only `.handle`: the tests of all exits before it have failed
  case case11 htr hid p hauth hproto hgrpc herr hreach hmax hmeth _ =>
    simp only [Bool.or_eq_true, bne_iff_ne, ne_eq, decide_eq_true_eq, not_or, Decidable.not_not, Nat.not_le] at hid
    simp only [Bool.or_eq_true, decide_eq_true_eq, not_or, Nat.not_lt] at hauth
    exact fun _ => {
      complete := by simpa using htr
      odd := hid.1
      fresh := hid.2
      nAuthority := hauth.1
      nHost := hauth.2
      noProtocolError := by simpa using hproto
      isGRPC := by simpa using hgrpc
      noHeaderError := by simpa using herr
      reachable := by simpa using hreach
      belowLimit := by simpa using hmax
      post := by simpa using hmeth }
  all_goals exact nofun

theorem dispatch_known {reg : List (Bytes × Bytes)} {path : Bytes} (h : dispatch reg path = .known) :
    ∃ sm pos, path = 47 :: sm ∧ lastSlash sm = some pos ∧ (sm.take pos, sm.drop (pos + 1)) ∈ reg := by
  revert h
  fun_cases dispatch reg path
  -- the one branch that answers `.known`: a leading '/', a last '/', and the pair before and after it registered
  case case2 sm pos hl hc => exact fun _ => ⟨sm, pos, rfl, hl, by simpa using hc⟩
  all_goals exact nofun

/-- emit is still enabled (`hdec.SetEmitEnabled(false)` has not run): every field so far was valid and fitted -/
def emitting (st : FrSt) : Bool := !st.invalid && !st.truncated

/-- no pseudo header after a regular one (`saw` = a regular header has been seen) -/
def orderOK : Bool → List Field → Bool
  | _, [] => true
  | saw, f :: t => if isPseudo f then !saw && orderOK saw t else orderOK true t

theorem frStep_of_emitting (st : FrSt) (f : Field) (h : emitting (frStep st f) = true) :
    emitting st = true ∧ (frStep st f).out = f :: st.out ∧
    (frStep st f).sawRegular = (st.sawRegular || !isPseudo f) ∧ (isPseudo f = true → st.sawRegular = false) := by
  revert h
  -- the four branches of `frStep`, in the order of its text: emit disabled, bad field, over the size limit, emitted
  fun_cases frStep st f
  all_goals intro h
  -- emit disabled: the state does not change, and it does not emit
  case case1 hb => rw [emitting, ← Bool.not_or, hb] at h; cases h
  case case2 => exact absurd h Bool.false_ne_true
  case case3 => exact absurd h (by simp [emitting])
  case case4 badValue badHere _ hbad _ _ =>
    refine ⟨h, rfl, rfl, fun hp => ?_⟩
    have : validValue f.value = true ∧ st.sawRegular = false := by simpa [badValue, badHere, hp] using hbad
    exact this.2

theorem foldl_frStep_of_emitting (raw : List Field) (st : FrSt) (h : emitting (raw.foldl frStep st) = true) :
    emitting st = true ∧ (raw.foldl frStep st).out = raw.reverse ++ st.out ∧ orderOK st.sawRegular raw = true := by
  fun_induction List.foldl frStep st raw with
  | case1 => exact ⟨h, by simp, rfl⟩
  | case2 st f t ih =>
    obtain ⟨hg, hout, hord⟩ := ih h
    obtain ⟨hg0, hout0, hsaw, hps⟩ := frStep_of_emitting st f hg
    refine ⟨hg0, by rw [hout, hout0]; simp, ?_⟩
    unfold orderOK
    rw [hsaw] at hord
    by_cases hp : isPseudo f = true
    · rw [if_pos hp, hps hp]; simpa [hp, hps hp] using hord
    · rw [if_neg hp]; simpa [hp] using hord

theorem framer_ok_untruncated {m : Nat} {raw fields : List Field} (h : framer m raw = .ok fields false) :
    fields = raw ∧ orderOK false raw = true ∧ checkPseudos raw = true := by
  unfold framer at h
  obtain ⟨hinv, h⟩ := of_ite_eq h
  obtain ⟨hcp, h⟩ := of_ite_eq h
  injection h with h1 h2
  have hemit : emitting (raw.foldl frStep { remain := m }) = true := by
    rw [Bool.not_eq_true] at hinv
    rw [emitting, hinv, h2]; rfl
  obtain ⟨_, hout, hord⟩ := foldl_frStep_of_emitting raw _ hemit
  rw [hout, List.append_nil, List.reverse_reverse] at h1 hcp
  exact ⟨h1.symm, hord, by simpa using hcp⟩

theorem count_of_orderOK {n : Bytes} (hp : n.head? = some 58) {saw : Bool} {l : List Field}
    (h : orderOK saw l = true) : countName l n = if saw then 0 else countName (pseudoPrefix l) n := by
  fun_induction orderOK saw l with
  | case1 saw => cases saw <;> rfl
  | case2 saw f t hf ih =>   -- a pseudo header: none before it was regular
    rw [Bool.and_eq_true, Bool.not_eq_true'] at h
    unfold pseudoPrefix countName
    rw [if_pos hf, h.1, List.countP_cons, List.countP_cons]
    exact congrArg (· + _) ((ih h.2).trans (by rw [h.1]; rfl))
  | case3 saw f t hf ih =>   -- a regular header is not called `n`
    have hne : ¬(f.name == n) = true := fun e => hf (by rw [isPseudo, eq_of_beq e, hp]; rfl)
    unfold pseudoPrefix countName
    rw [List.countP_cons, if_neg hf, if_neg hne, Nat.add_zero]
    exact (ih h).trans (by cases saw <;> rfl)

theorem checkPseudosAux_count (l : List Field) (seen : List Bytes) (a b : Bool) (n : Bytes)
    (h : checkPseudosAux seen a b l = true) :
    countName l n ≤ (if seen.contains n then 0 else 1) := by
  fun_induction checkPseudosAux seen a b l with
  | case1 => exact Nat.zero_le _
  | case2 | case3 => cases h   -- an unknown or a repeated pseudo header
  | case4 seen a b f t _ _ _ hseen ih =>
    have := ih h
    unfold countName at this ⊢
    rw [List.countP_cons]
    rw [List.contains_cons] at this
    by_cases hfn : f.name = n
    · subst hfn
      rw [if_neg hseen]
      rw [beq_self_eq_true, Bool.true_or, if_pos rfl] at this
      rw [if_pos (beq_self_eq_true _)]; omega
    · rw [if_neg (mt eq_of_beq hfn), Nat.add_zero]
      rwa [beq_eq_false_iff_ne.2 (Ne.symm hfn), Bool.false_or] at this

theorem framer_pseudo_unique {m : Nat} {raw fields : List Field} (h : framer m raw = .ok fields false)
    (n : Bytes) (hp : n.head? = some 58) : countName raw n ≤ 1 := by
  obtain ⟨_, hord, hcp⟩ := framer_ok_untruncated h
  rw [count_of_orderOK hp hord, if_neg Bool.false_ne_true]
  unfold checkPseudos at hcp
  have := checkPseudosAux_count _ [] false false n hcp
  simpa using this

theorem serve_of_ne_zero {s : SrvState} {r : Req} (hid : r.id ≠ 0) :
    serve s r = match framer s.maxHL r.raw with
      | .streamErr => .rst 1
      | .ok fields tr => operateHeaders s r.id fields tr :=
  if_neg (by simpa using hid)

theorem serve_handle {s : SrvState} {r : Req} {to : Option Nat} (h : serve s r = .handle to) :
    framer s.maxHL r.raw = .ok r.raw false ∧ PassedChecks s r.id r.raw false := by
  unfold serve at h
  split at h; · cases h
  split at h; · cases h
  rename_i fields tr hfr
  have hp := operate_handle h
  cases hp.complete
  cases (framer_ok_untruncated hfr).1
  exact ⟨hfr, hp⟩

@[simp] theorem bumpId_active (s : SrvState) (r : Req) : (bumpId s r).active = s.active := by
  unfold bumpId; split <;> rfl
@[simp] theorem bumpId_maxStreams (s : SrvState) (r : Req) : (bumpId s r).maxStreams = s.maxStreams := by
  unfold bumpId; split <;> rfl
@[simp] theorem updActive_len (s : SrvState) (id : Nat) (f : Active → Active) :
    (updActive s id f).active.length = s.active.length := by
  unfold updActive; simp
theorem removeActive_len (s : SrvState) (id : Nat) : (removeActive s id).active.length ≤ s.active.length := by
  unfold removeActive; exact List.length_filter_le _ _

theorem bumpId_maxStreamID (s : SrvState) (r : Req) :
    (bumpId s r).maxStreamID = if passesIdCheck s r then r.id else s.maxStreamID := by
  unfold bumpId; split <;> rfl

theorem lt_of_passesIdCheck {s : SrvState} {r : Req} (h : passesIdCheck s r = true) : s.maxStreamID < r.id := by
  unfold passesIdCheck at h
  split at h <;> simp at h
  exact h.2.2

theorem le_bumpId (s : SrvState) (r : Req) : s.maxStreamID ≤ (bumpId s r).maxStreamID := by
  rw [bumpId_maxStreamID]
  split
  · exact Nat.le_of_lt (lt_of_passesIdCheck ‹_›)
  · exact Nat.le_refl _

theorem passesIdCheck_of_handle {s : SrvState} {r : Req} {to : Option Nat} (h : serve s r = .handle to) :
    passesIdCheck s r = true := by
  obtain ⟨hfr, hp⟩ := serve_handle h
  unfold passesIdCheck
  rw [hfr]
  have h0 : r.id ≠ 0 := fun e => by have := hp.odd; omega
  simp [h0, hp.odd, hp.fresh]

/-- `res` comes from `s` without a stream being admitted -/
structure Quiet (s : SrvState) (res : SrvState × List Out) : Prop where
  maxStreamID : res.1.maxStreamID = s.maxStreamID
  maxStreams : res.1.maxStreams = s.maxStreams
  active : res.1.active.length ≤ s.active.length
  out : ∀ id, Out.handlerStarted id ∉ res.2

theorem step_quiet (reg : List (Bytes × Bytes)) (s : SrvState) (op : Op) :
    (∃ r, op = .headers r) ∨ Quiet s (step reg s op) := by
  -- one goal per branch of `step`, numbered in the order of its text: `headers` 1, `rst` 2, `data` 3-6, `finish` 7-10, `sleep` 11
  fun_cases step reg s op
  case case1 r => exact .inl ⟨r, rfl⟩
  -- the branches that drop the stream (`rst`; `data` on a half-closed stream; `finish` of a handler whose stream is still known)
  case case2 | case3 => exact .inr ⟨rfl, rfl, removeActive_len s _, by simp⟩
  case case9 => exact .inr ⟨rfl, rfl, removeActive_len s _, by intro id'; split <;> simp⟩
  -- those that update it in place (`data` with END_STREAM, `finish` on an orphaned stream)
  case case4 | case8 => exact .inr ⟨rfl, rfl, Nat.le_of_eq (updActive_len s _ _), by simp⟩
  case case11 => exact .inr ⟨rfl, rfl, List.length_filter_le _ _, by simp⟩
  -- the others return `s`
  all_goals exact .inr ⟨rfl, rfl, Nat.le_refl _, by simp⟩

theorem stepHeaders_cases (reg : List (Bytes × Bytes)) (s : SrvState) (r : Req) :
    Quiet (bumpId s r) (stepHeaders reg s r) ∨
    ∃ to a, serve s r = .handle to ∧ dispatch reg (pathOf s r) = .known ∧
      stepHeaders reg s r = ({ bumpId s r with active := (bumpId s r).active ++ [a] }, [.handlerStarted r.id]) := by
  -- one goal per decision of `serve`, in the order of `stepHeaders`' text: `connClose` 1, `connError` 2, `rst` 3, `earlyAbort` 4,
  -- `drop` 5, `handle` 6-7 (the method is registered, or not)
  fun_cases stepHeaders reg s r
  case case1 => exact .inl ⟨rfl, rfl, Nat.zero_le _, by simp⟩
  case case3 _ _ _ s2 =>
    refine .inl ?_
    simp only [s2]
    split
    · exact ⟨rfl, rfl, removeActive_len _ _, by simp⟩
    · split
      · exact ⟨rfl, rfl, Nat.le_of_eq (updActive_len _ _ _), by simp⟩
      · exact ⟨rfl, rfl, Nat.le_refl _, by simp⟩
  case case4 => exact .inl ⟨rfl, rfl, Nat.le_refl _, by intro id; split <;> simp⟩
  case case6 to hs hd => exact .inr ⟨to, _, hs, hd, rfl⟩
  case case7 => exact .inl ⟨rfl, rfl, Nat.le_refl _, by intro id; unfold unimplementedOut; split <;> simp⟩
  all_goals exact .inl ⟨rfl, rfl, Nat.le_refl _, by simp⟩

/-- what every step guarantees of the next state -/
structure Advances (s s' : SrvState) : Prop where
  id_le : s.maxStreamID ≤ s'.maxStreamID
  limit : s'.maxStreams = s.maxStreams
  bound : s.active.length ≤ s.maxStreams → s'.active.length ≤ s.maxStreams

theorem Advances.refl (s : SrvState) : Advances s s := ⟨Nat.le_refl _, rfl, id⟩

theorem Advances.trans {s s' s'' : SrvState} (h : Advances s s') (h' : Advances s' s'') : Advances s s'' :=
  ⟨Nat.le_trans h.id_le h'.id_le, h'.limit.trans h.limit, fun hb => h.limit ▸ h'.bound (h.limit.symm ▸ h.bound hb)⟩

theorem Quiet.advances {s : SrvState} {res : SrvState × List Out} (q : Quiet s res) : Advances s res.1 :=
  ⟨Nat.le_of_eq q.maxStreamID.symm, q.maxStreams, Nat.le_trans q.active⟩

theorem bumpId_advances (s : SrvState) (r : Req) : Advances s (bumpId s r) :=
  ⟨le_bumpId s r, bumpId_maxStreams s r, fun h => (bumpId_active s r).symm ▸ h⟩

/-- only `handle` adds a stream, and it is decided only below the limit -/
theorem step_advances (reg : List (Bytes × Bytes)) (s : SrvState) (op : Op) : Advances s (step reg s op).1 := by
  rcases step_quiet reg s op with ⟨r, rfl⟩ | q
  · refine (bumpId_advances s r).trans ?_
    rcases stepHeaders_cases reg s r with q | ⟨to, a, hs, _, e⟩
    · exact q.advances
    · have hlt := (serve_handle hs).2.belowLimit
      rw [step, e]
      exact ⟨Nat.le_refl _, rfl, fun _ => by simp; omega⟩
  · exact q.advances

theorem run_advances (reg : List (Bytes × Bytes)) (s : SrvState) (ops : List Op) : Advances s (run reg s ops) := by
  induction ops generalizing s with
  | nil => exact .refl s
  | cons o os ih => exact (step_advances reg s o).trans (ih _)

end GrpcProofs.ServerAdmission
