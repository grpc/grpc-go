/-
For C20.  The growth loop with the clamp computes `min (b·mult^n) max`; the pacing machine `acStep` is
analysed once into `Step`, and the trace properties are inductions over the events with one `cases` on it.
-/
import GrpcModel.Model.Backoff
import Mathlib.Tactic.Linarith
import Mathlib.Tactic.Ring
import Mathlib.Algebra.Order.Field.Rat
namespace GrpcProofs.Lemmas.Backoff
open GrpcModel.Backoff

theorem satConv_of_lt {x : Rat} (h : x < two63) : satConv x = x.floor := by
  unfold satConv; rw [if_neg (not_le.mpr h)]

theorem satConv_of_ge {x : Rat} (h : two63 ≤ x) : satConv x = maxInt64 := by
  unfold satConv; rw [if_pos h]

theorem satConv_nonneg {x : Rat} (h : 0 ≤ x) : 0 ≤ satConv x := by
  unfold satConv
  split
  · decide
  · exact Rat.le_floor_iff.mpr (by simpa using h)

theorem satConv_le_max (x : Rat) : satConv x ≤ maxInt64 := by
  by_cases h : two63 ≤ x
  · exact (satConv_of_ge h).le
  · have hx := lt_of_not_ge h
    have h3 : x.floor < (9223372036854775808 : Int) := Rat.floor_lt_iff.mpr (by simpa [two63] using hx)
    rw [satConv_of_lt hx]; simp only [maxInt64]; omega

theorem satConv_mono {x y : Rat} (h : x ≤ y) : satConv x ≤ satConv y := by
  by_cases hy : two63 ≤ y
  · rw [satConv_of_ge hy]; exact satConv_le_max x
  · have hy' := lt_of_not_ge hy
    rw [satConv_of_lt hy', satConv_of_lt (lt_of_le_of_lt h hy')]
    exact Rat.floor_monotone h

theorem clampMax_eq_min (b max : Rat) : clampMax b max = min b max := by
  unfold clampMax
  split
  · rename_i h; exact (min_eq_right (le_of_lt h)).symm
  · rename_i h; exact (min_eq_left (not_lt.mp h)).symm

theorem grow_min (mult max : Rat) (hm : 1 ≤ mult) :
    ∀ (n : Nat) (b : Rat), 0 ≤ b → min (grow mult max n b) max = min (b * mult ^ n) max := by
  intro n
  induction n with
  | zero => intro b _; simp [grow]
  | succ n ih =>
    intro b hb
    unfold grow
    split
    · have hb' : 0 ≤ b * mult := mul_nonneg hb (le_trans zero_le_one hm)
      rw [ih (b * mult) hb', pow_succ]
      congr 1; ring
    · rename_i hge
      have hge : max ≤ b := not_lt.mp hge
      have h1 : (1 : Rat) ≤ mult ^ (n + 1) := one_le_pow₀ hm
      have h2 : b ≤ b * mult ^ (n + 1) := by
        calc b = b * 1 := by ring
          _ ≤ b * mult ^ (n + 1) := mul_le_mul_of_nonneg_left h1 hb
      rw [min_eq_right hge, min_eq_right (le_trans hge h2)]

theorem target_nonneg (c : Config) (n : Nat) (hb : 0 ≤ c.base) (hx : 0 ≤ c.maxDelay) (hm : 1 ≤ c.mult) :
    0 ≤ target c n := by
  unfold target
  apply le_min
  · exact mul_nonneg (by exact_mod_cast hb) (pow_nonneg (le_trans zero_le_one hm) n)
  · exact_mod_cast hx

/-- The phases in which the code does nothing on the event. -/
def Ignored (s : AC) : In → Prop
  | .connect _ _ => s.phase ≠ .idle
  | .dialFailed _ | .dialOk _ => ∀ bo, s.phase ≠ .connecting bo
  | .timer now => ∀ u b, s.phase = .backoff u b → ¬u ≤ now
  | .resetBackoff _ => False
  | .connLost _ => s.phase ≠ .ready
  | .updateAddrs _ _ => s.phase = .idle ∨ ∃ u b, s.phase = .backoff u b

inductive Step (s : AC) : In → AC × List Obs → Prop
  | skip {i} : Ignored s i → Step s i (s, [])
  | connect {now bo} : s.phase = .idle →
      Step s (.connect now bo) ({ s with phase := .connecting bo }, [.ask s.idx, .dial now])
  | dialFailed {now bo} : s.phase = .connecting bo →
      Step s (.dialFailed now) ({ s with phase := .backoff (now + bo) bo }, [.fail now bo])
  | dialOk {now bo} : s.phase = .connecting bo → Step s (.dialOk now) ({ idx := 0, phase := .ready }, [.ok])
  | timer {now u b} : s.phase = .backoff u b → u ≤ now →
      Step s (.timer now) ({ idx := s.idx + 1, phase := .idle }, [])
  | resetInBackoff {now u b} : s.phase = .backoff u b →
      Step s (.resetBackoff now) ({ idx := 0, phase := .idle }, [.reset])
  | reset {now} : (∀ u b, s.phase ≠ .backoff u b) → Step s (.resetBackoff now) ({ s with idx := 0 }, [.reset])
  | connLost {now} : s.phase = .ready → Step s (.connLost now) ({ s with phase := .idle }, [])
  | updateAddrs {now bo} : (∀ u b, s.phase ≠ .backoff u b) → s.phase ≠ .idle →
      Step s (.updateAddrs now bo) ({ s with phase := .connecting bo }, [.ask s.idx, .dial now])

theorem acStep_spec (s : AC) (i : In) : Step s i (acStep s i) := by
  -- one goal per branch of `acStep`, numbered in the order of its text: `connect` 1-2, `dialFailed` 3-4, `dialOk` 5-6,
  -- `timer` 7-9, `resetBackoff` 10-11, `connLost` 12-13, `updateAddrs` 14-17, each with what the match on `s.phase` found
  fun_cases acStep s i
  case case1 hp => exact .connect hp
  case case3 hp => exact .dialFailed hp
  case case5 hp => exact .dialOk hp
  case case7 hp hle => exact .timer hp hle
  case case8 hp hlt => exact .skip fun u' b' hp' => by rw [hp] at hp'; cases hp'; exact hlt
  case case9 hn => exact .skip fun u b hp _ => hn u b hp
  case case10 hp => exact .resetInBackoff hp
  case case11 hn => exact .reset hn
  case case12 hp => exact .connLost hp
  case case14 hp => exact .skip (.inl hp)
  case case15 hp => exact .skip (.inr ⟨_, _, hp⟩)
  case case16 hp | case17 hp => exact .updateAddrs (by simp [hp]) (by simp [hp])
  -- the other phase at `connect`, `dialFailed`, `dialOk`, `connLost`: the guard's negation is `Ignored`
  case case2 hn | case4 hn | case6 hn | case13 hn => exact .skip hn

/-- Any attempt from this state (before a reset) starts at or after `u`. -/
def StartsAfter (s : AC) (t0 u : Int) : Prop :=
  u ≤ t0 ∨ ∃ u' b', s.phase = .backoff u' b' ∧ u ≤ u'

theorem notBefore_trace (u : Int) : ∀ (ins : List In) (s : AC) (t0 : Int),
    Mono t0 ins → StartsAfter s t0 u → notBefore u (trace s ins) = true := by
  intro ins
  induction ins with
  | nil => intro s t0 _ _; rfl
  | cons i is ih =>
    intro s t0 ⟨ht, hrest⟩ hsa
    -- outside a back-off that is still running, `StartsAfter` means `u` has passed
    have passed : (∀ u' b', s.phase = .backoff u' b' → u' ≤ i.time) → u ≤ i.time := fun hb => by
      rcases hsa with h | ⟨u', b', h, hu⟩
      · exact Int.le_trans h ht
      · exact Int.le_trans hu (hb u' b' h)
    have sp := acStep_spec s i
    simp only [trace]
    generalize acStep s i = r at sp
    have h1 := ih r.1 i.time hrest
    cases sp with
    | skip _ =>
      refine h1 ?_
      rcases hsa with h | h
      · exact .inl (Int.le_trans h ht)
      · exact .inr h
    | resetInBackoff | reset => rfl
    | timer hp hle =>
      have hu := passed fun u' b' h => by rw [hp] at h; cases h; exact hle
      exact h1 (.inl hu)
    | connect hp | dialFailed hp | dialOk hp | connLost hp =>
      have hu := passed fun u' b' h => by rw [hp] at h; cases h
      have h2 := h1 (.inl hu)
      simp only [In.time] at hu
      simpa [notBefore, hu] using h2
    | updateAddrs hp _ =>
      have hu := passed fun u' b' h => absurd h (hp u' b')
      have h2 := h1 (.inl hu)
      simp only [In.time] at hu
      simpa [notBefore, hu] using h2

theorem paced_trace : ∀ (ins : List In) (s : AC) (t0 : Int), Mono t0 ins → paced (trace s ins) = true := by
  intro ins
  induction ins with
  | nil => intro s t0 _; rfl
  | cons i is ih =>
    intro s t0 ⟨_, hrest⟩
    have sp := acStep_spec s i
    simp only [trace]
    generalize acStep s i = r at sp
    have h1 := ih r.1 i.time hrest
    cases sp with
    | dialFailed hp =>
      simp only [List.cons_append, List.nil_append, paced, Bool.and_eq_true]
      exact ⟨notBefore_trace _ is _ _ hrest (.inr ⟨_, _, rfl, Int.le_refl _⟩), h1⟩
    | _ => simpa [paced] using h1

/-- Failure counter matching the state: in backoff the failure is already counted but the
    index is incremented only when the timer fires. -/
def cnt (s : AC) : Nat := match s.phase with | .backoff _ _ => s.idx + 1 | _ => s.idx

theorem cnt_of_not_backoff {s : AC} (h : ∀ u b, s.phase ≠ .backoff u b) : cnt s = s.idx := by
  unfold cnt
  split
  · next hp => exact absurd hp (h _ _)
  · rfl

theorem idxOk_trace : ∀ (ins : List In) (s : AC), idxOk (cnt s) (trace s ins) = true := by
  intro ins
  induction ins with
  | nil => intro s; rfl
  | cons i is ih =>
    intro s
    have sp := acStep_spec s i
    simp only [trace]
    generalize acStep s i = r at sp
    have h1 := ih r.1
    cases sp with
    | skip _ => exact h1
    | reset hp =>
      rw [cnt_of_not_backoff (s := { s with idx := 0 }) hp] at h1
      exact h1
    | updateAddrs hp _ =>
      rw [cnt_of_not_backoff hp]
      simpa [idxOk, cnt] using h1
    | connect hp | dialFailed hp | dialOk hp | timer hp _ | resetInBackoff hp | connLost hp =>
      simp only [cnt, hp] at h1 ⊢
      simpa [idxOk] using h1

end GrpcProofs.Lemmas.Backoff
