import GrpcModel.Model.RLSKeys
/-! The key maps of C41 (model: GrpcModel/Model/RLSKeys.lean), two independent parts.  What `rlsKey` puts into the map,
    read through `mget`: one read lemma per write of the Go code.  `mapToString` is injective on maps without separator
    bytes: a piece that does not contain the separator ends where the separator stands (`prefix_unique`), hence
    `join_inj` for the ','-joined pairs and `enc_inj` for `k=v`. -/
namespace GrpcProofs.Lemmas.RLSKeys
open GrpcModel.RLSKeys

theorem mget_cons (a b : Str) (t : List (Str × Str)) (k : Str) :
    mget ((a, b) :: t) k = if a = k then some b else mget t k := by
  unfold mget
  by_cases h : a = k <;> simp [List.find?, h]

theorem mget_put (m : List (Str × Str)) (k v k' : Str) :
    mget (put m k v) k' = if k = k' then some v else mget m k' := by
  induction m with
  | nil => simp [put, mget_cons]
  | cons x t ih =>
    obtain ⟨a, b⟩ := x
    simp only [put]
    by_cases h : a = k
    · subst h
      simp only [if_true, mget_cons]
      by_cases h2 : a = k' <;> simp [h2]
    · simp only [h, if_false, mget_cons, ih]
      by_cases h2 : a = k'
      · have : ¬ k = k' := fun e => h (h2.trans e.symm)
        simp [h2, this]
      · simp [h2]

/-- the conditional write `if c { kv[k] = v }` -/
theorem mget_putIf (c : Prop) [Decidable c] (m : List (Str × Str)) (k v k' : Str) :
    mget (if c then put m k v else m) k' = if c ∧ k = k' then some v else mget m k' := by
  by_cases h : c <;> simp [h, mget_put]

theorem header_fold (md : List (Str × List Str)) (ms : List Matcher) (init : List (Str × Str)) (k : Str) :
    mget (ms.foldl (headerStep md) init) k = (headerSpec md ms k).orElse fun _ => mget init k := by
  induction ms generalizing init with
  | nil => simp [headerSpec]
  | cons m t ih =>
    simp only [List.foldl, headerSpec]
    rw [ih]
    cases h1 : headerSpec md t k with
    | some v => simp
    | none =>
      simp only [Option.orElse_none, headerStep]
      cases h2 : firstPresent md m.names with
      | none => by_cases c : m.key = k <;> simp [c]
      | some vals =>
        simp only [mget_put]
        by_cases c : m.key = k <;> simp [c]

theorem const_fold (cs : List (Str × Str)) (init : List (Str × Str)) (k : Str) :
    mget (cs.foldl constStep init) k = (constSpec cs k).orElse fun _ => mget init k := by
  induction cs generalizing init with
  | nil => simp [constSpec]
  | cons c t ih =>
    simp only [List.foldl, constSpec]
    rw [ih]
    cases h1 : constSpec t k with
    | some v => simp
    | none =>
      simp only [Option.orElse_none, constStep, mget_put]
      by_cases h : c.1 = k <;> simp [h]

theorem buildHeaderKeys_get (b : Builder) (md : List (Str × List Str)) (k : Str) :
    mget (buildHeaderKeys b md) k = if md = [] then none else headerSpec md b.headerKeys k := by
  unfold buildHeaderKeys
  by_cases h : md = []
  · simp [h]; rfl
  · simp only [h, if_false]
    rw [header_fold]
    cases headerSpec md b.headerKeys k <;> simp <;> rfl

theorem prefix_unique (s : UInt8) (a b r1 r2 : Str) (ha : s ∉ a) (hb : s ∉ b)
    (h : a ++ s :: r1 = b ++ s :: r2) : a = b ∧ r1 = r2 := by
  induction a generalizing b with
  | nil =>
    cases b with
    | nil => simp at h; exact ⟨rfl, h⟩
    | cons y b' =>
      simp at h
      exact absurd (h.1 ▸ List.mem_cons_self) hb
  | cons x a' ih =>
    cases b with
    | nil =>
      simp at h
      exact absurd (h.1 ▸ List.mem_cons_self) ha
    | cons y b' =>
      simp at h
      obtain ⟨h1, h2⟩ := h
      have := ih b' (fun hm => ha (List.mem_cons_of_mem _ hm)) (fun hm => hb (List.mem_cons_of_mem _ hm)) h2
      exact ⟨by rw [h1, this.1], this.2⟩

theorem join_cons_cons (sep a b : Str) (t : List Str) : join sep (a :: b :: t) = a ++ sep ++ join sep (b :: t) := rfl

theorem join_inj (s : UInt8) : ∀ (l1 l2 : List Str), (∀ x ∈ l1, s ∉ x ∧ x ≠ []) → (∀ x ∈ l2, s ∉ x ∧ x ≠ []) →
    join [s] l1 = join [s] l2 → l1 = l2
  | [], [], _, _, _ => rfl
  | [], [b], _, h2, h => by simp [join] at h; exact absurd h (h2 b (by simp)).2
  | [], b :: c :: t, _, _, h => by
    rw [join_cons_cons] at h; simp [join] at h
  | [a], [], h1, _, h => by simp [join] at h; exact absurd h (h1 a (by simp)).2
  | [a], [b], _, _, h => by simp [join] at h; rw [h]
  | [a], b :: c :: t, h1, _, h => by
    rw [join_cons_cons] at h
    have : s ∈ a := by rw [show join [s] [a] = a from rfl] at h; rw [h]; simp
    exact absurd this (h1 a (by simp)).1
  | a :: a2 :: t, [], _, _, h => by rw [join_cons_cons] at h; simp [join] at h
  | a :: a2 :: t, [b], _, h2, h => by
    rw [join_cons_cons] at h
    have : s ∈ b := by rw [show join [s] [b] = b from rfl] at h; rw [← h]; simp
    exact absurd this (h2 b (by simp)).1
  | a :: a2 :: t, b :: b2 :: t', h1, h2, h => by
    rw [join_cons_cons, join_cons_cons] at h
    simp only [List.append_assoc, List.singleton_append] at h
    have pu := prefix_unique s a b _ _ (h1 a (by simp)).1 (h2 b (by simp)).1 h
    have ih := join_inj s (a2 :: t) (b2 :: t') (fun x hx => h1 x (List.mem_cons_of_mem _ hx))
      (fun x hx => h2 x (List.mem_cons_of_mem _ hx)) pu.2
    rw [pu.1, ih]

/-- `k=v` -/
def enc (p : Str × Str) : Str := p.1 ++ [eqs] ++ p.2

theorem enc_inj (p q : Str × Str) (hp : eqs ∉ p.1) (hq : eqs ∉ q.1) (h : enc p = enc q) : p = q := by
  unfold enc at h
  simp only [List.append_assoc, List.singleton_append] at h
  have := prefix_unique eqs p.1 q.1 p.2 q.2 hp hq h
  exact Prod.ext this.1 this.2

theorem map_enc_inj : ∀ (l1 l2 : List (Str × Str)), (∀ p ∈ l1, eqs ∉ p.1) → (∀ p ∈ l2, eqs ∉ p.1) →
    l1.map enc = l2.map enc → l1 = l2
  | [], [], _, _, _ => rfl
  | [], _ :: _, _, _, h => by simp at h
  | _ :: _, [], _, _, h => by simp at h
  | p :: t, q :: t', h1, h2, h => by
    simp only [List.map_cons, List.cons.injEq] at h
    have e := enc_inj p q (h1 p (by simp)) (h2 q (by simp)) h.1
    have := map_enc_inj t t' (fun x hx => h1 x (List.mem_cons_of_mem _ hx)) (fun x hx => h2 x (List.mem_cons_of_mem _ hx)) h.2
    rw [e, this]

theorem mem_insertSorted (x y : Str × Str) (l : List (Str × Str)) (h : y ∈ insertSorted x l) : y = x ∨ y ∈ l := by
  induction l with
  | nil => simp [insertSorted] at h; exact Or.inl h
  | cons a t ih =>
    simp only [insertSorted] at h
    split at h
    · rcases List.mem_cons.mp h with h | h
      · exact Or.inr (h ▸ List.mem_cons_self)
      · rcases ih h with h | h
        · exact Or.inl h
        · exact Or.inr (List.mem_cons_of_mem _ h)
    · rcases List.mem_cons.mp h with h | h
      · exact Or.inl h
      · exact Or.inr h

theorem mem_sortKV_aux (m acc : List (Str × Str)) (y : Str × Str)
    (h : y ∈ m.foldl (fun acc x => insertSorted x acc) acc) : y ∈ m ∨ y ∈ acc := by
  induction m generalizing acc with
  | nil => exact Or.inr h
  | cons a t ih =>
    simp only [List.foldl] at h
    rcases ih _ h with h | h
    · exact Or.inl (List.mem_cons_of_mem _ h)
    · rcases mem_insertSorted a y acc h with h | h
      · exact Or.inl (h ▸ List.mem_cons_self)
      · exact Or.inr h

theorem mem_sortKV (m : List (Str × Str)) (y : Str × Str) (h : y ∈ sortKV m) : y ∈ m := by
  rcases mem_sortKV_aux m [] y h with h | h
  · exact h
  · cases h

def SepFree (m : List (Str × Str)) : Prop :=
  ∀ p ∈ m, comma ∉ p.1 ∧ eqs ∉ p.1 ∧ comma ∉ p.2 ∧ eqs ∉ p.2

theorem SepFree.eqs_key {m : List (Str × Str)} (h : SepFree m) : ∀ p ∈ sortKV m, eqs ∉ p.1 :=
  fun p hp => (h p (mem_sortKV m p hp)).2.1

theorem mapToString_inj_sepfree (m1 m2 : List (Str × Str)) (h1 : SepFree m1) (h2 : SepFree m2)
    (h : mapToString m1 = mapToString m2) : sortKV m1 = sortKV m2 := by
  have ce : comma ≠ eqs := by decide
  have pieces : ∀ (m : List (Str × Str)), SepFree m → ∀ x ∈ (sortKV m).map enc, comma ∉ x ∧ x ≠ [] := by
    intro m hm x hx
    obtain ⟨p, hp, rfl⟩ := List.mem_map.mp hx
    obtain ⟨commaKey, -, commaVal, -⟩ := hm p (mem_sortKV m p hp)
    constructor
    · simp only [enc, List.append_assoc, List.singleton_append, List.mem_append, List.mem_cons, not_or]
      exact ⟨commaKey, ce, commaVal⟩
    · simp [enc]
  -- `mapToString m` is `join [comma] ((sortKV m).map enc)`
  have := join_inj comma ((sortKV m1).map enc) ((sortKV m2).map enc) (pieces m1 h1) (pieces m2 h2) h
  exact map_enc_inj _ _ h1.eqs_key h2.eqs_key this

end GrpcProofs.Lemmas.RLSKeys
