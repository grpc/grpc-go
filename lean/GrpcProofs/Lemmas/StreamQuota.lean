import GrpcModel.Model.StreamQuota
import GrpcProofs.Lemmas.Basic
/-!
C13, stream admission.  `Move` lists what one rule can do to a state (`step_move`); the three facts about a rule are
then shown move by move: `Inv` (the quota ledger and what `waiting`, the channel generations and `nextID` are bounded by)
is kept by every move, `Emits` says what it puts on the wire, and `NoLostWakeup` (quota free and somebody parked on the
current channel ⇒ a wake-up is in flight) is kept by every move but a change of the header-list limit.
-/
namespace GrpcProofs.StreamQuota
open GrpcModel.StreamQuota GrpcModel.Generated

theorem setPhase_of_get {s : State} {c : Nat} {cal : Caller} (p : Phase) (h : s.callers[c]? = some cal) :
    setPhase s c p = { s with callers := s.callers.set c { cal with phase := p } } := by
  unfold setPhase; rw [h]

@[simp] theorem setPhase_goAwayClosed (s : State) (c : Nat) (p : Phase) : (setPhase s c p).goAwayClosed = s.goAwayClosed := by
  unfold setPhase; split <;> rfl

theorem setPhase_def (s : State) (c : Nat) (p : Phase) : setPhase s c p =
    { s with callers := match s.callers[c]? with
                        | some cal => s.callers.set c { cal with phase := p }
                        | none => s.callers } := by
  unfold setPhase; split <;> simp [*]

theorem signal_eq (s : State) :
    signal s = { s with token := decide (s.quota > 0 ∧ s.waiting > 0) || s.token } := by
  unfold signal; split <;> simp [*]

theorem countP_set_phase {l : List Caller} {c : Nat} {cal : Caller} (p : Phase) (f : Phase → Bool)
    (h : l[c]? = some cal) :
    (l.set c { cal with phase := p }).countP (fun x => f x.phase) + (if f cal.phase then 1 else 0)
      = l.countP (fun x => f x.phase) + (if f p then 1 else 0) := by
  rcases List.getElem?_eq_some_iff.mp h with ⟨hl, hc⟩
  rw [List.countP_set hl]
  simp only [hc]
  by_cases hf : f cal.phase = true
  · have : 0 < l.countP (fun x => f x.phase) :=
      List.countP_pos_iff.mpr ⟨l[c], List.getElem_mem hl, by simpa [hc] using hf⟩
    simp [hf]; omega
  · simp [hf]

def isSettings : Rule → Bool
  | .settings _ => true
  | _ => false

def isClose : Rule → Bool
  | .closeStream _ _ => true
  | _ => false

def isHls : Rule → Bool
  | .hls _ => true
  | _ => false

/-- What a rule can do: the possible results `q` of `step s r`, each a record update of `s`. A constructor that
    stands for one rule names it; `skip`, the closure's outcomes and `leave` stand for several, and say of them only
    that SETTINGS, which is always enabled, is not one (`Move.of_settings`). -/
inductive Move (s : State) : Rule → State × List Ev → Prop
  /-- the rule is not enabled -/
  | skip {r} (hr : isSettings r = false := by rfl) : Move s r (s, [])
  | call (hsz : Nat) : Move s (.call hsz) ({ s with callers := s.callers ++ [⟨hsz, .fresh⟩] }, [])
  /-- the closure, run by a fresh (`ft`) or woken caller: the header list is too big, -/
  | reject {r c cal} (hc : s.callers[c]? = some cal) (hb : tooBig s cal = true)
      (hr : isSettings r = false := by rfl) :
      Move s r ({ s with callers := s.callers.set c { cal with phase := .failed .hdrsize } }, [])
  /-- or no quota is left and the caller parks on the current channel, -/
  | park {r c cal} (ft : Bool) (hc : s.callers[c]? = some cal) (hp : cal.phase = if ft then .fresh else .woken)
      (hb : tooBig s cal = false) (hq : s.quota ≤ 0) (hr : isSettings r = false := by rfl) :
      Move s r ({ s with waiting := if ft then s.waiting + 1 else s.waiting,
                         callers := s.callers.set c { cal with phase := .blocked s.gen } }, [])
  /-- or it takes a unit although the transport is draining, and the unit is lost, -/
  | drained {r c cal} (ft : Bool) (hc : s.callers[c]? = some cal) (hp : cal.phase = if ft then .fresh else .woken)
      (hq : 0 < s.quota) (hd : s.draining = true) (hr : isSettings r = false := by rfl) :
      Move s r ({ s with waiting := if ft then s.waiting else s.waiting - 1, quota := s.quota - 1, leaked := s.leaked + 1,
                         callers := s.callers.set c
                           { cal with phase := if s.goAwayClosed then .failed .drain else .stuck } }, [])
  /-- or the stream is admitted: HEADERS goes out, and `signal` passes the token on -/
  | grant {r c cal} (ft : Bool) (hc : s.callers[c]? = some cal) (hp : cal.phase = if ft then .fresh else .woken)
      (hq : 0 < s.quota) (hd : s.draining = false) (hr : isSettings r = false := by rfl) :
      Move s r ({ s with waiting := if ft then s.waiting else s.waiting - 1, quota := s.quota - 1,
                         nextID := s.nextID + 2, openS := s.openS ++ [⟨s.nextID, false⟩],
                         flagged := if s.nextID + 2 > s.maxSID then s.flagged + 1 else s.flagged,
                         token := decide (s.quota - 1 > 0 ∧ (if ft then s.waiting else s.waiting - 1) > 0) || s.token,
                         callers := s.callers.set c
                           { cal with phase := .admitted s.nextID (decide (s.nextID + 2 > s.maxSID)) } },
                [.hdr s.nextID])
  /-- a parked caller's `select` fires; `tok` is what is left in the channel -/
  | wake {c cal g} (tok : Bool) (hc : s.callers[c]? = some cal) (hp : cal.phase = .blocked g) :
      Move s (.wake c) ({ s with token := tok, callers := s.callers.set c { cal with phase := .woken } }, [])
  /-- a caller returns an error from its `select` (`abandon`, `failDrain`: it was parked or stuck, not about to retry) -/
  | leave {r c cal} (w : Fail) (hc : s.callers[c]? = some cal) (hp : cal.phase ≠ .woken)
      (hr : isSettings r = false := by rfl) :
      Move s r ({ s with callers := s.callers.set c { cal with phase := .failed w } }, [])
  | graceful {c cal sid} (hc : s.callers[c]? = some cal) (hp : cal.phase = .admitted sid true) :
      Move s (.gracefulClose c)
        ({ s with draining := true, callers := s.callers.set c { cal with phase := .admitted sid false } }, [])
  | close (sid : Nat) (rst : Option Nat) (h : s.openS.any (·.id == sid) = true) :
      Move s (.closeStream sid rst)
        ({ s with openS := s.openS.eraseP (·.id == sid), quota := s.quota + 1,
                  token := decide (s.quota + 1 > 0 ∧ s.waiting > 0) || s.token },
         match rst with | some code => [.rst sid code] | none => [])
  | half (sid : Nat) :
      Move s (.halfClose sid)
        ({ s with openS := s.openS.map fun st => if st.id == sid then { st with half := true } else st }, [.endStream sid])
  /-- SETTINGS raises the limit while somebody waits: the channel is closed and replaced -/
  | broadcast (n : Nat) (h : (n : Int) - s.maxC > 0 ∧ s.waiting > 0) :
      Move s (.settings n)
        ({ s with maxC := n, quota := s.quota + ((n : Int) - s.maxC), gen := s.gen + 1, token := false }, [])
  | settings (n : Nat) (h : ¬ ((n : Int) - s.maxC > 0 ∧ s.waiting > 0)) :
      Move s (.settings n) ({ s with maxC := n, quota := s.quota + ((n : Int) - s.maxC) }, [])
  | hls (n : Nat) : Move s (.hls n) ({ s with hdrLimit := some n }, [])
  | goAway : Move s .goAway ({ s with draining := true, goAwayClosed := true }, [])

theorem Move.of_eq {s : State} {r : Rule} {q q' : State × List Ev} (m : Move s r q') (e : q = q') : Move s r q := e ▸ m

theorem closure_move {s : State} {r : Rule} {c : Nat} {cal : Caller} (ft : Bool) (hc : s.callers[c]? = some cal)
    (hp : cal.phase = if ft then .fresh else .woken) (hr : isSettings r = false) : Move s r (closure s c cal ft) := by
  unfold closure
  by_cases h1 : tooBig s cal = true
  · rw [if_pos h1, setPhase_of_get _ hc]; exact .reject hc h1 hr
  rw [if_neg h1]
  have h1 : tooBig s cal = false := Bool.eq_false_iff.mpr h1
  by_cases h2 : s.quota ≤ 0
  · rw [if_pos h2]; refine (Move.park ft hc hp h1 h2 hr).of_eq ?_
    cases ft <;> exact congrArg (·, []) (setPhase_of_get _ hc)
  rw [if_neg h2]
  have h2 : 0 < s.quota := Int.not_le.mp h2
  cases h3 : s.draining
  · refine (Move.grant ft hc hp h2 h3 hr).of_eq ?_
    by_cases h4 : s.nextID + 2 > s.maxSID <;> cases ft <;> simp [h3, h4, signal_eq] <;>
      exact setPhase_of_get _ hc
  · refine (Move.drained ft hc hp h2 h3 hr).of_eq ?_
    cases ft <;> simp [h3] <;> exact setPhase_of_get _ hc

theorem step_move (s : State) (r : Rule) : Move s r (step s r) := by
  -- one goal per branch of `step`, numbered in the order of its text: `call` 1, `tryNew` 2-4, `wake` 5-9, `retry` 10-12,
  -- `abandon` 13-16, `failDrain` 17-20, `closeStream` 21-22, `halfClose` 23-24, `settings` 25-26, `hls` 27, `goAway` 28,
  -- `gracefulClose` 29-31; the branches not named are those of a rule that is not enabled
  fun_cases step s r
  case case1 hsz => exact .call hsz
  case case2 hc hp | case10 hc hp => exact closure_move _ hc hp rfl
  -- `wake`: the channel was closed, or holds a token
  case case5 hc _ hp _ => rw [setPhase_of_get _ hc]; exact .wake s.token hc hp
  case case6 hc _ hp _ _ => rw [setPhase_of_get (s := { s with token := false }) _ hc]; exact .wake false hc hp
  case case13 hc _ hp | case14 hc hp | case17 hc _ hp _ =>
    rw [setPhase_of_get _ hc]; exact .leave _ hc (by rw [hp]; nofun)
  case case21 sid rst h _ => rw [signal_eq]; exact .close sid rst h
  case case23 sid _ => exact .half sid
  case case25 n _ _ h => exact .broadcast n h
  case case26 n _ _ h => exact .settings n h
  case case27 n => exact .hls n
  case case28 => exact .goAway
  case case29 hc _ hp => rw [setPhase_of_get (s := { s with draining := true }) _ hc]; exact .graceful hc hp
  all_goals exact .skip

theorem Move.of_settings {s : State} {n : Nat} {q : State × List Ev} (m : Move s (.settings n) q) :
    q.1.maxC = n ∧ q.1.callers = s.callers := by
  cases m with
  | broadcast | settings => exact ⟨rfl, rfl⟩
  | skip hr | reject _ _ hr | park _ _ _ _ _ hr | drained _ _ _ _ _ hr | grant _ _ _ _ _ hr | leave _ _ _ hr => cases hr

structure Inv (s : State) : Prop where
  /-- ledger: quota = max − open − leaked -/
  ledger : s.quota = (s.maxC : Int) - (s.openS.length : Int) - (s.leaked : Int)
  odd : s.nextID % 2 = 1
  /-- `waitingStreams` counts at least the callers that are parked or woken, so `waitingStreams--` never underflows -/
  waiters : nWaiters s ≤ s.waiting
  gens : ∀ (j : Nat) (cal : Caller) (g : Nat), s.callers[j]? = some cal → cal.phase = Phase.blocked g → g ≤ s.gen
  leak : s.leaked > 0 → s.draining = true
  idb : s.nextID ≤ max s.maxSID 1 + 2 * s.flagged

theorem inv_init0 : Inv init0 := by
  constructor <;> simp [init0, nWaiters, defaultMaxStreamsClient]
  exact Nat.le_max_right _ _

/-- `Inv` of a state `s'` in which caller `c` has changed its phase to `p`: the two fields that read
    the caller list follow from those of `s`, the others are asked for. -/
theorem Inv.set_phase {s s' : State} {c : Nat} {cal : Caller} {p : Phase} (h : Inv s)
    (hc : s.callers[c]? = some cal) (hcal : s'.callers = s.callers.set c { cal with phase := p })
    (hg : ∀ g, p = .blocked g → g ≤ s'.gen) (hgen : s.gen ≤ s'.gen)
    (hw : nWaiters s + (if isWaiter p then 1 else 0) ≤ s'.waiting + (if isWaiter cal.phase then 1 else 0))
    (ledger : s'.quota = (s'.maxC : Int) - (s'.openS.length : Int) - (s'.leaked : Int))
    (odd : s'.nextID % 2 = 1) (leak : s'.leaked > 0 → s'.draining = true)
    (idb : s'.nextID ≤ max s'.maxSID 1 + 2 * s'.flagged) : Inv s' := by
  refine ⟨ledger, odd, ?_, fun j cal' g hj hg' => ?_, leak, idb⟩
  · have := countP_set_phase p isWaiter hc
    unfold nWaiters at hw ⊢
    rw [hcal]; omega
  · rw [hcal, Lemmas.Basic.getElem?_set_of_some hc] at hj
    split at hj
    · cases hj; exact hg g hg'
    · exact Nat.le_trans (h.gens j cal' g hj hg') hgen

theorem Inv.set_phase_only {s : State} {c : Nat} {cal : Caller} {p : Phase} {w : Nat} {tok : Bool} (h : Inv s)
    (hc : s.callers[c]? = some cal) (hg : ∀ g, p = .blocked g → g ≤ s.gen)
    (hw : nWaiters s + (if isWaiter p then 1 else 0) ≤ w + (if isWaiter cal.phase then 1 else 0)) :
    Inv { s with waiting := w, token := tok, callers := s.callers.set c { cal with phase := p } } :=
  h.set_phase hc rfl hg (Nat.le_refl _) hw h.ledger h.odd h.leak h.idb

theorem inv_setPhase_gens {s : State} {c : Nat} {cal : Caller} {p : Phase} (h : Inv s)
    (hc : s.callers[c]? = some cal) (hp : ∀ g, p = .blocked g → g ≤ s.gen) :
    ∀ (j : Nat) (cal' : Caller) (g : Nat), (setPhase s c p).callers[j]? = some cal' → cal'.phase = Phase.blocked g → g ≤ (setPhase s c p).gen := by
  rw [setPhase_of_get p hc]
  intro j cal' g hj hg
  rw [Lemmas.Basic.getElem?_set_of_some hc] at hj
  split at hj
  · cases hj; exact hp g hg
  · exact h.gens j cal' g hj hg

theorem nWaiters_pos {s : State} {c : Nat} {cal : Caller} (hc : s.callers[c]? = some cal)
    (hw : isWaiter cal.phase = true) : 0 < nWaiters s :=
  List.countP_pos_iff.mpr ⟨cal, List.mem_of_getElem? hc, hw⟩

theorem get_append_fresh {l : List Caller} {hsz j : Nat} {cal : Caller}
    (h : (l ++ [(⟨hsz, .fresh⟩ : Caller)])[j]? = some cal) : l[j]? = some cal ∨ cal.phase = .fresh := by
  rw [List.getElem?_append] at h
  split at h
  · exact .inl h
  · exact .inr (by cases List.mem_singleton.mp (List.mem_of_getElem? h); rfl)

/-- The closure's change of `waiting` makes up for the caller it takes out of the waiters: a woken caller was counted
    and `waiting` drops by one, a fresh one was not.  (Parking is the same fact one higher: `w + 1 - 1` is `w`.) -/
theorem closure_waiting {n w : Nat} {ft : Bool} {ph : Phase} (hp : ph = if ft then .fresh else .woken) (hn : n ≤ w) :
    n ≤ (if ft then w else w - 1) + (if isWaiter ph then 1 else 0) := by
  subst hp
  cases ft <;> simp [isWaiter, isParked, isWoken] <;> omega

theorem Move.inv {s : State} {r : Rule} {q : State × List Ev} (m : Move s r q) (h : Inv s) : Inv q.1 := by
  have hwt := h.waiters
  have hl := h.ledger
  cases m with
  | skip => exact h
  | call hsz =>
    refine ⟨hl, h.odd, ?_, fun j cal g hj hg => ?_, h.leak, h.idb⟩
    · show (s.callers ++ [(⟨hsz, .fresh⟩ : Caller)]).countP _ ≤ s.waiting
      rw [List.countP_append]; exact hwt
    · rcases get_append_fresh hj with hj | hf
      · exact h.gens j cal g hj hg
      · rw [hf] at hg; cases hg
  | park ft hc hp =>
    exact h.set_phase_only hc (fun g hg => by cases hg; exact Nat.le_refl _) (closure_waiting hp (Nat.succ_le_succ hwt))
  | drained ft hc hp hq hd =>
    refine h.set_phase hc rfl (fun g hg => by split at hg <;> cases hg) (Nat.le_refl _) ?_ ?_ h.odd (fun _ => hd) h.idb
    · have : isWaiter (if s.goAwayClosed = true then Phase.failed Fail.drain else Phase.stuck) = false := by
        split <;> rfl
      rw [this]; exact closure_waiting hp hwt
    · show s.quota - 1 = (s.maxC : Int) - (s.openS.length : Int) - ((s.leaked + 1 : Nat) : Int)
      omega
  | grant ft hc hp =>
    refine h.set_phase hc rfl nofun (Nat.le_refl _) ?_ ?_ ?_ h.leak ?_
    · exact closure_waiting hp hwt
    · simp only [List.length_append, List.length_cons, List.length_nil]; push_cast; omega
    · exact (Nat.add_mod_right ..).trans h.odd
    · show s.nextID + 2 ≤ max s.maxSID 1 + 2 * (if s.nextID + 2 > s.maxSID then s.flagged + 1 else s.flagged)
      have := h.idb
      have : s.maxSID ≤ max s.maxSID 1 := Nat.le_max_left _ _
      split <;> omega
  | wake tok hc hp =>
    exact h.set_phase_only hc nofun (by rw [hp]; exact Nat.add_le_add_right hwt 1)
  | reject hc | leave _ hc => exact h.set_phase_only hc nofun (Nat.le_trans hwt (Nat.le_add_right ..))
  | graceful hc =>
    exact h.set_phase hc rfl nofun (Nat.le_refl _) (Nat.le_trans hwt (Nat.le_add_right ..)) hl h.odd (fun _ => rfl) h.idb
  | close sid rst hany =>
    refine { h with ledger := ?_ }
    show s.quota + 1 = (s.maxC : Int) - ((s.openS.eraseP (·.id == sid)).length : Int) - (s.leaked : Int)
    have hpos : 0 < s.openS.length := by
      rcases List.any_eq_true.mp hany with ⟨x, hx, _⟩
      exact List.length_pos_of_mem hx
    rw [List.length_eraseP, hany]
    simp only [↓reduceIte]
    omega
  | half sid =>
    refine { h with ledger := ?_ }
    show s.quota = (s.maxC : Int) - ((s.openS.map _).length : Int) - (s.leaked : Int)
    rw [List.length_map]; exact hl
  | broadcast n =>
    exact { h with ledger := show s.quota + ((n : Int) - s.maxC) = n - (s.openS.length : Int) - (s.leaked : Int) by omega,
                   gens := fun j cal g hj hg => Nat.le_succ_of_le (h.gens j cal g hj hg) }
  | settings n =>
    exact { h with ledger := show s.quota + ((n : Int) - s.maxC) = n - (s.openS.length : Int) - (s.leaked : Int) by omega }
  | hls n => exact { h with }
  | goAway => exact { h with leak := fun _ => rfl }

theorem step_inv (s : State) (r : Rule) (h : Inv s) : Inv (step s r).1 := (step_move s r).inv h

theorem run_inv (s : State) (rs : List Rule) (h : Inv s) : Inv (run s rs) := by
  induction rs generalizing s with
  | nil => exact h
  | cons r rs ih => exact ih _ (step_inv s r h)

theorem inv_initAfterPreface (mcs hl : Option Nat) : Inv (initAfterPreface mcs hl) := by
  unfold initAfterPreface
  cases hl with
  | none => exact step_inv _ _ inv_init0
  | some l => exact step_inv _ _ (step_inv _ _ inv_init0)

/-- The result `q` of rule `r` carries no HEADERS; only SETTINGS changes the limit, only closeStream shrinks the open list. -/
structure NoHeaders (s : State) (r : Rule) (q : State × List Ev) : Prop where
  hdrs : hdrIds q.2 = []
  nextID : q.1.nextID = s.nextID
  maxC : isSettings r = false → q.1.maxC = s.maxC
  openS : s.openS.length ≤ q.1.openS.length + (if isClose r then 1 else 0)

/-- The result `q` is an admission: exactly one HEADERS, with id = the old `nextID`, taken with
positive quota on a transport that is not draining, and the new stream is appended to the open list. -/
structure Admits (s : State) (q : State × List Ev) : Prop where
  hdrs : hdrIds q.2 = [s.nextID]
  nextID : q.1.nextID = s.nextID + 2
  quota : s.quota > 0
  live : s.draining = false
  openS : q.1.openS = s.openS ++ [⟨s.nextID, false⟩]
  maxC : q.1.maxC = s.maxC

theorem Admits.room {s : State} {q : State × List Ev} (e : Admits s q) (h : Inv s) :
    s.openS.length + s.leaked < s.maxC := by
  have := h.ledger
  have := e.quota
  omega

structure Emits (s : State) (r : Rule) (q : State × List Ev) : Prop where
  maxSID : q.1.maxSID = s.maxSID
  wire : NoHeaders s r q ∨ Admits s q

theorem Move.emits {s : State} {r : Rule} {q : State × List Ev} (m : Move s r q) : Emits s r q := by
  cases m with
  | grant ft hc hp hq hd =>
    exact ⟨rfl, .inr { hdrs := rfl, nextID := rfl, quota := hq, live := hd, openS := rfl, maxC := rfl }⟩
  | close sid rst =>
    refine ⟨rfl, .inl ⟨by cases rst <;> rfl, rfl, fun _ => rfl, ?_⟩⟩
    show s.openS.length ≤ (s.openS.eraseP _).length + 1
    rw [List.length_eraseP]
    split <;> omega
  | broadcast | settings => exact ⟨rfl, .inl ⟨rfl, rfl, nofun, Nat.le_add_right ..⟩⟩
  | half => exact ⟨rfl, .inl ⟨rfl, rfl, fun _ => rfl, by simp⟩⟩
  | skip | call | reject | park | drained | wake | leave | graceful | hls | goAway =>
    exact ⟨rfl, .inl ⟨rfl, rfl, fun _ => rfl, Nat.le_add_right ..⟩⟩

theorem step_emits (s : State) (r : Rule) : Emits s r (step s r) := (step_move s r).emits

theorem hdrIds_append (a b : List Ev) : hdrIds (a ++ b) = hdrIds a ++ hdrIds b := by
  induction a using hdrIds.induct <;> simp [hdrIds, *]

theorem trace_ids (s : State) (rs : List Rule) (ho : s.nextID % 2 = 1) :
    (hdrIds (trace s rs)).Pairwise (· < ·) ∧
    (∀ id ∈ hdrIds (trace s rs), s.nextID ≤ id ∧ id % 2 = 1 ∧ id + 2 ≤ (run s rs).nextID) ∧
    s.nextID ≤ (run s rs).nextID ∧ (run s rs).nextID % 2 = 1 := by
  induction rs generalizing s with
  | nil => simp [trace, run, hdrIds, ho]
  | cons r rs ih =>
    simp only [trace, run, hdrIds_append]
    rcases (step_emits s r).wire with e | e
    · have ih' := ih (step s r).1 (by rw [e.nextID]; exact ho)
      rw [e.hdrs, e.nextID] at *
      simpa using ih'
    · obtain ⟨p, q, m, o⟩ := ih (step s r).1 (by rw [e.nextID, Nat.add_mod_right]; exact ho)
      rw [e.nextID] at q m
      rw [e.hdrs]
      refine ⟨?_, fun id hid => ?_, Nat.le_of_add_right_le m, o⟩
      · simp only [List.singleton_append, List.pairwise_cons]
        exact ⟨fun id hid => Nat.lt_of_lt_of_le (Nat.lt_add_of_pos_right Nat.two_pos) (q id hid).1, p⟩
      · rcases List.mem_cons.mp hid with rfl | hid
        · exact ⟨Nat.le_refl _, ho, m⟩
        · exact ⟨Nat.le_of_add_right_le (q id hid).1, (q id hid).2⟩

theorem no_hdr_until_enough_close (s : State) (rs : List Rule) (h : Inv s)
    (hns : ∀ r ∈ rs, isSettings r = false)
    (hk : s.maxC + rs.countP isClose ≤ s.openS.length) :
    hdrIds (trace s rs) = [] := by
  induction rs generalizing s with
  | nil => rfl
  | cons r rs ih =>
    simp only [trace, hdrIds_append]
    rw [List.countP_cons] at hk
    rcases (step_emits s r).wire with e | e
    · rw [e.hdrs, List.nil_append]
      apply ih _ (step_inv s r h) (fun r' hr' => hns r' (List.mem_cons_of_mem _ hr'))
      have := e.openS
      rw [e.maxC (hns r (List.mem_cons_self ..))]; omega
    · have := e.room h
      omega

theorem run_maxSID (s : State) (rs : List Rule) : (run s rs).maxSID = s.maxSID := by
  induction rs generalizing s with
  | nil => rfl
  | cons r rs ih => simp only [run]; rw [ih, (step_emits s r).maxSID]

theorem initAfterPreface_maxSID (mcs hl : Option Nat) : (initAfterPreface mcs hl).maxSID = maxStreamID := by
  unfold initAfterPreface
  cases hl with
  | none => simp only; rw [(step_emits _ _).maxSID]; rfl
  | some l => simp only; rw [(step_emits _ _).maxSID, (step_emits _ _).maxSID]; rfl

/-- Some caller in `l` is in a phase with `Q`; the existential twin of the model's counts `nParked`, `nWoken`, …
    (`hasP_of_countP_pos`, `C13.countP_pos_of_hasP`), which is what `NoLostWakeup` is stated and kept with. -/
def HasP (l : List Caller) (Q : Phase → Prop) : Prop := ∃ (j : Nat) (cal : Caller), l[j]? = some cal ∧ Q cal.phase

theorem hasP_of_countP_pos {l : List Caller} {f : Phase → Bool} (h : 0 < l.countP (fun c => f c.phase)) :
    HasP l (fun p => f p = true) := by
  obtain ⟨x, hx, hfx⟩ := List.countP_pos_iff.mp h
  obtain ⟨j, hj⟩ := List.getElem?_of_mem hx
  exact ⟨j, x, hj, hfx⟩

theorem hasP_set_intro {l : List Caller} {c : Nat} {cal : Caller} {p : Phase} {Q : Phase → Prop}
    (hc : l[c]? = some cal) (hq : Q p) : HasP (l.set c { cal with phase := p }) Q :=
  ⟨c, { cal with phase := p }, by rw [Lemmas.Basic.getElem?_set_of_some hc, if_pos rfl], hq⟩

theorem hasP_set_mono {l : List Caller} {c : Nat} {cal : Caller} {p : Phase} {Q : Phase → Prop}
    (hc : l[c]? = some cal) (hold : ¬ Q cal.phase) (h : HasP l Q) : HasP (l.set c { cal with phase := p }) Q := by
  obtain ⟨j, cj, hj, hq⟩ := h
  by_cases hjc : c = j
  · subst hjc; rw [hc] at hj; cases hj; exact absurd hq hold
  · exact ⟨j, cj, by rw [Lemmas.Basic.getElem?_set_of_some hc, if_neg hjc]; exact hj, hq⟩

theorem hasP_set_elim {l : List Caller} {c : Nat} {cal : Caller} {p : Phase} {Q : Phase → Prop}
    (hc : l[c]? = some cal) (hnew : ¬ Q p) (h : HasP (l.set c { cal with phase := p }) Q) : HasP l Q := by
  obtain ⟨j, cj, hj, hq⟩ := h
  rw [Lemmas.Basic.getElem?_set_of_some hc] at hj
  split at hj
  · cases hj; exact absurd hq hnew
  · exact ⟨j, cj, hj, hq⟩

theorem Inv.waiting_pos {s : State} {g : Nat} (h : Inv s) (hpark : HasP s.callers (· = Phase.blocked g)) :
    0 < s.waiting := by
  obtain ⟨j, cj, hj, hq⟩ := hpark
  exact Nat.lt_of_lt_of_le (nWaiters_pos hj (by rw [hq]; rfl)) h.waiters

/-- `signal` (`signal_eq`) leaves a token in the channel as soon as quota is free and somebody is counted waiting. -/
theorem signalled {q : Int} {w : Nat} (hq : q > 0) (hw : 0 < w) (tok : Bool) :
    (decide (q > 0 ∧ w > 0) || tok) = true := by
  simp [hq, hw]

theorem hasP_append_fresh {l : List Caller} {hsz : Nat} {Q : Phase → Prop} (hq : ¬ Q Phase.fresh) :
    HasP (l ++ [⟨hsz, Phase.fresh⟩]) Q ↔ HasP l Q := by
  constructor
  · rintro ⟨j, cj, hj, hqj⟩
    rcases get_append_fresh hj with hj | hf
    · exact ⟨j, cj, hj, hqj⟩
    · exact absurd (hf ▸ hqj) hq
  · rintro ⟨j, cj, hj, hqj⟩
    exact ⟨j, cj, by rw [List.getElem?_append_left (Lemmas.Basic.lt_of_getElem? hj)]; exact hj, hqj⟩

structure NoLostWakeup (s : State) : Prop where
  /-- every parked or woken caller passed the header-list check against the current limit: a woken caller that failed
      it on its retry would return with the token it took, and `inFlight` would be lost (`HlsFits`) -/
  fits : ∀ (j : Nat) (cal : Caller), s.callers[j]? = some cal → isWaiter cal.phase = true → tooBig s cal = false
  /-- quota free and a caller parked on the current channel ⇒ a token is in the channel or a woken caller is about to retry -/
  inFlight : s.draining = false → s.quota > 0 → HasP s.callers (· = Phase.blocked s.gen) →
    s.token = true ∨ HasP s.callers (· = Phase.woken)

theorem tooBig_congr {s t : State} (h : t.hdrLimit = s.hdrLimit) (x : Caller) : tooBig t x = tooBig s x := by
  unfold tooBig; rw [h]

/-- `NoLostWakeup` of a state `s'` in which caller `c` has changed its phase to `p`, the header-list limit being
    the same: `fits` carries over, `inFlight` is asked for. -/
theorem NoLostWakeup.set_phase {s s' : State} {c : Nat} {cal : Caller} {p : Phase} (hL : NoLostWakeup s)
    (hc : s.callers[c]? = some cal) (hcal : s'.callers = s.callers.set c { cal with phase := p })
    (hlim : s'.hdrLimit = s.hdrLimit) (hp : isWaiter p = true → tooBig s cal = false)
    (inFlight : s'.draining = false → s'.quota > 0 → HasP s'.callers (· = Phase.blocked s'.gen) →
      s'.token = true ∨ HasP s'.callers (· = Phase.woken)) : NoLostWakeup s' := by
  refine ⟨fun j cj hj hw => ?_, inFlight⟩
  rw [tooBig_congr hlim]
  rw [hcal, Lemmas.Basic.getElem?_set_of_some hc] at hj
  split at hj
  · cases hj; exact hp hw
  · exact hL.fits j cj hj hw

theorem NoLostWakeup.leave {s : State} {c : Nat} {cal : Caller} {w : Fail} (hL : NoLostWakeup s) (hc : s.callers[c]? = some cal)
    (hnw : cal.phase ≠ .woken) : NoLostWakeup { s with callers := s.callers.set c { cal with phase := .failed w } } :=
  hL.set_phase hc rfl rfl nofun fun hd hq hpark =>
    (hL.inFlight hd hq (hasP_set_elim (p := .failed w) hc nofun hpark)).imp_right (hasP_set_mono hc hnw)

/-- A new header-list limit must still fit everybody who is parked or woken; otherwise a woken caller can fail the
    header check and return with the token it took. -/
def HlsFits (s : State) (r : Rule) : Prop :=
  ∀ n, r = .hls n → ∀ (j : Nat) (cal : Caller), s.callers[j]? = some cal → isWaiter cal.phase = true → cal.hsz ≤ n

theorem HlsFits.of_not_hls {s : State} {r : Rule} (hr : isHls r = false) : HlsFits s r := by
  rintro n rfl; cases hr

theorem Move.noLostWakeup {s : State} {r : Rule} {q : State × List Ev} (m : Move s r q) (hr : HlsFits s r)
    (hI : Inv s) (hL : NoLostWakeup s) : NoLostWakeup q.1 := by
  have hI' := m.inv hI
  cases m with
  | skip => exact hL
  | hls n => exact ⟨fun j cj hj hw => by simpa [tooBig] using hr n rfl j cj hj hw, hL.inFlight⟩
  | call hsz =>
    refine ⟨fun j cj hj hw => ?_, fun hd hq hpark => ?_⟩
    · rcases get_append_fresh hj with hj | hf
      · exact hL.fits j cj hj hw
      · rw [hf] at hw; cases hw
    · exact (hL.inFlight hd hq ((hasP_append_fresh nofun).mp hpark)).imp_right (hasP_append_fresh nofun).mpr
  | reject hc hb =>
    -- only a fresh caller can get here: a woken one has passed the check (`fits`)
    refine hL.leave hc fun hw => ?_
    have := hL.fits _ _ hc (by rw [hw]; rfl)
    rw [this] at hb; cases hb
  | park ft hc hp hb hq => exact hL.set_phase hc rfl rfl (fun _ => hb) fun _ hq' => absurd hq (Int.not_le.mpr hq')
  | drained ft hc hp hq hd =>
    exact hL.set_phase hc rfl rfl (fun hw => by split at hw <;> cases hw) fun hd' => absurd (hd.symm.trans hd') nofun
  | grant ft hc hp =>
    -- `signal` has passed the token on if quota is left and somebody still waits
    exact hL.set_phase hc rfl rfl nofun fun _ hq' hpark => .inl (signalled hq' (hI'.waiting_pos hpark) _)
  | wake tok hc hp =>
    exact hL.set_phase hc rfl rfl (fun _ => hL.fits _ _ hc (by rw [hp]; rfl)) fun _ _ _ => .inr (hasP_set_intro hc rfl)
  | leave w hc hp => exact hL.leave hc hp
  | graceful hc => exact hL.set_phase hc rfl rfl nofun nofun
  | close sid rst =>
    -- `signal` after the quota unit came back
    exact ⟨hL.fits, fun _ hq hpark => .inl (signalled hq (hI.waiting_pos hpark) _)⟩
  | half sid => exact ⟨hL.fits, hL.inFlight⟩
  | broadcast n =>
    -- the channel is replaced: nobody is parked on the new generation yet
    refine ⟨hL.fits, fun _ _ ⟨j, cj, hj, hq⟩ => ?_⟩
    have := hI.gens j cj (s.gen + 1) hj hq
    omega
  | settings n hcond =>
    -- no broadcast although somebody is parked (so `waiting > 0`): the limit was not raised, no quota became free
    refine ⟨hL.fits, fun hd hq hpark => hL.inFlight hd ?_ hpark⟩
    have hq' : s.quota + ((n : Int) - (s.maxC : Int)) > 0 := hq
    have : ¬ ((n : Int) - (s.maxC : Int) > 0) := fun hpos => hcond ⟨hpos, hI.waiting_pos hpark⟩
    omega
  | goAway => exact ⟨hL.fits, nofun⟩

theorem step_noLostWakeup (s : State) (r : Rule) (hr : HlsFits s r) (hI : Inv s) (hL : NoLostWakeup s) :
    NoLostWakeup (step s r).1 := (step_move s r).noLostWakeup hr hI hL

theorem noLostWakeup_init0 : NoLostWakeup init0 :=
  ⟨fun j cj hj => by simp [init0] at hj, fun _ _ ⟨j, cj, hj, _⟩ => by simp [init0] at hj⟩

theorem noLostWakeup_initAfterPreface (mcs hl : Option Nat) : NoLostWakeup (initAfterPreface mcs hl) := by
  unfold initAfterPreface
  have h1 := step_noLostWakeup init0 (.settings (mcs.getD 4294967295)) (.of_not_hls rfl) inv_init0 noLostWakeup_init0
  cases hl with
  | none => exact h1
  | some l =>
    -- the preface's limit arrives while nobody waits
    have hs := (step_move init0 (.settings (mcs.getD 4294967295))).of_settings.2
    exact step_noLostWakeup _ (.hls l) (fun _ _ j cj hj => by rw [hs] at hj; cases hj) (step_inv _ _ inv_init0) h1

theorem run_noLostWakeup (s : State) (rs : List Rule) (hr : ∀ r ∈ rs, isHls r = false) (hI : Inv s) (hL : NoLostWakeup s) :
    NoLostWakeup (run s rs) := by
  induction rs generalizing s with
  | nil => exact hL
  | cons r rs ih =>
    exact ih _ (fun r' hr' => hr r' (List.mem_cons_of_mem _ hr')) (step_inv s r hI)
      (step_noLostWakeup s r (.of_not_hls (hr r (List.mem_cons_self ..))) hI hL)
end GrpcProofs.StreamQuota
