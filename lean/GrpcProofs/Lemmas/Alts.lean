import GrpcModel.Model.Alts
namespace GrpcProofs.Lemmas.Alts
open GrpcModel.Alts GrpcModel.Generated

theorem aeadOpen_some (sent : List (List UInt8)) (c : Nat) (b : List Cell) (p : List UInt8)
    (h : aeadOpen sent c b = some p) : sent[c]? = some p := by
  unfold aeadOpen at h
  split at h
  · simp at h
  · rename_i q hq; split at h <;> simp at h; subst h; exact hq

theorem take_succ_flatten (sent : List (List UInt8)) (c : Nat) (p : List UInt8) (h : sent[c]? = some p) :
    (sent.take (c + 1)).flatten = (sent.take c).flatten ++ p := by
  rw [List.take_add_one, h]; simp

theorem openFrame_ok (r : R) (msg : List Cell) (p : List UInt8) (ho : openFrame r msg = .ok p) :
    r.sent[r.ctr]? = some p ∧ r.ctr < r.ctrMax := by
  unfold openFrame at ho
  -- the exits in order: short frame, unreadable type byte, wrong type, counter exhausted (`hc`: not so),
  -- AEAD refuses (`hq`: it opened `q`); each of them an error but the last
  split at ho; · cases ho
  split at ho; · cases ho
  split at ho; · cases ho
  split at ho; · cases ho
  next hc =>
  split at ho; · cases ho
  next q hq =>
  cases ho
  exact ⟨aeadOpen_some _ _ _ _ hq, Nat.lt_of_not_le hc⟩

/-- The safety invariant: what Read has returned so far (`d`) and what is decrypted but not yet returned
    make up exactly the payloads of the records opened so far. -/
def Delivered (r : R) (d : List UInt8) : Prop := d ++ r.buf = (r.sent.take r.ctr).flatten

theorem read_safe (r : R) (n : Nat) (d : List UInt8) (h : Delivered r d) :
    Delivered (GrpcModel.Alts.read r n).1 (d ++ (GrpcModel.Alts.read r n).2.bytes) ∧
      (GrpcModel.Alts.read r n).1.sent = r.sent := by
  unfold Delivered at h ⊢
  -- a Read that returns no bytes leaves `buf` and `ctr` alone
  have h0 : d ++ [] ++ r.buf = (r.sent.take r.ctr).flatten := by simpa using h
  -- the exits in order: sticky error; bytes left in `buf` (`hb`: none left); incomplete frame; unparsable frame;
  -- frame refused; record opened
  unfold GrpcModel.Alts.read
  split
  · exact ⟨h0, rfl⟩
  split
  · refine ⟨?_, rfl⟩
    simp only [ROut.bytes]
    rw [List.append_assoc, List.take_append_drop]
    exact h
  next hb =>
  split
  · exact ⟨h0, rfl⟩
  · exact ⟨h0, rfl⟩
  · split
    · exact ⟨h0, rfl⟩
    · next p ho =>
      -- a record was opened: it is record `ctr`, and `buf` was empty
      refine ⟨?_, rfl⟩
      simp only [ROut.bytes]
      rw [take_succ_flatten r.sent r.ctr p (openFrame_ok r _ p ho).1, List.append_assoc, List.take_append_drop]
      rw [Decidable.not_not.1 hb, List.append_nil] at h
      rw [h]

/-- One induction for every invariant of the receiver: `run` keeps what `feed` and `read` keep. `I` may
    speak of the operations still to come and of the bytes returned so far. -/
theorem run_induction {I : List Op → R → List UInt8 → Prop}
    (hfeed : ∀ {cs ops r d}, I (.feed cs :: ops) r d → I ops (feed r cs) d)
    (hread : ∀ {n ops r d}, I (.read n :: ops) r d →
      I ops (GrpcModel.Alts.read r n).1 (d ++ (GrpcModel.Alts.read r n).2.bytes))
    {ops : List Op} {r : R} {d : List UInt8} (h : I ops r d) : I [] (run r ops).1 (d ++ (run r ops).2) := by
  induction ops generalizing r d with
  | nil => simpa [run] using h
  | cons o ops ih =>
    cases o with
    | feed cs => exact ih (hfeed h)
    | read n => exact List.append_assoc .. ▸ ih (hread h)

theorem run_safe (ops : List Op) (r : R) (d : List UInt8) (h : Delivered r d) :
    Delivered (run r ops).1 (d ++ (run r ops).2) ∧ (run r ops).1.sent = r.sent :=
  run_induction (I := fun _ r' d' => Delivered r' d' ∧ r'.sent = r.sent)
    (fun h => ⟨by simpa [feed, Delivered] using h.1, h.2⟩)
    (fun h => have ⟨s, e⟩ := read_safe _ _ _ h.1; ⟨s, e.trans h.2⟩) ⟨h, rfl⟩

theorem run_init_delivered (sent : List (List UInt8)) (cmax : Nat) (ops : List Op) :
    (run (R.init sent cmax) ops).2 ++ (run (R.init sent cmax) ops).1.buf
      = (sent.take (run (R.init sent cmax) ops).1.ctr).flatten ∧
    (run (R.init sent cmax) ops).1.sent = sent := by
  obtain ⟨h1, h2⟩ := run_safe ops (R.init sent cmax) [] (by simp [Delivered, R.init])
  rw [Delivered, h2, List.nil_append] at h1
  exact ⟨h1, h2⟩

theorem payloadLimit_eq (neg : Nat) : payloadLimit neg = max 4096 neg - 24 := rfl

theorem le32val_le32 (n : Nat) (h : n < 4294967296) : le32val? ((le32 n).map .known) = some n := by
  simp only [le32, List.map, le32val?, Cell.val?, bind, Option.bind, pure]
  congr 1
  -- nested divisions by 256 are far cheaper for `omega` than the three large divisors
  rw [show n / 65536 = n / 256 / 256 by rw [Nat.div_div_eq_div_mul],
    show n / 16777216 = n / 256 / 256 / 256 by rw [Nat.div_div_eq_div_mul, Nat.div_div_eq_div_mul]]
  omega

/-- the frame body of a record: type field + sealed block -/
def body (k : Nat) (p : List UInt8) : List Cell :=
  (le32 altsRecordMsgType).map .known ++ (List.range (p.length + tagSize)).map (.ct k)

theorem recordCells_eq (k : Nat) (p : List UInt8) :
    recordCells k p = (le32 (20 + p.length)).map .known ++ body k p := by
  simp [recordCells, body, msgTypeFieldSize, tagSize, gcmTagSize, Nat.add_comm]

theorem body_length (k : Nat) (p : List UInt8) : (body k p).length = 20 + p.length := by
  simp [body, le32, tagSize, gcmTagSize]; omega

theorem recordCells_length (k : Nat) (p : List UInt8) : (recordCells k p).length = 24 + p.length := by
  simp [recordCells_eq, body_length, le32]; omega

theorem parseFramed_header (len : Nat) (hlen : len ≤ altsRecordLengthLimit) (b : List Cell) :
    parseFramed ((le32 len).map .known ++ b)
      = if b.length < len then .incomplete else .frame (b.take len) (b.drop len) := by
  have hlim : altsRecordLengthLimit = 1048576 := rfl
  have h4 : ((le32 len).map Cell.known).length = 4 := rfl
  unfold parseFramed
  rw [List.take_left' h4, le32val_le32 len (by omega), List.length_append, h4, if_neg (by simp [msgLenFieldSize])]
  simp only []
  rw [if_neg (by omega), List.drop_left' h4, ← h4, ← List.drop_drop, List.drop_left, h4]
  simp only [Nat.add_comm 4, Nat.add_lt_add_iff_right]

theorem parse_complete (k : Nat) (p : List UInt8) (rest : List Cell)
    (hl : p.length + 20 ≤ altsRecordLengthLimit) :
    parseFramed (recordCells k p ++ rest) = .frame (body k p) rest := by
  rw [recordCells_eq, List.append_assoc, parseFramed_header _ (by omega), ← body_length k p,
    if_neg (by simp), List.take_left, List.drop_left]

theorem parse_prefix (k : Nat) (p : List UInt8) (rest pend : List Cell)
    (hl : p.length + 20 ≤ altsRecordLengthLimit)
    (hp : pend <+: recordCells k p ++ rest) (hs : pend.length < 24 + p.length) :
    parseFramed pend = .incomplete := by
  by_cases h4 : pend.length < msgLenFieldSize
  · rw [parseFramed, if_pos h4]
  · rw [recordCells_eq, List.append_assoc] at hp
    obtain ⟨b, rfl⟩ := List.prefix_of_prefix_length_le (List.prefix_append _ _) hp
      (Nat.le_of_not_lt h4)
    have : b.length < 20 + p.length := by simp [le32] at hs; omega
    rw [parseFramed_header _ (by omega), if_pos this]

theorem open_body (r : R) (p : List UInt8) (hs : r.sent[r.ctr]? = some p) (hc : r.ctr < r.ctrMax) :
    openFrame r (body r.ctr p) = .ok p := by
  unfold openFrame
  have bl := body_length r.ctr p
  rw [if_neg (by rw [bl]; simp [msgTypeFieldSize]; omega)]
  have h0 : ((body r.ctr p).take 4).head? >>= Cell.val? = some 6 := by
    simp [body, le32, altsRecordMsgType, Cell.val?]
  rw [h0]
  simp only []
  rw [if_neg (by simp [altsRecordMsgType]), if_neg (by omega)]
  have d4 : (body r.ctr p).drop 4 = (List.range (p.length + tagSize)).map (.ct r.ctr) := by
    simp [body, le32]
  rw [d4]
  simp [aeadOpen, hs]

/-- Clean: no error so far, and what is pending plus what the network still holds (`unfed`) is
    exactly the peer's records from number `ctr` on. -/
structure Clean (r : R) (unfed : List Cell) : Prop where
  noErr : r.err = none
  wire  : r.pending ++ unfed = cellsFrom r.ctr (r.sent.drop r.ctr)
  small : ∀ p ∈ r.sent, p.length + 20 ≤ altsRecordLengthLimit
  ctrOk : r.sent.length ≤ r.ctrMax

theorem clean_feed (r : R) (a b : List Cell) (h : Clean r (a ++ b)) : Clean (feed r a) b := by
  exact ⟨h.noErr, by simpa [feed, List.append_assoc] using h.wire, h.small, h.ctrOk⟩

theorem clean_parse (r : R) (unfed : List Cell) (h : Clean r unfed) :
    (parseFramed r.pending = .incomplete ∧ (unfed = [] → r.sent.length ≤ r.ctr)) ∨
    ∃ p rest, r.sent[r.ctr]? = some p ∧ r.ctr < r.ctrMax ∧ parseFramed r.pending = .frame (body r.ctr p) rest ∧
      rest ++ unfed = cellsFrom (r.ctr + 1) (r.sent.drop (r.ctr + 1)) := by
  have h2 := h.wire
  have h4 := h.ctrOk
  rcases Nat.lt_or_ge r.ctr r.sent.length with hk | hk
  · rw [List.drop_eq_getElem_cons hk, cellsFrom] at h2
    have hs := h.small _ (List.getElem_mem hk)
    have hq : r.sent[r.ctr]? = some r.sent[r.ctr] := List.getElem?_eq_getElem hk
    generalize r.sent[r.ctr] = p at *
    have al := recordCells_length r.ctr p
    rcases Nat.lt_or_ge r.pending.length (24 + p.length) with hl | hl
    · refine Or.inl ⟨parse_prefix r.ctr p _ r.pending hs ⟨unfed, h2⟩ hl, fun hu => ?_⟩
      -- with nothing left to feed, `pending` is the whole rest of the stream and holds record `ctr`
      have := congrArg List.length h2
      rw [hu, List.append_nil, List.length_append, al] at this
      omega
    · obtain ⟨rest, hrest⟩ : recordCells r.ctr p <+: r.pending :=
        List.prefix_of_prefix_length_le (List.prefix_append _ _) ⟨unfed, h2⟩ (by omega)
      rw [← hrest, List.append_assoc] at h2
      exact Or.inr ⟨p, rest, hq, by omega, hrest ▸ parse_complete r.ctr p rest hs, List.append_cancel_left h2⟩
  · rw [List.drop_eq_nil_of_le hk, cellsFrom] at h2
    rw [(List.append_eq_nil_iff.1 h2).1]
    exact Or.inl ⟨rfl, fun _ => hk⟩

theorem clean_read (r : R) (unfed : List Cell) (n : Nat) (h : Clean r unfed) :
    Clean (GrpcModel.Alts.read r n).1 unfed ∧ (∀ e, (GrpcModel.Alts.read r n).2 ≠ .fail e) ∧
    ((GrpcModel.Alts.read r n).2 = .block → unfed = [] → r.buf = [] ∧ r.sent.length ≤ r.ctr) := by
  have cp := clean_parse r unfed h
  unfold GrpcModel.Alts.read
  rw [h.noErr]
  simp only
  split
  · exact ⟨{ h with noErr := rfl }, nofun, nofun⟩
  · next hb =>
    have hb : r.buf = [] := Decidable.not_not.1 hb
    rcases cp with ⟨hp, hall⟩ | ⟨p, rest, hs, hc, hpf, hrest⟩
    · rw [hp]
      exact ⟨h, nofun, fun _ hu => ⟨hb, hall hu⟩⟩
    · -- the frame is the next record's body, which opens under the current counter
      rw [hpf]
      simp only
      rw [open_body r p hs hc]
      exact ⟨{ h with noErr := rfl, wire := hrest }, nofun, nofun⟩

theorem incBytes_drop (bs : List Nat) (n : Nat) : (incBytes bs n).1.drop n = bs.drop n := by
  fun_induction incBytes bs n with
  | case1 | case2 | case3 => rfl
  | case4 b bs n _ r inv hrec ih => rw [hrec] at ih; exact ih   -- the carry goes on into the tail

/-- The carry argument of `Inc`: either no carry leaves the first `n` bytes, or they all wrapped to 0. -/
theorem incBytes_val (bs : List Nat) (n : Nat) (hb : ∀ b ∈ bs, b < 256) (hn : n ≤ bs.length) :
    ((incBytes bs n).2 = false ∧ leVal (incBytes bs n).1 n = leVal bs n + 1 ∧ leVal bs n + 1 < 256 ^ n) ∨
    ((incBytes bs n).2 = true ∧ leVal (incBytes bs n).1 n = 0 ∧ leVal bs n + 1 = 256 ^ n) := by
  induction n generalizing bs with
  | zero => cases bs <;> exact Or.inr ⟨rfl, rfl, rfl⟩
  | succ n ih =>
    cases bs with
    | nil => cases hn
    | cons b bs =>
      have hb0 : b < 256 := hb b (List.mem_cons_self ..)
      have ih := ih bs (fun x hx => hb x (List.mem_cons_of_mem _ hx)) (Nat.le_of_succ_le_succ hn)
      clear hb hn
      simp only [incBytes]
      split
      · next hw =>
        simp only [leVal, Nat.pow_succ, Nat.mod_eq_of_lt (show b + 1 < 256 by omega)]
        generalize leVal bs n = v, 256 ^ n = P at ih ⊢
        have hv : v + 1 ≤ P := ih.elim (fun h => Nat.le_of_lt h.2.2) (fun h => Nat.le_of_eq h.2.2)
        clear ih
        exact Or.inl ⟨trivial, by omega⟩
      · next hw =>
        obtain rfl : b = 255 := by omega
        simp only [leVal, Nat.pow_succ]
        -- what is left is arithmetic in the old and new value `v`, `v'` of the tail and `P`
        generalize leVal bs n = v, leVal (incBytes bs n).1 n = v', 256 ^ n = P, (incBytes bs n).2 = c at ih ⊢
        rcases ih with ⟨hc, h1, h2⟩ | ⟨hc, h1, h2⟩
        · exact Or.inl ⟨hc, by omega⟩
        · exact Or.inr ⟨hc, by omega⟩

theorem chunks_spec (limit : Nat) (hl : 0 < limit) (fuel : Nat) (b : List UInt8) (hf : b.length ≤ fuel) :
    (chunks limit fuel b).flatten = b ∧ ∀ c ∈ chunks limit fuel b, c.length ≤ limit ∧ c ≠ [] := by
  fun_induction chunks limit fuel b with
  | case1 b =>
    have : b = [] := by cases b <;> simp at hf ⊢
    subst this; simp
  | case2 => simp
  | case3 b fuel hb ih =>
    have hlen : 0 < b.length := by cases b <;> simp at hb ⊢
    have := ih (by simp; omega)
    refine ⟨by simp [this.1], ?_⟩
    intro c hc
    simp at hc
    rcases hc with hc | hc
    · subst hc
      refine ⟨List.length_take_le _ _, ?_⟩
      intro h
      have := congrArg List.length h
      simp only [List.length_take, List.length_nil] at this; omega
    · exact this.2 c hc

end GrpcProofs.Lemmas.Alts
