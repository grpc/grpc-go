/-
The model's variance is non-negative (over ℚ, by Mathlib's ordered fields): what
`GrpcProofs.C40.sr_criterion_is_mean_minus_stdev` needs to take its square root over the reals.
-/
import Mathlib.Analysis.Real.Sqrt
import GrpcModel.Model.Outlier
namespace GrpcProofs.Lemmas.OutlierReal
open GrpcModel.Outlier

theorem sum_sq_nonneg (l : List Rat) (h : ∀ x ∈ l, 0 ≤ x) : 0 ≤ l.sum := List.sum_nonneg h

theorem variance_nonneg (l : List Ep) : 0 ≤ variance l :=
  div_nonneg (sum_sq_nonneg _ fun x hx => by
    obtain ⟨e, _, rfl⟩ := List.mem_map.mp hx
    exact mul_self_nonneg _) (Nat.cast_nonneg _)

end GrpcProofs.Lemmas.OutlierReal
