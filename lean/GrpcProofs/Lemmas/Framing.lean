import GrpcModel.Model.Framing
/-! C06: the length prefix (`be32`/`u32`), `recvMsg` on every shape of stream (`recvMsg_nil`, `recvMsg_short`, `recvMsg_header`;
`stream_header`: there is no other), `decompress = sized (readOf …)` and `recvAndDecompress = afterRecv ∘ recvMsg`. -/
namespace GrpcProofs.Lemmas.Framing
open GrpcModel.Framing GrpcModel.Generated

theorem be32_length (n : Nat) : (be32 n).length = 4 := rfl

theorem mul256_add_div_mod (x d : Nat) (hd : d < 256) : (x * 256 + d) / 256 = x ∧ (x * 256 + d) % 256 = d := by
  rw [Nat.mul_comm, Nat.mul_add_div (by decide), Nat.mul_add_mod, Nat.div_eq_of_lt hd,
    Nat.mod_eq_of_lt hd]
  exact ⟨rfl, rfl⟩

theorem div_65536 (n : Nat) : n / 65536 = n / 256 / 256 := by rw [Nat.div_div_eq_div_mul]

theorem div_16777216 (n : Nat) : n / 16777216 = n / 256 / 256 / 256 := by
  rw [Nat.div_div_eq_div_mul, Nat.div_div_eq_div_mul]

/-- read off the Horner form of `n` -/
theorem digits4 (a b c d n : Nat) (hb : b < 256) (hc : c < 256) (hd : d < 256)
    (hn : n = a * 16777216 + b * 65536 + c * 256 + d) :
    n / 16777216 = a ∧ n / 65536 % 256 = b ∧ n / 256 % 256 = c ∧ n % 256 = d := by
  have e : a * 16777216 + b * 65536 + c * 256 + d = ((a * 256 + b) * 256 + c) * 256 + d := by omega
  rw [div_16777216, div_65536, hn, e, (mul256_add_div_mod _ d hd).1, (mul256_add_div_mod _ c hc).1, (mul256_add_div_mod _ b hb).1]
  exact ⟨rfl, (mul256_add_div_mod _ b hb).2, (mul256_add_div_mod _ c hc).2, (mul256_add_div_mod _ d hd).2⟩

/-- written as successive quotients by 256, this is linear -/
theorem sum_digits4 (n : Nat) :
    n / 16777216 * 16777216 + n / 65536 % 256 * 65536 + n / 256 % 256 * 256 + n % 256 = n := by
  rw [div_16777216, div_65536]
  omega

theorem u32_be32 (n : Nat) (h : n < 4294967296) (rest : Bytes) : u32 (be32 n ++ rest) = n := by
  have hq : n / 16777216 % 256 = n / 16777216 :=
    Nat.mod_eq_of_lt (Nat.div_lt_of_lt_mul (show n < 16777216 * 256 from h))
  simp only [be32, List.cons_append, List.nil_append, u32, UInt8.toNat_ofNat', Nat.mod_mod, hq]
  exact sum_digits4 n

theorem be32_u32 (a b c d : UInt8) : be32 (u32 [a, b, c, d]) = [a, b, c, d] := by
  obtain ⟨h1, h2, h3, h4⟩ :=
    digits4 a.toNat b.toNat c.toNat d.toNat _ b.toNat_lt c.toNat_lt d.toNat_lt rfl
  simp only [be32, u32, h1, h2, h3, h4, Nat.mod_eq_of_lt a.toNat_lt, UInt8.ofNat_toNat]

theorem u32_lt (l : Bytes) : u32 l < 4294967296 := by
  match l with
  | [] | [_] | [_, _] | [_, _, _] => simp [u32]
  | a :: b :: c :: d :: _ =>
    have ha := a.toNat_lt; have hb := b.toNat_lt; have hc := c.toNat_lt; have hd := d.toNat_lt
    simp only [u32]; omega


theorem frame_plain (comp : Option (Bytes → Bytes)) (m : Bytes) (h : comp = none ∨ m.length = 0) :
    frame comp m = (0 : UInt8) :: (be32 m.length ++ m) := by
  cases comp <;> simp_all [frame, compress, msgHeader, compressionNone, compressionMade]

theorem frame_some (f : Bytes → Bytes) (m : Bytes) (h : m.length ≠ 0) :
    frame (some f) m = (1 : UInt8) :: (be32 (f m).length ++ f m) := by
  simp [frame, compress, msgHeader, compressionMade, h]

theorem frame_cases (comp : Option (Bytes → Bytes)) (m : Bytes) :
    (frame comp m = (0 : UInt8) :: (be32 m.length ++ m) ∧ (comp = none ∨ m = [])) ∨
    ∃ f, comp = some f ∧ m ≠ [] ∧ frame comp m = (1 : UInt8) :: (be32 (f m).length ++ f m) := by
  cases comp with
  | none => exact .inl ⟨frame_plain _ m (.inl rfl), .inl rfl⟩
  | some f =>
    by_cases he : m.length = 0
    · exact .inl ⟨frame_plain _ m (.inr he), .inr (List.eq_nil_of_length_eq_zero he)⟩
    · exact .inr ⟨f, rfl, fun h => he (h ▸ rfl), frame_some f m he⟩

theorem recvMsg_header (limit : Nat) (b0 : UInt8) (L : Nat) (hL : L < 4294967296) (tail : Bytes) :
    recvMsg limit (b0 :: (be32 L ++ tail)) =
      if L > limit then (.error .resourceExhausted, tail)
      else if tail.length < L then (.error .unexpectedEOF, [])
      else (.ok (b0.toNat, tail.take L), tail.drop L) := by
  have hu : u32 ((b0 :: be32 L).drop msgPayloadLen) = L := by
    have := u32_be32 L hL []
    rwa [List.append_nil] at this
  have h3 : ¬ (L > maxInt) := Nat.not_lt.mpr (Nat.le_trans (Nat.le_of_lt hL) (by decide))
  unfold recvMsg
  rw [show (b0 :: (be32 L ++ tail)).take msgHeaderLen = b0 :: be32 L from rfl,
    show (b0 :: (be32 L ++ tail)).drop msgHeaderLen = tail from rfl,
    show (b0 :: (be32 L ++ tail)).length = tail.length + 5 from rfl]
  simp only [hu, List.headD_cons]
  rw [if_neg (Nat.succ_ne_zero _),
    if_neg (Nat.not_lt.mpr (Nat.le_add_left 5 _) : ¬ tail.length + 5 < msgHeaderLen), if_neg h3]

theorem recvMsg_nil (limit : Nat) : recvMsg limit [] = (.error .eof, []) := by
  simp [recvMsg]

theorem recvMsg_short (limit : Nat) (s : Bytes) (h0 : s ≠ []) (h : s.length < 5) :
    recvMsg limit s = (.error .unexpectedEOF, []) := by
  have : s.length ≠ 0 := by
    intro hl; exact h0 (List.eq_nil_of_length_eq_zero hl)
  simp [recvMsg, this, msgHeaderLen, h]

theorem stream_header (s : Bytes) (h : 5 ≤ s.length) :
    ∃ b0 L tail, L < 4294967296 ∧ s = b0 :: (be32 L ++ tail) := by
  match s with
  | b0 :: a :: b :: c :: d :: tail =>
    refine ⟨b0, u32 [a, b, c, d], tail, u32_lt _, ?_⟩
    rw [be32_u32]; rfl
  | [] | [_] | [_, _] | [_, _, _] | [_, _, _, _] => simp at h


theorem recvMsg_ok (limit : Nat) (stream : Bytes) (pf : Nat) (payload rest : Bytes)
    (h : recvMsg limit stream = (.ok (pf, payload), rest)) :
    ∃ b0 : UInt8, pf = b0.toNat ∧ stream = b0 :: (be32 payload.length ++ payload) ++ rest
      ∧ payload.length ≤ limit := by
  by_cases hlen : 5 ≤ stream.length
  · obtain ⟨b0, L, tail, hL, rfl⟩ := stream_header stream hlen
    rw [recvMsg_header limit b0 L hL tail] at h
    split at h
    · cases h
    · split at h
      · cases h
      · cases h
        have hpl : (tail.take L).length = L := by rw [List.length_take]; omega
        exact ⟨b0, rfl, by rw [hpl]; simp, by omega⟩
  · by_cases h0 : stream = []
    · rw [h0, recvMsg_nil] at h; cases h
    · rw [recvMsg_short limit stream h0 (by omega)] at h; cases h

/-- a usable decompressor: one is configured and the peer announced a real encoding -/
def Usable (cfg : Cfg) : Prop := cfg.path ≠ .none ∧ cfg.rc = .named

theorem check_none (rc : RecvCompress) (h s : Bool) : checkRecvPayload 0 rc h s = none := by
  simp [checkRecvPayload, compressionNone]

theorem check_made_usable (s : Bool) : checkRecvPayload 1 .named true s = none := by
  simp [checkRecvPayload, compressionNone, compressionMade]

theorem check_made_unusable (rc : RecvCompress) (h s : Bool) (hu : rc ≠ .named ∨ h = false) :
    (checkRecvPayload 1 rc h s).isSome = true := by
  simp only [checkRecvPayload, compressionNone, compressionMade]
  cases rc <;> cases h <;> cases s <;> simp_all  -- the table of `checkRecvPayload` at flag 1, entry by entry

theorem check_unknown (pf : Nat) (rc : RecvCompress) (h s : Bool) (h0 : pf ≠ 0) (h1 : pf ≠ 1) :
    checkRecvPayload pf rc h s = some .internal := by
  simp [checkRecvPayload, compressionNone, compressionMade, h0, h1]

/-- what `decompress` reads of the decompressor's output and whether the read ended in the reader's
    error: all of it from a third-party legacy decompressor, at most `limit + 1` bytes otherwise -/
def readOf (path : Path) (limit : Nat) (data : Bytes) (bad : Bool) : Bytes × Bool :=
  if path = .legacyCustom then (data, bad) else limitedRead limit data bad

/-- the checks at the end of `decompress`, on what was read -/
def sized (limit : Nat) (r : Bytes × Bool) : Except Err Bytes × Nat :=
  if r.2 then (.error .internal, r.1.length)
  else if r.1.length > limit then (.error .resourceExhausted, r.1.length)
  else (.ok r.1, r.1.length)

theorem decompress_some (path : Path) (dec : Decomp) (limit : Nat) (d data : Bytes) (bad : Bool)
    (hp : path ≠ .none) (hd : dec d = some (data, bad)) :
    decompress path dec limit d = sized limit (readOf path limit data bad) := by
  cases path with
  | none => exact absurd rfl hp
  | legacyCustom | legacyGzip | newApi => simp [decompress, hd, sized, readOf]

theorem decompress_none {dec : Decomp} {d : Bytes} (hd : dec d = none) (path : Path) (limit : Nat) :
    decompress path dec limit d = (.error .internal, 0) := by
  cases path <;> simp [decompress, hd]

theorem sized_ok (limit : Nat) (r : Bytes × Bool) (out : Bytes) :
    (sized limit r).1 = .ok out ↔ r.2 = false ∧ r.1.length ≤ limit ∧ r.1 = out := by
  unfold sized
  split
  next hb => simp [hb]
  next hb =>
    split
    next hl => simp [hb, Nat.not_le.mpr hl]
    next hl => simp [hb, Nat.le_of_not_lt hl]

theorem sized_mat (limit : Nat) (r : Bytes × Bool) : (sized limit r).2 = r.1.length := by
  unfold sized  -- each of its three answers carries `r.1.length`
  repeat' split
  all_goals rfl

theorem readOf_limited {path : Path} {limit : Nat} (hp : path ≠ .legacyCustom) (hm : limit < maxInt64) (data : Bytes) (bad : Bool) :
    readOf path limit data bad = (data.take (limit + 1), bad && decide (data.length ≤ limit)) := by
  rw [readOf, if_neg hp, limitedRead, if_pos hm]

theorem readOf_le (path : Path) (limit : Nat) (data : Bytes) (bad : Bool) :
    ((readOf path limit data bad).1.length ≤ limit ↔ data.length ≤ limit)
    ∧ (data.length ≤ limit → readOf path limit data bad = (data, bad)) := by
  unfold readOf limitedRead
  split
  · exact ⟨Iff.rfl, fun _ => rfl⟩
  · split
    · refine ⟨by rw [List.length_take]; omega, fun h => ?_⟩
      rw [List.take_of_length_le (Nat.le_succ_of_le h)]; simp [h]
    · exact ⟨Iff.rfl, fun _ => rfl⟩

theorem decompress_ok_iff (path : Path) (dec : Decomp) (limit : Nat) (d out : Bytes) :
    (decompress path dec limit d).1 = .ok out ↔ path ≠ .none ∧ dec d = some (out, false) ∧ out.length ≤ limit := by
  constructor
  · intro h
    have hp : path ≠ .none := by rintro rfl; cases h
    cases hd : dec d with
    | none => rw [decompress_none hd] at h; cases h
    | some p =>
      obtain ⟨data, bad⟩ := p
      rw [decompress_some path dec limit d data bad hp hd, sized_ok] at h
      obtain ⟨hle, heq⟩ := readOf_le path limit data bad
      have hl := hle.mp h.2.1
      rw [heq hl] at h
      obtain ⟨rfl, _, rfl⟩ := h
      exact ⟨hp, rfl, hl⟩
  · rintro ⟨hp, hd, hl⟩
    rw [decompress_some path dec limit d out false hp hd, sized_ok, (readOf_le path limit out false).2 hl]
    exact ⟨rfl, hl, rfl⟩

theorem decompress_oversize (path : Path) (dec : Decomp) (limit : Nat) (d data : Bytes) (bad : Bool)
    (hp : path ≠ .none) (hm : limit < maxInt64) (hd : dec d = some (data, bad)) (hl : limit < data.length)
    (hb : path = .legacyCustom → bad = false) :
    (decompress path dec limit d).1 = .error .resourceExhausted := by
  have hlen := mt (readOf_le path limit data bad).1.mp (Nat.not_le.mpr hl)
  have hbad : (readOf path limit data bad).2 = false := by
    by_cases hc : path = .legacyCustom
    · rw [readOf, if_pos hc]; exact hb hc
    · rw [readOf_limited hc hm]; simp [Nat.not_le.mpr hl]
  rw [decompress_some path dec limit d data bad hp hd, sized, hbad]
  simp [Nat.not_le.mp hlen]

theorem decompress_mat (path : Path) (dec : Decomp) (limit : Nat) (d : Bytes)
    (hp : path = .newApi ∨ path = .legacyGzip) (hm : limit < maxInt64) :
    (decompress path dec limit d).2 ≤ limit + 1 := by
  have hp' : path ≠ .none ∧ path ≠ .legacyCustom := by rcases hp with rfl | rfl <;> exact ⟨nofun, nofun⟩
  cases hd : dec d with
  | none => rw [decompress_none hd]; exact Nat.zero_le _
  | some p =>
    rw [decompress_some path dec limit d p.1 p.2 hp'.1 hd, sized_mat, readOf_limited hp'.2 hm, List.length_take]
    exact Nat.min_le_left _ _

/-- `recvAndDecompress` as a function of what `recvMsg` returned. -/
def afterRecv (cfg : Cfg) (dec : Decomp) : Except Err (Nat × Bytes) × Bytes → Out
  | (.error e, rest) => ⟨.error e, rest, 0⟩
  | (.ok (pf, compressed), rest) =>
    match checkRecvPayload pf cfg.rc (cfg.path != .none) cfg.isServer with
    | some e => ⟨.error e, rest, 0⟩
    | none =>
      if pf = compressionMade then
        ⟨(decompress cfg.path dec cfg.limit compressed).1, rest, (decompress cfg.path dec cfg.limit compressed).2⟩
      else ⟨.ok compressed, rest, 0⟩

theorem recvAD_def (cfg : Cfg) (dec : Decomp) (s : Bytes) :
    recvAndDecompress cfg dec s = afterRecv cfg dec (recvMsg cfg.limit s) := by
  unfold recvAndDecompress afterRecv
  rfl

theorem afterRecv_rest (cfg : Cfg) (dec : Decomp) (r : Except Err (Nat × Bytes) × Bytes) :
    (afterRecv cfg dec r).rest = r.2 := by
  unfold afterRecv  -- each of its answers passes the rest of the stream on
  repeat' split
  all_goals rfl

theorem afterRecv_mat (cfg : Cfg) (dec : Decomp) (r : Except Err (Nat × Bytes) × Bytes) :
    (afterRecv cfg dec r).mat = 0 ∨ ∃ d, (afterRecv cfg dec r).mat = (decompress cfg.path dec cfg.limit d).2 := by
  unfold afterRecv
  split
  · exact .inl rfl
  · split
    · exact .inl rfl
    · split
      · exact .inr ⟨_, rfl⟩
      · exact .inl rfl

theorem afterRecv_ok (cfg : Cfg) (dec : Decomp) (pf : Nat) (payload rest out : Bytes)
    (h : (afterRecv cfg dec (.ok (pf, payload), rest)).res = .ok out) :
    (pf = 0 ∧ out = payload)
    ∨ (pf = 1 ∧ Usable cfg ∧ dec payload = some (out, false) ∧ out.length ≤ cfg.limit) := by
  simp only [afterRecv] at h
  split at h
  · cases h
  · rename_i hc
    split at h
    · rename_i hpf
      subst hpf
      have hinv := (decompress_ok_iff cfg.path dec cfg.limit payload out).mp h
      refine Or.inr ⟨rfl, ⟨hinv.1, Decidable.byContradiction fun hne => ?_⟩, hinv.2⟩
      have := check_made_unusable cfg.rc (cfg.path != .none) cfg.isServer (Or.inl hne)
      rw [show checkRecvPayload 1 = checkRecvPayload compressionMade from rfl, hc] at this
      cases this
    · rename_i hpf
      refine Or.inl ⟨Decidable.byContradiction fun hz => ?_, by injection h with h; exact h.symm⟩
      rw [check_unknown pf _ _ _ hz hpf] at hc
      cases hc

theorem recv_complete (cfg : Cfg) (dec : Decomp) (b0 : UInt8) (payload rest : Bytes)
    (h32 : payload.length < 4294967296) (hw : payload.length ≤ cfg.limit) :
    recvAndDecompress cfg dec (b0 :: (be32 payload.length ++ payload) ++ rest)
      = afterRecv cfg dec (.ok (b0.toNat, payload), rest) := by
  rw [List.cons_append, List.append_assoc, recvAD_def, recvMsg_header _ b0 _ h32, if_neg (Nat.not_lt.mpr hw),
    if_neg (by simp), List.take_left' rfl, List.drop_left' rfl]


theorem afterRecv_made (cfg : Cfg) (dec : Decomp) (payload rest : Bytes) (hu : Usable cfg) :
    afterRecv cfg dec (.ok ((1 : UInt8).toNat, payload), rest)
      = ⟨(decompress cfg.path dec cfg.limit payload).1, rest,
          (decompress cfg.path dec cfg.limit payload).2⟩ := by
  have hp : (cfg.path != Path.none) = true := by cases hc : cfg.path <;> simp_all [Usable]
  simp only [afterRecv, show (1 : UInt8).toNat = 1 from rfl, hu.2, hp, check_made_usable,
    compressionMade, if_true]

theorem recv_frame (cfg : Cfg) (dec : Decomp) (f : Bytes → Bytes) (c : Bool) (m rest : Bytes)
    (hinv : dec (f m) = some (m, false)) (huse : c = true → m ≠ [] → Usable cfg)
    (hm : m.length ≤ cfg.limit) (hw : c = true → (f m).length ≤ cfg.limit)
    (h32 : m.length < 4294967296 ∧ (f m).length < 4294967296) :
    (recvAndDecompress cfg dec (frame (if c then some f else none) m ++ rest)).res = .ok m ∧
    (recvAndDecompress cfg dec (frame (if c then some f else none) m ++ rest)).rest = rest := by
  rcases frame_cases (if c then some f else none) m with ⟨hf, _⟩ | ⟨g, hg, hne, hf⟩ <;> rw [hf]
  · rw [recv_complete cfg dec 0 m rest h32.1 hm]
    simp [afterRecv, show (0 : UInt8).toNat = 0 from rfl, check_none, compressionMade]
  · obtain ⟨rfl, rfl⟩ : c = true ∧ f = g := by cases c <;> simp_all
    have hu := huse rfl hne
    rw [recv_complete cfg dec 1 (f m) rest h32.2 (hw rfl), afterRecv_made cfg dec _ _ hu]
    exact ⟨(decompress_ok_iff cfg.path dec cfg.limit (f m) m).mpr ⟨hu.1, hinv, hm⟩, rfl⟩

end GrpcProofs.Lemmas.Framing
