/-
Helper lemmas for C34, address pre-processing (deDupAddresses, interleaveAddresses).
-/
import GrpcModel.Model.PickFirst
namespace GrpcProofs.Lemmas.PickFirstAddr
open GrpcModel.PickFirst

theorem deDupAux_spec (seen l : List Addr) :
    (deDupAux seen l).Nodup ∧ (∀ a, a ∈ deDupAux seen l ↔ a ∈ l ∧ a ∉ seen) ∧ (deDupAux seen l).Sublist l := by
  fun_induction deDupAux seen l with
  | case1 => simp
  | case2 seen x t hx ih =>
    -- `x` was seen: dropped
    obtain ⟨h1, h2, h3⟩ := ih
    refine ⟨h1, ?_, h3.trans (List.sublist_cons_self x t)⟩
    intro a; rw [h2]
    constructor
    · rintro ⟨ha, hs⟩; exact ⟨List.mem_cons_of_mem _ ha, hs⟩
    · rintro ⟨ha, hs⟩
      rcases List.mem_cons.mp ha with rfl | ha
      · exact absurd hx hs
      · exact ⟨ha, hs⟩
  | case3 seen x t hx ih =>
    -- `x` is new: kept, and seen from here on
    obtain ⟨h1, h2, h3⟩ := ih
    refine ⟨?_, ?_, h3.cons_cons x⟩
    · rw [List.nodup_cons]
      refine ⟨?_, h1⟩
      intro hm; have := (h2 x).mp hm; simp at this
    · intro a
      simp only [List.mem_cons, h2]
      constructor
      · rintro (rfl | ⟨ha, hs⟩)
        · exact ⟨Or.inl rfl, hx⟩
        · exact ⟨Or.inr ha, fun h => hs (Or.inr h)⟩
      · rintro ⟨rfl | ha, hs⟩
        · exact Or.inl rfl
        · by_cases hax : a = x
          · exact Or.inl hax
          · exact Or.inr ⟨ha, by rintro (h | h); exact hax h; exact hs h⟩

abbrev famIs (g : Fam) : Addr → Bool := fun a => decide (a.fam = g)

theorem takeFam_some (f : Fam) (l : List Addr) (a : Addr) (r : List Addr) (h : takeFam f l = some (a, r)) :
    a.fam = f ∧ l.Perm (a :: r) ∧ (∀ g, l.filter (famIs g) = if f = g then a :: r.filter (famIs g) else r.filter (famIs g)) ∧
    r.length + 1 = l.length := by
  fun_induction takeFam f l generalizing a r with
  | case1 => cases h
  | case2 x t hx =>
    -- the head is of family `f`
    cases h
    refine ⟨hx, List.Perm.refl _, ?_, rfl⟩
    intro g
    by_cases hg : f = g
    · subst hg; simp [famIs, hx]
    · have : ¬ x.fam = g := by rw [hx]; exact hg
      simp [famIs, hg, this]
  | case3 x t hx y r' ht ih =>
    -- the tail gives `y`, the head goes back in front of what remains
    cases h
    obtain ⟨h1, h2, h3, h4⟩ := ih y r' ht
    refine ⟨h1, ?_, ?_, by simp; omega⟩
    · exact (List.Perm.cons x h2).trans (List.Perm.swap y x r')
    · intro g
      simp only [List.filter_cons, h3 g]
      by_cases hg : f = g
      · subst hg; simp [famIs, hx]
      · simp only [hg, if_false]
  | case4 x t hx ht => cases h

theorem takeFam_none (f : Fam) (l : List Addr) (h : takeFam f l = none) : ∀ a ∈ l, a.fam ≠ f := by
  fun_induction takeFam f l with
  | case1 => simp
  | case2 => cases h   -- the head is of family `f`
  | case3 => cases h   -- the tail has one
  | case4 x t hx ht ih =>
    intro a ha
    rcases List.mem_cons.mp ha with rfl | ha
    · exact hx
    · exact ih ht a ha

theorem round_spec (order : List Fam) (rest : List Addr) :
    rest.Perm ((round order rest).1 ++ (round order rest).2) ∧
    (∀ g, rest.filter (famIs g) = (round order rest).1.filter (famIs g) ++ (round order rest).2.filter (famIs g)) := by
  fun_induction round order rest with
  | case1 => simp
  | case2 f fs rest a rest' ht t r hr ih =>
    -- `f` gives `a`; the other families go on with what remains
    rw [hr] at ih
    obtain ⟨h1, h2, h3, _⟩ := takeFam_some f rest a rest' ht
    obtain ⟨i1, i2⟩ := ih
    refine ⟨h2.trans (List.Perm.cons a i1), ?_⟩
    intro g
    rw [h3 g]
    simp only [List.filter_cons]
    by_cases hg : f = g
    · subst hg; simp [famIs, h1, i2]
    · have : ¬ a.fam = g := by rw [h1]; exact hg
      simp [famIs, hg, this, i2]
  | case3 f fs rest ht ih => exact ih

theorem round_progress (order : List Fam) (rest : List Addr) (a : Addr) (ha : a ∈ rest) (hf : a.fam ∈ order) :
    (round order rest).2.length < rest.length := by
  fun_induction round order rest generalizing a with
  | case1 => simp at hf
  | case2 f fs rest x rest' ht t r hr =>
    -- one address placed: whatever the other families do, less remains
    obtain ⟨_, _, _, h4⟩ := takeFam_some f rest x rest' ht
    have := (round_spec fs rest').1.length_eq
    simp only [hr, List.length_append] at this
    simp only; omega
  | case3 f fs rest ht ih =>
    -- `f` ran out, so `a` is of a later family
    have hn := takeFam_none f rest ht a ha
    rcases List.mem_cons.mp hf with h | h
    · exact absurd h hn
    · exact ih a ha h

theorem loop_spec (order : List Fam) (fuel : Nat) (rest : List Addr) (hfuel : rest.length ≤ fuel)
    (hord : ∀ a ∈ rest, a.fam ∈ order) :
    (interleaveLoop order fuel rest).Perm rest ∧
    ∀ g, (interleaveLoop order fuel rest).filter (famIs g) = rest.filter (famIs g) := by
  fun_induction interleaveLoop order fuel rest with
  | case1 rest =>
    have : rest = [] := List.eq_nil_of_length_eq_zero (by omega)
    subst this; simp
  | case2 fuel rest he => simp [List.isEmpty_iff.mp he]
  | case3 fuel rest he t r hr ih =>
    -- a cycle places at least one address, so the fuel lasts for what remains
    obtain ⟨x, hx⟩ := List.exists_mem_of_ne_nil rest (by simpa using he)
    have hp := round_progress order rest x hx (hord x hx)
    obtain ⟨r1, r2⟩ := round_spec order rest
    rw [hr] at hp r1 r2
    obtain ⟨i1, i2⟩ := ih (by simp only at hp; omega) fun a ha => hord a (r1.mem_iff.mpr (List.mem_append_right _ ha))
    refine ⟨(List.Perm.append_left _ i1).trans r1.symm, ?_⟩
    intro g
    rw [List.filter_append, i2 g, r2 g]

theorem famOrder_mem (l : List Addr) (a : Addr) (ha : a ∈ l) : a.fam ∈ famOrder l := by
  induction l with
  | nil => simp at ha
  | cons x t ih =>
    simp only [famOrder, List.mem_cons]
    by_cases h : a.fam = x.fam
    · exact Or.inl h
    · right
      rcases List.mem_cons.mp ha with rfl | ha
      · exact absurd rfl h
      · exact List.mem_filter.mpr ⟨ih ha, by simpa using h⟩

theorem interleave_spec (l : List Addr) :
    (interleave l).Perm l ∧ ∀ g, (interleave l).filter (famIs g) = l.filter (famIs g) :=
  loop_spec (famOrder l) l.length l (Nat.le_refl _) (fun a ha => famOrder_mem l a ha)

theorem interleave_head (l : List Addr) : (interleave l).head? = l.head? := by
  cases l with
  | nil => rfl
  | cons x t =>
    simp only [interleave, List.length_cons, interleaveLoop, List.isEmpty_cons, Bool.false_eq_true, if_false,
      famOrder, round, takeFam, if_true]
    rfl

theorem preprocess_ne_nil {raw : List Addr} (h : raw ≠ []) : preprocess raw ≠ [] := by
  intro he
  have hd : deDup raw = [] := ((interleave_spec (deDup raw)).1.symm.trans (he ▸ .refl _)).eq_nil
  cases raw with
  | nil => exact h rfl
  | cons a t => simp [deDup, deDupAux] at hd

end GrpcProofs.Lemmas.PickFirstAddr
