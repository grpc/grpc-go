/-
Lookup: each loop of `lookup` is the corresponding filter of `Spec` (`bestLoop_eq`, `filter_exactOrWild`,
`select_eq_byPort`), so on a table with distinct keys and masked prefixes lookup is the stage-wise narrowing
(`lookup_eq_select`).  Builder: one invariant, `Inv P` for any predicate `P` on leaves (`build_inv`); its plain loops
keep it by `loop_inv`.
-/
import GrpcModel.Model.FilterChain
import GrpcProofs.Lemmas.Basic
namespace GrpcProofs.Lemmas.FilterChain
open GrpcModel.FilterChain GrpcModel.Generated

theorem noPrefixMatch_eq : fcNoPrefixMatch = -2 := by decide
theorem unspecifiedPrefixMatch_eq : fcUnspecifiedPrefixMatch = -1 := by decide
theorem stAny_eq : stAny = 0 := by decide
theorem stSame_eq : stSame = 1 := by decide
theorem stExternal_eq : stExternal = 2 := by decide

def leOpt (o : Option Int) (m : Int) : Bool := match o with
  | none => true
  | some k => decide (k ≤ m)

def allLe (f : Slot → Option Int) (l : List Slot) (m : Int) : Bool := l.all fun s' => leOpt (f s') m

/-- What `bestLoop`, started at maximum `mx`, appends from `l`: `s` has a size, at least `mx`, that no size in `l`
    exceeds. -/
def keep (f : Slot → Option Int) (l : List Slot) (mx : Int) (s : Slot) : Bool := match f s with
  | none => false
  | some m => decide (mx ≤ m) && allLe f l m

theorem allLe_cons (f : Slot → Option Int) (s : Slot) (rest : List Slot) (m : Int) :
    allLe f (s :: rest) m = (leOpt (f s) m && allLe f rest m) := rfl

theorem keep_cons_none (f : Slot → Option Int) (s : Slot) (rest : List Slot) (mx : Int) (hs : f s = none) :
    keep f (s :: rest) mx = keep f rest mx := by
  funext x
  simp only [keep, allLe_cons, hs, leOpt, Bool.true_and]

theorem keep_cons_some (f : Slot → Option Int) (s : Slot) (rest : List Slot) (mx m : Int) (hs : f s = some m) :
    keep f (s :: rest) mx = keep f rest (max mx m) := by
  funext x
  unfold keep
  cases f x with
  | none => rfl
  | some k => simp [allLe_cons, leOpt, hs, Int.max_le, Bool.and_assoc]

/-- what the loop returns, written without a loop: the accumulator survives as long as nothing in `l` exceeds
    the running maximum `mx`; of `l` the loop adds what `keep` keeps -/
theorem bestLoop_eq (f : Slot → Option Int) : ∀ (l : List Slot) (mx : Int) (acc : List Slot),
    bestLoop f l mx acc = (if allLe f l mx then acc else []) ++ l.filter (keep f l mx)
  | [], mx, acc => by simp [bestLoop, allLe]
  | s :: rest, mx, acc => by
    rw [bestLoop, List.filter_cons, allLe_cons]
    cases hf : f s with
    | none => simp [bestLoop_eq f rest, leOpt, keep, hf, keep_cons_none]
    | some m =>
      rw [keep_cons_some f s rest mx m hf]
      simp only [keep, hf, leOpt]
      rcases Int.lt_trichotomy m mx with h | h | h
      · have h1 : max mx m = mx := by omega
        have h2 : ¬ mx ≤ m := by omega
        simp [h, h1, h2, bestLoop_eq f rest, Int.le_of_lt h]
      · subst h
        simp [bestLoop_eq f rest]
        cases allLe f rest m <;> simp
      · have h1 : max mx m = m := by omega
        have h2 : ¬ m < mx := by omega
        have h3 : ¬ m ≤ mx := by omega
        simp [h, h1, h2, h3, bestLoop_eq f rest]
        cases allLe f rest m <;> simp

/-- `hf`: every match size is at least `unspecifiedPrefixMatch` (= -1), so the start value `noPrefixMatch` (= -2)
    excludes nothing. -/
theorem best_eq_mostSpecific (f : Slot → Option Int) (l : List Slot)
    (hf : ∀ s m, f s = some m → -1 ≤ m) : best f l = Spec.mostSpecific f l := by
  unfold best Spec.mostSpecific
  rw [bestLoop_eq, noPrefixMatch_eq]
  simp only [List.nil_append, ite_self]
  refine List.filter_congr fun x _ => ?_
  simp only [keep]
  cases hx : f x with
  | none => rfl
  | some m =>
    have h2 : (-2 : Int) ≤ m := by have := hf x m hx; omega
    simp only [h2, decide_true, Bool.true_and, allLe]
    congr 1

theorem mem_mostSpecific (f : Slot → Option Int) (l : List Slot) (s : Slot) :
    s ∈ Spec.mostSpecific f l ↔
      s ∈ l ∧ ∃ m, f s = some m ∧ ∀ s' ∈ l, ∀ k, f s' = some k → k ≤ m := by
  unfold Spec.mostSpecific
  rw [List.mem_filter]
  refine and_congr_right fun _ => ?_
  cases f s with
  | none => simp
  | some m =>
    simp only [List.all_eq_true, Option.some.injEq, exists_eq_left']
    refine forall₂_congr fun s' _ => ?_
    cases f s' <;> simp

theorem mostSpecific_same_size (f : Slot → Option Int) (l : List Slot) (a b : Slot)
    (ha : a ∈ Spec.mostSpecific f l) (hb : b ∈ Spec.mostSpecific f l) :
    ∃ m, f a = some m ∧ f b = some m := by
  obtain ⟨hal, ma, hma, halla⟩ := (mem_mostSpecific f l a).mp ha
  obtain ⟨hbl, mb, hmb, hallb⟩ := (mem_mostSpecific f l b).mp hb
  obtain rfl : ma = mb := Int.le_antisymm (hallb a hal ma hma) (halla b hbl mb hmb)
  exact ⟨ma, hma, hmb⟩

theorem matchSize_ge (p : Pfx) (ip : IP) (m : Int) (h : matchSize p ip = some m) : -1 ≤ m := by
  cases p <;> simp [matchSize, unspecifiedPrefixMatch_eq] at h <;> omega

def Masked : Pfx → Prop
  | .unspec => True
  | .v4 a n => n ≤ 32 ∧ maskTop a n = a
  | .v6 a n => n ≤ 128 ∧ maskTop a n = a

theorem shl_shr_cancel {w : Nat} (a : BitVec w) (k : Nat) : ((a >>> k) <<< k) >>> k = a >>> k := by
  apply BitVec.eq_of_getLsbD_eq
  intro i hi
  rw [BitVec.getLsbD_ushiftRight, BitVec.getLsbD_shiftLeft, BitVec.getLsbD_ushiftRight, BitVec.getLsbD_ushiftRight]
  have e : k + i - k = i := by omega
  rw [e]
  by_cases h : k + i < w
  · have : ¬ k + i < k := by omega
    simp [h, this]
  · have : a.getLsbD (k + i) = false := BitVec.getLsbD_of_ge a _ (by omega)
    simp [this]

theorem maskTop_idem {w : Nat} (a : BitVec w) (n : Nat) : maskTop (maskTop a n) n = maskTop a n := by
  unfold maskTop
  rw [shl_shr_cancel]

theorem parsePrefix_masked (r : RawCidr) (p : Pfx) (h : parsePrefix r = some p) : Masked p := by
  cases r with
  | bad => cases h
  | v4 a len =>
    simp only [parsePrefix, Option.ite_none_right_eq_some, Option.some.injEq] at h
    obtain ⟨hl, rfl⟩ := h
    exact ⟨hl, maskTop_idem a len⟩
  | v6 a len =>
    simp only [parsePrefix] at h
    split at h <;> simp only [Option.ite_none_right_eq_some, Option.some.injEq] at h <;> obtain ⟨hl, rfl⟩ := h <;>
      exact ⟨hl, maskTop_idem _ len⟩

theorem parseList_masked : ∀ (rs : List RawCidr) (ps : List Pfx), parseList rs = some ps → ∀ p ∈ ps, Masked p
  | [], ps, h => by cases h; simp
  | r :: rs, ps, h => by
    rw [parseList] at h
    cases hp : parsePrefix r with
    | none => simp [hp] at h
    | some p0 =>
      cases hl : parseList rs with
      | none => simp [hp, hl] at h
      | some ps0 =>
        obtain rfl : p0 :: ps0 = ps := by simpa [hp, hl] using h
        exact List.forall_mem_cons.mpr ⟨parsePrefix_masked r p0 hp, parseList_masked rs ps0 hl⟩

theorem parsePrefixes_masked {rs : List RawCidr} {p : Pfx} (h : ∃ ps, parsePrefixes rs = some ps ∧ p ∈ ps) :
    Masked p := by
  obtain ⟨ps, h, hp⟩ := h
  unfold parsePrefixes at h
  cases hl : parseList rs with
  | none => simp [hl] at h
  | some l =>
    rw [hl] at h
    cases l with
    | nil => cases h; simp_all [Masked]
    | cons q l => cases h; exact parseList_masked rs _ hl p hp

theorem masked_eq_of_contains {w : Nat} (a a' b : BitVec w) (n : Nat) (ha : maskTop a n = a) (ha' : maskTop a' n = a')
    (h : (a ^^^ b) >>> (w - n) = 0#w) (h' : (a' ^^^ b) >>> (w - n) = 0#w) : a = a' := by
  rw [BitVec.ushiftRight_xor_distrib, BitVec.xor_eq_zero_iff] at h h'
  rw [← ha, ← ha', maskTop, maskTop, h, h']

/-- `size a` is what `matchSize (.v4 a n) (.v4 b)` (at `w` = 32) and `matchSize (.v6 a n) (.v6 b)` (at 128) unfold to. -/
theorem prefixSize_spec {w : Nat} (a b : BitVec w) (n : Nat) (hn : n ≤ w) :
    let size := fun a : BitVec w => if ((a ^^^ b) >>> (w - n) == 0#w) = true then some (n : Int) else none
    (size a = some (n : Int) ↔ ∀ i, i < n → a.getMsbD i = b.getMsbD i)
    ∧ (size a = none ↔ ¬ ∀ i, i < n → a.getMsbD i = b.getMsbD i)
    ∧ size (maskTop a n) = size a := by
  intro size
  have hmask : ((maskTop a n ^^^ b) >>> (w - n) == 0#w) = ((a ^^^ b) >>> (w - n) == 0#w) := by
    rw [Bool.eq_iff_iff, Basic.contains_iff_shr, Basic.contains_iff_shr, maskTop, shl_shr_cancel]
  rw [← Basic.shift_xor_zero_iff a b n hn]
  simp only [size, hmask]
  cases ((a ^^^ b) >>> (w - n) == 0#w) <;> simp

theorem masked_same_size_eq (p q : Pfx) (ip : IP) (m : Int) (hp : Masked p) (hq : Masked q)
    (h1 : matchSize p ip = some m) (h2 : matchSize q ip = some m) : p = q := by
  cases p <;> cases q <;> cases ip <;>
    simp only [matchSize, Pfx.contains, unspecifiedPrefixMatch_eq, BitVec.ofNat_eq_ofNat, beq_iff_eq,
      Option.ite_none_right_eq_some, Option.some.injEq, Bool.false_eq_true, false_and] at h1 h2
  -- left: twice the unspecified prefix; one unspecified (size -1) and one /n prefix; two prefixes of the
  -- address's family
  case unspec.unspec.v4 | unspec.unspec.v6 => rfl
  case unspec.v4.v4 | unspec.v6.v6 | v4.unspec.v4 | v6.unspec.v6 => omega
  case v4.v4.v4 a n a' n' b =>
    obtain rfl : n = n' := by omega
    rw [masked_eq_of_contains a a' b n hp.2 hq.2 h1.1 h2.1]
  case v6.v6.v6 a n a' n' b =>
    obtain rfl : n = n' := by omega
    rw [masked_eq_of_contains a a' b n hp.2 hq.2 h1.1 h2.1]

def SameKey (a b : Slot) : Prop := a.dst = b.dst ∧ a.st = b.st ∧ a.src = b.src ∧ a.port = b.port

/-- slot `x` is one (destination prefix, source type, source prefix, port) combination of chain `c`, and `c`
    uses no unsupported match field -/
structure FromChain (c : ChainCfg) (x : Slot) : Prop where
  dstPort : c.dstPort = false
  serverNames : c.serverNames = false
  tp : c.tp < 2
  alpn : c.alpn = false
  srcType : c.srcType < 3
  st : x.st = c.srcType
  dst : ∃ ds, parsePrefixes c.dst = some ds ∧ x.dst ∈ ds
  src : ∃ ss, parsePrefixes c.src = some ss ∧ x.src ∈ ss
  port : x.port ∈ portKeys c.ports

/-- The invariant of the builder.  Each level of the builder keeps it provided the leaves it may add satisfy `P`;
    leaves are only ever added by `addPorts`, after the overlap check, and only ever removed wholesale. -/
structure Inv (P : Slot → Prop) (t : Table) : Prop where
  keys : t.slots.Pairwise fun a b => ¬ SameKey a b
  leaves : ∀ x ∈ t.slots, P x

theorem addPorts_inv (P : Slot → Prop) (d : Pfx) (st : Nat) (s : Pfx) (id : Nat) :
    ∀ (ps : List Nat) (t t' : Table), addPorts d st s id ps t = .ok t' → (∀ p ∈ ps, P ⟨d, st, s, p, id⟩) →
      Inv P t → Inv P t'
  | [], t, t', h, _, hi => by cases h; exact hi
  | p :: ps, t, t', h, hP, hi => by
    rw [addPorts] at h
    by_cases hany : t.slots.any (sameKey d st s p) = true
    · rw [if_pos hany] at h; cases h
    · rw [if_neg hany] at h
      obtain ⟨hPp, hPps⟩ := List.forall_mem_cons.mp hP
      refine addPorts_inv P d st s id ps _ t' h hPps
        ⟨List.pairwise_append.mpr ⟨hi.keys, List.pairwise_singleton _ _, ?_⟩, ?_⟩
      · intro a ha b hb hk
        rw [List.mem_singleton.mp hb] at hk
        obtain ⟨hkd, hkst, hks, hkp⟩ := hk
        exact hany (List.any_eq_true.mpr ⟨a, ha, by simp [sameKey, hkd, hkst, hks, hkp]⟩)
      · intro x hx
        rcases List.mem_append.mp hx with hx | hx
        · exact hi.leaves x hx
        · rw [List.mem_singleton.mp hx]; exact hPp

/-- The builder's loops over a list stop at the first error (`loop` is the recursive function, `step` the call in
    its body, `i` counts the turns): a loop keeps what each of its turns keeps.  State and error type are the
    builder's, not variables: then the `match` of `hcons` is the very one its loops are written with, and `hcons`
    holds by `rfl`. -/
theorem loop_inv {α : Type} {step : α → Nat → Table → Except BuildErr Table}
    {loop : List α → Nat → Table → Except BuildErr Table} (hnil : ∀ i t, loop [] i t = .ok t)
    (hcons : ∀ a l i t, loop (a :: l) i t =
      match step a i t with | .error e => .error e | .ok t' => loop l (i + 1) t')
    {I : Table → Prop} {l : List α} (i : Nat) {t t' : Table} (h : loop l i t = .ok t')
    (hstep : ∀ k a, l[k]? = some a → ∀ t t', step a (i + k) t = .ok t' → I t → I t') (hi : I t) : I t' := by
  induction l generalizing i t with
  | nil => rw [hnil] at h; cases h; exact hi
  | cons a l ih =>
    rw [hcons] at h
    cases hp : step a i t with
    | error e => simp [hp] at h
    | ok t1 =>
      rw [hp] at h
      exact ih (i + 1) h (fun k b hk => by rw [Nat.add_assoc, Nat.add_comm 1 k]; exact hstep (k + 1) b hk)
        (hstep 0 a rfl t t1 hp hi)

theorem addForDst_inv (P : Slot → Prop) (c : ChainCfg) (id : Nat) (d : Pfx) (t t' : Table)
    (h : addForDst c id d t = .ok t') (hdp : c.dstPort = false) (hd : ∃ ds, parsePrefixes c.dst = some ds ∧ d ∈ ds)
    (hP : ∀ x, FromChain c x → x.chain = id → P x) (hi : Inv P t) : Inv P t' := by
  rw [addForDst] at h
  by_cases hsn : c.serverNames = true
  · rw [if_pos hsn] at h; cases h; exact hi
  by_cases htp : c.tp ≥ 2
  · rw [if_neg hsn, if_pos htp] at h; cases h; exact hi
  by_cases hraw : c.tp = 0 ∧ t.rawSeen.contains d = true
  · rw [if_neg hsn, if_neg htp, if_pos hraw] at h; cases h; exact hi
  rw [if_neg hsn, if_neg htp, if_neg hraw] at h
  -- `t0`: the table the rest works on, `t` with the entry of `d` wiped or not
  extract_lets t0 at h
  have hi0 : Inv P t0 := by
    unfold t0
    split
    · exact ⟨hi.keys.filter _, fun x hx => hi.leaves x (List.mem_filter.mp hx).1⟩
    · exact hi
  clear_value t0
  by_cases halpn : c.alpn = true
  · rw [if_pos halpn] at h; cases h; exact hi0
  by_cases hst : c.srcType ≥ 3
  · rw [if_neg halpn, if_pos hst] at h; cases h
  rw [if_neg halpn, if_neg hst] at h
  cases hss : parsePrefixes c.src with
  | none => rw [hss] at h; cases h
  | some ss =>
  rw [hss] at h
  refine loop_inv (loop := fun ss _ => addSrcs d c.srcType id c.ports ss) (fun _ _ => rfl) (fun _ _ _ _ => rfl) 0 h
    (fun _ s hs t1 t2 h1 => addPorts_inv P d c.srcType s id _ t1 t2 h1 fun p hp => hP _ ?_ rfl) hi0
  exact { dstPort := hdp, serverNames := by simpa using hsn, tp := by omega, alpn := by simpa using halpn,
          srcType := by omega, st := rfl, dst := hd, src := ⟨ss, hss, List.mem_of_getElem? hs⟩, port := hp }

theorem addChain_inv (P : Slot → Prop) (c : ChainCfg) (id : Nat) (t t' : Table) (h : addChain c id t = .ok t')
    (hP : ∀ x, FromChain c x → x.chain = id → P x) (hi : Inv P t) : Inv P t' := by
  unfold addChain at h
  cases hdp : c.dstPort with
  | true => simp only [hdp, if_true] at h; cases h; exact hi
  | false =>
    cases hds : parsePrefixes c.dst with
    | none => simp [hdp, hds] at h
    | some ds =>
      simp only [hdp, hds, Bool.false_eq_true, if_false] at h
      exact loop_inv (loop := fun ds _ => addDsts c id ds) (fun _ _ => rfl) (fun _ _ _ _ => rfl) 0 h
        (fun _ d hd t1 t2 h1 => addForDst_inv P c id d t1 t2 h1 hdp ⟨ds, hds, List.mem_of_getElem? hd⟩ hP) hi

/-- **What validation establishes**: no two leaves share a key, and whatever holds of every combination of
    match criteria of every chain holds of every leaf. -/
theorem build_inv (P : Slot → Prop) (hasDefault : Bool) (cs : List ChainCfg) (t : Table)
    (h : build hasDefault cs = .ok t) (hP : ∀ x c, cs[x.chain]? = some c → FromChain c x → P x) : Inv P t := by
  unfold build at h
  cases hp : addChains cs 0 ⟨[], []⟩ with
  | error e => simp [hp] at h
  | ok t1 =>
    simp only [hp] at h
    split at h <;> cases h
    exact loop_inv (loop := addChains) (fun _ _ => rfl) (fun _ _ _ _ => rfl) 0 hp
      (fun k c hk t1 t2 h1 => addChain_inv P c (0 + k) t1 t2 h1 fun x hx hc =>
        hP x c (by rw [hc, Nat.zero_add]; exact hk) hx)
      ⟨List.Pairwise.nil, fun _ hx => nomatch hx⟩

/-- what lookup needs of a table: distinct keys, and every prefix masked -/
abbrev WF (t : Table) : Prop := Inv (fun s => Masked s.dst ∧ Masked s.src) t

theorem build_wf (hasDefault : Bool) (cs : List ChainCfg) (t : Table) (h : build hasDefault cs = .ok t) : WF t :=
  build_inv _ hasDefault cs t h fun _ _ _ hx => ⟨parsePrefixes_masked hx.dst, parsePrefixes_masked hx.src⟩

theorem build_sound (hasDefault : Bool) (cs : List ChainCfg) (t : Table) (h : build hasDefault cs = .ok t) :
    ∀ x ∈ t.slots, ∃ c, cs[x.chain]? = some c ∧ FromChain c x :=
  (build_inv _ hasDefault cs t h fun _ c hc hx => ⟨c, hc, hx⟩).leaves

theorem filter_exactOrWild (key : Slot → Nat) (v w : Nat) (l : List Slot) :
    l.filter (fun s => key s == v || (key s == w && l.all (key · != v))) =
      if l.any (key · == v) then l.filter (key · == v) else l.filter (key · == w) := by
  have hall : l.all (key · != v) = !l.any (key · == v) := List.not_any_eq_all_not.symm
  rw [hall]
  cases h : l.any (key · == v)
  · refine List.filter_congr fun x hx => ?_
    have : ¬ (key x == v) = true := fun hx' => by
      rw [List.any_eq_false] at h; exact h x hx hx'
    simp [this]
  · simp

theorem exactOrWild_same_key (key : Slot → Nat) (v w : Nat) (l : List Slot) (a b : Slot)
    (ha : a ∈ l.filter (fun s => key s == v || (key s == w && l.all (key · != v))))
    (hb : b ∈ l.filter (fun s => key s == v || (key s == w && l.all (key · != v)))) : key a = key b := by
  rw [filter_exactOrWild] at ha hb
  cases h : l.any (key · == v) <;>
    simp only [h, Bool.false_eq_true, ↓reduceIte, List.mem_filter, beq_iff_eq] at ha hb <;> rw [ha.2, hb.2]

theorem srcTypeOf_ne_any (c : Conn) : srcTypeOf c ≠ stAny := by
  unfold srcTypeOf
  split <;> simp [stAny_eq, stSame_eq, stExternal_eq]

def fallback (hasDefault : Bool) : Res := if hasDefault then .dflt else .none

theorem select_eq_iff (t : Table) (d : Bool) (c : Conn) (r : Res) :
    Spec.select t d c = r ↔
      match r with
      | .chain id => ∃ s, Spec.stage4 t c = [s] ∧ s.chain = id
      | .dflt => d = true ∧ Spec.stage4 t c = []
      | .none => d = false ∧ Spec.stage4 t c = []
      | .multiple => 2 ≤ (Spec.stage4 t c).length := by
  unfold Spec.select
  rcases Spec.stage4 t c with _ | ⟨s, _ | ⟨s', l⟩⟩ <;> cases d <;> cases r <;> simp

/-- the port stage on one port map: what narrowing leaves is what `filterBySourcePorts` finds -/
theorem select_eq_byPort (l : List Slot) (h : l.Pairwise fun a b => a.port ≠ b.port) (p : Nat) (d : Bool) :
    (match l.filter fun s => s.port == p || (s.port == 0 && l.all (·.port != p)) with
      | [] => fallback d
      | [s] => .chain s.chain
      | _ => .multiple) =
    match byPort p l with
      | some id => .chain id
      | none => fallback d := by
  rw [filter_exactOrWild (·.port), Basic.filter_key_eq_find h, Basic.filter_key_eq_find h, byPort, ← List.isSome_find?]
  cases l.find? (·.port == p) with
  | some s => simp
  | none => cases l.find? (·.port == 0) <;> simp

theorem stage1_sublist (t : Table) (c : Conn) : (Spec.stage1 t c).Sublist t.slots := by
  unfold Spec.stage1
  split
  · exact List.filter_sublist
  · exact List.Sublist.refl _

theorem stage2_sublist (t : Table) (c : Conn) : (Spec.stage2 t c).Sublist (Spec.stage1 t c) := List.filter_sublist

theorem stage3_sublist (t : Table) (c : Conn) : (Spec.stage3 t c).Sublist (Spec.stage2 t c) := List.filter_sublist

theorem stage4_sublist (t : Table) (c : Conn) : (Spec.stage4 t c).Sublist (Spec.stage3 t c) := List.filter_sublist

theorem stage3_sublist_slots (t : Table) (c : Conn) : (Spec.stage3 t c).Sublist t.slots :=
  (stage3_sublist t c).trans ((stage2_sublist t c).trans (stage1_sublist t c))

theorem mostSpecific_same_pfx (g : Slot → Pfx) (ip : IP) (l : List Slot) (hm : ∀ s ∈ l, Masked (g s)) (a b : Slot)
    (ha : a ∈ Spec.mostSpecific (fun s => matchSize (g s) ip) l)
    (hb : b ∈ Spec.mostSpecific (fun s => matchSize (g s) ip) l) : g a = g b := by
  obtain ⟨m, h1, h2⟩ := mostSpecific_same_size _ _ a b ha hb
  exact masked_same_size_eq _ _ ip m (hm a (List.mem_filter.mp ha).1) (hm b (List.mem_filter.mp hb).1) h1 h2

theorem stage3_agree (t : Table) (c : Conn) (hm : ∀ s ∈ t.slots, Masked s.dst ∧ Masked s.src) (a b : Slot)
    (ha : a ∈ Spec.stage3 t c) (hb : b ∈ Spec.stage3 t c) :
    a.st = b.st ∧ a.src = b.src ∧ (c.wild = true → a.dst = b.dst) := by
  have ha2 := (stage3_sublist t c).subset ha
  have hb2 := (stage3_sublist t c).subset hb
  have hsub := ((stage2_sublist t c).trans (stage1_sublist t c)).subset
  refine ⟨exactOrWild_same_key (·.st) _ _ _ a b ha2 hb2,
    mostSpecific_same_pfx (·.src) c.src _ (fun s hs => (hm s (hsub hs)).2) a b ha hb, fun hw => ?_⟩
  have ha1 := (stage2_sublist t c).subset ha2
  have hb1 := (stage2_sublist t c).subset hb2
  unfold Spec.stage1 at ha1 hb1
  rw [if_pos hw] at ha1 hb1
  exact mostSpecific_same_pfx (·.dst) c.dst _ (fun s hs => (hm s hs).1) a b ha1 hb1

/-- Candidates left by stage 3 share source type and source prefix; those that also share the destination prefix have
    different ports, their keys being distinct. -/
theorem stage3_ports_distinct (t : Table) (c : Conn) (hw : WF t)
    (hdst : ∀ a ∈ Spec.stage3 t c, ∀ b ∈ Spec.stage3 t c, a.dst = b.dst) :
    (Spec.stage3 t c).Pairwise fun a b => a.port ≠ b.port := by
  refine (hw.keys.sublist (stage3_sublist_slots t c)).imp_of_mem fun {a b} ha hb hk hp => hk ?_
  obtain ⟨hst, hsrc, -⟩ := stage3_agree t c hw.leaves a b ha hb
  exact ⟨hdst a ha b hb, hst, hsrc, hp⟩

/-- On a listener bound to the wildcard address narrowing leaves at most one candidate: the port stage filters by one
    port, and the ports are different. -/
theorem stage4_length_le_one (t : Table) (c : Conn) (hw : WF t) (hwild : c.wild = true) :
    (Spec.stage4 t c).length ≤ 1 := by
  have hports := stage3_ports_distinct t c hw fun a ha b hb =>
    have ⟨_, _, hdst⟩ := stage3_agree t c hw.leaves a b ha hb
    hdst hwild
  rw [Spec.stage4, filter_exactOrWild (·.port), Basic.filter_key_eq_find hports, Basic.filter_key_eq_find hports]
  split <;> exact Option.length_toList_le

theorem lookup_unfold (t : Table) (d : Bool) (c : Conn) :
    lookup t d c =
      match Spec.stage3 t c with
      | [] => fallback d
      | h :: _ =>
        if (Spec.stage3 t c).all (fun s => s.dst == h.dst && s.src == h.src) then
          match byPort c.port (Spec.stage3 t c) with
          | some id => .chain id
          | none => fallback d
        else .multiple := by
  have e1 : (if c.wild then best (fun s => matchSize s.dst c.dst) t.slots else t.slots) = Spec.stage1 t c := by
    unfold Spec.stage1
    split
    · exact best_eq_mostSpecific _ _ fun s m h => matchSize_ge _ _ _ h
    · rfl
  have e2 : bySourceType (srcTypeOf c) (Spec.stage1 t c) = Spec.stage2 t c :=
    (filter_exactOrWild (·.st) _ _ _).symm
  have e3 : best (fun s => matchSize s.src c.src) (Spec.stage2 t c) = Spec.stage3 t c :=
    best_eq_mostSpecific _ _ fun s m h => matchSize_ge _ _ _ h
  unfold lookup
  simp only [e1, e2, e3]
  -- an empty stage leaves the later stages empty
  by_cases h1 : (Spec.stage1 t c).isEmpty = true
  · have h3 := (stage3_sublist t c).trans (stage2_sublist t c)
    rw [List.isEmpty_iff.mp h1] at h3
    rw [if_pos h1, List.eq_nil_of_sublist_nil h3]; rfl
  by_cases h2 : (Spec.stage2 t c).isEmpty = true
  · have h3 := stage3_sublist t c
    rw [List.isEmpty_iff.mp h2] at h3
    rw [if_neg h1, if_pos h2, List.eq_nil_of_sublist_nil h3]; rfl
  rw [if_neg h1, if_neg h2]; rfl

/-- On a well-formed table lookup is the stage-wise narrowing, unless it answers `multiple` on a
    listener not bound to the wildcard address. -/
theorem lookup_eq_select (t : Table) (d : Bool) (c : Conn) (hw : WF t)
    (h : lookup t d c = .multiple → c.wild = true) : lookup t d c = Spec.select t d c := by
  rw [lookup_unfold] at h ⊢
  have hagree := stage3_agree t c hw.leaves
  have hports := stage3_ports_distinct t c hw
  unfold Spec.select Spec.stage4
  cases h3 : Spec.stage3 t c with
  | nil => rfl
  | cons hd tl =>
    rw [h3] at hagree hports h
    simp only [] at h ⊢
    by_cases hall : (hd :: tl).all (fun s => s.dst == hd.dst && s.src == hd.src) = true
    · -- all candidates are in one destination entry
      rw [if_pos hall]
      refine (select_eq_byPort _ (hports fun a ha b hb => ?_) c.port d).symm
      have ha' := List.all_eq_true.mp hall a ha
      have hb' := List.all_eq_true.mp hall b hb
      simp only [Bool.and_eq_true, beq_iff_eq] at ha' hb'
      exact ha'.1.trans hb'.1.symm
    · -- lookup answers `multiple`, so the listener is bound to the wildcard address; but there the candidates
      -- agree on the destination prefix as well
      rw [if_neg hall] at h
      have hwild := h rfl
      refine absurd (List.all_eq_true.mpr fun x hx => ?_) hall
      obtain ⟨-, hsrc, hdst⟩ := hagree x hd hx (List.mem_cons_self ..)
      simp [hsrc, hdst hwild]

end GrpcProofs.Lemmas.FilterChain
