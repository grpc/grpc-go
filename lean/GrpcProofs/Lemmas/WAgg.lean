/-
Helper lemmas for C35 (weighted_target aggregator): its evaluator's counters track the multiset of
the children's counted states (`stateToAggregate`) along every history.
-/
import GrpcModel.Model.WAgg
import GrpcProofs.Lemmas.LbConnState
namespace GrpcProofs.Lemmas.WAgg
open GrpcModel.WAgg GrpcProofs.Lemmas.LbConnState
open GrpcModel.LbConnState (ConnState CSE prec)

def aggs (s : St) : List ConnState := s.entries.map (·.agg)

/-- counters = counts of the counted states (mod 2^64), as long as the aggregator was not stopped.  It reads `entries`, `cse`
    and `stopped` only: of a state that differs from `s` in other fields it is, unfolded, the same proposition. -/
def TracksW (s : St) : Prop := s.stopped = false → Counts s.cse (aggs s)

/-- what every op is shown to return: a state whose counters track and, as push if any, `build` of that state -/
def StepOk (r : St × Option Push) : Prop := TracksW r.1 ∧ ∀ p, r.2 = some p → p = build r.1

theorem stepOk_quiet {t : St} (h : TracksW t) : StepOk (t, none) := ⟨h, nofun⟩

theorem stepOk_buildAndUpdate {t : St} (h : TracksW t) : StepOk (buildAndUpdate t) := by
  unfold buildAndUpdate
  split
  · exact stepOk_quiet h
  · split
    · exact stepOk_quiet h
    · exact ⟨h, fun p hp => (Option.some.inj hp).symm⟩

theorem idxOf_lt (s : St) (id i : Nat) (h : idxOf s id = some i) : i < s.entries.length := by
  unfold idxOf at h
  exact (List.findIdx?_eq_some_iff_getElem.mp h).1

theorem opOk_notStopped {s : St} {op : Op} (h : opOk s op = true) : s.stopped = false := by
  have : (!s.stopped) = true := by
    cases op with
    | add => exact (Bool.and_eq_true_iff.mp h).1
    | _ => exact h
  simpa using this

theorem step_ok (s : St) (op : Op) (h : TracksW s) (hok : opOk s op = true) : StepOk (step s op) := by
  have hc : Counts s.cse (aggs s) := h (opOk_notStopped hok)
  -- the branches of `step`, in the order of its text: `start` 1, `stop` 2, `add` 3, `remove` 4-6, `weight` 7-8, `pause` 9,
  -- `resume` 10-11, `needUpd` 12, `upd` 13-15; those not named below leave `entries`, `cse` and `stopped` alone
  fun_cases step s op
  case case2 => exact stepOk_quiet fun hs => by simp at hs
  case case3 id w _ entries =>
    have hnone : idxOf s id = none := by
      simp only [opOk, Bool.and_eq_true, Option.isNone_iff_eq_none] at hok; exact hok.2
    simp only [entries, hnone]
    exact stepOk_buildAndUpdate fun _ => counts_add hc { id := id, weight := w } (List.perm_append_singleton _ _)
  case case6 i _ e he =>
    obtain ⟨hlt, rfl⟩ := List.getElem?_eq_some_iff.mp he
    exact stepOk_buildAndUpdate fun _ => counts_eraseIdx hc hlt
  case case8 w i _ =>
    have e : aggs { s with entries := s.entries.modify i fun e => { e with weight := w } } = aggs s := by
      apply List.ext_getElem?
      intro j
      simp only [aggs, List.getElem?_map, List.getElem?_modify]
      by_cases e : i = j
      · subst e; cases s.entries[i]? <;> simp
      · simp [e]
    exact stepOk_quiet fun hs => e ▸ h hs
  case case10 => exact ⟨h, fun p hp => (Option.some.inj hp).symm⟩
  case case15 x i _ e he pk sticky cse e' =>
    obtain ⟨hlt, rfl⟩ := List.getElem?_eq_some_iff.mp he
    apply stepOk_buildAndUpdate
    intro _
    by_cases hst : (s.entries[i].reported = .tf ∧ x = .connecting)
    · -- sticky: neither the counted state nor the counters change
      simp only [cse, e', sticky, hst, and_self, decide_true, if_true, aggs, List.map_set]
      rw [← List.getElem_map Entry.agg (h := by simpa using hlt), List.set_getElem_self]
      exact hc
    · simp only [cse, e', sticky, hst, decide_false, Bool.false_eq_true, if_false]
      exact counts_set hc hlt { s.entries[i] with reported := x, picker := s.pkSerial + 1, agg := x }
  all_goals exact stepOk_quiet h

theorem tracksW_init : TracksW {} := fun _ => counts_init

theorem tracksW_run (s : St) (ops : List Op) (h : TracksW s) (hok : RunOk s ops) : TracksW (run s ops) := by
  induction ops generalizing s with
  | nil => exact h
  | cons op t ih => exact ih _ (step_ok s op h hok.1).1 hok.2

theorem runOk_snoc {s : St} {ops : List Op} {op : Op} (h : RunOk s (ops ++ [op])) :
    RunOk s ops ∧ opOk (run s ops) op = true := by
  induction ops generalizing s with
  | nil => exact ⟨trivial, h.1⟩
  | cons o t ih => exact ⟨⟨h.1, (ih h.2).1⟩, (ih h.2).2⟩

theorem build_state (s : St) : (build s).state = if s.entries.isEmpty then .tf else s.cse.currentState := by
  unfold build
  split
  · rfl
  · split <;> simp_all

theorem push_ok (s : St) (op : Op) (h : TracksW s) (hok : opOk s op = true) (hns : (step s op).1.stopped = false)
    (hl : (step s op).1.entries.length < 2 ^ 64) (p : Push) (hp : (step s op).2 = some p) :
    pushOk ((step s op).1.entries.map (·.agg)) p = true := by
  obtain ⟨ht, hb⟩ := step_ok s op h hok
  rw [hb p hp]
  simp only [pushOk, build_state, beq_iff_eq, List.isEmpty_map]
  split
  · rfl
  · exact current_of_counts _ _ (ht hns) (by simpa using hl)

end GrpcProofs.Lemmas.WAgg
