import GrpcModel.Model.RefCounted
namespace GrpcProofs.Lemmas.RefCounted
open GrpcModel.RefCounted

/-- `pos` holds unconditionally; the ledger clauses hold as long as the contract of Increment has not
    been broken (`misuse = false`). -/
structure Inv (s : St) : Prop where
  pos  : ∀ c ∈ s.tC, 0 < c
  live : s.misuse = false → s.dead = false → s.cnt = s.held ∧ 0 < s.cnt ∧ s.z = 0 ∧ s.zeros = 0
  gone : s.misuse = false → s.dead = true → s.cnt ≤ 0 ∧ s.held = 0 ∧ s.z + s.zeros = 1

theorem inv_init : Inv init := by
  constructor <;> simp [init]

theorem step_inv {s t : St} (r : Rule) (h : Inv s) (st : apply s r = some t) : Inv t := by
  have erase (c : Int) : ∀ d ∈ s.tC.erase c, 0 < d := fun d hd => h.pos d (List.mem_of_mem_erase hd)
  cases r <;> simp only [apply, Option.ite_none_right_eq_some, Option.some.injEq] at st
  -- TryIncrement's start, loads and failed CAS touch none of the fields the ledger clauses read
  case tryStart => subst st; exact ⟨h.pos, h.live, h.gone⟩
  all_goals obtain ⟨hc, rfl⟩ := st
  case tryLoadDead => exact ⟨h.pos, h.live, h.gone⟩
  case casFail c => exact ⟨erase c, h.live, h.gone⟩
  case tryLoadLive =>
    refine ⟨fun d hd => ?_, h.live, h.gone⟩
    rcases List.mem_cons.mp hd with rfl | hd
    · omega
    · exact h.pos d hd
  case casOk c =>
    have := h.pos c hc.1
    exact ⟨erase c, fun hm hd => by have := h.live hm hd; simp only; omega, fun hm hd => by have := h.gone hm hd; omega⟩
  case incr =>
    refine ⟨h.pos, fun hm hd => ?_, fun hm hd => ?_⟩ <;> simp at hm
    · have := h.live hm.1 hd; simp only; omega
    · have := h.gone hm.1 hd; omega
  case decr =>
    refine ⟨h.pos, fun hm hd => ?_, fun hm hd => ?_⟩ <;> simp only at hm hd ⊢
    · simp at hd; have := h.live hm hd.1; rw [if_neg hd.2]; omega
    · cases hs : s.dead
      · have := h.live hm hs; simp [hs] at hd; rw [if_pos hd]; omega
      · have := h.gone hm hs; split <;> omega
  case onZero =>
    refine ⟨h.pos, fun hm hd => ?_, fun hm hd => ?_⟩
    · have := h.live hm hd; omega
    · have := h.gone hm hd; simp only; omega

theorem reach_inv {s : St} (h : Reach s) : Inv s := by
  induction h with
  | init => exact inv_init
  | step r _ st ih => exact step_inv r ih st

theorem step_sticky {s t : St} (r : Rule) (st : apply s r = some t) :
    (s.dead = true → t.dead = true) ∧ (s.misuse = true → t.misuse = true) := by
  cases r <;> simp only [apply, Option.ite_none_right_eq_some, Option.some.injEq] at st
  case tryStart => subst st; exact ⟨id, id⟩
  all_goals obtain ⟨-, rfl⟩ := st
  case incr => exact ⟨id, fun h => by simp [h]⟩
  case decr => exact ⟨fun h => by simp [h], id⟩
  case tryLoadDead | tryLoadLive | casOk | casFail | onZero => exact ⟨id, id⟩

/-- The loaded values are positive, the count of a dead resource is not. -/
theorem dead_blocks_try {s : St} (h : Inv s) (hm : s.misuse = false) (hd : s.dead = true) (c : Int) :
    apply s (.casOk c) = none ∧ apply s .tryLoadLive = none := by
  have := h.gone hm hd
  exact ⟨if_neg fun hc => by have := h.pos c hc.1; omega, if_neg fun hc => by omega⟩

/-- so `trues`, which only a successful CAS raises, stands still from then on -/
theorem step_trues_dead {s t : St} (r : Rule) (h : Inv s) (hm : s.misuse = false) (hd : s.dead = true)
    (st : apply s r = some t) : t.trues = s.trues := by
  cases r
  case casOk c => cases (dead_blocks_try h hm hd c).1.symm.trans st
  all_goals simp only [apply, Option.ite_none_right_eq_some, Option.some.injEq] at st
  case tryStart => subst st; rfl
  all_goals obtain ⟨-, rfl⟩ := st; rfl

theorem run_misuse {s : St} (rs : List Rule) (h : (run s rs).misuse = false) : s.misuse = false := by
  induction rs generalizing s with
  | nil => exact h
  | cons r rs ih =>
    simp only [run] at h
    split at h
    · next t st => exact Bool.eq_false_iff.2 fun hs => Bool.eq_false_iff.1 (ih h) ((step_sticky r st).2 hs)
    · exact ih h

end GrpcProofs.Lemmas.RefCounted
