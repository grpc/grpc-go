import GrpcModel.Model.LoopySpec
import GrpcProofs.Lemmas.Basic
/-! First facts about the model of the loopy writer, and its transition table: `Does` has one row for every path through a handler,
`Steps` adds what `step` does around them; `handleItem_does` and `step_steps` walk the handlers once, and `Wf` (LoopyWf), the C01
ledger (LoopyC01), the C02 refinement (LoopyC02) and the C03 facts (LoopyC03) are each shown row by row from there. -/
namespace GrpcProofs.Loopy
open GrpcModel.Loopy

theorem maxFrameLen_eq : maxFrameLen = 16384 := by decide
theorem defaultWindow_eq : defaultWindow = 65535 := by decide

theorem headerFrags_le {m : Nat} (hm : 0 < m) (L : Nat) : ∀ x ∈ headerFrags m L, x ≤ m := by
  induction L using Nat.strongRecOn with
  | _ L ih =>
    intro x hx
    rw [headerFrags] at hx
    split at hx
    · rcases List.mem_cons.mp hx with rfl | hx
      · exact Nat.le_refl _
      · exact ih (L - m) (by omega) x hx
    · simp only [List.mem_singleton] at hx
      subst hx
      omega

theorem headerFrags_sum (m L : Nat) : (headerFrags m L).sum = L := by
  induction L using Nat.strongRecOn with
  | _ L ih =>
    rw [headerFrags]
    split
    · simp only [List.sum_cons, ih (L - m) (by omega)]
      omega
    · simp

@[simp] theorem setStr_str_same (s : St) (id : Nat) (x : OutStream) : (s.setStr id x).str id = x := by
  simp [St.setStr]

theorem setStr_str_ne (s : St) {id i : Nat} (x : OutStream) (h : i ≠ id) : (s.setStr id x).str i = s.str i := by
  simp [St.setStr, h]

@[simp] theorem setStr_keys (s : St) (id : Nat) (x : OutStream) : (s.setStr id x).keys = s.keys := rfl
@[simp] theorem setStr_active (s : St) (id : Nat) (x : OutStream) : (s.setStr id x).active = s.active := rfl
@[simp] theorem setStr_sendQuota (s : St) (id : Nat) (x : OutStream) : (s.setStr id x).sendQuota = s.sendQuota := rfl
@[simp] theorem setStr_oiws (s : St) (id : Nat) (x : OutStream) : (s.setStr id x).oiws = s.oiws := rfl
@[simp] theorem setStr_draining (s : St) (id : Nat) (x : OutStream) : (s.setStr id x).draining = s.draining := rfl
@[simp] theorem setStr_closed (s : St) (id : Nat) (x : OutStream) : (s.setStr id x).closed = s.closed := rfl
@[simp] theorem setStr_side (s : St) (id : Nat) (x : OutStream) : (s.setStr id x).side = s.side := rfl

theorem wakeOrder_perm (s : St) (order : List Nat) : (wakeOrder s order).Perm (s.keys.filter (isWaiting s)) := by
  unfold wakeOrder
  simp only
  split
  · rename_i h; exact List.isPerm_iff.mp h
  · exact List.Perm.refl _

theorem mem_wakeOrder {s : St} {order : List Nat} {i : Nat} :
    i ∈ wakeOrder s order ↔ i ∈ s.keys ∧ (s.str i).state = .waiting := by
  rw [(wakeOrder_perm s order).mem_iff, List.mem_filter]
  simp [isWaiting]

/-- What a step writes besides its DATA frame. -/
def Inert : Out → Prop
  | .data .. => False
  | .headers _ _ frags => ∀ x ∈ frags, x ≤ 16384
  | _ => True

theorem inert_writeHeader (id : Nat) (es : Bool) (hb : Nat) (ow : Bool) : ∀ o ∈ writeHeader id es hb ow, Inert o := by
  intro o ho
  rcases List.mem_append.mp ho with ho | ho
  · split at ho
    · cases List.mem_singleton.mp ho; trivial
    · cases ho
  · cases List.mem_singleton.mp ho
    exact maxFrameLen_eq ▸ headerFrags_le (m := maxFrameLen) (by decide) hb

theorem inert_rst (id code : Nat) (rst : Bool) : ∀ o ∈ (if rst then [Out.rst id code] else []), Inert o := by
  intro o ho
  split at ho
  · cases List.mem_singleton.mp ho; trivial
  · cases ho

variable {P : Out → Prop}

theorem outs_nil : ∀ o ∈ ([] : List Out), P o := fun _ h => nomatch h

theorem outs_cons {o : Out} {os : List Out} (h : P o) (hs : ∀ x ∈ os, P x) : ∀ x ∈ o :: os, P x :=
  List.forall_mem_cons.mpr ⟨h, hs⟩

theorem outs_append {a b : List Out} (ha : ∀ o ∈ a, P o) (hb : ∀ o ∈ b, P o) : ∀ o ∈ a ++ b, P o :=
  List.forall_mem_append.mpr ⟨ha, hb⟩

section FoldErr
variable {σ α ε : Type}

/-- The one shape of the loops of the two monitors (`C01.Peer.sendAll`, `C01.runMon`, `C02.Mon.frames`, `C02.runMon`): `g` folds
the step `f` over a list and stops at the first step that reports a violation. -/
structure FoldErr (f : σ → α → σ × Option ε) (g : σ → List α → σ × Option ε) : Prop where
  nil : ∀ s, g s [] = (s, none)
  cons_ok : ∀ {s a s1} (as : List α), f s a = (s1, none) → g s (a :: as) = g s1 as
  cons_err : ∀ {s a s1 e} (as : List α), f s a = (s1, some e) → g s (a :: as) = (s1, some e)

namespace FoldErr
variable {f : σ → α → σ × Option ε} {g : σ → List α → σ × Option ε} {s s1 s' : σ} {a : α} {as bs : List α}

theorem of_cons (h : FoldErr f g) (hg : g s (a :: as) = (s', none)) : ∃ s1, f s a = (s1, none) ∧ g s1 as = (s', none) := by
  rcases hf : f s a with ⟨s1, _ | e⟩
  · exact ⟨s1, rfl, h.cons_ok as hf ▸ hg⟩
  · rw [h.cons_err as hf] at hg; cases hg

theorem of_append (h : FoldErr f g) (hg : g s (as ++ bs) = (s', none)) : ∃ s1, g s as = (s1, none) ∧ g s1 bs = (s', none) := by
  induction as generalizing s with
  | nil => exact ⟨s, h.nil s, hg⟩
  | cons a as ih =>
    obtain ⟨s2, hf, hg2⟩ := h.of_cons hg
    obtain ⟨s1, h1, h2⟩ := ih hg2
    exact ⟨s1, (h.cons_ok as hf).trans h1, h2⟩

theorem append (h : FoldErr f g) (bs : List α) (ha : g s as = (s1, none)) : g s (as ++ bs) = g s1 bs := by
  induction as generalizing s with
  | nil => rw [h.nil] at ha; cases ha; rfl
  | cons a as ih =>
    obtain ⟨s2, hf, hg2⟩ := h.of_cons ha
    rw [List.cons_append, h.cons_ok _ hf]
    exact ih hg2

theorem inv (h : FoldErr f g) {P : σ → Prop} (hf : ∀ s a, P s → P (f s a).1) (as : List α) (hs : P s) : P (g s as).1 := by
  induction as generalizing s with
  | nil => rw [h.nil]; exact hs
  | cons a as ih =>
    have := hf s a hs
    rcases hfa : f s a with ⟨s1, _ | e⟩ <;> rw [hfa] at this
    · rw [h.cons_ok as hfa]; exact ih this
    · rw [h.cons_err as hfa]; exact this

end FoldErr
end FoldErr

theorem sendAll_fold : FoldErr C01.Peer.send C01.Peer.sendAll :=
  ⟨fun _ => rfl, fun _ h => by simp only [C01.Peer.sendAll, h], fun _ h => by simp only [C01.Peer.sendAll, h]⟩

theorem runMon_fold : FoldErr (fun p x => C01.mstep p x.1 x.2) C01.runMon :=
  ⟨fun _ => rfl, fun _ h => by simp only [C01.runMon, h], fun _ h => by simp only [C01.runMon, h]⟩

theorem frames_fold (op : Op) : FoldErr (C02.Mon.frame · op) (C02.Mon.frames · op) :=
  ⟨fun _ => rfl, fun _ h => by simp only [C02.Mon.frames, h], fun _ h => by simp only [C02.Mon.frames, h]⟩

theorem runMon2_fold : FoldErr (fun m x => C02.mstep m x.1 x.2) C02.runMon :=
  ⟨fun _ => rfl, fun _ h => by simp only [C02.runMon, h], fun _ h => by simp only [C02.runMon, h]⟩

/-- Stated for the C01 ledger; `C02.hasHeadersFor` is the same function. -/
theorem hasHeaders_writeHeader (id : Nat) (es : Bool) (hb : Nat) (ow : Bool) (pre : List Out) :
    C01.hasHeaders id (pre ++ writeHeader id es hb ow) = true := by
  simp [C01.hasHeaders, writeHeader]

theorem inert_cleanup (id code : Nat) (rst : Bool) :
    ∀ o ∈ Out.cb .cleanupOnWrite id :: (if rst then [Out.rst id code] else []), Inert o :=
  outs_cons trivial (inert_rst id code rst)

@[simp] theorem removeStream_str (s : St) (id : Nat) : (removeStream s id).str = s.str := by
  unfold removeStream; split <;> rfl

@[simp] theorem removeStream_oiws (s : St) (id : Nat) : (removeStream s id).oiws = s.oiws := by
  unfold removeStream; split <;> rfl

theorem mem_removeStream_keys (s : St) {id i : Nat} : i ∈ (removeStream s id).keys ↔ i ∈ s.keys ∧ i ≠ id := by
  unfold removeStream
  split
  · simp
  · exact ⟨fun hi => ⟨hi, fun e => ‹id ∉ s.keys› (e ▸ hi)⟩, And.left⟩

theorem filter_ne_of_notMem {l : List Nat} {id : Nat} (h : id ∉ l) : l.filter (· ≠ id) = l :=
  List.filter_eq_self.mpr fun a ha => by simpa using fun (e : a = id) => h (e ▸ ha)

/-- Where a stream on the active list is established (`Wf.actKeys`, `LedCore.act`), `removeStream` takes `id` off both lists whether or
not it is established. -/
theorem removeStream_eq {s : St} {id : Nat} (hsub : id ∈ s.active → id ∈ s.keys) :
    removeStream s id = { s with keys := s.keys.filter (· ≠ id), active := s.active.filter (· ≠ id) } := by
  unfold removeStream
  split
  · rfl
  · rw [filter_ne_of_notMem ‹id ∉ s.keys›, filter_ne_of_notMem (mt hsub ‹_›)]

theorem removeStream_active_of_notMem {s : St} {id : Nat} (h : id ∉ s.active) : (removeStream s id).active = s.active := by
  rw [removeStream_eq (absurd · h)]
  exact filter_ne_of_notMem h

theorem processData_idle {s : St} (h : s.sendQuota = 0 ∨ s.active = []) (hb : Nat) :
    processData s hb = ⟨s, [], .tick true⟩ := by
  unfold processData
  rcases h with h | h
  · rw [if_pos h]
  · rw [h]; split <;> rfl

/-- The state once `hSize + dSize` bytes of the head item `data off h d es` (followed by `tl`) of stream `id` have gone out in a
DATA frame: what `writeChunk` hands to `updateStreamAfterWrite`. -/
def wrote (s : St) (id off h d : Nat) (es : Bool) (tl : List Item) (hSize dSize : Nat) : St :=
  { s with sendQuota := s.sendQuota - (hSize + dSize) }.setStr id
    { s.str id with
      items := if h + d - hSize - dSize = 0 then tl else .data (off + (hSize + dSize)) (h - hSize) (d - dSize) es :: tl
      bytesOut := (s.str id).bytesOut + ((hSize + dSize : Nat) : Int), repl := (s.str id).repl + (hSize + dSize) }

/-- `processData` finds stream `id` at the head of the active list `id :: rest` with `data off hl d es` (followed by `tl`) at the head
of its queue, and sends `hSize` bytes of the item's `h` and `dSize` bytes of its `data`, together
`min(16384, stream quota, sendQuota, item length)`. -/
structure Serves (s : St) (id : Nat) (rest : List Nat) (off hl d : Nat) (es : Bool) (tl : List Item) (hSize dSize : Nat) : Prop where
  conn : s.sendQuota ≠ 0
  active : s.active = id :: rest
  items : (s.str id).items = .data off hl d es :: tl
  quota : ¬ (s.quota id ≤ 0 ∧ ¬ (hl = 0 ∧ d = 0))
  hle : hSize ≤ hl
  dle : dSize ≤ d
  size : hSize + dSize = min (min (min 16384 (s.quota id).toNat) s.sendQuota) (hl + d)

/-- `updateStreamAfterWrite`, row by row: `t` is the state after the DATA frame, `pre` the frames so far. -/
inductive AfterWrite (t : St) (id hb : Nat) (pre : List Out) : Res → Prop
  | drained : (t.str id).items = [] → AfterWrite t id hb pre ⟨t.setStr id { t.str id with state := .empty }, pre, .tick false⟩
  | trailers {rst code tl ret} : (t.str id).items = .trailers rst code :: tl → ret ≠ .tick true →
      AfterWrite t id hb pre
        ⟨removeStream t id, pre ++ writeHeader id true hb true ++ .cb .cleanupOnWrite id :: (if rst then [.rst id code] else []), ret⟩
  | waiting {off h d es tl} : (t.str id).items = .data off h d es :: tl → t.quota id ≤ 0 →
      AfterWrite t id hb pre ⟨t.setStr id { t.str id with state := .waiting }, pre, .tick false⟩
  | again {off h d es tl} : (t.str id).items = .data off h d es :: tl → ¬ t.quota id ≤ 0 →
      AfterWrite t id hb pre ⟨{ t with active := t.active ++ [id] }, pre, .tick false⟩

/-- `applySettings`, entry by entry: only an `http2.SettingInitialWindowSize` entry (id 4) touches the writer's state, and one that
raises the window makes every waiting established stream active, appended to the active list in `wakeOrder`. -/
inductive Settings (order : List Nat) : St → List (Nat × Nat) → St → Prop
  | done {s} : Settings order s [] s
  | raise {s v ss t} : s.oiws < v →
      Settings order { s with oiws := v, active := s.active ++ wakeOrder s order,
                              str := fun i => if (s.str i).state = .waiting then { s.str i with state := .active } else s.str i } ss t →
      Settings order s ((4, v) :: ss) t
  | lower {s v ss t} : ¬ s.oiws < v → Settings order { s with oiws := v } ss t → Settings order s ((4, v) :: ss) t
  | other {s k v ss t} : k ≠ 4 → Settings order s ss t → Settings order s ((k, v) :: ss) t

theorem applySettings_settings (order : List Nat) (s : St) (ss : List (Nat × Nat)) :
    Settings order s ss (applySettings s ss order) := by
  induction ss generalizing s with
  | nil => exact .done
  | cons kv ss ih =>
    obtain ⟨k, v⟩ := kv
    rw [applySettings, List.foldl_cons]
    split
    · subst ‹k = 4›
      unfold applyIWS
      split
      · exact .raise ‹_› (ih _)
      · exact .lower ‹_› (ih _)
    · exact .other ‹_› (ih s)

/-- What `handleItem` can do, row by row: one row for each path through a handler, with the condition under which it is taken,
the state it leaves, the frames and callbacks it emits and what it returns. Every invariant of the writer is shown row by row.
Conditions that none of them reads are left out (`draining`, `side`, the environment's answers), so the table allows a little more
than the handlers do. -/
inductive Does (s : St) : Op → Res → Prop
  | creditConn {inc} : Does s (.winUpdate 0 inc) ⟨{ s with sendQuota := (s.sendQuota + inc) % 2 ^ 32 }, [], .ok⟩
  | creditWake {id inc : Nat} : id ≠ 0 → id ∈ s.keys →
      (s.oiws : Int) - ((s.str id).bytesOut - inc) > 0 ∧ (s.str id).state = .waiting →
      Does s (.winUpdate id inc)
        ⟨{ s.setStr id { s.str id with bytesOut := (s.str id).bytesOut - inc, state := .active } with active := s.active ++ [id] }, [], .ok⟩
  | credit {id inc : Nat} : id ≠ 0 → id ∈ s.keys →
      ¬ ((s.oiws : Int) - ((s.str id).bytesOut - inc) > 0 ∧ (s.str id).state = .waiting) →
      Does s (.winUpdate id inc) ⟨s.setStr id { s.str id with bytesOut := (s.str id).bytesOut - inc }, [], .ok⟩
  | creditAbsent {id inc} : id ≠ 0 → id ∉ s.keys → Does s (.winUpdate id inc) ⟨s, [], .ok⟩
  | outWinUpdate {id inc} : Does s (.outWinUpdate id inc) ⟨s, [.windowUpdate id inc], .ok⟩
  | settings {ss order t} : Settings order s ss t → Does s (.settings ss order) ⟨t, [.settingsAck], .ok⟩
  | outSettings {ss} : Does s (.outSettings ss) ⟨s, [.settings ss], .ok⟩
  | registerDup {id} : id ∈ s.keys → Does s (.register id) ⟨s, [.unmodelled], .ok⟩
  | register {id} : id ∉ s.keys → Does s (.register id) ⟨{ s with keys := s.keys ++ [id] }.setStr id {}, [], .ok⟩
  | clientOrphaned {id hb ie} : Does s (.clientHeaders id hb ie) ⟨s, [.cb .orphaned id], .ok⟩
  | clientInitErr {id hb ie} : Does s (.clientHeaders id hb ie) ⟨s, [.cb .initStream id], .err .init⟩
  | clientDup {id hb ie} : id ∈ s.keys → Does s (.clientHeaders id hb ie) ⟨s, [.unmodelled], .ok⟩
  | clientOpen {id hb ie} : id ∉ s.keys → Does s (.clientHeaders id hb ie)
      ⟨{ s with keys := s.keys ++ [id] }.setStr id {}, .cb .initStream id :: writeHeader id false hb true, .ok⟩
  | headersAbsent {id es hb rst code} : id ∉ s.keys → Does s (.serverHeaders id es hb rst code) ⟨s, [], .ok⟩
  | response {id hb rst code} : id ∈ s.keys → Does s (.serverHeaders id false hb rst code) ⟨s, writeHeader id false hb true, .ok⟩
  | trailersQueued {id hb rst code} : id ∈ s.keys → (s.str id).state ≠ .empty → Does s (.serverHeaders id true hb rst code)
      ⟨s.setStr id { s.str id with items := (s.str id).items ++ [.trailers rst code] }, [], .ok⟩
  | trailersNow {id hb rst code ret} : id ∈ s.keys → (s.str id).state = .empty → Does s (.serverHeaders id true hb rst code)
      ⟨removeStream s id, writeHeader id true hb true ++ .cb .cleanupOnWrite id :: (if rst then [.rst id code] else []), ret⟩
  | dataAbsent {id h d es} : id ∉ s.keys → Does s (.data id h d es) ⟨s, [], .ok⟩
  | dataFirst {id h d es} : id ∈ s.keys → (s.str id).state = .empty → Does s (.data id h d es)
      ⟨{ s.setStr id { s.str id with items := (s.str id).items ++ [.data (s.str id).wr h d es], wr := (s.str id).wr + h + d,
                                     state := .active } with active := s.active ++ [id] }, [], .ok⟩
  | dataQueued {id h d es} : id ∈ s.keys → (s.str id).state ≠ .empty → Does s (.data id h d es)
      ⟨s.setStr id { s.str id with items := (s.str id).items ++ [.data (s.str id).wr h d es], wr := (s.str id).wr + h + d }, [], .ok⟩
  | cleanup {id rst code ret} : Does s (.cleanup id rst code)
      ⟨removeStream s id, .cb .cleanupOnWrite id :: (if rst then [.rst id code] else []), ret⟩
  | abortClient {id rst hb} : Does s (.earlyAbort id rst hb) ⟨s, [], .err .eaClient⟩
  | abort {id rst hb} : Does s (.earlyAbort id rst hb) ⟨s, writeHeader id true hb false ++ (if rst then [Out.rst id 0] else []), .ok⟩
  | incomingGoAway {dr ret} : Does s .incomingGoAway ⟨{ s with draining := dr }, [], ret⟩
  | goAway {hu code rd re dr ret} : Does s (.goAway hu code rd re)
      ⟨{ s with draining := dr }, [.goAway (if hu then 2 ^ 31 - 1 else 0) code], ret⟩
  | ping {ack data} : Does s (.ping ack data) ⟨s, [.ping ack data], .ok⟩
  | closeConn : Does s .closeConn ⟨s, [], .err .closing⟩
  | outFlowReq : Does s .outFlowReq ⟨s, [], .quota s.sendQuota⟩
  | unknown : Does s .unknown ⟨s, [], .err .unknown⟩
  | idle {hb} : s.sendQuota = 0 ∨ s.active = [] → Does s (.tick hb) ⟨s, [], .tick true⟩
  | panic {hb id rest} : s.sendQuota ≠ 0 → s.active = id :: rest → (∀ off hl d es tl, (s.str id).items ≠ .data off hl d es :: tl) →
      Does s (.tick hb) ⟨{ s with active := rest }, [.panic], .tick false⟩
  | park {hb id rest off hl d es tl} : s.sendQuota ≠ 0 → s.active = id :: rest → (s.str id).items = .data off hl d es :: tl →
      s.quota id ≤ 0 ∧ ¬ (hl = 0 ∧ d = 0) →
      Does s (.tick hb) ⟨{ s with active := rest }.setStr id { s.str id with state := .waiting }, [], .tick false⟩
  | write {hb id rest off hl d es tl hSize dSize r} : Serves s id rest off hl d es tl hSize dSize →
      AfterWrite (wrote { s with active := rest } id off hl d es tl hSize dSize) id hb
        [.cb .onEachWrite id, .data id off (hSize + dSize) (es && (hl + d - hSize - dSize == 0))] r →
      Does s (.tick hb) r

theorem updateStreamAfterWrite_afterWrite (t : St) (id hb : Nat) (pre : List Out) :
    AfterWrite t id hb pre (updateStreamAfterWrite t id hb pre) := by
  unfold updateStreamAfterWrite
  dsimp only
  split
  · exact .drained ‹_›
  · refine .trailers ‹_› ?_
    unfold cleanupStream
    dsimp only
    split
    · nofun
    · split <;> nofun
  · split
    · exact .waiting ‹_› ‹_›
    · exact .again ‹_› ‹_›

theorem min_add_min_sub (m h d : Nat) : min m h + min (m - min m h) d = min m (h + d) := by omega

theorem chunk_max (q : Int) (sq : Nat) :
    min (min maxFrameLen (max q 0).toNat) sq = min (min 16384 q.toNat) sq := by
  rw [maxFrameLen_eq, Int.max_def]; split <;> omega

theorem handleItem_does (s : St) (o : Op) : Does s o (handleItem s o) := by
  -- per item the handler's branches in the order of its text, each a row of `Does` under the tests on the way to it
  cases o <;> dsimp only [handleItem]
  case winUpdate id inc =>
    fun_cases incomingWindowUpdate s id inc
    · subst ‹id = 0›; exact .creditConn
    · exact .creditWake ‹_› ‹_› ‹_›
    · exact .credit ‹_› ‹_› ‹_›
    · exact .creditAbsent ‹_› ‹_›
  case outWinUpdate id inc => exact .outWinUpdate
  case settings ss order => exact .settings (applySettings_settings order s ss)
  case outSettings ss => exact .outSettings
  case register id =>
    fun_cases registerStream s id
    · exact .registerDup ‹_›
    · exact .register ‹_›
  case clientHeaders id hb ie =>
    fun_cases clientHeader s id hb ie
    · exact .clientOrphaned
    · exact .clientInitErr
    · exact .clientDup ‹_›
    · exact .clientOpen ‹_›
  case serverHeaders id es hb rst code =>
    fun_cases serverHeader s id es hb rst code
    · exact .headersAbsent ‹_›
    · cases (Bool.not_eq_true' es).mp ‹_›; exact .response (Decidable.not_not.mp ‹_›)
    · cases (Bool.not_eq_false' es).mp (Bool.eq_false_iff.mpr ‹_›); exact .trailersQueued (Decidable.not_not.mp ‹_›) ‹_›
    · cases (Bool.not_eq_false' es).mp (Bool.eq_false_iff.mpr ‹_›)
      exact .trailersNow (Decidable.not_not.mp ‹_›) (Decidable.not_not.mp ‹_›)
  case data id h d es =>
    fun_cases preprocessData s id h d es
    · exact .dataAbsent ‹_›
    · exact .dataFirst (Decidable.not_not.mp ‹_›) ‹_›
    · exact .dataQueued (Decidable.not_not.mp ‹_›) ‹_›
  case cleanup id rst code => exact .cleanup
  case earlyAbort id rst hb =>
    fun_cases earlyAbort s id rst hb
    · exact .abortClient
    · exact .abort
  case incomingGoAway =>
    fun_cases incomingGoAway s
    · exact .incomingGoAway
    · exact .incomingGoAway
    · exact .incomingGoAway (dr := s.draining)
  case goAway hu code rd re =>
    fun_cases goAway s hu code rd re
    · exact .goAway (dr := s.draining)
    · exact .goAway
  case ping ack data => exact .ping
  case closeConn => exact .closeConn
  case outFlowReq => exact .outFlowReq
  case unknown => exact .unknown
  case tick hb =>
    fun_cases processData s hb
    · exact .idle (.inl ‹_›)
    · exact .idle (.inr ‹_›)
    · exact .panic ‹_› ‹_› fun _ _ _ _ _ e => nomatch ‹_ = []› ▸ e
    · exact .panic ‹_› ‹_› fun _ _ _ _ _ e => nomatch ‹_ = Item.trailers _ _ :: _› ▸ e
    · exact .park ‹_› ‹_› ‹_› ‹_›
    -- the write: `maxSize` is the first of its three `let`s
    case case6 maxSize _ _ =>
      exact .write ⟨‹_›, ‹_›, ‹_›, ‹_›, Nat.min_le_right _ _, Nat.min_le_right _ _,
        by rw [min_add_min_sub, show maxSize = _ from chunk_max ..]⟩ (updateStreamAfterWrite_afterWrite ..)

theorem wrote_str_ne {s : St} {id i off h d : Nat} {es : Bool} {tl : List Item} {hSize dSize : Nat} (hi : i ≠ id) :
    (wrote s id off h d es tl hSize dSize).str i = s.str i := setStr_str_ne _ _ hi

namespace AfterWrite
variable {t : St} {id hb : Nat} {pre : List Out} {r : Res}

theorem outs (hw : AfterWrite t id hb pre r) : ∃ extra, r.outs = pre ++ extra ∧ ∀ o ∈ extra, Inert o := by
  cases hw with
  | trailers => exact ⟨_, List.append_assoc .., outs_append (inert_writeHeader _ _ _ _) (inert_cleanup _ _ _)⟩
  | _ => exact ⟨[], (List.append_nil _).symm, outs_nil⟩

theorem ret_ne_idle (hw : AfterWrite t id hb pre r) : r.ret ≠ .tick true := by
  cases hw with
  | trailers _ hr => exact hr
  | _ => nofun

theorem frame (hw : AfterWrite t id hb pre r) : (∀ i, i ≠ id → r.st.str i = t.str i) ∧ r.st.oiws = t.oiws := by
  cases hw with
  | drained | waiting => exact ⟨fun i hi => setStr_str_ne _ _ hi, rfl⟩
  | trailers => exact ⟨fun _ _ => by rw [removeStream_str], removeStream_oiws ..⟩
  | again => exact ⟨fun _ _ => rfl, rfl⟩

end AfterWrite

/-- One iteration of `run()`: nothing once `run` has returned; an item the framer would refuse is answered with `Out.unmodelled`;
otherwise a row of `Does`, after which `closed` is set if the handler returned an error. -/
inductive Steps (s : St) (o : Op) : Res → Prop
  | closed : s.closed = true → Steps s o ⟨s, [], .closed⟩
  | outside : s.closed = false → o.outside = true → Steps s o ⟨s, [.unmodelled], .ok⟩
  | does {r : Res} : s.closed = false → o.outside = false → Does s o r →
      Steps s o ⟨{ r.st with closed := r.st.closed || r.ret.isErr }, r.outs, r.ret⟩

theorem step_steps (s : St) (o : Op) : Steps s o (step s o) := by
  unfold step
  split
  · exact .closed ‹_›
  have hc : s.closed = false := by simpa using ‹¬ s.closed = true›
  unfold handle
  split
  · exact .outside hc ‹_›
  have ho : o.outside = false := by simpa using ‹¬ o.outside = true›
  have h := Steps.does hc ho (handleItem_does s o)
  dsimp only
  split
  · rwa [‹(handleItem s o).ret.isErr = true›, Bool.or_true] at h
  · rwa [Bool.eq_false_iff.mpr ‹¬ (handleItem s o).ret.isErr = true›, Bool.or_false] at h

end GrpcProofs.Loopy
