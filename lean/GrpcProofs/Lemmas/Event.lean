import GrpcModel.Model.Event
namespace GrpcProofs.Lemmas.Event
open GrpcModel.Event

/-- `f1` counts the firers that have won the CAS and not yet closed the channel, `trues` those that have
    returned true: together they are one exactly when the flag is set (`won`), each closes once (`chan`),
    and before the flag is set nobody has been told false (`unfired`). -/
structure Inv (s : St) : Prop where
  unfired : s.fired = false → s.falses = 0
  won     : s.f1 + s.trues = (if s.fired then 1 else 0)
  chan    : s.closed = s.trues

theorem inv_init : Inv init := by constructor <;> simp [init]

theorem step_inv {s t : St} (r : Rule) (h : Inv s) (st : apply s r = some t) : Inv t := by
  have won := h.won
  cases r <;> simp only [apply, Option.ite_none_right_eq_some, Option.some.injEq] at st
  case fireStart | hasFired => subst st; exact ⟨h.unfired, won, h.chan⟩
  all_goals obtain ⟨hc, rfl⟩ := st
  case casOk =>
    rw [hc.2] at won; simp only [Bool.false_eq_true, if_false] at won
    exact ⟨nofun, show s.f1 + 1 + s.trues = 1 by omega, h.chan⟩
  case casFail => exact ⟨fun hf => (nomatch hc.2.symm.trans hf), won, h.chan⟩
  case close =>
    have chan := h.chan
    exact ⟨h.unfired, by simp only; omega, by simp only; omega⟩

theorem reach_inv {s : St} (h : Reach s) : Inv s := by
  induction h with
  | init => exact inv_init
  | step r _ st ih => exact step_inv r ih st

end GrpcProofs.Lemmas.Event
