import GrpcModel.Model.GracefulSwitch
/-! For C33 (gracefulswitch). `updateState` is taken apart once, in `Report`. The monitor's two predicates (`PushOK`,
`Retired`) speak of the two end states of an op, and that they hold of each of two steps does not make them hold of
the two in a row; so the calls a child makes from inside `Build` and `UpdateClientConnState` are put together through
`Fate` and `Calls`, of which it does (`Fate.trans`, `Calls.trans`). `StepOK` is what every op satisfies (`stepOK_step`). -/
namespace GrpcProofs.Lemmas.GracefulSwitch
open GrpcModel.GracefulSwitch
open GrpcModel.LbConnState (ConnState)

/-- Holds of every reachable state. `pendConn` and `graceful` read `last` and `pushed`; the other fields read only
    the ids of the two roles, `serial` and `closed` (`inv_of_ids`). -/
structure Inv (s : St) : Prop where
  distinct : ∀ c p, s.current = some c → s.pending = some p → c.id ≠ p.id
  curLe : ∀ c, s.current = some c → c.id ≤ s.serial
  pendLe : ∀ p, s.pending = some p → p.id ≤ s.serial
  pendCur : ∀ p, s.pending = some p → s.current.isSome
  /-- a pending policy has only ever reported CONNECTING (any other report promotes it at once) -/
  pendConn : ∀ p, s.pending = some p → p.last.state = .connecting
  /-- the channel has the latest state of the policy in use, unless that policy never reported -/
  graceful : ∀ c, s.current = some c → c.last = initBState ∨ s.pushed = some (c.id, c.last)
  closedNone : s.closed = true → s.current = none ∧ s.pending = none

/-- what a state report did to `s`; it never touches `serial` or `closed` -/
structure Effect (s s' : St) (evs evs0 : List Ev) (cur pend : Option BW) (pushed : Option (Nat × BState)) : Prop where
  evs : evs = evs0
  current : s'.current = cur
  pending : s'.pending = pend
  pushed : s'.pushed = pushed
  serial : s'.serial = s.serial
  closed : s'.closed = s.closed

/-- The four ways a state report can go (`⟨x, s.pkSerial + 1⟩` = the reported state with its fresh picker),
    each with the value of the statement's `shouldSwap`. -/
inductive Report (s : St) (id : Nat) (x : ConnState) (s' : St) (evs : List Ev) : Prop
  /-- the reporter has no role: nothing happens -/
  | stale (h : curOrPend s id = false) (hss : shouldSwap s id x = false)
      (eff : Effect s s' evs (evs0 := []) (cur := s.current) (pend := s.pending) (pushed := s.pushed))
  /-- the current policy reports and stays current (READY, or nothing is pending): forwarded to the channel -/
  | curFwd (c : BW) (hcur : s.current = some c) (hid : c.id = id) (hss : shouldSwap s id x = false)
      (eff : Effect s s' evs (evs0 := [.push id ⟨x, s.pkSerial + 1⟩])
        (cur := some { c with last := ⟨x, s.pkSerial + 1⟩ }) (pend := s.pending)
        (pushed := some (id, ⟨x, s.pkSerial + 1⟩)))
  /-- the pending `p` is promoted with state `ps`: its cached one, or the one it is just reporting -/
  | swap (c p : BW) (ps : BState) (hcur : s.current = some c) (hpend : s.pending = some p) (hid : c.id = id ∨ p.id = id)
      (hss : shouldSwap s id x = true) (hps : ps = if p.id = id then ⟨x, s.pkSerial + 1⟩ else p.last)
      (eff : Effect s s' evs (evs0 := .push p.id ps :: closeBW (some c)) (cur := some { p with last := ps })
        (pend := none) (pushed := some (p.id, ps)))
  /-- the pending reports CONNECTING while the current is READY: only cached -/
  | pendWait (c p : BW) (hcur : s.current = some c) (hpend : s.pending = some p) (hid : p.id = id)
      (hx : x = .connecting) (hss : shouldSwap s id x = false)
      (eff : Effect s s' evs (evs0 := []) (cur := s.current) (pend := some { p with last := ⟨x, s.pkSerial + 1⟩ })
        (pushed := s.pushed))

theorem closeBW_last (c : BW) (b : BState) : closeBW (some { c with last := b }) = closeBW (some c) := rfl

theorem pending_none_of_current_none {s : St} (h : Inv s) (hc : s.current = none) : s.pending = none := by
  cases hp : s.pending with
  | none => rfl
  | some p => have := h.pendCur p hp; simp [hc] at this

section
attribute [local simp] updateState setLast curOrPend isCur isPend shouldSwap

theorem updateState_report (s : St) (h : Inv s) (id : Nat) (x : ConnState) :
    Report s id x (updateState s id x).1 (updateState s id x).2 := by
  -- The case splits are the tests of `updateState` in its order: `curOrPend` and `isCur` (here: `c.id = id`,
  -- `p.id = id`; both fail in a `stale` row), then for the current `st ≠ READY ∧ pending.isSome`, for the pending
  -- `st ≠ CONNECTING ∨ current not READY` (true: `swap`). In each case `simp` evaluates `updateState` under the tests
  -- (once: `id` and `x` are first replaced by what the case says they are, so that the result is literally the
  -- row's); the fields of `Effect` are then `rfl`, or `hc`, `hp` read backwards. What is left is the value of
  -- `curOrPend` or `shouldSwap`.
  cases hc : s.current with
  | none =>
    have hp := pending_none_of_current_none h hc
    simp [hc, hp]
    refine .stale ?_ ?_ ⟨rfl, hc.symm, hp.symm, rfl, rfl, rfl⟩ <;> simp [hc, hp]
  | some c =>
    cases hp : s.pending with
    | none =>
      by_cases hid : c.id = id
      · subst hid
        simp [hc, hp]
        refine .curFwd c hc rfl ?_ ⟨rfl, rfl, hp.symm, rfl, rfl, rfl⟩; simp [hc, hp]
      · simp [hc, hp, hid]
        refine .stale ?_ ?_ ⟨rfl, hc.symm, hp.symm, rfl, rfl, rfl⟩ <;> simp [hc, hp, hid]
    | some p =>
      have hd := h.distinct c p hc hp
      by_cases hid : c.id = id
      · subst hid
        by_cases hx : x = .ready
        · subst hx
          simp [hc, hp, Ne.symm hd]
          refine .curFwd c hc rfl ?_ ⟨rfl, rfl, hp.symm, rfl, rfl, rfl⟩; simp [hc, hp, Ne.symm hd]
        · simp [hc, hp, Ne.symm hd, hx, swap, closeBW, toDead]
          refine .swap c p p.last hc hp (.inl rfl) ?_ ?_ ⟨rfl, rfl, rfl, rfl, rfl, rfl⟩ <;>
            simp [hc, hp, Ne.symm hd, hx]
      · by_cases hpid : p.id = id
        · subst hpid
          by_cases hx : x = .connecting ∧ c.last.state = .ready
          · obtain ⟨rfl, hr⟩ := hx
            simp [hc, hp, hid, hr]
            refine .pendWait c p hc hp rfl rfl ?_ ⟨rfl, hc.symm, rfl, rfl, rfl, rfl⟩; simp [hc, hp, hid, hr]
          · have hx' : x ≠ .connecting ∨ c.last.state ≠ .ready := Decidable.not_and_iff_not_or_not.mp hx
            simp [hc, hp, hid, hx', swap, closeBW, toDead]
            refine .swap c p ⟨x, s.pkSerial + 1⟩ hc hp (.inr rfl) ?_ ?_ ⟨rfl, rfl, rfl, rfl, rfl, rfl⟩ <;>
              simp [hc, hp, hid, hx']
        · simp [hc, hp, hid, hpid]
          refine .stale ?_ ?_ ⟨rfl, hc.symm, hp.symm, rfl, rfl, rfl⟩ <;> simp [hc, hp, hid, hpid]

end

theorem inv_pending_none {s : St} (hp : s.pending = none) (curLe : ∀ c, s.current = some c → c.id ≤ s.serial)
    (graceful : ∀ c, s.current = some c → c.last = initBState ∨ s.pushed = some (c.id, c.last))
    (closedNone : s.closed = true → s.current = none) : Inv s :=
  have np : ∀ {p}, s.pending ≠ some p := fun h => by rw [hp] at h; cases h
  { curLe, graceful
    distinct := fun _ _ _ h2 => absurd h2 np
    pendLe := fun _ h2 => absurd h2 np
    pendCur := fun _ h2 => absurd h2 np
    pendConn := fun _ h2 => absurd h2 np
    closedNone := fun h => ⟨closedNone h, hp⟩ }

theorem inv_empty {s : St} (hc : s.current = none) (hp : s.pending = none) : Inv s :=
  have nc : ∀ {c}, s.current ≠ some c := fun h => by rw [hc] at h; cases h
  inv_pending_none hp (fun _ h1 => absurd h1 nc) (fun _ h1 => absurd h1 nc) fun _ => hc

theorem inv_cur_only {s : St} {c : BW} (hc : s.current = some c) (hp : s.pending = none) (hle : c.id ≤ s.serial)
    (hg : c.last = initBState ∨ s.pushed = some (c.id, c.last)) (hcl : s.closed = false) : Inv s :=
  inv_pending_none hp (fun c' h1 => by cases hc.symm.trans h1; exact hle)
    (fun c' h1 => by cases hc.symm.trans h1; exact hg) fun h1 => by rw [hcl] at h1; cases h1

/-- what `Inv` reads of a wrapper -/
def idLast (w : BW) : Nat × BState := (w.id, w.last)

theorem map_eq_some {β : Type} {f : BW → β} {a b : Option BW} (h : a.map f = b.map f) (w : BW) (ha : a = some w) :
    ∃ w', b = some w' ∧ f w' = f w := by
  subst ha; exact Option.map_eq_some_iff.mp h.symm

theorem map_idLast_some {a b : Option BW} (h : a.map idLast = b.map idLast) (w : BW) (ha : a = some w) :
    ∃ w', b = some w' ∧ w'.id = w.id ∧ w'.last = w.last :=
  (map_eq_some h w ha).imp fun _ h' => h'.imp_right Prod.mk.inj

theorem inv_of_ids {s s' : St} (h : Inv s) (hs : s'.serial = s.serial) (hcl : s'.closed = s.closed)
    (hc : s'.current.map (·.id) = s.current.map (·.id)) (hp : s'.pending.map (·.id) = s.pending.map (·.id))
    (conn : ∀ p, s'.pending = some p → p.last.state = .connecting)
    (gr : ∀ c, s'.current = some c → c.last = initBState ∨ s'.pushed = some (c.id, c.last)) : Inv s' where
  pendConn := conn
  graceful := gr
  distinct c p h1 h2 := by
    obtain ⟨c0, e1, i1⟩ := map_eq_some hc c h1
    obtain ⟨p0, e2, i2⟩ := map_eq_some hp p h2
    rw [← i1, ← i2]; exact h.distinct c0 p0 e1 e2
  curLe c h1 := by
    obtain ⟨c0, e1, i1⟩ := map_eq_some hc c h1
    rw [hs, ← i1]; exact h.curLe c0 e1
  pendLe p h2 := by
    obtain ⟨p0, e2, i2⟩ := map_eq_some hp p h2
    rw [hs, ← i2]; exact h.pendLe p0 e2
  pendCur p h2 := by
    obtain ⟨p0, e2, _⟩ := map_eq_some hp p h2
    obtain ⟨c0, e1⟩ := Option.isSome_iff_exists.mp (h.pendCur p0 e2)
    obtain ⟨c, e, _⟩ := map_eq_some hc.symm c0 e1
    rw [e]; rfl
  closedNone h1 := by
    obtain ⟨a, b⟩ := h.closedNone (hcl ▸ h1)
    exact ⟨by simpa [a] using hc, by simpa [b] using hp⟩

/-- what a step that only edits the SubConn sets of the roles leaves alone -/
structure Same (s s' : St) : Prop where
  current : s'.current.map idLast = s.current.map idLast
  pending : s'.pending.map idLast = s.pending.map idLast
  serial : s'.serial = s.serial
  closed : s'.closed = s.closed
  pushed : s'.pushed = s.pushed

theorem Same.of_untouched {s s' : St} (hc : s'.current = s.current := by rfl) (hp : s'.pending = s.pending := by rfl)
    (hs : s'.serial = s.serial := by rfl) (hcl : s'.closed = s.closed := by rfl)
    (hpu : s'.pushed = s.pushed := by rfl) : Same s s' :=
  ⟨hc ▸ rfl, hp ▸ rfl, hs, hcl, hpu⟩

theorem Same.refl (s : St) : Same s s := .of_untouched

theorem ids_of_same {s s' : St} (e : Same s s') :
    s'.current.map (·.id) = s.current.map (·.id) ∧ s'.pending.map (·.id) = s.pending.map (·.id) := by
  have := congrArg (Option.map Prod.fst) e.current
  have := congrArg (Option.map Prod.fst) e.pending
  simp_all [Option.map_map, Function.comp_def, idLast]

theorem inv_same {s s' : St} (h : Inv s) (e : Same s s') : Inv s' := by
  refine inv_of_ids h e.serial e.closed (ids_of_same e).1 (ids_of_same e).2 (fun p h2 => ?_) fun c h1 => ?_
  · obtain ⟨p0, e2, _, l2⟩ := map_idLast_some e.pending p h2
    rw [← l2]; exact h.pendConn p0 e2
  · obtain ⟨c0, e1, i1, l1⟩ := map_idLast_some e.current c h1
    rw [e.pushed, ← i1, ← l1]; exact h.graceful c0 e1

theorem same_of_map {s s' : St} {f : BW → BW} (hf : ∀ w, idLast (f w) = idLast w)
    (hc : s'.current = s.current.map f := by rfl) (hp : s'.pending = s.pending.map f := by rfl)
    (hs : s'.serial = s.serial := by rfl) (hcl : s'.closed = s.closed := by rfl)
    (hpu : s'.pushed = s.pushed := by rfl) : Same s s' := by
  have : ∀ o : Option BW, (o.map f).map idLast = o.map idLast := fun o => by cases o <;> simp [hf]
  exact ⟨hc ▸ this _, hp ▸ this _, hs, hcl, hpu⟩

theorem addSc_idLast (id sc : Nat) (w : BW) : idLast (addSc w id sc) = idLast w := by
  unfold addSc; split <;> rfl

/-- the state after the new wrapper was installed (before Build runs) -/
def install (s : St) (name : Nat) : St :=
  let bw : BW := ⟨s.serial + 1, name, initBState, []⟩
  if s.current.isNone then { s with current := some bw, serial := s.serial + 1 }
  else { s with pending := some bw, dead := toDead s.dead s.pending, serial := s.serial + 1 }

theorem install_none (s : St) (name : Nat) (hc : s.current = none) :
    (install s name).current = some ⟨s.serial + 1, name, initBState, []⟩ ∧ (install s name).pending = s.pending := by
  simp [install, hc]

theorem install_some (s : St) (name : Nat) (c : BW) (hc : s.current = some c) :
    (install s name).current = some c ∧ (install s name).pending = some ⟨s.serial + 1, name, initBState, []⟩ := by
  simp [install, hc]

theorem install_frame (s : St) (name : Nat) :
    (install s name).serial = s.serial + 1 ∧ (install s name).closed = s.closed := by
  unfold install; split <;> exact ⟨rfl, rfl⟩

/-- `Build` returned nil: the new wrapper is dropped again, and with it a pending switch -/
theorem install_retNil (s : St) (h : Inv s) (name : Nat) :
    (if (install s name).pending.isSome then { install s name with pending := none }
      else { install s name with current := none }) =
    { s with pending := none, dead := toDead s.dead s.pending, serial := s.serial + 1 } := by
  cases hc : s.current with
  | none => simp [install, hc, pending_none_of_current_none h hc, toDead]
  | some c => simp [install, hc]

theorem inv_install (s : St) (h : Inv s) (hcl : s.closed = false) (name : Nat) : Inv (install s name) := by
  cases hc : s.current with
  | none =>
    obtain ⟨e1, e2⟩ := install_none s name hc
    exact inv_cur_only e1 (e2.trans (pending_none_of_current_none h hc)) (by simp [install, hc]) (.inl rfl)
      (by simp [install, hc, hcl])
  | some c =>
    obtain ⟨e1, e2⟩ := install_some s name c hc
    have hle := h.curLe c hc
    have hser := (install_frame s name).1
    have hpu : (install s name).pushed = s.pushed := by simp [install, hc]
    exact {
      distinct := fun c' p h1 h2 => by
        rw [e1] at h1; rw [e2] at h2; cases h1; cases h2; exact Nat.ne_of_lt (Nat.lt_succ_of_le hle)
      curLe := fun c' h1 => by rw [e1] at h1; cases h1; rw [hser]; exact Nat.le_succ_of_le hle
      pendLe := fun p h2 => by rw [e2] at h2; cases h2; rw [hser]; exact Nat.le_refl _
      pendCur := fun p _ => by rw [e1]; rfl
      pendConn := fun p h2 => by rw [e2] at h2; cases h2; rfl
      graceful := fun c' h1 => by rw [e1] at h1; cases h1; rw [hpu]; exact h.graceful _ hc
      closedNone := fun h1 => by simp [install, hc, hcl] at h1 }

theorem switchTo_eq (s : St) (name : Nat) (sc : Script) :
    switchTo s name sc =
      if s.closed then (s, [], .closed) else
      if sc = .retNil then
        (if (install s name).pending.isSome then { install s name with pending := none }
         else { install s name with current := none },
         closeBW s.pending ++ [.build (s.serial + 1)], .bad)
      else ((runScript (install s name) (s.serial + 1) sc).1,
            closeBW s.pending ++ [.build (s.serial + 1)] ++ (runScript (install s name) (s.serial + 1) sc).2, .ok) :=
  rfl

def Role (s : St) (w : BW) : Prop := s.current = some w ∨ s.pending = some w

/-- the monitor's `pushesFromCurrent` as a proposition (`pushesFromCurrent_iff`) -/
def PushOK (s' : St) (evs : List Ev) : Prop :=
  ∀ o b, Ev.push o b ∈ evs → match s'.current with | some c => o = c.id | none => o = 0

def NoPush (evs : List Ev) : Prop := ∀ o b, Ev.push o b ∉ evs

theorem NoPush.nil : NoPush [] := nofun

theorem NoPush.append {e1 e2 : List Ev} (h1 : NoPush e1) (h2 : NoPush e2) : NoPush (e1 ++ e2) :=
  fun o b hm => (List.mem_append.mp hm).elim (h1 o b) (h2 o b)

theorem NoPush.pushOK {evs : List Ev} (np : NoPush evs) (s' : St) : PushOK s' evs :=
  fun o b hm => absurd hm (np o b)

theorem pushesFromCurrent_iff (s' : St) (evs : List Ev) : pushesFromCurrent s' evs = true ↔ PushOK s' evs := by
  simp only [pushesFromCurrent, List.all_eq_true, PushOK]
  constructor
  · intro h o b hm
    have := h _ hm
    cases hc : s'.current <;> simpa [hc] using this
  · intro h e he
    cases e with
    | push o b =>
      have := h o b he
      cases hc : s'.current <;> simpa [hc] using this
    | _ => rfl

/-- the monitor's `retiredClosed` as a proposition (`retiredClosed_iff`) -/
def Retired (s s' : St) (evs : List Ev) : Prop :=
  ∀ w, Role s w → curOrPend s' w.id = false →
    Ev.closeChild w.id ∈ evs ∧ ∀ sc ∈ w.subconns, Ev.sd sc ∈ evs

theorem retiredClosed_iff (s s' : St) (evs : List Ev) : retiredClosed s s' evs = true ↔ Retired s s' evs := by
  simp only [retiredClosed, List.all_eq_true, List.mem_append, Option.mem_toList, Bool.or_eq_true,
    Bool.and_eq_true, List.contains_iff_mem, Retired, Role]
  constructor
  · intro h w hw hf
    rcases h w (by simpa [Option.mem_def] using hw) with h1 | h1
    · simp [hf] at h1
    · exact h1
  · intro h w hw
    cases hcp : curOrPend s' w.id with
    | true => left; rfl
    | false => right; exact h w (by simpa [Option.mem_def] using hw) hcp

theorem closeBW_retires (w : BW) : Ev.closeChild w.id ∈ closeBW (some w) ∧ ∀ sc ∈ w.subconns, Ev.sd sc ∈ closeBW (some w) :=
  ⟨List.mem_cons_self .., fun sc hsc => List.mem_cons_of_mem _ (List.mem_map.mpr ⟨sc, hsc, rfl⟩)⟩

theorem curOrPend_of_role (s : St) (w : BW) (h : Role s w) : curOrPend s w.id = true := by
  rcases h with h | h <;> simp [curOrPend, isCur, isPend, h]

theorem Report.of_no_role {s s' : St} {id : Nat} {x : ConnState} {evs : List Ev} (r : Report s id x s' evs)
    (h : curOrPend s id = false) :
    Effect s s' evs (evs0 := []) (cur := s.current) (pend := s.pending) (pushed := s.pushed) := by
  have no : ∀ w, Role s w → w.id ≠ id := fun w hw e => by
    have := curOrPend_of_role s w hw
    rw [e, h] at this; cases this
  cases r with
  | stale _ _ eff => exact eff
  | curFwd c hcur hid => exact absurd hid (no c (.inl hcur))
  | swap c p _ hcur hpend hid => exact hid.elim (absurd · (no c (.inl hcur))) (absurd · (no p (.inr hpend)))
  | pendWait c p hcur hpend hid => exact absurd hid (no p (.inr hpend))

theorem no_role {s : St} (h : Inv s) (hc : s.current = none) (w : BW) : ¬ Role s w := by
  rintro (hw | hw)
  · rw [hc] at hw; cases hw
  · rw [pending_none_of_current_none h hc] at hw; cases hw

theorem closeBW_noPush (w : Option BW) : NoPush (closeBW w) := by
  cases w <;> simp [NoPush, closeBW]

/-- What became of `w`, a role before a step: it still has a role, with at least the SubConns it had, or it was
    closed in `evs` together with them.  `Retired` follows; unlike `Retired`, this holds of two steps in a row
    if it holds of each. -/
def Fate (s' : St) (evs : List Ev) (w : BW) : Prop :=
  (∃ w', Role s' w' ∧ w'.id = w.id ∧ ∀ sc ∈ w.subconns, sc ∈ w'.subconns) ∨
  (Ev.closeChild w.id ∈ evs ∧ ∀ sc ∈ w.subconns, Ev.sd sc ∈ evs)

theorem Fate.stay {s : St} {w : BW} (hw : Role s w) (evs : List Ev) : Fate s evs w :=
  .inl ⟨w, hw, rfl, fun _ h => h⟩

theorem Fate.closed {s' : St} {evs : List Ev} (w : BW) (sub : ∀ e ∈ closeBW (some w), e ∈ evs) : Fate s' evs w :=
  .inr ⟨sub _ (closeBW_retires w).1, fun sc h => sub _ ((closeBW_retires w).2 sc h)⟩

theorem Fate.trans {s1 s2 : St} {ev1 ev2 : List Ev} {w : BW} (f1 : Fate s1 ev1 w)
    (f2 : ∀ w1, Role s1 w1 → Fate s2 ev2 w1) : Fate s2 (ev1 ++ ev2) w := by
  rcases f1 with ⟨w1, r1, i1, e1⟩ | ⟨a, b⟩
  · rcases f2 w1 r1 with ⟨w2, r2, i2, e2⟩ | ⟨a, b⟩
    · exact .inl ⟨w2, r2, i2.trans i1, fun sc h => e2 sc (e1 sc h)⟩
    · exact .inr ⟨List.mem_append_right _ (i1 ▸ a), fun sc h => List.mem_append_right _ (b sc (e1 sc h))⟩
  · exact .inr ⟨List.mem_append_left _ a, fun sc h => List.mem_append_left _ (b sc h)⟩

theorem retired_of_fate {s s' : St} {evs : List Ev} (f : ∀ w, Role s w → Fate s' evs w) : Retired s s' evs := by
  intro w hw hf
  rcases f w hw with ⟨w', r, i, _⟩ | h
  · have := curOrPend_of_role s' w' r; rw [i, hf] at this; cases this
  · exact h

theorem curOrPend_of_ids {s s' : St} (hc : s'.current.map (·.id) = s.current.map (·.id))
    (hp : s'.pending.map (·.id) = s.pending.map (·.id)) (i : Nat) : curOrPend s' i = curOrPend s i := by
  have a : ∀ (o : Option BW), o.any (fun w => decide (w.id = i)) = (o.map (·.id)).any (fun j => decide (j = i)) := by
    intro o; cases o <;> rfl
  simp only [curOrPend, isCur, isPend, a, hc, hp]

theorem latest_of_ids {s s' : St} (hc : s'.current.map (·.id) = s.current.map (·.id))
    (hp : s'.pending.map (·.id) = s.pending.map (·.id)) : (latest s').map (·.id) = (latest s).map (·.id) := by
  unfold latest
  cases h1 : s'.pending <;> cases h2 : s.pending <;> simp_all

theorem retired_of_same {s s' : St} (evs : List Ev) (e : Same s s') : Retired s s' evs := by
  intro w hw hf
  rw [curOrPend_of_ids (ids_of_same e).1 (ids_of_same e).2, curOrPend_of_role s w hw] at hf
  cases hf

/-- What every op does: the invariant, what the monitor checks of the op (`PushOK`, `Retired`), and a closed
    balancer stays closed. -/
structure StepOK (s s' : St) (evs : List Ev) : Prop where
  inv : Inv s'
  push : PushOK s' evs
  retired : Retired s s' evs
  closed : s.closed = true → s'.closed = true

theorem stepOK_same {s s' : St} (h : Inv s) {evs : List Ev} (e : Same s s') (np : NoPush evs) : StepOK s s' evs :=
  ⟨inv_same h e, np.pushOK s', retired_of_same evs e, e.closed.trans⟩

/-- What calls made by child `x` (`UpdateState`, `NewSubConn`) take `s` to and emit.  The last field is about the
    latest policy, the one whose calls come from inside `Build` and `UpdateClientConnState`: it stays the latest, and a
    push it causes leaves it the only role.  With `pend` that is what keeps `push` true of several calls in a row. -/
structure Calls (x : Nat) (s s' : St) (evs : List Ev) : Prop where
  inv : Inv s'
  serial : s'.serial = s.serial
  closed : s'.closed = s.closed
  fate : ∀ w, Role s w → Fate s' evs w
  mono : ∀ i, curOrPend s' i = true → curOrPend s i = true
  push : PushOK s' evs
  pend : s.pending = none → s'.pending = none
  ofLatest : (latest s).map (·.id) = some x →
    (latest s').map (·.id) = some x ∧ ∀ o b, Ev.push o b ∈ evs → s'.pending = none

theorem Calls.stepOK {x : Nat} {s s' : St} {evs : List Ev} (h : Calls x s s' evs) : StepOK s s' evs :=
  ⟨h.inv, h.push, retired_of_fate h.fate, h.closed.trans⟩

theorem latest_of_pending_none {s : St} (hp : s.pending = none) : latest s = s.current := by
  simp [latest, hp]

theorem Calls.trans {x : Nat} {s s1 s2 : St} {ev1 ev2 : List Ev} (hl : (latest s).map (·.id) = some x)
    (h1 : Calls x s s1 ev1) (h2 : Calls x s1 s2 ev2) : Calls x s s2 (ev1 ++ ev2) := by
  obtain ⟨l1, q1⟩ := h1.ofLatest hl
  obtain ⟨l2, q2⟩ := h2.ofLatest l1
  refine {
    inv := h2.inv, serial := h2.serial.trans h1.serial, closed := h2.closed.trans h1.closed
    fate := fun w hw => (h1.fate w hw).trans h2.fate
    mono := fun i hi => h1.mono i (h2.mono i hi)
    push := fun o b hm => ?_
    pend := fun hp => h2.pend (h1.pend hp)
    ofLatest := fun _ => ⟨l2, fun o b hm => (List.mem_append.mp hm).elim (fun hm => h2.pend (q1 o b hm)) (q2 o b)⟩ }
  rcases List.mem_append.mp hm with hm | hm
  · -- a push of the first call left `x` the only role, and so it is after the second: the same policy is current
    have ho := h1.push o b hm
    rw [latest_of_pending_none (q1 o b hm)] at l1
    rw [latest_of_pending_none (h2.pend (q1 o b hm))] at l2
    obtain ⟨c1, hc1, e1⟩ := Option.map_eq_some_iff.mp l1
    obtain ⟨c2, hc2, e2⟩ := Option.map_eq_some_iff.mp l2
    rw [hc1] at ho; rw [hc2]
    exact ho.trans (e1.trans e2.symm)
  · exact h2.push o b hm

theorem Calls.of_ids {x : Nat} {s s' : St} {evs : List Ev} (h : Inv s) (hs : s'.serial = s.serial)
    (hcl : s'.closed = s.closed) (hc : s'.current.map (·.id) = s.current.map (·.id))
    (hp : s'.pending.map (·.id) = s.pending.map (·.id))
    (conn : ∀ p, s'.pending = some p → p.last.state = .connecting)
    (gr : ∀ c, s'.current = some c → c.last = initBState ∨ s'.pushed = some (c.id, c.last))
    (fate : ∀ w, Role s w → Fate s' evs w) (push : PushOK s' evs)
    (np : (latest s).map (·.id) = some x → ∀ o b, Ev.push o b ∈ evs → s'.pending = none) : Calls x s s' evs :=
  { inv := inv_of_ids h hs hcl hc hp conn gr, serial := hs, closed := hcl, fate, push
    mono := fun i hi => curOrPend_of_ids hc hp i ▸ hi
    pend := fun h => by simpa [h] using hp
    ofLatest := fun hl => ⟨(latest_of_ids hc hp).trans hl, np hl⟩ }

theorem calls_of_same {x : Nat} {s s' : St} {evs : List Ev} (h : Inv s) (e : Same s s')
    (np : NoPush evs) (fate : ∀ w, Role s w → Fate s' evs w) : Calls x s s' evs :=
  .of_ids h e.serial e.closed (ids_of_same e).1 (ids_of_same e).2 (inv_same h e).pendConn (inv_same h e).graceful fate
    (push := np.pushOK s') (np := fun _ o b hm => absurd hm (np o b))

theorem Calls.refl {x : Nat} {s : St} (h : Inv s) {evs : List Ev} (np : NoPush evs) : Calls x s s evs :=
  calls_of_same h (.refl s) np fun _ hw => .stay hw _

theorem calls_newSubConn (s : St) (h : Inv s) (id : Nat) : Calls id s (newSubConn s id).1 (newSubConn s id).2 := by
  simp only [newSubConn]
  split
  · exact .refl h (by simp [NoPush])
  · refine calls_of_same h (same_of_map (addSc_idLast id _)) (by simp [NoPush]) fun w hw => ?_
    refine .inl ⟨addSc w id (s.scSerial + 1), hw.imp (by simp [·]) (by simp [·]), by unfold addSc; split <;> rfl,
      fun sc hsc => ?_⟩
    unfold addSc; split
    · exact List.mem_append_left _ hsc
    · exact hsc

theorem calls_updateState (s : St) (h : Inv s) (id : Nat) (x : ConnState) :
    Calls id s (updateState s id x).1 (updateState s id x).2 := by
  cases updateState_report s h id x with
  | stale hnone hss eff =>
    exact calls_of_same h (.of_untouched eff.current eff.pending eff.serial eff.closed eff.pushed) (eff.evs ▸ .nil)
      fun w hw => .stay (hw.imp (eff.current ▸ ·) (eff.pending ▸ ·)) _
  | curFwd c hcur hid hss eff =>
    refine .of_ids h eff.serial eff.closed (hc := by rw [eff.current, hcur]; rfl) (hp := by rw [eff.pending])
      (conn := by rw [eff.pending]; exact h.pendConn) (gr := fun c' h1 => ?_) (fate := fun w hw => ?_)
      (push := fun o b hm => ?_) (np := fun hl o b _ => ?_)
    · rw [eff.current] at h1; cases h1; right; rw [eff.pushed, hid]
    · rcases hw with hw | hw
      · cases hcur.symm.trans hw; exact .inl ⟨_, .inl eff.current, rfl, fun _ h => h⟩
      · exact .stay (.inr (eff.pending ▸ hw)) _
    · rw [eff.evs] at hm; cases List.mem_singleton.mp hm
      rw [eff.current]; exact hid.symm
    · -- the current policy is the latest only if nothing is pending
      rw [eff.pending]
      cases hp : s.pending with
      | none => rfl
      | some p =>
        simp only [latest, hp, Option.map_some, Option.some.injEq] at hl
        exact absurd (hid.trans hl.symm) (h.distinct c p hcur hp)
  | swap c p ps hcur hpend hid hss hps eff =>
    have hncl : (updateState s id x).1.closed = false := by
      rw [eff.closed]; cases hc : s.closed with
      | false => rfl
      | true => have := (h.closedNone hc).1; rw [hcur] at this; cases this
    refine {
      inv := inv_cur_only eff.current eff.pending (eff.serial ▸ h.pendLe p hpend) (.inr eff.pushed) hncl
      serial := eff.serial, closed := eff.closed, fate := fun w hw => ?_, mono := fun i hi => ?_
      push := fun o b hm => ?_, pend := fun _ => eff.pending, ofLatest := fun hl => ⟨?_, fun _ _ _ => eff.pending⟩ }
    · rcases hw with hw | hw
      · cases hcur.symm.trans hw
        exact .closed _ fun e he => eff.evs ▸ List.mem_cons_of_mem _ he
      · cases hpend.symm.trans hw; exact .inl ⟨_, .inl eff.current, rfl, fun _ h => h⟩
    · -- the only role left is `p`, which had one
      have : p.id = i := by simpa [curOrPend, isCur, isPend, eff.current, eff.pending] using hi
      exact this ▸ curOrPend_of_role s p (.inr hpend)
    · rw [eff.evs] at hm
      rcases List.mem_cons.mp hm with hm | hm
      · cases hm; rw [eff.current]
      · exact absurd hm (closeBW_noPush _ o b)
    · simp only [latest, hpend, Option.map_some] at hl
      simp only [latest, eff.pending, eff.current, Option.map_some]; exact hl
  | pendWait c p hcur hpend hid hx hss eff =>
    refine .of_ids h eff.serial eff.closed (hc := by rw [eff.current]) (hp := by rw [eff.pending, hpend]; rfl)
      (conn := fun p' h2 => by rw [eff.pending] at h2; cases h2; exact hx)
      (gr := by rw [eff.current, eff.pushed]; exact h.graceful) (fate := fun w hw => ?_)
      (push := by rw [eff.evs]; exact nofun) (np := by rw [eff.evs]; exact nofun)
    rcases hw with hw | hw
    · exact .stay (.inl (eff.current ▸ hw)) _
    · cases hpend.symm.trans hw; exact .inl ⟨_, .inr eff.pending, rfl, fun _ h => h⟩

theorem calls_runScript (s : St) (h : Inv s) (id : Nat) (sc : Script) :
    Calls id s (runScript s id sc).1 (runScript s id sc).2 := by
  cases sc with
  | st x => exact calls_updateState s h id x
  | nsc => exact calls_newSubConn s h id
  | _ => exact Calls.refl h .nil

theorem fate_of_current_kept {s s' : St} {rest : List Ev} {w : BW} (hc : ∀ c, s.current = some c → s'.current = some c)
    (hw : Role s w) : Fate s' (closeBW s.pending ++ rest) w := by
  rcases hw with hw | hw
  · exact .stay (.inl (hc w hw)) _
  · rw [hw]; exact .closed w fun e he => List.mem_append_left _ he

theorem latest_install (s : St) (h : Inv s) (name : Nat) :
    (latest (install s name)).map (·.id) = some (s.serial + 1) := by
  cases hc : s.current with
  | none => simp [latest, install_none s name hc, pending_none_of_current_none h hc]
  | some c => simp [latest, install_some s name c hc]

theorem install_noPush (s : St) : NoPush (closeBW s.pending ++ [.build (s.serial + 1)]) :=
  (closeBW_noPush _).append (by simp [NoPush])

theorem stepOK_install_then (s : St) (name : Nat) {s' : St} {evs : List Ev}
    (hi : Calls (s.serial + 1) (install s name) s' evs) :
    StepOK s s' (closeBW s.pending ++ [.build (s.serial + 1)] ++ evs) := by
  refine ⟨hi.inv, fun o b hm => ?_,
    retired_of_fate fun _ hw => (fate_of_current_kept (fun c hc => (install_some s name c hc).1) hw).trans hi.fate,
    fun hc => hi.closed.trans ((install_frame s name).2.trans hc)⟩
  rcases List.mem_append.mp hm with hm | hm
  · exact absurd hm (install_noPush s o b)
  · exact hi.push o b hm

theorem stepOK_switchTo (s : St) (h : Inv s) (name : Nat) (sc : Script) :
    StepOK s (switchTo s name sc).1 (switchTo s name sc).2.1 := by
  rw [switchTo_eq]
  cases hcl : s.closed with
  | true => exact stepOK_same h (.refl s) .nil
  | false =>
    by_cases hsc : sc = .retNil
    · -- `Build` returned nil: the old current is left alone
      rw [if_neg Bool.false_ne_true, if_pos hsc, install_retNil s h name]
      refine ⟨inv_pending_none rfl (fun c hc => Nat.le_succ_of_le (h.curLe c hc)) h.graceful
          fun hc => by simp [hcl] at hc,
        (install_noPush s).pushOK _, retired_of_fate fun _ hw => fate_of_current_kept (fun _ hc => hc) hw, id⟩
    · rw [if_neg Bool.false_ne_true, if_neg hsc]
      exact stepOK_install_then s name (calls_runScript _ (inv_install s h hcl name) _ sc)

theorem install_roles (s : St) (h : Inv s) (name i : Nat) (hi : curOrPend (install s name) i = true) :
    isCur s i = true ∨ i = s.serial + 1 := by
  cases hc : s.current with
  | none =>
    obtain ⟨e1, e2⟩ := install_none s name hc
    have : s.serial + 1 = i := by simpa [curOrPend, isCur, isPend, e1, e2, pending_none_of_current_none h hc] using hi
    exact .inr this.symm
  | some c =>
    obtain ⟨e1, e2⟩ := install_some s name c hc
    have : c.id = i ∨ s.serial + 1 = i := by simpa [curOrPend, isCur, isPend, e1, e2] using hi
    exact this.imp (by simp [isCur, hc, ·]) Eq.symm

theorem switchTo_roles (s : St) (h : Inv s) (name : Nat) (sc : Script) (i : Nat)
    (hi : curOrPend (switchTo s name sc).1 i = true) : isCur s i = true ∨ i = s.serial + 1 := by
  rw [switchTo_eq] at hi
  cases hcl : s.closed with
  | true =>
    -- refused: a closed balancer has no role
    simp [hcl, curOrPend, isCur, isPend, h.closedNone hcl] at hi
  | false =>
    rw [hcl, if_neg Bool.false_ne_true] at hi
    by_cases hsc : sc = .retNil
    · rw [if_pos hsc, install_retNil s h name] at hi
      exact .inl (by simpa [curOrPend, isCur, isPend] using hi)
    · rw [if_neg hsc] at hi
      exact install_roles s h name i ((calls_runScript _ (inv_install s h hcl name) _ sc).mono i hi)

theorem latest_none (s : St) (hl : latest s = none) : s.current = none ∧ s.pending = none := by
  unfold latest at hl
  cases hp : s.pending with
  | some p => simp [hp] at hl
  | none => simp only [hp] at hl; exact ⟨hl, rfl⟩

theorem latest_any_of_no_role {s : St} {id : Nat} (h : curOrPend s id = false) :
    (latest s).any (fun w => decide (w.id = id)) = false := by
  simp only [curOrPend, isCur, isPend, Bool.or_eq_false_iff] at h
  unfold latest
  cases hp : s.pending with
  | some p => simpa [hp] using h.2
  | none => simpa [hp] using h.1

theorem switchTo_ok {s : St} {n : Nat} {build : Script} (hr : (switchTo s n build).2.2 = .ok) :
    s.closed = false ∧
    switchTo s n build = ((runScript (install s n) (s.serial + 1) build).1,
      closeBW s.pending ++ [.build (s.serial + 1)] ++ (runScript (install s n) (s.serial + 1) build).2, .ok) := by
  cases hcl : s.closed with
  | true => rw [switchTo_eq, hcl, if_pos rfl] at hr; cases hr
  | false =>
    rw [switchTo_eq, hcl, if_neg Bool.false_ne_true] at hr ⊢
    by_cases hsc : build = .retNil
    · rw [if_pos hsc] at hr; cases hr
    · exact ⟨rfl, if_neg hsc⟩

theorem stepOK_ucc (s : St) (h : Inv s) (name : Option Nat) (build sc : Script) :
    StepOK s (step s (.ucc name build sc)).1 (step s (.ucc name build sc)).2.1 := by
  -- the update is forwarded to `x`, the latest policy, whose child may call from inside it
  have fwd : ∀ {s : St} (_ : Inv s) (x : Nat), (latest s).map (·.id) = some x →
      Calls x s (runScript s x sc).1 ([Ev.ucc x] ++ (runScript s x sc).2) :=
    fun h x hl => (Calls.refl h (by simp [NoPush])).trans hl (calls_runScript _ h x sc)
  have noSwitch : StepOK s (step s (.ucc none build sc)).1 (step s (.ucc none build sc)).2.1 := by
    simp only [step]
    cases hl : latest s with
    | none => exact stepOK_same h (.refl s) .nil
    | some w => exact (fwd h w.id (by rw [hl]; rfl)).stepOK
  cases name with
  | none => exact noSwitch
  | some n =>
    simp only [step]
    by_cases hn : (latest s).all (·.name ≠ n)
    · -- automatic switch, then (if it succeeded) the update is forwarded to the new child
      rw [if_pos hn]
      by_cases hr : (switchTo s n build).2.2 = .ok
      · obtain ⟨hcl, e⟩ := switchTo_ok hr
        have hb := calls_runScript _ (inv_install s h hcl n) (s.serial + 1) build
        have hl := latest_install s h n
        rw [if_neg (not_not_intro hr), e]
        -- `step` finds the new child as `s1.serial`, where `s1` is the state after `Build`: that is `s.serial + 1`;
        -- what is left is to bracket the events as `stepOK_install_then` has them
        simp only [hb.serial.trans (install_frame s n).1, List.append_assoc]
        exact List.append_assoc .. ▸ stepOK_install_then s n (hb.trans hl (fwd hb.inv _ (hb.ofLatest hl).1))
      · rw [if_pos hr]; exact stepOK_switchTo s h n build
    · -- the named policy is the latest one already
      rw [if_neg hn]; exact noSwitch

theorem stepOK_subConnState (s : St) (h : Inv s) (sc : Nat) (x : ConnState) (l : Bool) :
    StepOK s (subConnState s sc x l).1 (subConnState s sc x l).2 := by
  simp only [subConnState]
  split
  · exact stepOK_same h (.refl s) .nil
  · next w _ =>
    have np : NoPush [if l then Ev.scListen w.id sc x else Ev.uscs w.id sc x] := by cases l <;> simp [NoPush]
    split
    · exact stepOK_same h
        (same_of_map (f := fun c => if c.id = w.id then rmSc c sc else c) fun c => by split <;> rfl) np
    · exact stepOK_same h (.refl s) np

theorem inv_subConnState (s : St) (h : Inv s) (sc : Nat) (x : ConnState) (l : Bool) :
    Inv (subConnState s sc x l).1 := (stepOK_subConnState s h sc x l).inv

theorem stepOK_step (s : St) (h : Inv s) (op : Op) : StepOK s (step s op).1 (step s op).2.1 := by
  have same : ∀ evs : List Ev, NoPush evs → StepOK s s evs := fun evs np => stepOK_same h (.refl s) np
  cases op with
  | switchTo name sc => exact stepOK_switchTo s h name sc
  | ucc name build sc => exact stepOK_ucc s h name build sc
  | resErr =>
    simp only [step]
    cases hl : latest s with
    | some w => exact same _ (by simp [NoPush])
    | none =>
      obtain ⟨hc, hp⟩ := latest_none s hl
      refine ⟨inv_empty hc hp, fun o b hm => ?_, fun w hw => absurd hw (no_role h hc w), id⟩
      cases List.mem_singleton.mp hm
      simp [hc]
  | exitIdle =>
    simp only [step]
    cases hl : latest s <;> exact same _ (by simp [NoPush])
  | close =>
    refine ⟨inv_empty rfl rfl, ((closeBW_noPush _).append (closeBW_noPush _)).pushOK _,
      retired_of_fate fun w hw => ?_, fun _ => rfl⟩
    rcases hw with hw | hw <;> simp only [step, hw]
    · exact .closed w fun e he => List.mem_append_left _ he
    · exact .closed w fun e he => List.mem_append_right _ he
  | st child x => exact (calls_updateState s h child x).stepOK
  | nsc child => exact (calls_newSubConn s h child).stepOK
  | nscb child =>
    simp only [step]
    fun_cases nscBegin s child
    · exact same _ (by simp [NoPush])
    · exact stepOK_same h .of_untouched (by simp [NoPush])
  | nsce sc =>
    simp only [step]
    fun_cases nscEnd s sc
    · exact same _ .nil
    · exact stepOK_same h (same_of_map (addSc_idLast _ sc)) (by simp [NoPush])
    · exact stepOK_same h .of_untouched (by simp [NoPush])
  | scst sc x => exact stepOK_subConnState s h sc x true
  | uscs sc x => exact stepOK_subConnState s h sc x false
  | scsd sc => simp only [step]; exact same _ (by simp [NoPush])
  | rn child => simp only [step]; exact same _ (by intro o b hm; split at hm <;> simp at hm)
  | ua child sc => simp only [step]; exact same _ (by intro o b hm; split at hm <;> simp at hm)

theorem inv_init : Inv {} := inv_empty rfl rfl

theorem inv_run (s : St) (h : Inv s) (ops : List Op) : Inv (run s ops) := by
  induction ops generalizing s with
  | nil => exact h
  | cons op t ih => exact ih _ (stepOK_step s h op).inv

theorem shouldSwap_report (s : St) (h : Inv s) (id : Nat) (x : ConnState) :
    (shouldSwap s id x = true ∧ ∃ c p, s.current = some c ∧ s.pending = some p ∧ (c.id = id ∨ p.id = id)) ∨
    (shouldSwap s id x = false) := by
  cases updateState_report s h id x with
  | stale hnone hss => exact .inr hss
  | curFwd c hcur hid hss => exact .inr hss
  | swap c p ps hcur hpend hid hss => exact .inl ⟨hss, c, p, hcur, hpend, hid⟩
  | pendWait c p hcur hpend hid hx hss => exact .inr hss

theorem isCur_of_pend {s : St} (h : Inv s) {c p : BW} (hcur : s.current = some c) (hpend : s.pending = some p) :
    isCur s p.id = false := by
  simp [isCur, hcur, h.distinct c p hcur hpend]

theorem report_spec (s : St) (h : Inv s) (id : Nat) (x : ConnState) :
    (updateState s id x).2 = specReport s id x := by
  unfold specReport
  cases updateState_report s h id x with
  | stale hcp hss eff =>
    have hic : isCur s id = false := (Bool.or_eq_false_iff.mp hcp).1
    rw [eff.evs, hss, hic]; rfl
  | curFwd c hcur hid hss eff =>
    have hic : isCur s id = true := by simp [isCur, hcur, hid]
    rw [eff.evs, hss, hic]; rfl
  | swap c p ps hcur hpend hid hss hps eff => rw [eff.evs, hss, hpend, hcur, hps]; rfl
  | pendWait c p hcur hpend hid hx hss eff => rw [eff.evs, hss, ← hid, isCur_of_pend h hcur hpend]; rfl

theorem report_effect (s : St) (h : Inv s) (id : Nat) (x : ConnState) :
    (shouldSwap s id x = true →
      (updateState s id x).1.current.map (·.id) = s.pending.map (·.id) ∧ (updateState s id x).1.pending = none ∧
      ∀ c, s.current = some c → curOrPend (updateState s id x).1 c.id = false) ∧
    (shouldSwap s id x = false →
      (updateState s id x).1.current.map (·.id) = s.current.map (·.id) ∧
      (updateState s id x).1.pending.map (·.id) = s.pending.map (·.id)) := by
  cases updateState_report s h id x with
  | stale hnone hss eff => rw [hss, eff.current, eff.pending]; exact ⟨nofun, fun _ => ⟨rfl, rfl⟩⟩
  | curFwd c hcur hid hss eff => rw [hss, eff.current, eff.pending, hcur]; exact ⟨nofun, fun _ => ⟨rfl, rfl⟩⟩
  | swap c p ps hcur hpend hid hss hps eff =>
    rw [hss, eff.current, eff.pending, hpend, hcur]
    refine ⟨fun _ => ⟨rfl, rfl, fun c' hc' => ?_⟩, nofun⟩
    cases hc'
    simp [curOrPend, isCur, isPend, eff.current, eff.pending, Ne.symm (h.distinct c p hcur hpend)]
  | pendWait c p hcur hpend hid hx hss eff => rw [hss, eff.current, eff.pending, hpend]; exact ⟨nofun, fun _ => ⟨rfl, rfl⟩⟩

theorem run_closed (s : St) (h : Inv s) (ops : List Op) (hcl : s.closed = true) : (run s ops).closed = true := by
  induction ops generalizing s with
  | nil => exact hcl
  | cons op t ih => exact ih _ (stepOK_step s h op).inv ((stepOK_step s h op).closed hcl)

end GrpcProofs.Lemmas.GracefulSwitch
