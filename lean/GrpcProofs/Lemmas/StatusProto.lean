/-
Lemmas about the protobuf wire-format port in GrpcModel/Model/Status.lean: varint and
length-delimited round trips, and `unmarshal (marshalBody st) = some st` for google.rpc.Status.
-/
import GrpcModel.Model.Status
namespace GrpcProofs.Lemmas.StatusProto
open GrpcModel.Status GrpcModel
open GrpcModel.Base64 (Bytes)

theorem pow_split (i : Nat) (hi : i ≤ 8) : 2 ^ (64 - 7 * i) = 128 * 2 ^ (64 - 7 * (i + 1)) := by
  have : 64 - 7 * i = (64 - 7 * (i + 1)) + 7 := by omega
  rw [this, Nat.pow_add]; exact Nat.mul_comm _ _

theorem recombine (v p : Nat) : v % 128 * p + v / 128 * (p * 128) = v * p := by
  rw [Nat.mul_comm p 128, ← Nat.mul_assoc, ← Nat.add_mul, Nat.add_comm, Nat.mul_comm (v / 128), Nat.div_add_mod]

/-- `consumeVarintAux` after `i` groups of 7 bits, with `fuel = 10 - i` groups still allowed: `v` is what is left of a
    64-bit value, so `v < 2 ^ (64 - 7 i)`. At the tenth byte (`i = 9`) that bound is `v < 2`, which is the overflow test
    made there; before it, a value that does not fit one group leaves `v / 128` below the next bound (`pow_split`). -/
theorem varint_aux (fuel : Nat) : ∀ i acc v (tail : Bytes), i + fuel = 10 → 1 ≤ fuel → v < 2 ^ (64 - 7 * i) →
    consumeVarintAux i acc (appendVarint fuel v ++ tail) = some (acc + v * 2 ^ (7 * i), tail) := by
  intro i acc v tail hi hf hv
  fun_induction appendVarint fuel v generalizing i acc with
  | case1 => omega
  | case2 f v hsmall =>  -- the last group: `consumeVarintAux` stops here, at the tenth byte by the overflow test
    rw [List.singleton_append, consumeVarintAux, UInt8.toNat_ofNat_of_lt' (show v < 256 by omega)]
    by_cases h9 : i = 9
    · subst h9
      rw [if_pos rfl, if_pos (by simpa using hv)]
    · rw [if_neg h9, if_pos hsmall]
  | case3 f v hsmall ih =>  -- a continuation byte, which cannot be the tenth
    have hi8 : i ≤ 8 := by
      apply Classical.byContradiction; intro h
      have : i = 9 := by omega
      subst this
      have : v < 2 := by simpa using hv
      omega
    have hv' : v / 128 < 2 ^ (64 - 7 * (i + 1)) := by
      rw [pow_split i hi8] at hv
      exact Nat.div_lt_of_lt_mul hv
    rw [List.cons_append, consumeVarintAux, UInt8.toNat_ofNat_of_lt' (show _ < 256 by omega),
      if_neg (by omega), if_neg (by omega),
      ih (i + 1) _ (by omega) (by omega) hv', Nat.add_sub_cancel, Nat.mul_add 7 i 1, Nat.pow_add,
      Nat.add_assoc, recombine]

theorem consumeVarint_varint (v : Nat) (hv : v < 2 ^ 64) (tail : Bytes) :
    consumeVarint (varint v ++ tail) = some (v, tail) := by
  have := varint_aux 10 0 0 v tail (by omega) (by omega) (by simpa using hv)
  simpa [consumeVarint, varint] using this

theorem consumeBytes_lenDelim (b tail : Bytes) (hb : b.length < 2 ^ 64) :
    consumeBytes (varint b.length ++ (b ++ tail)) = some (b, tail) := by
  unfold consumeBytes
  rw [consumeVarint_varint _ hb]
  simp

theorem consumeVarint_byte (b : UInt8) (hb : b.toNat < 128) (tail : Bytes) :
    consumeVarint (b :: tail) = some (b.toNat, tail) := by
  simp [consumeVarint, consumeVarintAux, hb]

theorem unmarshalAnyAux_nil (fuel : Nat) (a : AnyPB) : unmarshalAnyAux fuel a [] = some a := by
  cases fuel <;> simp [unmarshalAnyAux]

theorem unmarshalAux_nil (fuel : Nat) (s : Status) : unmarshalAux fuel s [] = some s := by
  cases fuel <;> simp [unmarshalAux]

theorem unmarshalAnyAux_typeUrl (fuel : Nat) (a : AnyPB) (u tail : Bytes) (hu : StatusMsg.validUtf8 u = true) (hl : u.length < 2 ^ 64) :
    unmarshalAnyAux (fuel + 1) a (lenDelim 0x0A u ++ tail) = unmarshalAnyAux fuel { a with typeUrl := u } tail := by
  simp [lenDelim, unmarshalAnyAux, consumeVarint_byte 0x0A (by decide), consumeBytes_lenDelim u tail hl, hu]

theorem unmarshalAnyAux_value (fuel : Nat) (a : AnyPB) (v tail : Bytes) (hl : v.length < 2 ^ 64) :
    unmarshalAnyAux (fuel + 1) a (lenDelim 0x12 v ++ tail) = unmarshalAnyAux fuel { a with value := v } tail := by
  simp [lenDelim, unmarshalAnyAux, consumeVarint_byte 0x12 (by decide), consumeBytes_lenDelim v tail hl]

theorem lenDelim_length (t : UInt8) (b : Bytes) : b.length + 1 ≤ (lenDelim t b).length := by
  simp [lenDelim]

/-- An optional field in front of `tail` (omitted when `empty`), read by a loop `aux` whose fuel is at least the number
    of bytes left: what remains to show is the goal from the state `s'` after the field, on `tail`, with fuel that still
    covers it. Applied to the goal, only `s'` has to be given. -/
theorem opt_step {σ : Type} {aux : Nat → σ → Bytes → Option σ} {s : σ} (s' : σ) {enc tail : Bytes} {empty : Prop}
    [Decidable empty] {fuel : Nat} {r : Option σ} (hskip : empty → s' = s)
    (hstep : ¬ empty → 1 ≤ enc.length ∧ ∀ f, aux (f + 1) s (enc ++ tail) = aux f s' tail)
    (hf : ((if empty then [] else enc) ++ tail).length ≤ fuel)
    (rest : ∀ fuel', tail.length ≤ fuel' → aux fuel' s' tail = r) :
    aux fuel s ((if empty then [] else enc) ++ tail) = r := by
  by_cases h : empty
  · rw [if_pos h] at hf ⊢; rw [← hskip h]; exact rest fuel hf
  · obtain ⟨h1, h2⟩ := hstep h
    rw [if_neg h] at hf ⊢; rw [List.length_append] at hf
    obtain ⟨f, rfl⟩ : ∃ f, fuel = f + 1 := ⟨fuel - 1, by omega⟩
    rw [h2]; exact rest f (by omega)

theorem unmarshalAny_marshal (a : AnyPB) (hu : StatusMsg.validUtf8 a.typeUrl = true)
    (hl : (marshalAnyBody a).length < 2 ^ 64) : unmarshalAny (marshalAnyBody a) = some a := by
  obtain ⟨u, v⟩ := a
  unfold unmarshalAny
  unfold marshalAnyBody at hl ⊢
  dsimp only at hu hl ⊢
  rw [List.length_append] at hl
  refine opt_step ⟨u, []⟩ (fun h => by rw [List.isEmpty_iff.mp h])
    (fun h => ⟨Nat.le_trans (Nat.le_add_left 1 _) (lenDelim_length _ u), fun f => unmarshalAnyAux_typeUrl f _ u _ hu (by
      have := lenDelim_length 0x0A u; rw [if_neg h] at hl; omega)⟩) (Nat.le_refl _) fun f1 h1 => ?_
  -- value has nothing behind it
  rw [← List.append_nil (if v.isEmpty = true then [] else lenDelim 0x12 v)] at h1 ⊢
  exact opt_step ⟨u, v⟩ (fun h => by rw [List.isEmpty_iff.mp h])
    (fun h => ⟨Nat.le_trans (Nat.le_add_left 1 _) (lenDelim_length _ v), fun f => unmarshalAnyAux_value f _ v _ (by
      have := lenDelim_length 0x12 v; rw [if_neg h] at hl; omega)⟩) h1 fun f2 _ => unmarshalAnyAux_nil f2 _

theorem u64ToCode_int32ToU64 (c : Nat) (hc : c < 4294967296) : u64ToCode (int32ToU64 c) = c := by
  unfold u64ToCode int32ToU64
  split <;> omega

theorem int32ToU64_lt (c : Nat) (hc : c < 4294967296) : int32ToU64 c < 2 ^ 64 := by
  unfold int32ToU64
  split <;> omega

theorem unmarshalAux_code (fuel : Nat) (s : Status) (v : Nat) (hv : v < 2 ^ 64) (tail : Bytes) :
    unmarshalAux (fuel + 1) s (0x08 :: (varint v ++ tail)) = unmarshalAux fuel { s with code := u64ToCode v } tail := by
  simp [unmarshalAux, consumeVarint_byte 0x08 (by decide), consumeVarint_varint v hv tail]

theorem unmarshalAux_msg (fuel : Nat) (s : Status) (m tail : Bytes) (hu : StatusMsg.validUtf8 m = true) (hl : m.length < 2 ^ 64) :
    unmarshalAux (fuel + 1) s (lenDelim 0x12 m ++ tail) = unmarshalAux fuel { s with msg := m } tail := by
  simp [lenDelim, unmarshalAux, consumeVarint_byte 0x12 (by decide), consumeBytes_lenDelim m tail hl, hu]

theorem unmarshalAux_detail (fuel : Nat) (s : Status) (d : AnyPB) (tail : Bytes) (hu : StatusMsg.validUtf8 d.typeUrl = true)
    (hl : (marshalAnyBody d).length < 2 ^ 64) :
    unmarshalAux (fuel + 1) s (lenDelim 0x1A (marshalAnyBody d) ++ tail) = unmarshalAux fuel { s with details := s.details ++ [d] } tail := by
  simp [lenDelim, unmarshalAux, consumeVarint_byte 0x1A (by decide), consumeBytes_lenDelim (marshalAnyBody d) tail hl,
    unmarshalAny_marshal d hu hl]

def detailsBytes (ds : List AnyPB) : Bytes := ds.flatMap fun a => lenDelim 0x1A (marshalAnyBody a)

theorem detailsBytes_cons (d : AnyPB) (t : List AnyPB) :
    detailsBytes (d :: t) = lenDelim 0x1A (marshalAnyBody d) ++ detailsBytes t := rfl

theorem detailsBytes_len (ds : List AnyPB) : ds.length ≤ (detailsBytes ds).length := by
  induction ds with
  | nil => exact Nat.le_refl 0
  | cons d t ih =>
    have := lenDelim_length 0x1A (marshalAnyBody d)
    rw [detailsBytes_cons, List.length_append, List.length_cons]
    omega

theorem details_loop (ds : List AnyPB) : ∀ (s : Status) (fuel : Nat), ds.length ≤ fuel →
    (∀ d ∈ ds, StatusMsg.validUtf8 d.typeUrl = true) → (detailsBytes ds).length < 2 ^ 64 →
    unmarshalAux fuel s (detailsBytes ds) = some { s with details := s.details ++ ds } := by
  induction ds with
  | nil => intro s fuel _ _ _; rw [List.append_nil]; exact unmarshalAux_nil fuel s
  | cons d t ih =>
    intro s fuel hf hv hl
    obtain ⟨f, rfl⟩ : ∃ f, fuel = f + 1 := ⟨fuel - 1, by simp at hf; omega⟩
    have hd := lenDelim_length 0x1A (marshalAnyBody d)
    rw [detailsBytes_cons] at hl ⊢
    rw [List.length_append] at hl
    rw [unmarshalAux_detail f s d _ (hv d (by simp)) (by omega),
      ih _ f (by simp at hf; omega) (fun x hx => hv x (by simp [hx])) (by omega)]
    simp

/-- google.rpc.Status round-trips through the modelled protobuf encoding: for every code (uint32
    view), valid-UTF-8 message and type URLs, any values, any number of details. The size bound
    is Go's (no slice has 2^64 bytes). -/
theorem unmarshal_marshal (st : Status) (hc : st.code < 4294967296) (hm : StatusMsg.validUtf8 st.msg = true)
    (hd : ∀ d ∈ st.details, StatusMsg.validUtf8 d.typeUrl = true) (hl : (marshalBody st).length < 2 ^ 64) :
    unmarshal (marshalBody st) = some st := by
  obtain ⟨c, m, ds⟩ := st
  have hdl := detailsBytes_len ds
  unfold unmarshal
  unfold marshalBody at hl ⊢
  dsimp only at hc hm hd hl ⊢
  rw [show ds.flatMap (fun a => lenDelim 0x1A (marshalAnyBody a)) = detailsBytes ds from rfl, List.append_assoc] at hl ⊢
  rw [List.length_append, List.length_append] at hl
  refine opt_step ⟨c, [], []⟩ (fun h => by rw [h])
    (fun _ => ⟨Nat.le_add_left 1 _, fun f => by
      rw [List.cons_append, unmarshalAux_code f _ _ (int32ToU64_lt c hc), u64ToCode_int32ToU64 c hc]⟩)
    (Nat.le_refl _) fun f1 h1 => ?_
  refine opt_step ⟨c, m, []⟩ (fun h => by rw [List.isEmpty_iff.mp h])
    (fun h => ⟨Nat.le_trans (Nat.le_add_left 1 _) (lenDelim_length _ m), fun f => unmarshalAux_msg f _ m _ hm (by
      have := lenDelim_length 0x12 m; rw [if_neg h] at hl; omega)⟩) h1 fun f2 h2 => ?_
  rw [details_loop ds _ f2 (by omega) hd (by omega)]
  rfl

end GrpcProofs.Lemmas.StatusProto
