import GrpcModel.Model.RLSAdaptive
/-! The lookback of C41 as a ring of bins (model: GrpcModel/Model/RLSAdaptive.lean).  `Rep l H h`: every bin holds the
    recorded adds of its residue class that lie in the window ending at a VIRTUAL head `h`, and `total` is the window
    sum; one round of `advance`'s loop moves `h` by one bin (`clear_step`).  `run_new` is what C41 reads. -/
namespace GrpcProofs.Lemmas.RLSAdaptive
open GrpcModel.RLSAdaptive

theorem S_congr (H : List (Nat × Int)) (P Q : Nat → Bool) (h : ∀ x ∈ H, P x.1 = Q x.1) : S H P = S H Q := by
  induction H with
  | nil => rfl
  | cons x t ih =>
    obtain ⟨p, v⟩ := x
    simp only [S]
    rw [ih (fun y hy => h y (List.mem_cons_of_mem _ hy))]
    have := h (p, v) (List.mem_cons_self)
    simp only at this
    rw [this]

theorem S_none (H : List (Nat × Int)) : S H (fun _ => false) = 0 := by
  induction H with
  | nil => rfl
  | cons x t ih => simp [S, ih]

theorem S_false (H : List (Nat × Int)) (P : Nat → Bool) (h : ∀ x ∈ H, P x.1 = false) : S H P = 0 :=
  (S_congr H P _ h).trans (S_none H)

theorem S_split (H : List (Nat × Int)) (P R : Nat → Bool) :
    S H P = S H (fun p => P p && R p) + S H (fun p => P p && !R p) := by
  induction H with
  | nil => rfl
  | cons x t ih =>
    obtain ⟨p, v⟩ := x
    simp only [S]
    rw [ih]
    by_cases hp : P p = true <;> by_cases hr : R p = true <;> simp [hp, hr] <;> omega

theorem mod_window {b p q : Nat} (h : p % b = q % b) (h1 : p ≤ q) (h2 : q < p + b) : p = q := by
  have h3 : (q - p) % b = 0 := Nat.sub_mod_eq_zero_of_mod_eq h.symm
  have h4 : (q - p) % b = q - p := Nat.mod_eq_of_lt (by omega)
  omega

structure Rep (l : LB) (H : List (Nat × Int)) (h : Nat) : Prop where
  buf : ∀ i, i < l.bins → l.buf i = S H (fun p => decide (p % l.bins = i) && inWindow h l.bins p)
  total : l.total = S H (inWindow h l.bins)

/-- When the head moves from `h` to `h + 1`, the one bin that leaves the window is `h + 1 - b`: the bin whose slot
    `(h + 1) % b` the new head takes over.  So clearing that slot is all a round of the loop has to do. -/
theorem window_succ {b h p : Nat} (hp : p ≤ h) :
    inWindow (h + 1) b p = (inWindow h b p && !decide (p % b = (h + 1) % b)) := by
  unfold inWindow
  by_cases c1 : h + 1 < p + b
  · have c2 : h < p + b := by omega
    have c3 : ¬ p % b = (h + 1) % b := by
      intro e
      have := mod_window e (by omega) c1
      omega
    simp [c1, c2, c3, hp]; omega
  · by_cases c2 : h < p + b
    · have e : h + 1 = p + b := by omega
      have c3 : p % b = (h + 1) % b := by rw [e, Nat.add_mod_right]
      simp [c1, c2, c3]
    · simp [c1, c2]

theorem clear_step {l : LB} {H : List (Nat × Int)} {h : Nat} (hb : 0 < l.bins) (inv : Rep l H h)
    (hL : ∀ x ∈ H, x.1 ≤ h) : Rep (clearBin l ((h + 1) % l.bins)) H (h + 1) := by
  have hB := inv.buf
  have hT := inv.total
  have hi0 : (h + 1) % l.bins < l.bins := Nat.mod_lt _ hb
  constructor
  · intro i hi
    simp only [clearBin, setBuf]
    by_cases e : i = (h + 1) % l.bins
    · rw [if_pos e]
      symm
      apply S_false
      intro x hx
      rw [window_succ (hL x hx)]
      subst e
      by_cases c : x.1 % l.bins = (h + 1) % l.bins <;> simp [c]
    · rw [if_neg e, hB i hi]
      apply S_congr
      intro x hx
      rw [window_succ (hL x hx)]
      by_cases c : x.1 % l.bins = i
      · simp [c, e]
      · simp [c]
  · simp only [clearBin]
    rw [hT, hB _ hi0, S_split H (inWindow h l.bins) (fun p => decide (p % l.bins = (h + 1) % l.bins))]
    have e1 : S H (fun p => decide (p % l.bins = (h + 1) % l.bins) && inWindow h l.bins p) =
        S H (fun p => inWindow h l.bins p && decide (p % l.bins = (h + 1) % l.bins)) :=
      S_congr _ _ _ (fun x _ => Bool.and_comm _ _)
    have e2 : S H (inWindow (h + 1) l.bins) =
        S H (fun p => inWindow h l.bins p && !decide (p % l.bins = (h + 1) % l.bins)) :=
      S_congr _ _ _ (fun x hx => window_succ (hL x hx))
    rw [e1, e2]; omega

theorem clearBin_bins (l : LB) (i : Nat) : (clearBin l i).bins = l.bins := rfl

theorem clearLoop_frame (l : LB) (ch j n : Nat) : (clearLoop l ch j n).bins = l.bins ∧
    (clearLoop l ch j n).width = l.width ∧ (clearLoop l ch j n).head = l.head := by
  fun_induction clearLoop l ch j n with
  | case1 => exact ⟨rfl, rfl, rfl⟩
  | case2 l j n ih => exact ih

theorem clearLoop_inv {l : LB} {H : List (Nat × Int)} (ch : Nat) (hb : 0 < l.bins) (hL : ∀ x ∈ H, x.1 ≤ ch)
    (j n : Nat) (inv : Rep l H (ch + j)) : Rep (clearLoop l ch j n) H (ch + j + n) := by
  fun_induction clearLoop l ch j n with
  | case1 => exact inv
  | case2 l j n ih =>
    have st := clear_step hb inv (fun x hx => by have := hL x hx; omega)
    have := ih hb (by simpa [Nat.add_assoc] using st)
    simpa [Nat.add_assoc, Nat.add_comm 1 n] using this

theorem jump_inv {l : LB} {H : List (Nat × Int)} {h h' : Nat} (inv : Rep l H h)
    (hOld : ∀ x ∈ H, x.1 + l.bins ≤ h) (hh : h ≤ h') : Rep l H h' := by
  have hB := inv.buf
  have hT := inv.total
  have z : ∀ g, h ≤ g → ∀ x ∈ H, inWindow g l.bins x.1 = false := by
    intro g hg x hx
    have := hOld x hx
    simp [inWindow]; omega
  constructor
  · intro i hi
    rw [hB i hi, S_false, S_false]
    · intro x hx; simp [z h' hh x hx]
    · intro x hx; simp [z h (Nat.le_refl _) x hx]
  · rw [hT, S_false _ _ (z h (Nat.le_refl _)), S_false _ _ (z h' hh)]

/-- the clearing loop as `advance` runs it (at most `bins` rounds) moves the window from `ch` to any later bin `nh`:
    bin by bin while `nh` is within `bins` of `ch`; beyond that every bin is empty and the window may jump -/
theorem clearLoop_advance {l : LB} {H : List (Nat × Int)} {ch nh : Nat} (hb : 0 < l.bins) (hL : ∀ x ∈ H, x.1 ≤ ch)
    (inv : Rep l H ch) (h : ch ≤ nh) : Rep (clearLoop l ch 0 (min l.bins (nh - ch))) H nh := by
  have lp := clearLoop_inv ch hb hL 0 (min l.bins (nh - ch)) inv
  by_cases c : nh - ch ≤ l.bins
  · rwa [show ch + 0 + min l.bins (nh - ch) = nh by omega] at lp
  · rw [show min l.bins (nh - ch) = l.bins by omega] at lp ⊢
    refine jump_inv lp (fun x hx => ?_) (by omega)
    have := hL x hx
    obtain ⟨hbins, -, -⟩ := clearLoop_frame l ch 0 l.bins
    rw [hbins]; omega

/-- `l`, a lookback of `b` bins of width `w`, implements the history `H` (bin and value of every add so far)
    whose newest mentioned bin is `m` -/
structure Sim (b w : Nat) (l : LB) (H : List (Nat × Int)) (m : Nat) : Prop where
  bins  : l.bins = b
  width : l.width = w
  head  : l.head = m
  le    : ∀ x ∈ H, x.1 ≤ m
  rep   : Rep l H m

variable {b w m : Nat} {l : LB} {H : List (Nat × Int)}

theorem Sim.total (s : Sim b w l H m) : l.total = windowSum H m b := s.bins ▸ s.rep.total

theorem sim_new (bins duration : Nat) : Sim bins (duration / bins) (newLookback bins duration) [] 0 :=
  { bins := rfl, width := rfl, head := rfl, le := fun _ hx => (nomatch hx), rep := ⟨fun _ _ => rfl, rfl⟩ }

theorem advance_sim (t : Nat) (hb : 0 < b) (s : Sim b w l H m) :
    Sim b w (advance l t).1 H (max m (t / w)) ∧ (advance l t).2 = t / w := by
  obtain ⟨rfl, rfl, rfl, le, rep⟩ := s
  have le' : ∀ x ∈ H, x.1 ≤ max l.head (t / l.width) := fun x hx => Nat.le_trans (le x hx) (Nat.le_max_left ..)
  unfold advance
  simp only
  split
  · next hle =>
    exact ⟨{ bins := rfl, width := rfl, head := (Nat.max_eq_left hle).symm, le := le', rep := by rwa [Nat.max_eq_left hle] }, rfl⟩
  · next hlt =>
    obtain ⟨hbins, hwidth, -⟩ := clearLoop_frame l l.head 0 (min l.bins (t / l.width - l.head))
    have hm : max l.head (t / l.width) = t / l.width := by omega
    refine ⟨{ bins := hbins, width := hwidth, head := hm.symm, le := le', rep := ?_ }, rfl⟩
    rw [hm]
    -- `Rep` does not read the field `head`
    have r := clearLoop_advance (nh := t / l.width) hb le rep (by omega)
    exact ⟨r.buf, r.total⟩

theorem add_sim (t : Nat) (v : Int) (hb : 0 < b) (s : Sim b w l H m) :
    Sim b w (add l t v) ((t / w, v) :: H) (max m (t / w)) := by
  obtain ⟨s1, hpos⟩ := advance_sim t hb s
  unfold add
  simp only
  generalize advance l t = r at *
  obtain ⟨l1, pos⟩ := r
  simp only at *
  subst hpos
  obtain ⟨rfl, hwidth, hhead, hle, rep⟩ := s1
  have hB := rep.buf
  have hT := rep.total
  have hle' : ∀ x ∈ (t / w, v) :: H, x.1 ≤ max m (t / w) :=
    List.forall_mem_cons.mpr ⟨Nat.le_max_right .., hle⟩
  rw [← hhead] at hB hT hle' ⊢
  have hpos : t / w ≤ l1.head := by omega
  split
  · -- the add falls behind the window: dropped
    have win : inWindow l1.head l1.bins (t / w) = false := by simp [inWindow]; omega
    refine { bins := rfl, width := hwidth, head := rfl, le := hle', rep := ⟨fun i hi => ?_, ?_⟩ }
    · rw [hB i hi]; simp [S, win]
    · rw [hT]; simp [S, win]
  · have win : inWindow l1.head l1.bins (t / w) = true := by simp [inWindow]; omega
    refine { bins := rfl, width := hwidth, head := rfl, le := hle', rep := ⟨fun i hi => ?_, ?_⟩ }
    · simp only [setBuf, S]
      by_cases e : i = t / w % l1.bins
      · subst e; simp [win, hB _ hi]; omega
      · simp [e, Ne.symm e, hB i hi]
    · simp only [S, win]; rw [hT]; simp; omega

theorem step_sim (o : Op) (hb : 0 < b) (s : Sim b w l H m) :
    Sim b w (step l o) (histStep w H o) (maxStep w m o) := by
  cases o with
  | add t v => exact add_sim t v hb s
  | sum t => exact (advance_sim t hb s).1

theorem run_sim (hb : 0 < b) (ops : List Op) (s : Sim b w l H m) :
    Sim b w (ops.foldl step l) (ops.foldl (histStep w) H) (ops.foldl (maxStep w) m) := by
  induction ops generalizing l H m with
  | nil => exact s
  | cons o t ih => exact ih (step_sim o hb s)

/-- every lookback in use: created by `newLookback`, then any calls -/
theorem run_new (bins duration : Nat) (hb : 0 < bins) (ops : List Op) :
    Sim bins (duration / bins) (run (newLookback bins duration) ops) (hist (duration / bins) ops)
      (maxBin (duration / bins) ops) :=
  run_sim hb ops (sim_new bins duration)

theorem run_snoc (l : LB) (ops : List Op) (o : Op) : run l (ops ++ [o]) = step (run l ops) o := by
  simp [run, List.foldl_append]

end GrpcProofs.Lemmas.RLSAdaptive
