import GrpcModel.Model.PluginRefs
import GrpcProofs.Lemmas.Basic
/-! The plugin clause of C51 (model: GrpcModel/Model/PluginRefs.lean): `pushedSel = curSel` is kept by every step,
    because `prunePush` is only ever called with the `curSel` of the state it pushes from and `release` writes
    neither field.  The reference counts play no part. -/
namespace GrpcProofs.Lemmas.PluginRefs
open GrpcModel.PluginRefs

theorem release_sel (s : State) (p : Name) (h : s.pushedSel = s.curSel) : (release s p).pushedSel = (release s p).curSel := by
  unfold release
  split <;> exact h

theorem step_sel (s : State) (o : Op) (h : s.pushedSel = s.curSel) : (step s o).pushedSel = (step s o).curSel := by
  -- the branches of `step` in the order of its text
  fun_cases step s o with
  | case1 =>
    -- the new selector is pushed before the old one's references are released
    exact Basic.foldl_inv (P := fun s : State => s.pushedSel = s.curSel) release_sel s.cur rfl
  | case2 => rfl
  | case3 | case4 | case5 | case6 | case7 => exact h
  | case8 => exact release_sel _ _ h

theorem run_sel (ops : List Op) : (run ops).pushedSel = (run ops).curSel :=
  Basic.foldl_inv (P := fun s : State => s.pushedSel = s.curSel) step_sel ops rfl

end GrpcProofs.Lemmas.PluginRefs
