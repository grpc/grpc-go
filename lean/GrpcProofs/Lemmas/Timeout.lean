/-
Lemmas about GrpcModel/Model/Timeout.lean (C07): the value/unit round trip, then the byte-level encoder and decoder.
-/
import GrpcModel.Model.Timeout
import GrpcProofs.Lemmas.Basic
namespace GrpcProofs.Lemmas.Timeout
open GrpcModel.Timeout GrpcModel.Generated

theorem cdiv_spec (d r : Nat) (hr : 0 < r) : d ≤ r * cdiv d r ∧ r * cdiv d r < d + r := by
  have h1 := Nat.div_add_mod d r
  have h2 := Nat.mod_lt d hr
  unfold cdiv
  split
  · rw [Nat.mul_add, Nat.mul_one]; omega
  · omega

theorem ns_pos (un : TUnit) : 0 < un.ns := by cases un <;> decide

/-- In the hour clamp the product would exceed MaxInt64 ≥ t, and MaxInt64 is what is returned. -/
theorem decode_cdiv_bounds (t : Nat) (un : TUnit) (hmax : t ≤ maxInt64) :
    t ≤ decode (cdiv t un.ns) un ∧ decode (cdiv t un.ns) un < t + un.ns := by
  have s := cdiv_spec t un.ns (ns_pos un)
  unfold decode
  split
  · rename_i h
    obtain ⟨rfl, h⟩ := h
    have hi : maxInt64 = 9223372036854775807 := rfl
    simp only [TUnit.ns] at s h ⊢
    omega
  · exact s

/-- For hours the bound on the value is implied by t ≤ MaxInt64. -/
theorem encode_unit (t : Nat) (hmax : t ≤ maxInt64) :
    ∃ un, encode t = (cdiv t un.ns, un) ∧ cdiv t un.ns ≤ maxTimeoutValue := by
  fun_cases encode t
  case case1 c => exact ⟨.n, rfl, c⟩
  case case2 c => exact ⟨.u, rfl, c⟩
  case case3 c => exact ⟨.m, rfl, c⟩
  case case4 c => exact ⟨.S, rfl, c⟩
  case case5 c => exact ⟨.M, rfl, c⟩
  case case6 =>
    refine ⟨.H, rfl, ?_⟩
    have s := cdiv_spec t 3600000000000 (by decide)
    have hm : maxTimeoutValue = 99999999 := rfl
    have hi : maxInt64 = 9223372036854775807 := rfl
    simp only [TUnit.ns]
    omega

theorem encode_decode (t : Nat) (h0 : 0 < t) (hmax : t ≤ maxInt64) :
    t ≤ decode (encode t).1 (encode t).2 ∧ decode (encode t).1 (encode t).2 < t + (encode t).2.ns
    ∧ 1 ≤ (encode t).1 ∧ (encode t).1 ≤ 99999999 := by
  obtain ⟨un, e, hb⟩ := encode_unit t hmax
  have ⟨lo, hi⟩ := decode_cdiv_bounds t un hmax
  rw [e]
  refine ⟨lo, hi, ?_, hb⟩
  -- a positive duration is not rounded down to 0
  have s := cdiv_spec t un.ns (ns_pos un)
  cases h : cdiv t un.ns with
  | zero => rw [h] at s; omega
  | succ n => exact Nat.succ_pos n

theorem ofNat_digit (k : Nat) (h : k < 10) : (UInt8.ofNat (48 + k)).toNat = 48 + k := by
  rw [UInt8.toNat_ofNat']; omega

theorem isDigit_ofNat (k : Nat) (h : k < 10) : isDigit (UInt8.ofNat (48 + k)) = true := by
  have := ofNat_digit k h
  simp only [isDigit, UInt8.le_iff_toNat_le, this, Bool.and_eq_true, decide_eq_true_eq]
  decide +revert

theorem digitsRev_spec (fuel n : Nat) (h : n < fuel) :
    (digitsRev fuel n).foldr (fun b a => a * 10 + (b.toNat - 48)) 0 = n ∧ (digitsRev fuel n).all isDigit = true ∧
      digitsRev fuel n ≠ [] := by
  fun_induction digitsRev fuel n with
  | case1 => omega
  | case2 n f hn =>  -- a single digit
    exact ⟨by rw [List.foldr_cons, List.foldr_nil, ofNat_digit n hn]; omega,
      by rw [List.all_cons, isDigit_ofNat n hn]; rfl, List.cons_ne_nil _ _⟩
  | case3 n f hn ih =>  -- the last digit, then those of `n / 10`
    have hm : n % 10 < 10 := Nat.mod_lt _ (by decide)
    have ⟨h1, h2, _⟩ := ih (by omega)
    exact ⟨by rw [List.foldr_cons, h1, ofNat_digit _ hm]; omega,
      by rw [List.all_cons, isDigit_ofNat _ hm, h2]; rfl, List.cons_ne_nil _ _⟩

theorem digitsRev_len (fuel n k : Nat) (h : n < 10 ^ (k + 1)) : (digitsRev fuel n).length ≤ k + 1 := by
  fun_induction digitsRev fuel n generalizing k with
  | case1 => exact Nat.zero_le _
  | case2 => exact Nat.succ_le_succ (Nat.zero_le k)
  | case3 n f hn ih =>  -- `n ≥ 10`: one digit more than `n / 10`
    cases k with
    | zero => omega
    | succ k =>
      refine Nat.succ_le_succ (ih k ?_)
      rw [Nat.div_lt_iff_lt_mul (by decide)]
      rw [Nat.pow_succ] at h; exact h

theorem fmtNat_spec (v : Nat) :
    (fmtNat v).foldl (fun a b => a * 10 + (b.toNat - 48)) 0 = v ∧ (fmtNat v).all isDigit = true ∧ fmtNat v ≠ [] := by
  have ⟨h1, h2, h3⟩ := digitsRev_spec (v + 1) v (by omega)
  unfold fmtNat
  exact ⟨by rw [List.foldl_reverse]; exact h1, by rw [List.all_reverse]; exact h2, by simpa using h3⟩

theorem fmtNat_len (v k : Nat) (h : v < 10 ^ (k + 1)) : (fmtNat v).length ≤ k + 1 := by
  unfold fmtNat
  simpa using digitsRev_len (v + 1) v k h

theorem parseDigits_eq_some_iff (ds : List UInt8) (v : Nat) :
    parseDigits ds = some v ↔
      ds ≠ [] ∧ ds.all isDigit = true ∧ ds.foldl (fun a b => a * 10 + (b.toNat - 48)) 0 = v := by
  cases ds with
  | nil => simp [parseDigits]
  | cons b t => by_cases h : (b :: t).all isDigit = true <;> simp [parseDigits, h]

theorem parseDigits_bound (ds : List UInt8) (v : Nat) (h : parseDigits ds = some v) : v < 10 ^ ds.length := by
  obtain ⟨_, hd, rfl⟩ := (parseDigits_eq_some_iff ds v).1 h
  have := Basic.foldl_digits_lt ds 0 fun c hc => by
    have hc := List.all_eq_true.1 hd c hc
    simp only [isDigit, Bool.and_eq_true, decide_eq_true_eq, UInt8.le_iff_toNat_le] at hc
    have : (57 : UInt8).toNat = 57 := rfl
    omega
  simpa using this

theorem unitOfByte_byte (un : TUnit) : unitOfByte un.byte = some un := by cases un <;> decide

theorem decodeBytes_concat (ds : List UInt8) (l : UInt8) :
    decodeBytes (ds ++ [l]) =
      if 1 ≤ ds.length ∧ ds.length ≤ 8 then
        (unitOfByte l).bind fun un => (parseDigits ds).map fun v => decode v un
      else none := by
  unfold decodeBytes
  simp only [List.length_append, List.length_singleton, List.getLast?_concat, List.dropLast_concat]
  by_cases h1 : ds.length + 1 < 2
  · rw [if_pos h1, if_neg (by omega)]
  rw [if_neg h1]
  by_cases h2 : ds.length + 1 > 9
  · rw [if_pos h2, if_neg (by omega)]
  rw [if_neg h2, if_pos (by omega)]
  cases unitOfByte l with
  | none => rfl
  | some un => cases parseDigits ds <;> rfl

theorem decodeBytes_eq_some_iff (bs : List UInt8) (d : Nat) :
    decodeBytes bs = some d ↔ ∃ ds l un v, bs = ds ++ [l] ∧ (1 ≤ ds.length ∧ ds.length ≤ 8) ∧
      unitOfByte l = some un ∧ parseDigits ds = some v ∧ decode v un = d := by
  rcases List.eq_nil_or_concat bs with rfl | ⟨ds, l, rfl⟩
  · exact ⟨nofun, fun ⟨ds, _, _, _, h, _⟩ => by cases ds <;> cases h⟩
  rw [List.concat_eq_append, decodeBytes_concat]
  constructor
  · intro h
    split at h
    · rename_i hl
      simp only [Option.bind_eq_some_iff, Option.map_eq_some_iff] at h
      obtain ⟨un, hu, v, hv, rfl⟩ := h
      exact ⟨ds, l, un, v, rfl, hl, hu, hv, rfl⟩
    · cases h
  · rintro ⟨ds', l', un, v, e, hl, hu, hv, rfl⟩
    obtain ⟨rfl, e'⟩ := List.append_inj' e rfl
    cases List.head_eq_of_cons_eq e'
    rw [if_pos hl, hu, hv]; rfl

theorem encodeBytes_pos (t : Int) (h0 : 0 < t) (hmax : t ≤ maxInt64) :
    encodeBytes t = fmtNat (encode t.toNat).1 ++ [(encode t.toNat).2.byte] ∧ (fmtNat (encode t.toNat).1).length ≤ 8 := by
  have ⟨_, _, _, le⟩ := encode_decode t.toNat (by omega) (by omega)
  exact ⟨by unfold encodeBytes; rw [if_neg (by omega)], fmtNat_len _ 7 (Nat.lt_succ_of_le le)⟩

theorem decode_encode_bytes (t : Int) (h0 : 0 < t) (hmax : t ≤ maxInt64) :
    ∃ d', decodeBytes (encodeBytes t) = some d' ∧ t.toNat ≤ d' ∧ d' < t.toNat + (encode t.toNat).2.ns := by
  have ⟨e, l⟩ := encodeBytes_pos t h0 hmax
  have ⟨val, dig, ne⟩ := fmtNat_spec (encode t.toNat).1
  have ⟨lo, hi, _⟩ := encode_decode t.toNat (by omega) (by omega)
  exact ⟨_, (decodeBytes_eq_some_iff ..).2 ⟨_, _, _, _, e, ⟨List.length_pos_iff.2 ne, l⟩, unitOfByte_byte _,
    (parseDigits_eq_some_iff ..).2 ⟨ne, dig, val⟩, rfl⟩, lo, hi⟩

theorem decode_accepts_iff (bs : List UInt8) : (decodeBytes bs).isSome = wellFormed bs := by
  rcases List.eq_nil_or_concat bs with rfl | ⟨ds, l, rfl⟩
  · rfl
  -- both sides say: one to eight digits, then a unit
  rw [List.concat_eq_append, Bool.eq_iff_iff, Option.isSome_iff_exists]
  simp only [decodeBytes_eq_some_iff, parseDigits_eq_some_iff, wellFormed, List.getLast?_concat, List.dropLast_concat,
    Bool.and_eq_true, decide_eq_true_eq, Option.isSome_iff_exists]
  constructor
  · rintro ⟨_, ds', l', un, v, e, hl, hu, ⟨_, hd, _⟩, _⟩
    obtain ⟨rfl, e'⟩ := List.append_inj' e rfl
    cases e'
    exact ⟨⟨⟨⟨un, hu⟩, hl.1⟩, hl.2⟩, hd⟩
  · rintro ⟨⟨⟨⟨un, hu⟩, h1⟩, h2⟩, hd⟩
    exact ⟨_, ds, l, un, _, rfl, ⟨h1, h2⟩, hu, ⟨List.ne_nil_of_length_pos h1, hd, rfl⟩, rfl⟩

theorem encode_wellformed (t : Int) (h0 : 0 < t) (hmax : t ≤ maxInt64) :
    wellFormed (encodeBytes t) = true := by
  obtain ⟨d', h, _⟩ := decode_encode_bytes t h0 hmax
  rw [← decode_accepts_iff, h]
  rfl

theorem unit_ns_le (un : TUnit) : un.ns ≤ 3600000000000 := by cases un <;> decide

theorem decode_no_overflow (bs : List UInt8) (d : Nat) (h : decodeBytes bs = some d) : d ≤ maxInt64 := by
  obtain ⟨ds, l, un, v, _, h1, _, hq, rfl⟩ := (decodeBytes_eq_some_iff bs d).1 h
  have hb := parseDigits_bound ds v hq
  have : (10:Nat) ^ ds.length ≤ 10 ^ 8 := Nat.pow_le_pow_right (by decide) h1.2
  have hi : maxInt64 = 9223372036854775807 := rfl
  unfold decode
  split
  · omega
  · -- not clamped: hours have v ≤ MaxInt64 / 3.6·10¹², every other unit is at most 6·10¹⁰ ns and v < 10⁸
    rename_i hc
    cases un <;> simp [TUnit.ns] at hc ⊢ <;> omega
end GrpcProofs.Lemmas.Timeout
